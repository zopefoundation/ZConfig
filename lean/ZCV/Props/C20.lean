import ZCV.Spec.Logger
import ZCV.Lemmas.LoggerReg
import ZCV.Lemmas.LoggerDecision
import ZCV.Lemmas.LoggerSetup
import ZCV.Lemmas.LogTemplate
import ZCV.Lemmas.LogStrFormatPlain
import ZCV.Lemmas.LogEval
/-!
# C20 — logger sections produce exactly the configured logging setup, once (decision logic, and the log-format styles)

* level names: `C20_level_spec`, `C20_level_range`, `C20_level_table`, `C20_level_case_insensitive`, `C20_level_names_any_case`
* `FileHandlerFactory.__init__`: `C20_std_stream_options_refused`, `C20_rotation_requires_old_files`,
  `C20_filehandler_decision_table`, `C20_filehandler_decision` (complete, one `↔` per outcome)
* registry of re-openable handlers, over all operation sequences: `C20_registry_invariant`, `C20_reopen_exactly_live`,
  `C20_close_exactly_live`, `C20_dropped_never_touched` (and the one-step `C20_closeFiles_closes_all_registered`)
* factory memoisation and logger set-up, about the hand-written model `ZCV/Model/LoggerSetup.lean` (compared with the
  running factories and `logging` on every run; driver op `logsetup`): `C20_factory_memo`, `C20_factory_idempotent`, `C20_logger_setup`, `C20_section_setup`,
  `C20_logger_setup_any`, `C20_configure_loggers`
* classic (`%`) log formats, about the model `ZCV/Model/LogFormat.lean` (CPython's `str % mapping`, the sample record of
  `FormatterFactory`, logging's validation pattern; compared with the running `FormatterFactory`, `str % mapping` and the real
  loader; driver op `logfmt`): `C20_classic_accepts_iff`, `C20_classic_format_safe` (and `_for`, `_keyed`, `_wide`, `_typed`),
  `C20_classic_formatter_builds`, `C20_classic_accepted_items`, `C20_classic_accepts_iff_of_field`, `C20_classic_char_needs_range`,
  `C20_classic_str_limit_needed`, `C20_classic_bare_needs_printable` (the 4300-digit limit of int → decimal text of
  Python 3.12, also through a bare `%s`), `C20_classic_configured_safe`
* `template` / `safe-template` log formats (`string.Template`), about the model `ZCV/Model/LogTemplate.lean` (compared with
  the running `FormatterFactory`, `string.Template` and the real loader; driver op `logtpl`): `C20_template_scan_roundtrip`,
  `C20_template_scan_spec`, `C20_template_known_names`, `C20_template_accepts_iff`, `C20_template_format_safe` (and `_for`), `C20_template_formatter_builds`,
  `C20_template_format_iff`, `C20_template_errors`, `C20_template_configured_safe`, `C20_safe_template_accepts_all`,
  `C20_safe_template_never_raises`, `C20_safe_template_format_iff`, `C20_template_str_limit_needed`
* `format` log formats (`str.format` fields), about the model `ZCV/Model/LogStrFormat.lean` (load time:
  `string.Formatter().vformat` on the sample record + `logging.StrFormatStyle.validate`; run time: `str.format`; compared
  with the running `FormatterFactory`, `string.Formatter`, `str.format` and the real loader; driver op `logsfmt`):
  `C20_strformat_accepts_iff`, `C20_strformat_accepts_iff_plain`, `C20_strformat_spec_allowed`,
  `C20_strformat_format_safe_partial` (and `_for_partial`,
  `_wide_partial`: the plain formats — bare keys, no nested fields), `C20_strformat_formatter_builds`,
  `C20_strformat_errors`, `C20_strformat_configured_safe_partial`, `C20_strformat_stylist_safe_partial`, and the
  counterexamples — accepted formats that raise on ordinary records — `C20_strformat_index_needed`,
  `C20_strformat_attr_needed`, `C20_strformat_nested_needed`, `C20_strformat_char_needs_range`,
  `C20_strformat_str_limit_needed`
-/
namespace ZCV.Props.C20
open ZCV ZCV.Log ZCV.LogSetup

/-! ## Level names: the generated table is the documented one -/

/-- the level table and the bounds extracted from the running `datatypes.py` are exactly the documented ones
    (`critical`/`fatal` 50, `error` 40, `warn`/`warning` 30, `info` 20, `blather` 15, `debug` 10, `trace` 5, `all` 1,
    `notset` 0; integers 0..50) -/
theorem C20_level_table :
    Gen.loggingLevels = LogSpec.levelNames.map (fun p => (p.1.toList, p.2)) ∧ Gen.levelLo = 0 ∧ Gen.levelHi = 50 :=
  ⟨by decide +kernel, rfl, rfl⟩

/-- the generated level table and bounds are the documented ones: the model of `logging_level` IS the documented function -/
theorem C20_level_spec (value : Str) : loggingLevel value = LogSpec.loggingLevel value := by
  unfold loggingLevel LogSpec.loggingLevel
  obtain ⟨ht, hlo, hhi⟩ := C20_level_table
  rw [ht, hlo, hhi]
  simp only [List.find?_map]
  cases h : List.find? ((fun x => x.1 == lower value) ∘ fun p : String × Int => (p.1.toList, p.2)) LogSpec.levelNames with
  | some p =>
    have : List.find? (fun p : String × Int => p.1.toList == lower value) LogSpec.levelNames = some p := by
      simpa [Function.comp_def] using h
    simp [this]
  | none =>
    have : List.find? (fun p : String × Int => p.1.toList == lower value) LogSpec.levelNames = none := by
      simpa [Function.comp_def] using h
    simp only [Option.map_none, this]
    cases pyInt (lower value) with
    | none => rfl
    | some v =>
      simp only
      by_cases h1 : v < 0 <;> by_cases h2 : v > 50 <;> simp [h1, h2] <;> omega

/-- every accepted level lies in 0..50 -/
theorem C20_level_range (value : Str) (n : Int) (h : loggingLevel value = .ok n) : 0 ≤ n ∧ n ≤ 50 := by
  rw [C20_level_spec] at h
  unfold LogSpec.loggingLevel at h
  dsimp only at h
  split at h
  · rename_i p hp
    have hm := List.mem_of_find?_eq_some hp
    simp only [Except.ok.injEq] at h
    subst h
    simp only [LogSpec.levelNames, List.mem_cons, List.not_mem_nil, or_false] at hm
    rcases hm with h | h | h | h | h | h | h | h | h | h | h <;> (injection h with _ h2; subst h2; decide)
  · split at h
    · split at h
      · simp only [Except.ok.injEq] at h; subst h; assumption
      · cases h
    · cases h

/-! ## `FileHandlerFactory.__init__`: two refusals (corollaries of the complete decision, which is stated further down) -/

/-- the standard streams refuse every rotation option, `delay` and `encoding` -/
theorem C20_std_stream_options_refused (o : FileOpts) (hp : o.path = "STDOUT".toList ∨ o.path = "STDERR".toList)
    (hopt : o.maxBytes ≠ 0 ∨ o.oldFiles ≠ 0 ∨ truthy o.when = true ∨ o.delay = true ∨ truthy o.encoding = true) :
    fileHandlerKind o = .error .valueError := by
  refine (logdec_iff_error o _).mpr ⟨rfl, .inl ⟨hp.symm, fun ⟨a, b, c, d, e⟩ => ?_⟩⟩
  rcases hopt with h | h | h | h | h
  · exact h a
  · exact h b
  · exact Bool.false_ne_true (c.symm.trans h)
  · exact Bool.false_ne_true (d.symm.trans h)
  · exact Bool.false_ne_true (e.symm.trans h)

/-- rotation of a file requires `old-files` -/
theorem C20_rotation_requires_old_files (o : FileOpts) (hp1 : o.path ≠ "STDOUT".toList) (hp2 : o.path ≠ "STDERR".toList)
    (hrot : truthy o.when = true ∨ o.maxBytes ≠ 0 ∨ o.interval ≠ 0) (hold : o.oldFiles = 0) :
    fileHandlerKind o = .error .valueError :=
  (logdec_iff_error o _).mpr ⟨rfl, .inr (.inl ⟨fun h => h.elim hp2 hp1, hold, hrot⟩)⟩

/-! ## The registry: one step of `closeFiles` -/

/-- one step, from ANY registry state `r` (reachable or not): after `closeFiles()` the registry is empty and every
    handler that was registered and alive is closed -/
theorem C20_closeFiles_closes_all_registered (r : Reg) (h : H) (hm : h ∈ r.handlers) (hreg : r.registry.contains h.id = true)
    (ha : h.alive = true) :
    (stepReg r .closeFiles).registry = [] ∧ { h with closed := true } ∈ (stepReg r .closeFiles).handlers := by
  constructor
  · rfl
  · simp only [stepReg, List.mem_map]
    refine ⟨h, hm, ?_⟩
    have : (r.registry.contains h.id && h.alive) = true := by rw [hreg, ha]; rfl
    simp only [this, ↓reduceIte]

/-! ## Level names: letter case -/

/-- level spellings are case-insensitive: two spellings with the same `str.lower()` are treated alike (accepted with
    the same number, or both rejected) -/
theorem C20_level_case_insensitive (s t : Str) (h : lower s = lower t) : loggingLevel s = loggingLevel t := by
  unfold loggingLevel
  rw [h]

/-- every documented level name, in any mixture of upper and lower case, is accepted with its documented number -/
theorem C20_level_names_any_case (s : Str) (nm : String) (n : Int) (hmem : (nm, n) ∈ LogSpec.levelNames)
    (hs : lower s = nm.toList) : loggingLevel s = .ok n := by
  have key : ∀ p ∈ LogSpec.levelNames, LogSpec.levelNames.find? (fun q => q.1.toList == p.1.toList) = some p := by
    decide +kernel
  rw [C20_level_spec]
  unfold LogSpec.loggingLevel
  simp only [hs, key _ hmem]

example : loggingLevel "WaRnInG".toList = .ok 30 := by char_lits; rfl
example : loggingLevel "Blather".toList = loggingLevel "BLATHER".toList := C20_level_case_insensitive _ _ (by char_lits; decide +kernel)
example : loggingLevel " 50 ".toList = .ok 50 ∧ loggingLevel "51".toList = .error .valueError ∧
    loggingLevel "-1".toList = .error .valueError := by char_lits; exact ⟨rfl, rfl, rfl⟩

/-! ## The registry of re-openable handlers, over every operation sequence -/

/-- In every state the registry can reach by any sequence of create / drop / close / reopenFiles / closeFiles operations:
    the handlers carry the ids `0..n-1` in creation order; the registry has no duplicates and lists ids in creation order;
    an id is registered exactly when it is the id of a created handler that is still referenced and not closed — in fact
    the registry IS the list of those ids. -/
theorem C20_registry_invariant (ops : List Op) :
    (runReg ops).handlers.map (·.id) = List.range (runReg ops).handlers.length ∧
    (runReg ops).registry.Nodup ∧
    (runReg ops).registry.Pairwise (· < ·) ∧
    (∀ i, i ∈ (runReg ops).registry ↔
      ∃ h ∈ (runReg ops).handlers, h.id = i ∧ h.alive = true ∧ h.closed = false) ∧
    (runReg ops).registry = ((runReg ops).handlers.filter (fun h => h.alive && !h.closed)).map (·.id) := by
  have hr := regInv_run ops
  have hsorted : (runReg ops).registry.Pairwise (· < ·) := by
    rw [hr.reg]
    have hsub : (((runReg ops).handlers.filter H.live).map (·.id)).Sublist ((runReg ops).handlers.map (·.id)) :=
      List.Sublist.map _ List.filter_sublist
    rw [hr.ids] at hsub
    exact List.Pairwise.sublist hsub List.pairwise_lt_range
  exact ⟨hr.ids, hsorted.imp (fun h => Nat.ne_of_lt h), hsorted, hr.mem_registry_iff, hr.reg⟩

example : (runReg [.create, .create, .create, .drop 0, .close 2, .reopenFiles]).registry = [1] := by decide
example : (runReg [.create, .create, .create, .drop 0, .close 2, .reopenFiles]).handlers =
    [⟨0, false, false, 0⟩, ⟨1, true, false, 1⟩, ⟨2, true, true, 0⟩] := by decide

/-- `reopenFiles()` after any history: the handlers that are still referenced and not closed (= the registered ones)
    get reopened exactly once, every other handler is left exactly as it was, and the registry is unchanged. -/
theorem C20_reopen_exactly_live (ops : List Op) :
    (stepReg (runReg ops) .reopenFiles).handlers =
      (runReg ops).handlers.map
        (fun h => if h.alive && !h.closed then { h with reopened := h.reopened + 1 } else h) ∧
    (stepReg (runReg ops) .reopenFiles).registry = (runReg ops).registry ∧
    (∀ h ∈ (runReg ops).handlers, (runReg ops).registry.contains h.id = (h.alive && !h.closed)) :=
  ⟨logreg_reopen_handlers (regInv_run ops), logreg_prune_eq (regInv_run ops),
   fun _ hm => (regInv_run ops).contains_eq_live hm⟩

/-- `closeFiles()` after any history: the handlers that are still referenced and not closed (= the registered ones)
    get closed, every other handler is left exactly as it was, the registry ends empty, and a second `closeFiles()` or
    a `reopenFiles()` right after changes nothing at all. -/
theorem C20_close_exactly_live (ops : List Op) :
    (stepReg (runReg ops) .closeFiles).handlers =
      (runReg ops).handlers.map (fun h => if h.alive && !h.closed then { h with closed := true } else h) ∧
    (stepReg (runReg ops) .closeFiles).registry = [] ∧
    stepReg (stepReg (runReg ops) .closeFiles) .closeFiles = stepReg (runReg ops) .closeFiles ∧
    stepReg (stepReg (runReg ops) .closeFiles) .reopenFiles = stepReg (runReg ops) .closeFiles :=
  ⟨logreg_close_handlers (regInv_run ops), rfl, logreg_closeFiles_of_empty rfl, logreg_reopenFiles_of_empty rfl⟩

example : (runReg [.create, .create, .drop 0, .closeFiles, .create, .reopenFiles]).handlers =
    [⟨0, false, false, 0⟩, ⟨1, true, true, 0⟩, ⟨2, true, false, 1⟩] := by decide

/-- A handler that was dropped (no longer referenced) or closed at some point is never touched again, whatever
    operations follow: it stays at its position with the same id, its reopen counter and its closed flag are frozen
    (so no later `reopenFiles`/`closeFiles` acts on it), it can at most lose its last reference, and it is never
    registered again. -/
theorem C20_dropped_never_touched (ops₁ ops₂ : List Op) (i : Nat) (h : H)
    (hi : (runReg ops₁).handlers[i]? = some h) (hdead : h.alive = false ∨ h.closed = true) :
    ∃ h', (runReg (ops₁ ++ ops₂)).handlers[i]? = some h' ∧
      h'.id = h.id ∧ h'.reopened = h.reopened ∧ h'.closed = h.closed ∧ (h'.alive = true → h.alive = true) ∧
      h.id ∉ (runReg (ops₁ ++ ops₂)).registry := by
  have hd : h.live = false := by
    unfold H.live
    rcases hdead with ha | hc
    · rw [ha]; rfl
    · rw [hc]; simp
  rw [runReg_append]
  obtain ⟨b, hb, hfz⟩ := logreg_foldl_dead ops₂ (regInv_run ops₁) i h hi hd
  refine ⟨b, hb, hfz.1, hfz.2.1, hfz.2.2.1, hfz.2.2.2, ?_⟩
  have hinv := regInv_foldl ops₂ (regInv_run ops₁)
  rw [← hfz.1]
  exact logreg_not_registered hinv (List.mem_of_getElem? hb) (H.frozenTo_live hfz hd)

example : (runReg [.create, .create, .drop 0]).handlers[0]? = some ⟨0, false, false, 0⟩ := by decide

/-! ## `FileHandlerFactory.__init__`: the complete decision -/

/-- The model of `FileHandlerFactory.__init__` equals the decision table `fileHandlerTable`: first the path
    (STDERR, STDOUT, a file), then the option combination. -/
theorem C20_filehandler_decision_table (o : FileOpts) : fileHandlerKind o = fileHandlerTable o := logdec_table o

/-- Each possible outcome of `FileHandlerFactory.__init__` is characterised exactly (`plainStd` = none of max-size,
    old-files, when, delay, encoding is given; `isStd` = the path is STDOUT or STDERR):
    * a stream handler on stderr / stdout: the path is STDERR / STDOUT and none of the five options is given;
    * a plain `FileHandler`: a file path, and none of when, max-size, old-files, interval;
    * a `RotatingFileHandler`: a file path, old-files and max-size given, when not;
    * a `TimedRotatingFileHandler` with interval `n`: a file path, old-files and when given, max-size not, and `n` is
      the configured interval (1 when not configured);
    * an error — always `ValueError` — in exactly the remaining cases: an option on a standard stream; rotation asked
      for (when, max-size or interval) without old-files; both when and max-size; old-files alone. -/
theorem C20_filehandler_decision (o : FileOpts) :
    (fileHandlerKind o = .ok .stderr ↔ o.path = "STDERR".toList ∧ o.plainStd) ∧
    (fileHandlerKind o = .ok .stdout ↔ o.path = "STDOUT".toList ∧ o.plainStd) ∧
    (fileHandlerKind o = .ok .plainFile ↔
      ¬ o.isStd ∧ truthy o.when = false ∧ o.maxBytes = 0 ∧ o.oldFiles = 0 ∧ o.interval = 0) ∧
    (fileHandlerKind o = .ok .rotating ↔ ¬ o.isStd ∧ truthy o.when = false ∧ o.maxBytes ≠ 0 ∧ o.oldFiles ≠ 0) ∧
    (∀ n, fileHandlerKind o = .ok (.timedRotating n) ↔
      ¬ o.isStd ∧ truthy o.when = true ∧ o.maxBytes = 0 ∧ o.oldFiles ≠ 0 ∧ n = o.effInterval) ∧
    (∀ e, fileHandlerKind o = .error e ↔
      e = .valueError ∧
      ((o.isStd ∧ ¬ o.plainStd) ∨
       (¬ o.isStd ∧ o.oldFiles = 0 ∧ (truthy o.when = true ∨ o.maxBytes ≠ 0 ∨ o.interval ≠ 0)) ∨
       (¬ o.isStd ∧ o.oldFiles ≠ 0 ∧ truthy o.when = true ∧ o.maxBytes ≠ 0) ∨
       (¬ o.isStd ∧ o.oldFiles ≠ 0 ∧ truthy o.when = false ∧ o.maxBytes = 0))) :=
  ⟨by logdec_table_cases o, by logdec_table_cases o, by logdec_table_cases o, by logdec_table_cases o,
   fun n => by logdec_table_cases o, logdec_iff_error o⟩

example : fileHandlerKind ⟨"/var/log/z.log".toList, 0, 7, some "midnight".toList, 0, none, true⟩ = .ok (.timedRotating 1) := by
  char_lits; rfl
example : fileHandlerKind ⟨"/var/log/z.log".toList, 0, 7, none, 0, none, false⟩ = .error .valueError := by
  char_lits; rfl

/-! ## Factory memoisation and logger set-up

The theorems of this section are about `ZCV/Model/LoggerSetup.lean`, a model written by hand from `factory.py`,
`logger.py` and `HandlerFactory.create`.  It is compared with the running factories on every run (driver op `logsetup`). -/

/-- `Factory.__call__`, for any subclass: a second call returns the same product and changes neither the factory nor
    anything else (`create` is not run again). -/
theorem C20_factory_memo {F α σ : Type} (getInst : F → Option α) (setInst : F → α → F) (create : F → σ → α × F × σ)
    (hgs : ∀ f a, getInst (setInst f a) = some a) (f : F) (w : σ) :
    factoryCall getInst setInst create (factoryCall getInst setInst create f w).2.1 (factoryCall getInst setInst create f w).2.2
      = factoryCall getInst setInst create f w :=
  lgs_factoryCall_idem getInst setInst create hgs f w

/-- Calling a logger factory (eventlog or logger section, in any state, in any logging world) a second time returns
    the same logger and leaves the factory and the whole logging world exactly as after the first call: no handler is
    added, no level or propagate flag is set again.  The same holds for handler factories. -/
theorem C20_factory_idempotent (f : LoggerFactory) (w : World) :
    (f.call w).2.1.call (f.call w).2.2 = f.call w ∧
    (∀ hf : HandlerFactory, (hf.call w).2.1.call (hf.call w).2.2 = hf.call w) :=
  ⟨lgs_call_idem f w, fun hf => lgs_handler_call_idem hf w⟩

/-- Calling a logger factory as the loader built it (nothing called yet), in a well-formed logging world: the call
    returns the logger of the configured name (the root logger for `<eventlog>`, for a `<logger>` without name and for
    the names "" and "root"); afterwards that logger has the configured level, the configured propagate flag (left
    alone by `<eventlog>`), and its handlers are the ones it had before followed by exactly one NEW handler object per
    handler section, in order, each carrying its section's settings — or by one new `NullHandler` when no handler
    section is configured; no other logger is touched. -/
theorem C20_logger_setup (f : LoggerFactory) (w : World) (hf : f.Fresh) (hw : w.WF) :
    (f.call w).1 = loggerKey f.name ∧
    ((f.call w).2.2.get (loggerKey f.name)).level = f.level ∧
    ((f.call w).2.2.get (loggerKey f.name)).propagate =
      (f.propagate.getD (w.get (loggerKey f.name)).propagate) ∧
    (∃ new, ((f.call w).2.2.get (loggerKey f.name)).handlers = (w.get (loggerKey f.name)).handlers ++ new ∧
      new.map (·.cfg) = (if f.handlerFactories.isEmpty then [none] else f.handlerFactories.map (fun hf => some hf.cfg)) ∧
      new.map (·.id) = List.range' w.nextId new.length) ∧
    (∀ k, k ≠ loggerKey f.name → (f.call w).2.2.get k = w.get k) ∧
    (f.call w).2.1.inst = some (loggerKey f.name) ∧
    (f.call w).2.2.WF := by
  obtain ⟨hs, hwf⟩ := lgs_call_fresh_wf f w hf hw
  refine ⟨hs.name, by rw [hs.logger], by rw [hs.logger],
    ⟨createdHandlers w.nextId f.handlerFactories, by rw [hs.logger], ?_, ?_⟩, hs.other, by rw [hs.factory], hwf⟩
  · exact lgs_createdHandlers_cfg _ _
  · exact lgs_createdHandlers_ids _ _

/-- `C20_logger_setup` read off the sections: the factory the loader builds for a `<logger>` section (name, level,
    propagate, handler sections `hs`) — called in a well-formed world — returns the logger of that name, which then has
    that level and propagate flag and, after its old handlers, one new handler per handler section in order (a single
    `NullHandler` when `hs` is empty).  For an `<eventlog>` section the logger is the root logger and propagate is not
    touched. -/
theorem C20_section_setup (name : Option Str) (level : Int) (propagate : Bool) (hs : List HandlerCfg) (w : World) (hw : w.WF) :
    (let f := loggerFactoryOf name level propagate hs
     (f.call w).1 = loggerKey name ∧
     ((f.call w).2.2.get (loggerKey name)).level = level ∧
     ((f.call w).2.2.get (loggerKey name)).propagate = propagate ∧
     ∃ new, ((f.call w).2.2.get (loggerKey name)).handlers = (w.get (loggerKey name)).handlers ++ new ∧
       new.map (·.cfg) = (if hs.isEmpty then [none] else hs.map some)) ∧
    (let f := eventLogFactoryOf level hs
     (f.call w).1 = rootName ∧
     ((f.call w).2.2.get rootName).level = level ∧
     ((f.call w).2.2.get rootName).propagate = (w.get rootName).propagate ∧
     ∃ new, ((f.call w).2.2.get rootName).handlers = (w.get rootName).handlers ++ new ∧
       new.map (·.cfg) = (if hs.isEmpty then [none] else hs.map some)) := by
  have hmap : (if (hs.map handlerFactoryOf).isEmpty then [none] else (hs.map handlerFactoryOf).map (fun hf => some hf.cfg))
      = (if hs.isEmpty then [none] else hs.map some) := by
    cases hs with
    | nil => rfl
    | cons c t =>
      simp only [List.map_cons, List.isEmpty_cons, Bool.false_eq_true, ↓reduceIte, List.map_map, List.cons.injEq]
      exact ⟨rfl, List.map_congr_left (fun _ _ => rfl)⟩
  constructor
  · obtain ⟨h1, h2, h3, ⟨new, h4, h5, _⟩, _⟩ :=
      C20_logger_setup (loggerFactoryOf name level propagate hs) w (lgs_loggerFactoryOf_fresh name level propagate hs) hw
    exact ⟨h1, h2, h3, new, h4, h5.trans hmap⟩
  · obtain ⟨h1, h2, h3, ⟨new, h4, h5, _⟩, _⟩ :=
      C20_logger_setup (eventLogFactoryOf level hs) w (lgs_eventLogFactoryOf_fresh level hs) hw
    exact ⟨h1, h2, h3, new, h4, h5.trans hmap⟩

/-- The part of the set-up that needs no hypothesis at all: whatever the logging world and whatever the state of the
    handler factories (some may already have been called by the application), the first call of a logger factory
    returns the logger of the configured name, sets the configured level and propagate flag (`<eventlog>` leaves
    propagate alone), keeps the handlers the logger already had, in order, at the front, touches no other logger,
    leaves every handler factory with its memo filled and its product on the logger, and records the logger in the
    factory's memo.  A factory that was already called just returns its logger. -/
theorem C20_logger_setup_any (f : LoggerFactory) (w : World) :
    (f.inst = none →
      (f.call w).1 = loggerKey f.name ∧
      ((f.call w).2.2.get (loggerKey f.name)).level = f.level ∧
      ((f.call w).2.2.get (loggerKey f.name)).propagate = f.propagate.getD (w.get (loggerKey f.name)).propagate ∧
      (w.get (loggerKey f.name)).handlers <+: ((f.call w).2.2.get (loggerKey f.name)).handlers ∧
      (∀ k, k ≠ loggerKey f.name → (f.call w).2.2.get k = w.get k) ∧
      (f.call w).2.1.handlerFactories.map (·.cfg) = f.handlerFactories.map (·.cfg) ∧
      (f.handlerFactories ≠ [] → ∀ hf ∈ (f.call w).2.1.handlerFactories, ∃ h, hf.inst = some h ∧
        ∃ x ∈ ((f.call w).2.2.get (loggerKey f.name)).handlers, x.id = h.id) ∧
      (f.call w).2.1.inst = some (loggerKey f.name)) ∧
    (∀ n, f.inst = some n → f.call w = (n, f, w)) := by
  refine ⟨fun hi => ?_, fun n hn => lgs_call_called f w n hn⟩
  obtain ⟨hr, hinst⟩ := lgs_call_gen f w hi
  exact ⟨hr.name, hr.level, hr.propagate, hr.oldHandlers, hr.other, hr.sections, hr.products, hinst⟩

/-- a `<logger>` section `app.db`, level 20, propagate off, with two handler sections -/
def exLogger : LoggerFactory :=
  ⟨some "app.db".toList, 20, some false,
   [⟨⟨"FileHandler".toList, 10, "%(message)s".toList, "classic".toList, none⟩, none⟩,
    ⟨⟨"StreamHandler".toList, 30, "{message}".toList, "format".toList, none⟩, none⟩], none⟩
/-- an `<eventlog>` section, level 10, without handler sections -/
def exEventlog : LoggerFactory := ⟨none, 10, none, [], none⟩

example : exLogger.Fresh ∧ exEventlog.Fresh := by decide +kernel
example : World.WF ⟨[], 0⟩ := lgs_wf_empty 0
example : (exLogger.call ⟨[], 0⟩).1 = "app.db".toList ∧
    (exLogger.call ⟨[], 0⟩).2.2 =
      ⟨[("app.db".toList, ⟨20, false,
          [⟨0, some ⟨"FileHandler".toList, 10, "%(message)s".toList, "classic".toList, none⟩⟩,
           ⟨1, some ⟨"StreamHandler".toList, 30, "{message}".toList, "format".toList, none⟩⟩]⟩)], 2⟩ := by
  unfold exLogger
  char_lits
  decide +kernel
example : (callAll [exLogger, exEventlog] ⟨[], 0⟩).2.get "root".toList = ⟨10, true, [⟨2, none⟩]⟩ := by
  unfold exLogger
  char_lits
  decide +kernel
example : (exLogger.call ⟨[], 0⟩).2.1.call (exLogger.call ⟨[], 0⟩).2.2 = exLogger.call ⟨[], 0⟩ := lgs_call_idem _ _

/-- `configureLoggers`-style start-up: calling, in order, the fresh factories of sections that configure pairwise
    different loggers gives every one of these loggers its configured level, propagate flag and — after the handlers it
    already had — exactly one handler per handler section in order; loggers that are not configured are untouched;
    running the loop a second time changes nothing. -/
theorem C20_configure_loggers (fs : List LoggerFactory) (w : World) (hfresh : ∀ f ∈ fs, f.Fresh) (hw : w.WF)
    (hd : (fs.map (fun f => loggerKey f.name)).Nodup) :
    (∀ f ∈ fs,
      ((callAll fs w).2.get (loggerKey f.name)).level = f.level ∧
      ((callAll fs w).2.get (loggerKey f.name)).propagate =
        (f.propagate.getD (w.get (loggerKey f.name)).propagate) ∧
      ∃ new, ((callAll fs w).2.get (loggerKey f.name)).handlers = (w.get (loggerKey f.name)).handlers ++ new ∧
        new.map (·.cfg) = f.cfgs) ∧
    (∀ k, k ∉ fs.map (fun f => loggerKey f.name) → (callAll fs w).2.get k = w.get k) ∧
    callAll (callAll fs w).1 (callAll fs w).2 = callAll fs w := by
  obtain ⟨h1, h2, _⟩ := lgs_callAll_fresh fs w hfresh hw hd
  exact ⟨h1, h2, lgs_callAll_idem fs w⟩

/-! ## Classic (`%`) log formats: accepted at load time ⇒ the formatter can be built and formatting never raises

About `ZCV/Model/LogFormat.lean`: `parse` / `runItems` model CPython 3.12's `fmt % mapping` (exception classes
included), `accepts` models `FormatterFactory.__init__` for `style classic`, `arbitrary-fields off` and the default
formatter class: trial formatting of the sample record, then `logging.Formatter(fmt, datefmt, style='%')`. -/

open ZCV.LogFormat ZCV.LogFormatSpec ZCV.LogFormatLemmas in
/-- What the load-time check accepts, read off the format string.  A classic format (the empty format stands for
    `%(message)s`) is accepted exactly when
    * every item of the format is literal text, `%%`, a specifier `%(key)…c` whose key is a record attribute and whose
      conversion `c` is one the attribute's kind allows (`s r a` for everything, `d i u e E f F g G` for numbers,
      `o x X` for ints, `c` for level and line numbers only), or a single bare `%s` / `%r` / `%a` standing before every
      other specifier — with an absent or numeric width and precision (never `*`, width ≤ 2^63-1, precision ≤ 2^31-1,
      and ≤ 2^31-4 on an integer conversion); an incomplete specifier or an unknown conversion character is refused; and
    * logging's validation pattern `%\(\w+\)[#0+ -]*(\*|\d+)?(\.(\*|\d+))?[diouxefgcrsa%]` occurs in the format, which
      `logging.Formatter` requires (automatic as soon as there is a plain field: `C20_classic_accepts_iff_of_field`). -/
theorem C20_classic_accepts_iff (fmt : Str) :
    accepts fmt = true ↔
      ItemsAccepted true (parse (effective fmt)) ∧ validatorSearch (effective fmt) = true :=
  lf_accepts_items fmt

open ZCV.LogFormat ZCV.LogFormatSpec ZCV.LogFormatLemmas in
/-- THE PROPERTY, as the formatter meets it.  A classic format accepted at load time (arbitrary-fields off) never raises
    when the formatter built from it formats an ordinary record: every attribute present — `asctime` only if the format
    uses the time, as `logging.Formatter.format` sets it only then — strings where the logging package puts strings,
    level and line numbers in `0 ≤ n < 0x110000`, thread and process ids in `0 ≤ n < 2^64`, finite time stamps, and no
    int of more than 4300 digits among the object-valued attributes (`args`, `exc_info`, …).  If the format has a
    specifier without `(key)` (a leading `%s`, which prints the whole attribute dictionary), `repr()` must work on every
    attribute of the record, also those the logging package does not know (`BareOk`; needed:
    `C20_classic_bare_needs_printable`). -/
theorem C20_classic_format_safe_for (fmt : Str) (h : accepts fmt = true) (r : Dict) (hr : OrdinaryFor fmt r)
    (hb : BareOk fmt r) : formatSafe fmt r = true := by
  refine lf_accepted_safe Kind.admitsWide (fun _ => True)
    (fun kind v cls prec hadm hal _ hpf => lf_classCheck_admitsWide kind v cls prec hadm hal hpf) fmt h (fun it _ => lf_itemGood_true it)
    r (fun k kind hm hu => ?_) hb
  obtain ⟨v, hv, hadm⟩ := hr k kind hm hu
  exact ⟨v, hv, lf_admits_wide kind v hadm⟩

open ZCV.LogFormat ZCV.LogFormatSpec ZCV.LogFormatLemmas in
/-- THE PROPERTY for records with all attributes present (`asctime` included): `C20_classic_format_safe_for` where
    `OrdinaryFor` is `Ordinary` (with a leading bare `%s` in the format, every attribute of the record must print:
    `BareOk`). -/
theorem C20_classic_format_safe (fmt : Str) (h : accepts fmt = true) (r : Dict) (hr : Ordinary r) (hb : BareOk fmt r) :
    formatSafe fmt r = true :=
  C20_classic_format_safe_for fmt h r (fun k kind hm _ => hr k kind hm) hb

open ZCV.LogFormat ZCV.LogFormatSpec ZCV.LogFormatLemmas in
/-- THE PROPERTY for the formats one writes — every specifier has a `(key)`: accepted at load time → no ordinary record
    makes the formatter raise, whatever other attributes the record carries. -/
theorem C20_classic_format_safe_keyed (fmt : Str) (h : accepts fmt = true)
    (hk : ∀ it ∈ parse (effective fmt), isBare it = false) (r : Dict) (hr : Ordinary r) :
    formatSafe fmt r = true :=
  C20_classic_format_safe fmt h r hr (fun ⟨it, hm, hbare⟩ => by rw [hk it hm] at hbare; cases hbare)

open ZCV.LogFormat ZCV.LogFormatSpec ZCV.LogFormatLemmas in
/-- The same under the weakest hypothesis on the record: the string-valued and object-valued attributes may hold
    anything that prints — anything but an int of more than 4300 decimal digits, on which `str()` / `repr()` raise
    ValueError in Python 3.12 (needed: `C20_classic_str_limit_needed`); thread and process ids may be any int that
    converts to `float` (such an int has at most 309 digits); what else is needed is: level and line numbers are ints in
    `0 ≤ n < 0x110000`, time stamps are finite floats (and `asctime` is there if the format uses the time). -/
theorem C20_classic_format_safe_wide (fmt : Str) (h : accepts fmt = true) (r : Dict) (hr : OrdinaryWide fmt r)
    (hb : BareOk fmt r) : formatSafe fmt r = true :=
  lf_accepted_safe Kind.admitsWide (fun _ => True)
    (fun kind v cls prec hadm hal _ hpf => lf_classCheck_admitsWide kind v cls prec hadm hal hpf) fmt h (fun it _ => lf_itemGood_true it) r hr hb

open ZCV.LogFormat ZCV.LogFormatSpec ZCV.LogFormatLemmas in
/-- An accepted format that does not use `%c` is safe on every record with the right TYPES: level and line numbers
    may then be any ints (that convert to `float`), not only code points. -/
theorem C20_classic_format_safe_typed (fmt : Str) (h : accepts fmt = true)
    (hc : ∀ it ∈ parse (effective fmt), noCharConv it) (r : Dict) (hr : OrdinaryTyped fmt r) (hb : BareOk fmt r) :
    formatSafe fmt r = true := by
  refine lf_accepted_safe Kind.admitsTyped (· ≠ .char) lf_classCheck_admitsTyped fmt h (fun it hm => ?_) r hr hb
  have := hc it hm
  cases it with
  | field key fl w p lm conv =>
    cases conv with
    | none => trivial
    | some c =>
      intro cls hcls hch
      subst hch
      exact this hcls
  | _ => trivial

open ZCV.LogFormat in
/-- An accepted format can be used to build the formatter: `FormatterFactory.__call__`
    (= `logging.Formatter(fmt, datefmt, style='%')`, which validates the format) does not raise. -/
theorem C20_classic_formatter_builds (fmt : Str) (h : accepts fmt = true) : buildFormatter fmt = .ok () := by
  unfold buildFormatter
  rw [((LogFormatLemmas.lf_accepts_iff fmt).mp h).2]
  rfl

open ZCV.LogFormat ZCV.LogFormatSpec ZCV.LogFormatLemmas in
/-- Every item of an accepted format is an accepted item (literal, `%%`, known attribute with an allowed conversion,
    or the leading bare `%s`): in particular no `*`, no unknown attribute, no incomplete specifier. -/
theorem C20_classic_accepted_items (fmt : Str) (h : accepts fmt = true) :
    ∀ it ∈ parse (effective fmt), ∃ first, ItemAccepted first it :=
  lf_itemsAccepted_mem true _ ((C20_classic_accepts_iff fmt).mp h).1

open ZCV.LogFormat ZCV.LogFormatSpec ZCV.LogFormatLemmas in
/-- For every format with at least one plain field — `%(key)…c` without a length modifier and with an absent or nonzero
    precision, i.e. every format one would write — the validation by `logging.Formatter` is automatic, and acceptance
    is exactly the item-by-item condition: literal text, `%%`, known attributes with conversions their kind allows
    (and possibly one leading bare `%s`). -/
theorem C20_classic_accepts_iff_of_field (fmt : Str) (hf : ∃ it ∈ parse (effective fmt), plainKeyed it) :
    accepts fmt = true ↔ ItemsAccepted true (parse (effective fmt)) := by
  rw [C20_classic_accepts_iff]
  exact ⟨fun h => h.1, fun h => ⟨h, lf_validatorSearch_of_plainKeyed _ h hf⟩⟩

open ZCV.LogFormat ZCV.LogFormatLemmas in
/-- The range in `C20_classic_format_safe` is needed: `%(lineno)c` IS accepted at load time (the sample line number is
    1), and formatting raises (OverflowError) for every record whose line number is not a code point. -/
theorem C20_classic_char_needs_range (n : Int) (hn : n < 0 ∨ 0x110000 ≤ n) (r : Dict)
    (hr : r "lineno".toList = some (.int n)) :
    accepts "%(lineno)c".toList = true ∧ formatSafe "%(lineno)c".toList r = false ∧
    formatRun "%(lineno)c".toList r = .error .overflowError := by
  have hrun : formatRun "%(lineno)c".toList r = .error .overflowError := by
    rw [lf_formatRun_keyed _ r _ 'c' .char _ (by char_lits; decide +kernel) (by decide) hr]
    have hm : ¬ (0 ≤ n ∧ n ≤ maxUnicode) := by simp only [maxUnicode]; omega
    simp only [classCheck, hm, if_false]
  exact ⟨lf_accepts_of_run _ (by char_lits; decide +kernel), lf_formatSafe_of_error hrun, hrun⟩

open ZCV.LogFormat ZCV.LogFormatLemmas in
/-- The 4300-digit bound in `C20_classic_format_safe_wide` is needed (the classic mirror of
    `C20_template_str_limit_needed`): `%(process)d` and `%(process)s` ARE accepted at load time (the sample process id is
    4000000), and formatting raises ValueError ("Exceeds the limit (4300 digits) for integer string conversion") for
    every record whose `process` is an int of more than 4300 decimal digits, of either sign — while `%(process)x` works
    on every int: the hexadecimal, octal conversions are not limited. -/
theorem C20_classic_str_limit_needed (n : Int) (hn : 10 ^ 4300 ≤ n.natAbs) (r : Dict)
    (hr : r "process".toList = some (.int n)) :
    accepts "%(process)d".toList = true ∧ accepts "%(process)s".toList = true ∧ accepts "%(process)x".toList = true ∧
    formatRun "%(process)d".toList r = .error .valueError ∧ formatSafe "%(process)d".toList r = false ∧
    formatRun "%(process)s".toList r = .error .valueError ∧ formatSafe "%(process)s".toList r = false ∧
    formatSafe "%(process)x".toList r = true := by
  have hs := lf_strCheck_big n hn
  have hd : formatRun "%(process)d".toList r = .error .valueError :=
    (lf_formatRun_keyed _ r _ 'd' .dec _ (by char_lits; decide +kernel) (by decide) hr).trans hs
  have hst : formatRun "%(process)s".toList r = .error .valueError :=
    (lf_formatRun_keyed _ r _ 's' .text _ (by char_lits; decide +kernel) (by decide) hr).trans hs
  have hx : formatRun "%(process)x".toList r = .ok () :=
    lf_formatRun_keyed _ r _ 'x' .radix _ (by char_lits; decide +kernel) (by decide) hr
  exact ⟨lf_accepts_of_run _ (by char_lits; decide +kernel), lf_accepts_of_run _ (by char_lits; decide +kernel),
    lf_accepts_of_run _ (by char_lits; decide +kernel), hd, lf_formatSafe_of_error hd, hst, lf_formatSafe_of_error hst,
    (lf_formatSafe_iff _ r).mpr hx⟩

open ZCV.LogFormat ZCV.LogFormatSpec ZCV.LogFormatLemmas in
/-- The hypothesis `BareOk` of `C20_classic_format_safe` is needed: `%s %(message)s` IS accepted at load time (the
    leading `%s` prints the whole attribute dictionary of the record), and formatting raises ValueError for every
    record that carries, under ANY name (say through `extra=`), an int of more than 4300 decimal digits. -/
theorem C20_classic_bare_needs_printable (r : Dict) (k : Str) (n : Int) (hr : r k = some (.int n))
    (hn : 10 ^ 4300 ≤ n.natAbs) :
    accepts "%s %(message)s".toList = true ∧ formatRun "%s %(message)s".toList r = .error .valueError ∧
    formatSafe "%s %(message)s".toList r = false := by
  have hp : parse (effective "%s %(message)s".toList) =
      [.field none [] .absent .absent none (some 's'), .lit " ".toList,
       .field (some "message".toList) [] .absent .absent none (some 's')] := by char_lits; decide +kernel
  have hcs : classOf 's' = some .text := by char_lits; decide +kernel
  have hrun : formatRun (effective "%s %(message)s".toList) r = .error .valueError := by
    obtain ⟨ok, hok, he⟩ := lf_formatRun_eq (effective "%s %(message)s".toList) r
    have hf : ok = false := by
      cases ok with
      | false => rfl
      | true =>
        have hpr : Prints (.int n) := hok.mp rfl k _ hr
        simp only [Prints] at hpr
        omega
    subst hf
    rw [he, hp]
    simp only [runItems, evalItem, stOf, if_true, evalWidth, evalPrec, argCheck, convCheck, hcs, classCheck, strCheck,
      Bool.false_eq_true, if_false]
  exact ⟨lf_accepts_of_run _ (by char_lits; decide +kernel), hrun, lf_formatSafe_of_error hrun⟩

open ZCV.LogFormat ZCV.LogFormatSpec in
/-- THE PROPERTY from the configuration text `raw`: the `escaped_string` datatype turns `\n \t \b \f \r` into control characters, the
    result is what is checked at load time and what the formatter uses. -/
theorem C20_classic_configured_safe (raw : Str) (h : acceptsConfigured raw = true) (r : Dict) (hr : Ordinary r)
    (hb : BareOk (ctrlCharInsert raw) r) : formatSafe (ctrlCharInsert raw) r = true :=
  C20_classic_format_safe _ h r hr hb

/-! ### Examples (classic style) -/

section ClassicExamples
open ZCV.LogFormat ZCV.LogFormatSpec ZCV.LogFormatLemmas

example : parse "a%%b %(name)-10.3s%".toList =
    [.lit "a".toList, .percent, .lit "b ".toList,
     .field (some "name".toList) "-".toList (.num 10) (.num 3) none (some 's'),
     .field none [] .absent .absent none none] := by char_lits; decide +kernel
example : accepts "%(asctime)s %(levelname)-8s [%(name)s:%(lineno)04d] %(message)s".toList = true :=
  lf_accepts_of_run _ (by char_lits; decide +kernel)
example : accepts [] = true ∧ acceptsConfigured "a\\nb\\t%(message)s".toList = true :=
  ⟨lf_accepts_of_run _ (by char_lits; decide +kernel), lf_accepts_of_run _ (by char_lits; decide +kernel)⟩
/-- an instance of `C20_classic_accepts_iff_of_field` -/
example : ∃ it ∈ parse (effective "%(levelname)s: %(message)s".toList), plainKeyed it :=
  ⟨.field (some "message".toList) [] .absent .absent none (some 's'), by char_lits; decide +kernel, Or.inl rfl⟩
/-- a format without a field, and `%c` on thread / process ids, are refused -/
example : accepts "hello".toList = false ∧ accepts "%(thread)c".toList = false ∧ accepts "%(process)c".toList = false := by
  log_tables
  decide +kernel
example : formatRun "hello".toList sampleDict = .ok () ∧ buildFormatter "hello".toList = .error .valueError := by
  log_tables
  decide +kernel
/-- a bare `%s` formats the whole attribute dictionary, once; a length modifier hides a field from logging's validation -/
example : accepts "%s %(message)s".toList = true ∧ accepts "%(message)s %s".toList = false ∧
    accepts "%(message)ls".toList = false ∧ accepts "%%(x)s".toList = true := by log_tables; decide +kernel
example : loadCheck "%(nosuchfield)s".toList = .error .keyError ∧ loadCheck "%(name)d".toList = .error .typeError ∧
    loadCheck "%(message)".toList = .error .valueError ∧ loadCheck "%(levelno)*d".toList = .error .typeError ∧
    loadCheck "%(thread)c".toList = .error .overflowError := by log_tables; decide +kernel

/-- a record as `logger.warning("disk %s full", "sda")` at line 1207 of `/srv/x.py` produces it -/
def exRecordTable : List (Str × Value) :=
  [("name".toList, .str "x".toList), ("msg".toList, .str "disk %s full".toList), ("args".toList, .other),
   ("levelname".toList, .str "WARNING".toList), ("levelno".toList, .int 30), ("pathname".toList, .str "/srv/x.py".toList),
   ("filename".toList, .str "x.py".toList), ("module".toList, .str "x".toList), ("exc_info".toList, .none),
   ("exc_text".toList, .none), ("stack_info".toList, .none), ("lineno".toList, .int 1207), ("funcName".toList, .str "f".toList),
   ("created".toList, .float .finite), ("msecs".toList, .float .finite), ("relativeCreated".toList, .float .finite),
   ("thread".toList, .int 139872345061184), ("threadName".toList, .str "MainThread".toList),
   ("processName".toList, .str "MainProcess".toList), ("process".toList, .int 4194304), ("taskName".toList, .none),
   ("asctime".toList, .str "2026-09-29 10:00:00,123".toList), ("message".toList, .str "disk sda full".toList)]

theorem exRecordTable_eq : exRecordTable = LogRecord.recordKeys.zip (exRecordTable.map (·.2)) := by
  have h : exRecordTable.map (·.1) = sampleVars.map (·.1) := by simp only [exRecordTable, sampleVars, List.map]
  exact LogRecord.eq_zip_of_keys (h.trans LogRecord.sampleVars_keys)

/-- the hypotheses of `C20_classic_format_safe` are satisfiable -/
example : Ordinary (lookup exRecordTable) ∧ accepts "%(levelno)c %(name)s %(thread)x %(created).3f".toList = true :=
  ⟨lf_ordinary_of_table _ (by rw [exRecordTable_eq]; log_tables; decide +kernel),
   lf_accepts_of_run _ (by char_lits; decide +kernel)⟩
example : formatSafe "%(levelno)c %(name)s %(thread)x %(created).3f".toList (lookup exRecordTable) = true := by
  rw [exRecordTable_eq]
  char_lits
  decide +kernel
/-- the same record without `asctime`, as a formatter whose format does not use the time sees it -/
example : OrdinaryFor "%(levelname)s %(message)s".toList (lookup (exRecordTable.filter (fun p => p.1 != "asctime".toList))) ∧
    lookup (exRecordTable.filter (fun p => p.1 != "asctime".toList)) "asctime".toList = none :=
  ⟨lf_ordinaryFor_of_table _ _ (by rw [exRecordTable_eq]; log_tables; decide +kernel),
   by rw [exRecordTable_eq]; char_lits; decide +kernel⟩
/-- `%(name)c` would be fine on this record (one-letter logger name) but is refused: the sample name is longer -/
example : formatSafe "%(name)c".toList (lookup exRecordTable) = true ∧ accepts "%(name)c".toList = false := by
  rw [exRecordTable_eq]
  log_tables
  decide +kernel
/-- the hypothesis `BareOk`: nothing to show for a format whose specifiers all have a key -/
example (r : Dict) : BareOk "%(levelname)s %(message)s".toList r :=
  fun ⟨it, hm, hb⟩ => by
    have : ∀ it ∈ parse (effective "%(levelname)s %(message)s".toList), isBare it = false := by char_lits; decide +kernel
    rw [this it hm] at hb; cases hb
/-- `BareOk` for a format with a leading bare `%s`: the example record prints, and formatting works (`formatSafeTable` is
    the executable form of `formatSafe` for a record given as a table) -/
example : BareOk "%s %(message)s".toList (lookup exRecordTable) ∧ accepts "%s %(message)s".toList = true ∧
    formatSafe "%s %(message)s".toList (lookup exRecordTable) = true :=
  ⟨fun _ => lf_printable_of_table _ (by rw [exRecordTable_eq]; decide +kernel),
   lf_accepts_of_run _ (by char_lits; decide +kernel),
   by rw [lf_formatSafe_table, exRecordTable_eq]; char_lits; decide +kernel⟩
/-- the 4300-digit limit, at its boundary: `10^4300 - 1` (4300 digits) and its negative are converted by `%d` and `%s`,
    `10^4300` (4301 digits) is refused with ValueError, `%x` takes it -/
example : formatRunTable "%(process)d".toList [("process".toList, .int (10 ^ 4300 - 1))] = .ok () ∧
    formatRunTable "%(process)5.3s".toList [("process".toList, .int (-(10 ^ 4300 - 1)))] = .ok () ∧
    formatRunTable "%(process)d".toList [("process".toList, .int (10 ^ 4300))] = .error .valueError ∧
    formatRunTable "%(process)r".toList [("process".toList, .int (-(10 ^ 4300)))] = .error .valueError ∧
    formatRunTable "%(process)#x".toList [("process".toList, .int (10 ^ 4300))] = .ok () ∧
    formatRunTable "%(process)f".toList [("process".toList, .int (10 ^ 4300))] = .error .overflowError ∧
    formatRunTable "%(process).2147483645d".toList [("process".toList, .int (10 ^ 4300))] = .error .overflowError ∧
    formatRunTable "%s".toList [("x".toList, .int (10 ^ 4300))] = .error .valueError ∧
    formatRunTable "%d".toList [("x".toList, .int (10 ^ 4300))] = .error .typeError := by char_lits; decide +kernel
/-- `10^4300` and its negative satisfy the hypothesis of `C20_classic_str_limit_needed` and
    `C20_classic_bare_needs_printable` -/
example : (10 : Nat) ^ 4300 ≤ ((10 : Int) ^ 4300).natAbs ∧ (10 : Nat) ^ 4300 ≤ (-(10 : Int) ^ 4300).natAbs := by
  decide +kernel

end ClassicExamples

/-! ## `template` and `safe-template` log formats (`string.Template`)

About `ZCV/Model/LogTemplate.lean`: `scan` models `string.Template.pattern.finditer` (CPython 3.12), `substitute` /
`safeSubstitute` which calls of `Template.substitute` / `safe_substitute` raise, `acceptsTemplate` / `acceptsSafeTemplate`
model `FormatterFactory.__init__` for `style template` / `style safe-template` with `arbitrary-fields off` and the default
formatter class (trial formatting of the sample record, then `logging.Formatter(fmt, datefmt, style='$')`, which runs
`logging.StringTemplateStyle.validate`; for `safe-template` `validate=False` and the stylist swapped in), and
`formatTemplate` / `formatSafeTemplate` model `logging.Formatter.formatMessage` on a record at run time. -/

section Template
open ZCV.LogFormat ZCV.LogTemplate ZCV.LogTemplateSpec ZCV.LogTemplateLemmas

/-- The scanner loses nothing and reads nothing twice: the source texts of the pieces of a template (literal runs,
    `$$`, `$name`, `${name}`, invalid `$`), put one after the other, are the format string itself. -/
theorem C20_template_scan_roundtrip (fmt : Str) : (scan fmt).flatMap Piece.text = fmt := lt_scan_text fmt

/-- The scanner is `string.Template`'s pattern, stated without any scanning order or fuel: `scan fmt` is the ONE way of
    cutting `fmt` into maximal `$`-free literal runs, `$$`, `$identifier` with the longest identifier
    (`[_a-zA-Z][_a-zA-Z0-9]*`, ASCII only), `${identifier}`, and — only where none of these three starts — an invalid `$`
    after which scanning resumes at the very next character. -/
theorem C20_template_scan_spec (fmt : Str) (ps : List Piece) : Tokens fmt ps ↔ ps = scan fmt :=
  ⟨fun h => (lt_tokens_scan h).symm, fun h => h ▸ lt_scan_tokens fmt.length fmt (Nat.le_refl _)⟩

/-- The literal list `knownNames` of the model is the key list of the sample record `FormatterFactory` formats (the
    same record as for the classic style), and a name is known exactly when the sample record has it. -/
theorem C20_template_known_names :
    knownNames = sampleVars.map (·.1) ∧ ∀ k, k ∈ knownNames ↔ ∃ v, sampleDict k = some v :=
  ⟨knownNames_eq, lt_sample_known⟩

/-- What `style template` accepts at load time (arbitrary-fields off), read off the format string.  A format (the empty
    format stands for `${message}`) is accepted exactly when it has no invalid `$` (a `$` followed by neither `$`, an
    identifier nor `{identifier}`), every `$name` / `${name}` names an attribute of the sample record — the `LogRecord`
    attributes of Python 3.12, `asctime` and `message` — and there is at least one such placeholder
    (`logging.Formatter` refuses a format without fields). -/
theorem C20_template_accepts_iff (fmt : Str) :
    acceptsTemplate fmt = true ↔
      Piece.invalid ∉ scan (effectiveTemplate fmt) ∧
      (∀ n ∈ refs (scan (effectiveTemplate fmt)), n ∈ knownNames) ∧
      refs (scan (effectiveTemplate fmt)) ≠ [] := by
  rw [lt_templateAccepted_iff]
  exact ⟨fun h => ⟨h.noInvalid, h.known, h.hasField⟩, fun h => ⟨h.1, h.2.1, h.2.2⟩⟩

/-- THE PROPERTY for `style template`, as the formatter meets it: a format accepted at load time never raises when the
    formatter built from it formats a record that has the known attributes with printable values — `asctime` only if the
    format uses the time (`$asctime` or `${asctime}` occurs in it), as `logging.Formatter.format` sets it only then. -/
theorem C20_template_format_safe_for (fmt : Str) (h : acceptsTemplate fmt = true) (r : Dict) (hr : HasKnownFor fmt r) :
    formatTemplate fmt r = .ok () := by
  have ha := (lt_templateAccepted_iff fmt).mp h
  rw [lt_formatTemplate_ok, lt_substitute_ok]
  exact ⟨ha.noInvalid, fun n hn => hr n (ha.known n hn) (fun he => lt_usesTime_of_ref fmt (he ▸ hn))⟩

/-- THE PROPERTY for `style template`: accepted at load time → every record that has all the known attributes (with
    values whose `str()` works) formats without raising. -/
theorem C20_template_format_safe (fmt : Str) (h : acceptsTemplate fmt = true) (r : Dict) (hr : HasKnown r) :
    formatTemplate fmt r = .ok () :=
  C20_template_format_safe_for fmt h r (fun k hk _ => hr k hk)

/-- An accepted `template` format can be used to build the formatter: `FormatterFactory.__call__`
    (= `logging.Formatter(fmt, datefmt, style='$')`, which validates the format) does not raise; for `safe-template`
    building the formatter never raises at all. -/
theorem C20_template_formatter_builds (fmt : Str) (h : acceptsTemplate fmt = true) :
    buildTemplateFormatter fmt = .ok () ∧ buildSafeTemplateFormatter fmt = .ok () :=
  ⟨((lt_acceptsTemplate_iff fmt).mp h).2, rfl⟩

/-- Run time, `style template`, for ANY format and record: formatting works exactly when the format has no invalid `$`
    and every name it refers to is an attribute of the record whose `str()` works. -/
theorem C20_template_format_iff (fmt : Str) (r : Dict) :
    formatTemplate fmt r = .ok () ↔
      Piece.invalid ∉ scan (effectiveTemplate fmt) ∧
      ∀ n ∈ refs (scan (effectiveTemplate fmt)), ∃ v, r n = some v ∧ StrOk v := by
  rw [lt_formatTemplate_ok, lt_substitute_ok]

/-- The exception classes: the load-time check of `style template` raises ValueError (a configuration error) or KeyError
    (an unknown name; it escapes from the loader as it is) and nothing else; at run time the formatter only ever raises
    ValueError (`logging` turns the KeyError into one), and so does `safe-template`. -/
theorem C20_template_errors (fmt : Str) (e : PyErr) :
    (loadCheckTemplate fmt = .error e → e = .valueError ∨ e = .keyError) ∧
    (∀ r, formatTemplate fmt r = .error e → e = .valueError) ∧
    (∀ r, formatSafeTemplate fmt r = .error e → e = .valueError) := by
  refine ⟨fun h => ?_, fun r h => ?_, fun r h => lt_safeSubstitute_error _ r e h⟩
  · unfold loadCheckTemplate buildTemplateFormatter at h
    cases hs : substitute (effectiveTemplate fmt) sampleDict with
    | error e' =>
      simp only [hs, Except.error.injEq] at h
      subst h
      exact lt_substitute_error _ _ _ hs
    | ok u =>
      simp only [hs] at h
      unfold validate at h
      split at h
      · injection h with h; exact .inl h.symm
      · split at h
        · injection h with h; exact .inl h.symm
        · cases h
  · unfold formatTemplate at h
    cases hs : substitute (effectiveTemplate fmt) r with
    | ok u => simp [hs] at h
    | error e' =>
      rcases lt_substitute_error _ _ _ hs with he | he <;> subst he <;> simp only [hs, Except.error.injEq] at h <;>
        exact h.symm

/-- THE PROPERTY from the configuration text `raw`: the `escaped_string` datatype turns `\n \t \b \f \r` into control characters, the
    result is what is checked at load time and what the formatter uses. -/
theorem C20_template_configured_safe (raw : Str) (h : acceptsTemplateConfigured raw = true) (r : Dict) (hr : HasKnown r) :
    formatTemplate (ctrlCharInsert raw) r = .ok () :=
  C20_template_format_safe _ h r hr

/-- `style safe-template` accepts every format at load time: the trial `safe_substitute` of the sample record cannot
    raise and the formatter is built without validation. -/
theorem C20_safe_template_accepts_all (fmt : Str) :
    acceptsSafeTemplate fmt = true ∧ acceptsSafeTemplateConfigured fmt = true :=
  ⟨lt_acceptsSafeTemplate fmt, lt_acceptsSafeTemplate _⟩

/-- THE PROPERTY for `style safe-template`: whatever the format and whatever attributes the record has or lacks,
    formatting never raises — provided `str()` works on the values the record does have (see
    `C20_template_str_limit_needed` for why this proviso cannot be dropped). -/
theorem C20_safe_template_never_raises (fmt : Str) (r : Dict) (hr : Printable r) : formatSafeTemplate fmt r = .ok () :=
  (lt_safeSubstitute_ok _ _).mpr (fun n _ v hv => hr n v hv)

/-- Run time, `style safe-template`, exactly: formatting works iff `str()` works on the value of every attribute the
    format refers to and the record has. -/
theorem C20_safe_template_format_iff (fmt : Str) (r : Dict) :
    formatSafeTemplate fmt r = .ok () ↔
      ∀ n ∈ refs (scan (effectiveTemplate fmt)), ∀ v, r n = some v → StrOk v :=
  lt_safeSubstitute_ok _ _

/-- The proviso on `str()` is needed, for both styles: `$levelno` is accepted at load time, and formatting raises
    ValueError for every record whose level number is an int of more than 4300 digits (Python 3.12 refuses to convert
    it; `safe_substitute` only catches KeyError). -/
theorem C20_template_str_limit_needed (n : Int) (hn : 10 ^ 4300 ≤ n.natAbs) (r : Dict)
    (hr : r "levelno".toList = some (.int n)) :
    acceptsTemplate "$levelno".toList = true ∧ acceptsSafeTemplate "$levelno".toList = true ∧
    formatTemplate "$levelno".toList r = .error .valueError ∧
    formatSafeTemplate "$levelno".toList r = .error .valueError := by
  have hp : scan (effectiveTemplate "$levelno".toList) = [.named "levelno".toList] := by char_lits; decide +kernel
  have hs := LogFormatLemmas.lf_strCheck_big n hn
  refine ⟨by log_tables; decide +kernel, lt_acceptsSafeTemplate _, ?_, ?_⟩
  · unfold formatTemplate substitute
    rw [hp]
    simp only [runPieces, substPiece, hr, hs]
  · unfold formatSafeTemplate safeSubstitute
    rw [hp]
    simp only [runPieces, safePiece, hr, hs]

/-! ### Examples (`template` / `safe-template`) -/

example : scan "$$a $name-${levelno}x $ ${9} $é".toList =
    [.escaped, .lit "a ".toList, .named "name".toList, .lit "-".toList, .braced "levelno".toList, .lit "x ".toList,
     .invalid, .lit " ".toList, .invalid, .lit "{9} ".toList, .invalid, .lit "é".toList] := by char_lits; decide +kernel
/-- ASCII only: `ſ` (U+017F), the Kelvin sign (U+212A) and `é` end an identifier although the pattern is compiled with
    IGNORECASE -/
example : scan "$nameſ ${level\u212A}".toList =
    [.named "name".toList, .lit "ſ ".toList, .invalid, .lit "{level\u212A}".toList] := by char_lits; decide +kernel
example : acceptsTemplate "${asctime} $levelname [$name:${lineno}] $message $$".toList = true := by log_tables; decide +kernel
example : acceptsTemplate [] = true ∧ acceptsTemplateConfigured "a\\nb\\t${message}".toList = true := by log_tables; decide +kernel
/-- refused: no field, an invalid `$`, an unknown name (with the class of the exception) -/
example : loadCheckTemplate "hello".toList = .error .valueError ∧ loadCheckTemplate "$$message".toList = .error .valueError ∧
    loadCheckTemplate "$message costs 5 $".toList = .error .valueError ∧
    loadCheckTemplate "${message} $nosuchfield".toList = .error .keyError ∧
    loadCheckTemplate "$nosuchfield $".toList = .error .keyError ∧
    loadCheckTemplate "$ $nosuchfield".toList = .error .valueError ∧
    loadCheckTemplate "$messageſ".toList = .ok () ∧ loadCheckTemplate "${messageſ}".toList = .error .valueError := by
  log_tables
  decide +kernel
example : acceptsSafeTemplate "hello $ ${9} $nosuchfield".toList = true := lt_acceptsSafeTemplate _

/-- the hypotheses of `C20_template_format_safe` are satisfiable: the record of the classic examples has all the known
    attributes, and the format is accepted -/
example : HasKnown (lookup exRecordTable) ∧ Printable (lookup exRecordTable) ∧
    acceptsTemplate "$asctime ${levelname} $thread $message".toList = true :=
  ⟨lt_hasKnown_of_table _ (by rw [exRecordTable_eq]; log_tables; decide +kernel), lt_printable_of_table _ (by decide +kernel),
   by log_tables; decide +kernel⟩
example : formatTemplate "$asctime ${levelname} $thread $message".toList (lookup exRecordTable) = .ok () := by
  rw [exRecordTable_eq]
  char_lits
  decide +kernel
/-- the same record without `asctime`, as a formatter whose format does not use the time sees it -/
example : usesTimeTemplate "${levelname} $message".toList = false ∧
    formatTemplate "${levelname} $message".toList (lookup (exRecordTable.filter (fun p => p.1 != "asctime".toList))) = .ok () ∧
    formatTemplate "$asctime".toList (lookup (exRecordTable.filter (fun p => p.1 != "asctime".toList))) = .error .valueError := by
  rw [exRecordTable_eq]
  char_lits
  decide +kernel
/-- an instance of the hypothesis of `C20_template_str_limit_needed` -/
example : (10 : Nat) ^ 4300 ≤ ((10 : Int) ^ 4300).natAbs := by decide +kernel
/-- `safe-template` at run time: unknown names and invalid `$` are left alone -/
example : formatSafeTemplate "hello $ ${9} $nosuchfield $message".toList (lookup exRecordTable) = .ok () ∧
    formatTemplate "hello $nosuchfield".toList (lookup exRecordTable) = .error .valueError := by
  rw [exRecordTable_eq]
  char_lits
  decide +kernel

end Template

/-! ## `format` log formats (`str.format` fields)

About `ZCV/Model/LogStrFormat.lean`: `parse` models `_string.formatter_parser` (CPython 3.12), `vformatRun` / `cformatRun`
which calls of `string.Formatter().vformat(fmt, (), d)` / `fmt.format(**d)` raise (and which class), `acceptsStrFormat`
models `FormatterFactory.__init__` for `style format` with `arbitrary-fields off` and the default formatter class (trial
`vformat` of the sample record, `IndexError` turned into `ValueError`, then `logging.Formatter(fmt, datefmt, style='{')`,
which runs `logging.StrFormatStyle.validate`), and `formatStr` models `logging.Formatter.formatMessage` on a record at run
time (`fmt.format(**record.__dict__)`, `KeyError` turned into `ValueError`).  Where the model does not know the outcome
(attributes of objects it does not represent, the text of a nested field it cannot compute, astronomic widths) it abstains
with `SErr.unmodelled`; an abstention at load time counts as "not accepted", so every theorem below about accepted formats
is about formats the real loader accepts.

THE PROPERTY IS FALSE for `style format` in general: `{message[0]}`, `{exc_text.__bool__}`, `{message:{relativeCreated}}`
are accepted at load time (arbitrary-fields off) and raise on ordinary records (`C20_strformat_index_needed`,
`C20_strformat_attr_needed`, `C20_strformat_nested_needed`).  It is proved for the PLAIN formats — every replacement field
is `{key}`, `{key!conv}`, `{key:spec}` or `{key!conv:spec}` with a bare key and a spec without braces
(`LogStrFormatSpec.Plain`, decidable): `C20_strformat_format_safe_partial`. -/

section StrFormat
open ZCV.LogStrFormat ZCV.LogStrFormatSpec ZCV.LogStrFormatLemmas ZCV.LogFormatSpec
open ZCV.LogFormat (Value Dict FloatKind PyErr strCheck floatLimit maxUnicode hasInfix ctrlCharInsert)

/-- What `style format` accepts at load time (arbitrary-fields off), for ANY format, step by step.  A format (the empty
    format stands for `{message}`) is accepted exactly when it has no syntax error, has at least one replacement field with
    a non-empty name, and every replacement field `{name!conv:spec}`
    * passes logging's validation: the name matches `(\d+|\w+)(\.\w+|\[[^]]+\])*`, the conversion is none or `r s a`, the
      spec is empty or matches `(.?[<>=^])?[+ -]?#?0?(\d+|{\w+})?[,_]?(\.(\d+|{\w+}))?[bcdefgnosx%]?` (case-insensitive), and
    * works on the sample record: `get_field` finds an object (the first name is an attribute of the sample record, every
      `.attr` / `[index]` step succeeds), the conversion works, the spec — with its nested fields expanded on the sample
      record — is one `format()` takes for that object. -/
theorem C20_strformat_accepts_iff (fmt : Str) :
    acceptsStrFormat fmt = true ↔
      (∀ it ∈ LogStrFormat.parse (effectiveStr fmt), ItemAcceptedS it) ∧
      ∃ it ∈ LogStrFormat.parse (effectiveStr fmt), isNamedField it = true :=
  sf_accepts_items fmt

/-- What `style format` accepts among the PLAIN formats (bare keys, no nested fields), read off the format string:
    no syntax error, at least one field, and every field is `{key!conv:spec}` where `key` is a record attribute (the
    `LogRecord` attributes of Python 3.12, `asctime`, `message`), the conversion is none or `!r !s !a`, and the spec is
    empty or one that both logging's pattern and the formatted object take (`SpecAllowed`): after a conversion and for the
    string attributes the `str` specs (`[[fill]align][0][width][.precision][s]`, no sign, `#`, `z`, `,`, `_` or `=`); for
    `None` / object attributes only the empty spec; for level and line numbers every `int` spec (`b c d o x X n`, and
    `e E f F g G %`); for thread and process ids the same without `c`; for time stamps the `float` specs. -/
theorem C20_strformat_accepts_iff_plain (fmt : Str) (hp : Plain fmt) :
    acceptsStrFormat fmt = true ↔
      (∀ it ∈ LogStrFormat.parse (effectiveStr fmt), PlainItemAccepted it) ∧
      ∃ it ∈ LogStrFormat.parse (effectiveStr fmt), isNamedField it = true := by
  rw [C20_strformat_accepts_iff]
  have hitem : ∀ it ∈ LogStrFormat.parse (effectiveStr fmt), (ItemAcceptedS it ↔ PlainItemAccepted it) := by
    intro it hm
    have hpl := List.all_eq_true.mp hp _ hm
    cases it with
    | lit s => exact Iff.rfl
    | bad => exact Iff.rfl
    | field n c s =>
      simp only [plainItem, Bool.and_eq_true] at hpl
      exact sf_plain_item_iff n c s hpl.1 hpl.2
  exact and_congr ⟨fun h it hm => (hitem it hm).mp (h it hm), fun h it hm => (hitem it hm).mpr (h it hm)⟩ Iff.rfl

/-- `SpecAllowed` spelled out: the specs `[[fill]align][sign][z][#][0][width][grouping][.precision][type]` each kind of
    object takes, on the spec as CPython's `parse_internal_render_format_spec` reads it (`parseFSpec`; it already refuses a
    `,` or `_` the presentation type does not allow) — widths and float precisions up to 2^24 (above, the model abstains).
    * a `str` (string attributes, anything after `!r !s !a`): type `s` or none, no sign, no `z`, no `#`, alignment not `=`;
    * a level or line number: an integer type `b c d o x X n` (or none) without precision and `z`, `c` moreover without
      sign and `#` — or a float type `e E f F g G %`;
    * a thread or process id: the same without `c`;
    * a time stamp: a float type, `n`, or none. -/
theorem C20_strformat_spec_allowed (spec : Str) :
    (strFormat spec = .ok () ↔
      ∃ f, parseFSpec (some 's') spec = some f ∧ (f.type = none ∨ f.type = some 's') ∧ f.sign = none ∧ f.z = false ∧
        f.alt = false ∧ f.align ≠ some '=' ∧ f.width.getD 0 ≤ sizeLimit) ∧
    (intFormat spec 0 = .ok () ↔
      ∃ f, parseFSpec (some 'd') spec = some f ∧ f.width.getD 0 ≤ sizeLimit ∧
        ((isIntType (f.type.getD 'd') = true ∧ f.prec = none ∧ f.z = false ∧
            (f.type.getD 'd' = 'c' → f.sign = none ∧ f.alt = false)) ∨
         (isFloatType (f.type.getD 'd') = true ∧ f.prec.getD 0 ≤ sizeLimit))) ∧
    (intFormat spec 0x110000 = .ok () ↔
      ∃ f, parseFSpec (some 'd') spec = some f ∧ f.width.getD 0 ≤ sizeLimit ∧
        ((isIntType (f.type.getD 'd') = true ∧ f.prec = none ∧ f.z = false ∧ f.type.getD 'd' ≠ 'c') ∨
         (isFloatType (f.type.getD 'd') = true ∧ f.prec.getD 0 ≤ sizeLimit))) ∧
    (floatFormat spec = .ok () ↔
      ∃ f, parseFSpec none spec = some f ∧
        (f.type = none ∨ ∃ c, f.type = some c ∧ (isFloatType c = true ∨ c = 'n')) ∧
        f.width.getD 0 ≤ sizeLimit ∧ f.prec.getD 0 ≤ sizeLimit) := by
  have hL := sf_floatLimit_gt
  have h0 : -floatLimit < (0 : Int) ∧ (0 : Int) < floatLimit := by generalize floatLimit = F at hL ⊢; omega
  have h1 : -floatLimit < (0x110000 : Int) ∧ (0x110000 : Int) < floatLimit := by generalize floatLimit = F at hL ⊢; omega
  refine ⟨sf_strFormat_ok spec, ?_, ?_, sf_floatFormat_ok spec⟩
  · -- level and line numbers: `0` stands for every code point
    rw [sf_intFormat_ok spec 0 (LogFormatLemmas.lf_strCheck_of_float 0 h0) h0]
    have hm : (0 : Int) ≤ maxUnicode := by decide
    simp only [Int.le_refl, hm, and_true]
  · -- thread and process ids: `0x110000` stands for the ints that are no code point
    rw [sf_intFormat_ok spec 0x110000 (LogFormatLemmas.lf_strCheck_of_float _ h1) h1]
    have hm : ¬ ((0x110000 : Int) ≤ maxUnicode) := by decide
    simp only [hm, and_false, imp_false, ne_eq]

/-- THE PROPERTY for the plain formats of `style format`, under the weakest hypothesis on the record: a plain format
    accepted at load time (arbitrary-fields off) never raises when the formatter built from it formats a record that has
    the known attributes — `asctime` only if `{asctime` occurs in the format, as `logging.Formatter.format` sets it only
    then — with a `str` where the logging package puts one, anything printable for the object-valued attributes, level and
    line numbers in `0 ≤ n < 0x110000`, thread and process ids that convert to `float`, and ANY `float` as time stamps.
    PARTIAL: the unrestricted statement (the same for every accepted format, plain or not) is false for the real code —
    see `C20_strformat_index_needed`, `C20_strformat_attr_needed`, `C20_strformat_nested_needed`; what is missing between
    the two is the formats with `.attr` suffixes on string / number attributes (safe, not proved) and with nested fields
    that refer to level or line numbers (`{message:{lineno}}`: safe up to memory, not proved). -/
theorem C20_strformat_format_safe_wide_partial (fmt : Str) (h : acceptsStrFormat fmt = true) (hp : Plain fmt) (r : SDict)
    (hr : RecordForStr fmt r) : formatStr fmt r = .ok () :=
  (sf_formatStr_ok fmt r).mpr (sf_plain_evalStr .cformat 0 fmt h hp r hr)

/-- THE PROPERTY for the plain formats, as the formatter meets it: the record is an ordinary record (the notion of the
    classic style: strings, small level and line numbers, thread and process ids below 2^64, finite time stamps, printable
    objects) where `asctime` need only be there when the format uses the time. -/
theorem C20_strformat_format_safe_for_partial (fmt : Str) (h : acceptsStrFormat fmt = true) (hp : Plain fmt) (r : SDict)
    (hr : OrdinaryStrFor fmt r) : formatStr fmt r = .ok () :=
  C20_strformat_format_safe_wide_partial fmt h hp r (sf_ordinaryFor_record fmt r hr)

/-- THE PROPERTY for the plain formats of `style format`: accepted at load time → every ordinary record (all attributes
    present, with the types and ranges logging gives them: `LogFormatSpec.Ordinary`, the same notion as for the classic
    style) is formatted without raising.  PARTIAL: restricted to `Plain` formats, see
    `C20_strformat_format_safe_wide_partial`. -/
theorem C20_strformat_format_safe_partial (fmt : Str) (h : acceptsStrFormat fmt = true) (hp : Plain fmt) (r : SDict)
    (hr : OrdinaryStr r) : formatStr fmt r = .ok () :=
  C20_strformat_format_safe_for_partial fmt h hp r (sf_ordinary_for fmt r hr)

/-- The same through ZConfig's own stylist: with a formatter class that has no `style` parameter, `FormatterFactory.__call__`
    installs `StrFormatStyle.format` — `string.Formatter().vformat(fmt, (), record.__dict__)` — as `formatMessage`; an
    accepted plain format never raises there either (and here a missing attribute would be a `KeyError`). -/
theorem C20_strformat_stylist_safe_partial (fmt : Str) (h : acceptsStrFormat fmt = true) (hp : Plain fmt) (r : SDict)
    (hr : RecordForStr fmt r) : formatStrStylist fmt r = .ok () :=
  (sf_toUnit_ok _).mpr (sf_plain_evalStr .vformat 1 fmt h hp r hr)

/-- An accepted `format`-style format can be used to build the formatter: `FormatterFactory.__call__`
    (= `logging.Formatter(fmt, datefmt, style='{')`, which validates the format) does not raise. -/
theorem C20_strformat_formatter_builds (fmt : Str) (h : acceptsStrFormat fmt = true) : buildStrFormatter fmt = .ok () :=
  ((sf_accepts_iff fmt).mp h).2

/-- The exception classes.  At load time `IndexError` never escapes (`FormatterFactory` turns the `IndexError` of a
    positional field `{}` / `{0}` — and of an index suffix out of range — into `ValueError`), building the formatter only
    ever raises `ValueError`; at run time `KeyError` never escapes (`logging` turns it into `ValueError`).  Every other class
    does occur, at load time and at run time: see the examples below (`ValueError`, `TypeError`, `KeyError`,
    `AttributeError`, `OverflowError` at load time; `ValueError`, `TypeError`, `IndexError`, `AttributeError`,
    `OverflowError` at run time). -/
theorem C20_strformat_errors (fmt : Str) (e : SErr) :
    (loadCheckStrFormat fmt = .error e → e ≠ .indexError) ∧
    (buildStrFormatter fmt = .error e → e = .valueError) ∧
    (∀ r, formatStr fmt r = .error e → e ≠ .keyError) := by
  refine ⟨fun h => ?_, fun h => sf_validate_error fmt e h, fun r h => ?_⟩
  · unfold loadCheckStrFormat buildStrFormatter at h
    cases hv : vformatRun (effectiveStr fmt) sampleSDict with
    | error e' =>
      cases e' <;> simp only [hv, Except.error.injEq] at h <;> subst h <;> simp
    | ok u =>
      simp only [hv] at h
      rw [sf_validate_error fmt e h]; simp
  · unfold formatStr at h
    cases hv : cformatRun (effectiveStr fmt) r with
    | error e' =>
      cases e' <;> simp only [hv, Except.error.injEq] at h <;> subst h <;> simp
    | ok u => simp [hv] at h

/-- THE PROPERTY from the configuration text `raw`: the `escaped_string` datatype turns `\n \t \b \f \r` into control characters, the
    result is what is checked at load time and what the formatter uses. -/
theorem C20_strformat_configured_safe_partial (raw : Str) (h : acceptsStrFormatConfigured raw = true)
    (hp : Plain (ctrlCharInsert raw)) (r : SDict) (hr : OrdinaryStr r) : formatStr (ctrlCharInsert raw) r = .ok () :=
  C20_strformat_format_safe_partial _ h hp r hr

/-- The restriction to formats without `[index]` suffix is needed — A VIOLATION OF THE PROPERTY BY THE REAL CODE:
    `{message[0]}` IS accepted at load time (the sample message is `'amessage'`, and logging's `field_spec` pattern allows
    index suffixes), and formatting raises `IndexError` ("string index out of range") for every record whose message is
    empty — `logger.info("")` — through `logging.Formatter.formatMessage`. -/
theorem C20_strformat_index_needed (r : SDict) (hr : r "message".toList = some (.str [])) :
    acceptsStrFormat "{message[0]}".toList = true ∧ formatStr "{message[0]}".toList r = .error .indexError := by
  refine ⟨by log_tables; decide +kernel, ?_⟩
  refine sf_formatStr_single _ r "message[0]".toList none [] (by char_lits; decide +kernel) _ (by decide) ?_
  apply sf_evalField_getField_error
  exact sf_getField_of .cformat r _ "message".toList [.idx 0] (.str []) (by char_lits; decide +kernel) hr

/-- The restriction to formats without `.attr` suffix is needed, at least on the attributes whose TYPE varies — ANOTHER
    VIOLATION: `{exc_text.__bool__}` IS accepted at load time (the sample `exc_text` is `None`, and `None.__bool__` exists),
    and formatting raises `AttributeError` for every record whose `exc_text` is a string (the cached traceback text of a
    record logged with `exc_info`).  The same happens with `{exc_info.__bool__}` when `exc_info` is the usual tuple and
    with `{stack_info.__bool__}`, `{taskName.__bool__}`. -/
theorem C20_strformat_attr_needed (r : SDict) (s : Str) (hr : r "exc_text".toList = some (.str s)) :
    acceptsStrFormat "{exc_text.__bool__}".toList = true ∧
    formatStr "{exc_text.__bool__}".toList r = .error .attributeError := by
  refine ⟨by log_tables; decide +kernel, ?_⟩
  refine sf_formatStr_single _ r "exc_text.__bool__".toList none [] (by char_lits; decide +kernel) _ (by decide) ?_
  apply sf_evalField_getField_error
  rw [sf_getField_of .cformat r _ "exc_text".toList [.attr "__bool__".toList] (.str s) (by char_lits; decide +kernel) hr,
    sf_walk_single]
  exact sf_attrOf_str_missing s "__bool__".toList (by rw [LogRecord.strAttrsD.2]; char_lits; decide +kernel)

/-- The restriction to formats without nested fields is needed — A THIRD VIOLATION: `{message:{relativeCreated}}` IS
    accepted at load time (the sample value `1.1` makes the spec `1.1`: width 1, precision 1), and formatting raises
    `ValueError` ("Sign not allowed in string format specifier") for every record whose `relativeCreated` is negative, say
    `-5.25` (the clock was set back since `logging` was imported).  With `{message:{created}}` the width becomes the time
    stamp: 1.7 · 10^9 fill characters (the model abstains there: `MemoryError` or not). -/
theorem C20_strformat_nested_needed (r : SDict) (s : Str) (hm : r "message".toList = some (.str s))
    (hr : r "relativeCreated".toList = some (.float .finite "-5.25".toList)) :
    acceptsStrFormat "{message:{relativeCreated}}".toList = true ∧
    formatStr "{message:{relativeCreated}}".toList r = .error .valueError := by
  refine ⟨by log_tables; decide +kernel, ?_⟩
  refine sf_formatStr_single _ r "message".toList none "{relativeCreated}".toList (by char_lits; decide +kernel) _ (by decide) ?_
  have hg : getField .cformat r "message".toList = .ok (.str s) :=
    sf_getField_of .cformat r _ "message".toList [] _ (by char_lits; decide +kernel) hm
  have hg2 : getField .cformat r "relativeCreated".toList = .ok (.float .finite "-5.25".toList) :=
    sf_getField_of .cformat r _ "relativeCreated".toList [] _ (by char_lits; decide +kernel) hr
  have hp1 : LogStrFormat.parse "{relativeCreated}".toList = [.field "relativeCreated".toList none []] := by
    char_lits; decide +kernel
  have hc : ("{relativeCreated}".toList).contains '{' = true := by char_lits; decide +kernel
  have hc2 : ([] : Str).contains '{' = false := rfl
  have hx : evalStr .cformat r 1 "{relativeCreated}".toList = .ok (some "-5.25".toList) := by
    unfold evalStr
    rw [hp1]
    simp only [LogStrFormat.runItems, sf_evalField_cformat r _ _ none [] hc2 _ hg2, convert, formatObj, List.isEmpty_nil,
      if_true, Val.toValue, strCheck, strText, catText, List.append_nil]
  have hm' : (Mode.cformat == Mode.cformat) = true := rfl
  have hf : strFormat "-5.25".toList = .error .valueError := by char_lits; decide +kernel
  unfold evalField
  simp only [hg, convert, hm', hc, Bool.not_true, Bool.and_false, Bool.false_eq_true, if_false, hx]
  rw [sf_formatObj_val_nonempty _ _ (by decide)]
  simp only [hf, Except.map]

/-- The range of level and line numbers in the notion of ordinary record is needed: `{lineno:c}` IS accepted at load time
    (the sample line number is 1), and formatting raises `OverflowError` ("%c arg not in range(0x110000)") for every record
    whose line number is not a code point. -/
theorem C20_strformat_char_needs_range (n : Int) (hn : n < 0 ∨ 0x110000 ≤ n) (r : SDict)
    (hr : r "lineno".toList = some (.int n)) :
    acceptsStrFormat "{lineno:c}".toList = true ∧ formatStr "{lineno:c}".toList r = .error .overflowError := by
  refine ⟨by log_tables; decide +kernel, ?_⟩
  refine sf_formatStr_single _ r "lineno".toList none "c".toList (by char_lits; decide +kernel) _ (by decide) ?_
  have hg : getField .cformat r "lineno".toList = .ok (.int n) :=
    sf_getField_of .cformat r _ "lineno".toList [] _ (by char_lits; decide +kernel) hr
  rw [sf_evalField_cformat r _ _ none "c".toList (by char_lits; decide +kernel) _ hg]
  simp only [convert]
  rw [sf_formatObj_val_nonempty _ _ (by decide)]
  have hp : parseFSpec (some 'd') "c".toList = some { type := some 'c' } := by char_lits; decide +kernel
  have hm : ¬ (0 ≤ n ∧ n ≤ maxUnicode) := by simp only [maxUnicode]; omega
  simp +decide only [intFormat, hp, if_false, hm, Except.map, if_true]

/-- The 4300-digit bound on thread and process ids (and on every `int` a record carries) is needed: `{process}`,
    `{process:d}` and `{process!r:>12}` ARE accepted at load time, and formatting raises `ValueError` ("Exceeds the limit
    (4300 digits) for integer string conversion") for every record whose `process` is an int of more than 4300 decimal
    digits; `{process:x}` formats it. -/
theorem C20_strformat_str_limit_needed (n : Int) (hn : 10 ^ 4300 ≤ n.natAbs) (r : SDict)
    (hr : r "process".toList = some (.int n)) :
    acceptsStrFormat "{process}".toList = true ∧ acceptsStrFormat "{process:d}".toList = true ∧
    acceptsStrFormat "{process!r:>12}".toList = true ∧ acceptsStrFormat "{process:x}".toList = true ∧
    formatStr "{process}".toList r = .error .valueError ∧ formatStr "{process:d}".toList r = .error .valueError ∧
    formatStr "{process!r:>12}".toList r = .error .valueError ∧ formatStr "{process:x}".toList r = .ok () := by
  have hg : getField .cformat r "process".toList = .ok (.int n) :=
    sf_getField_of .cformat r _ "process".toList [] _ (by char_lits; decide +kernel) hr
  have hs := LogFormatLemmas.lf_strCheck_big n hn
  have ha : acceptsStrFormat "{process}".toList = true ∧ acceptsStrFormat "{process:d}".toList = true ∧
      acceptsStrFormat "{process!r:>12}".toList = true ∧ acceptsStrFormat "{process:x}".toList = true := by
    log_tables; decide +kernel
  refine ⟨ha.1, ha.2.1, ha.2.2.1, ha.2.2.2, ?_, ?_, ?_, ?_⟩
  · refine sf_formatStr_single _ r "process".toList none [] (by char_lits; decide +kernel) _ (by decide) ?_
    rw [sf_evalField_cformat r _ _ none [] rfl _ hg]
    simp only [convert, formatObj, List.isEmpty_nil, if_true, Val.toValue, hs, ofPyErr]
  · refine sf_formatStr_single _ r "process".toList none "d".toList (by char_lits; decide +kernel) _ (by decide) ?_
    rw [sf_evalField_cformat r _ _ none "d".toList (by char_lits; decide +kernel) _ hg]
    simp only [convert]
    rw [sf_formatObj_val_nonempty _ _ (by decide)]
    have hp : parseFSpec (some 'd') "d".toList = some { type := some 'd' } := by char_lits; decide +kernel
    simp +decide only [intFormat, hp, if_false, hs, ofPyErr, Except.map, if_true]
  · refine sf_formatStr_single _ r "process".toList (some 'r') ">12".toList (by char_lits; decide +kernel) _ (by decide) ?_
    rw [sf_evalField_cformat r _ _ (some 'r') ">12".toList (by char_lits; decide +kernel) _ hg]
    have h1 : ('r' == 's') = false := by decide
    have h2 : ('r' == 'r' || 'r' == 'a') = true := by decide
    simp only [convert, h1, h2, Bool.false_eq_true, if_false, if_true, Val.toValue, hs, ofPyErr]
  · refine sf_formatStr_single_ok _ r "process".toList none "x".toList (by char_lits; decide +kernel) none ?_
    rw [sf_evalField_cformat r _ _ none "x".toList (by char_lits; decide +kernel) _ hg]
    simp only [convert]
    rw [sf_formatObj_val_nonempty _ _ (by decide)]
    have hp : parseFSpec (some 'd') "x".toList = some { type := some 'x' } := by char_lits; decide +kernel
    simp +decide only [intFormat, hp, if_false, Except.map, if_true, sizeCheck]

/-! ### Examples (`style format`) -/

example : LogStrFormat.parse "a{{b}} {name!r:>{lineno}} {message[0].upper}x}".toList =
    [.lit "a{".toList, .lit "b}".toList, .lit " ".toList, .field "name".toList (some 'r') ">{lineno}".toList,
     .lit " ".toList, .field "message[0].upper".toList none [], .bad] := by char_lits; decide +kernel
example : acceptsStrFormat "{asctime} {levelname:>8} [{name}:{lineno:04d}] {message}".toList = true ∧
    Plain "{asctime} {levelname:>8} [{name}:{lineno:04d}] {message}".toList := by log_tables; decide +kernel
example : acceptsStrFormat [] = true ∧ acceptsStrFormatConfigured "a\\nb\\t{message}".toList = true := by log_tables; decide +kernel
/-- the spec `*>+#012,.3f` as `parse_internal_render_format_spec` reads it (fill and zero flag are not kept) -/
example : parseFSpec (some 'd') "*>+#012,.3f".toList =
    some { align := some '>', sign := some '+', alt := true, width := some 12, prec := some 3, type := some 'f' } := by
  char_lits
  decide +kernel
/-- accepted although not plain: attribute and index suffixes, a nested width -/
example : acceptsStrFormat "{message.upper} {levelno.real:c} {message[7]} {message:>{lineno}} {created:{levelno}.{lineno}f}".toList
    = true := by log_tables; decide +kernel
/-- refused, with the class of the exception that escapes at load time: no field, a positional field, a presentation type
    the value does not take, a spec on `None`, an unknown attribute name, an unknown attribute of a `str`, `c` on a thread id;
    on `{args.count}` (the attributes of a tuple are not modelled) the model abstains -/
example : loadCheckStrFormat "hello".toList = .error .valueError ∧ loadCheckStrFormat "{}".toList = .error .valueError ∧
    loadCheckStrFormat "{0}".toList = .error .valueError ∧ loadCheckStrFormat "{message:d}".toList = .error .valueError ∧
    loadCheckStrFormat "{message[99]}".toList = .error .valueError ∧
    loadCheckStrFormat "{exc_info:5}".toList = .error .typeError ∧ loadCheckStrFormat "{message[x]}".toList = .error .typeError ∧
    loadCheckStrFormat "{nope}".toList = .error .keyError ∧ loadCheckStrFormat "{.real}".toList = .error .keyError ∧
    loadCheckStrFormat "{message.nope}".toList = .error .attributeError ∧
    loadCheckStrFormat "{thread:c}".toList = .error .overflowError ∧
    loadCheckStrFormat "{args.count}".toList = .error .unmodelled := by log_tables; decide +kernel
/-- accepted by the trial formatting, refused by logging's validation (`z`) — and the converse: logging's pattern would let
    `{message:d}` through -/
example : vformatRun "{created:z}".toList sampleSDict = .ok () ∧ validateStr "{created:z}".toList = .error .valueError ∧
    vformatRun "{message:d}".toList sampleSDict = .error .valueError ∧ validateStr "{message:d}".toList = .ok () := by
  log_tables
  decide +kernel
/-- the two implementations differ: `string.Formatter().vformat` (load time) looks a field nested three deep up before it
    fails, and takes `{.real}` for the key `''`; `str.format` (run time) does neither -/
example : vformatRun "{message:{lineno:{nope}}}".toList sampleSDict = .error .keyError ∧
    cformatRun "{message:{lineno:{nope}}}".toList sampleSDict = .error .valueError ∧
    vformatRun "{.real}".toList sampleSDict = .error .keyError ∧
    cformatRun "{.real}".toList sampleSDict = .error .indexError := by log_tables; decide +kernel

/-- the record of the classic examples, the floats with their `repr` -/
def exRecordVals : List (Str × LogStrFormat.Val) :=
  [("name".toList, .str "x".toList), ("msg".toList, .str "disk %s full".toList), ("args".toList, .other),
   ("levelname".toList, .str "WARNING".toList), ("levelno".toList, .int 30), ("pathname".toList, .str "/srv/x.py".toList),
   ("filename".toList, .str "x.py".toList), ("module".toList, .str "x".toList), ("exc_info".toList, .none),
   ("exc_text".toList, .none), ("stack_info".toList, .none), ("lineno".toList, .int 1207), ("funcName".toList, .str "f".toList),
   ("created".toList, .float .finite "1727600000.123".toList), ("msecs".toList, .float .finite "123.0".toList),
   ("relativeCreated".toList, .float .finite "5012.25".toList),
   ("thread".toList, .int 139872345061184), ("threadName".toList, .str "MainThread".toList),
   ("processName".toList, .str "MainProcess".toList), ("process".toList, .int 4194304), ("taskName".toList, .none),
   ("asctime".toList, .str "2026-09-29 10:00:00,123".toList), ("message".toList, .str "disk sda full".toList)]

theorem exRecordVals_eq : exRecordVals = LogRecord.recordKeys.zip (exRecordVals.map (·.2)) := by
  have h : exRecordVals.map (·.1) = sampleVals.map (·.1) := by simp only [exRecordVals, sampleVals, List.map]
  exact LogRecord.eq_zip_of_keys (h.trans LogRecord.sampleVals_keys)

/-- the hypotheses of `C20_strformat_format_safe_partial` are satisfiable -/
example : OrdinaryStr (lookupS exRecordVals) ∧
    acceptsStrFormat "{levelno:c} {name!r:^10} {thread:x} {created:.3f} {exc_info}".toList = true ∧
    Plain "{levelno:c} {name!r:^10} {thread:x} {created:.3f} {exc_info}".toList :=
  ⟨sf_ordinary_of_table _ (by rw [exRecordVals_eq]; log_tables; decide +kernel), by log_tables; decide +kernel,
   by char_lits; decide +kernel⟩
example : formatStr "{levelno:c} {name!r:^10} {thread:x} {created:.3f} {exc_info}".toList (lookupS exRecordVals) = .ok () := by
  rw [exRecordVals_eq]
  char_lits
  decide +kernel
/-- the same record without `asctime`, as a formatter whose format does not use the time sees it; with infinite time
    stamps it is still one `C20_strformat_format_safe_wide_partial` covers -/
example : RecordForStr "{levelname} {message}".toList (lookupS (exRecordVals.filter (fun p => p.1 != "asctime".toList))) ∧
    lookupS (exRecordVals.filter (fun p => p.1 != "asctime".toList)) "asctime".toList = none ∧
    RecordForStr "{created:.1f}".toList
      (lookupS (("created".toList, LogStrFormat.Val.float .inf "inf".toList) :: exRecordVals.filter (fun p => p.1 != "asctime".toList))) :=
  ⟨sf_record_of_table _ _ (by rw [exRecordVals_eq]; log_tables; decide +kernel),
   by rw [exRecordVals_eq]; char_lits; decide +kernel,
   sf_record_of_table _ _ (by rw [exRecordVals_eq]; log_tables; decide +kernel)⟩
/-- run time on the example record: the exception classes that escape from `formatMessage` — a missing attribute is a
    ValueError (logging turns the KeyError into one), a positional field an IndexError … -/
example : formatStr "{nope}".toList (lookupS exRecordVals) = .error .valueError ∧
    formatStr "{}".toList (lookupS exRecordVals) = .error .indexError ∧
    formatStr "{message[99]}".toList (lookupS exRecordVals) = .error .indexError ∧
    formatStr "{exc_info:5}".toList (lookupS exRecordVals) = .error .typeError ∧
    formatStr "{message.nope}".toList (lookupS exRecordVals) = .error .attributeError ∧
    formatStr "{thread:c}".toList (lookupS exRecordVals) = .error .overflowError ∧
    formatStr "{message:{lineno}}".toList (lookupS exRecordVals) = .ok () ∧
    formatStr "{message:{created}}".toList (lookupS exRecordVals) = .error .unmodelled := by
  rw [exRecordVals_eq]
  log_tables
  decide +kernel
/-- an instance of the hypothesis of `C20_strformat_str_limit_needed` -/
example : (10 : Nat) ^ 4300 ≤ ((10 : Int) ^ 4300).natAbs := by decide +kernel
/-- an instance of `C20_strformat_index_needed`: the example record with an empty message is ordinary, and `{message[0]}`
    raises on it -/
example : formatStr "{message[0]}".toList (lookupS (("message".toList, LogStrFormat.Val.str []) :: exRecordVals)) = .error .indexError ∧
    OrdinaryStr (lookupS (("message".toList, LogStrFormat.Val.str []) :: exRecordVals)) :=
  ⟨by rw [exRecordVals_eq]; char_lits; decide +kernel,
   sf_ordinary_of_table _ (by rw [exRecordVals_eq]; log_tables; decide +kernel)⟩

end StrFormat

end ZCV.Props.C20
