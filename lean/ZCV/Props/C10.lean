import ZCV.Lemmas.ElabNoIntFlat
import ZCV.Lemmas.Lower
import ZCV.Lemmas.ElabInv
import ZCV.Lemmas.ElabCompleteDoc
/-!
# C10 — schema documents are accepted exactly when they obey the schema language rules

One theorem per static rule, about the handler of the schema-loader model (`ZCV/Model/Elab.lean`) that enforces it.
Each says: an element that breaks the rule makes the handler return `.error (.schema _)` — a `SchemaError`, raised
while the schema is loaded — whatever the rest of the loader state is; and, where the code is an "if and only if",
that the handler does not fail for that reason otherwise.

Handlers that run other checks *before* the rule (e.g. `start_sectiontype` resolves the `prefix` attribute and the
datatype attributes before it registers the name) get two statements: `…_refused` (unconditional: the handler does
not succeed) and the exact `SchemaError` once the earlier steps of the same handler are known to pass.

After the rule-by-rule sections come the statements about whole documents (`C10_accepted_document_shape`,
`C10_accepted_document_rules`, `C10_elab_schemaOK`, `C10_errors_are_schema_errors`, `C10_no_internal_single_document`),
and then the last sentence of the property — "every document that satisfies the rules is accepted" — with its converse
against the same judgement: `C10_rules_accepted`, `C10_accepted_iff_rules` (one document) and
`C10_rules_accepted_imports`, `C10_accepted_iff_rules_imports` (with `<import package=…>`), for the rule-by-rule
judgement `DocRules` / `DocRulesN` of `ZCV/Spec/SchemaRules.lean`.  The file ends with closed instances of that judgement
(`namespace RulesEx`).  The lemmas are in `ZCV/Lemmas/ElabSteps.lean` and `ElabRules*.lean` (handlers) and in
`ZCV/Lemmas/ElabComplete*.lean` (the judgement).

Notation used below (defined in `ZCV/Lemmas/ElabRules.lean`):
`DupKey ch key` / `DupAttr ch a` — `key` (non-empty) is already the key of a child in `ch` / `a` (non-empty) already the
attribute name of a child; `effName attrs dflt` — the `name` attribute or the handler's default.  The keys of the type
table are written `es.types.map (·.1)`, and "the failure `e` is a `SchemaError`" is written `∃ t, e = .schema t`.
-/
namespace ZCV.Props.C10
open ZCV ZCV.Elab
open ZCV.Cfg (VI SectInfo Default)

/-! ## 1. unique type names -/

/-- `SchemaType.addtype`: a type name that is already a key of the type table is a `SchemaError`; any other name is
appended to the table, and nothing else changes.  `addtype` fails for no other reason. -/
theorem C10_unique_type_names (es : ES) (n : Str) (e : EEntry) :
    ((∃ t, addType es n e = .error (.schema t)) ↔ n ∈ es.types.map (·.1)) ∧
    (n ∈ es.types.map (·.1) → addType es n e = .error (.schema "type name cannot be redefined")) ∧
    (n ∉ es.types.map (·.1) → addType es n e = .ok { es with types := es.types ++ [(n, e)] }) ∧
    (∀ err, addType es n e = .error err → err = .schema "type name cannot be redefined") := by
  rw [addType_eq]
  by_cases h : n ∈ es.typeNames
  · rw [if_pos h]
    exact ⟨⟨fun _ => h, fun _ => ⟨_, rfl⟩⟩, fun _ => rfl, fun h' => absurd h h', fun _ he => (Except.error.inj he).symm⟩
  · rw [if_neg h]
    exact ⟨⟨fun ⟨_, ht⟩ => (nomatch ht), fun h' => absurd h' h⟩, fun h' => absurd h' h, fun _ => rfl, fun _ he => (nomatch he)⟩

example : ∃ es : ES, "a".toList ∈ es.types.map (·.1) ∧ "b".toList ∉ es.types.map (·.1) :=
  ⟨{ emptyES with types := [("a".toList, .abstract_ "a".toList [] false)] }, by decide, by decide⟩

/-- `<abstracttype name=v>`: the name is normalised as a basic-key first (`n`); the element is refused with a
`SchemaError` iff `n` is already defined, and otherwise registers the empty abstract type `n` and opens it. -/
theorem C10_unique_type_names_abstracttype (st : PSt) (attrs : Attrs) (v n : Str)
    (hv : attr attrs "name" = some v) (hn : basicKeyE v = .ok n) :
    (n ∈ st.es.types.map (·.1) → startAbstracttype st attrs = .error (.schema "type name cannot be redefined")) ∧
    (n ∉ st.es.types.map (·.1) →
      startAbstracttype st attrs =
        .ok { st with es := { st.es with types := st.es.types ++ [(n, .abstract_ n [] false)] },
                      stack := .atype n :: st.stack }) := by
  rw [startAbstracttype_named st attrs v n hv hn]
  constructor
  · intro h; rw [addType_dup _ _ _ h]; rfl
  · intro h; rw [addType_fresh _ _ _ h]; rfl

/-- every way `<abstracttype>` can fail (no name, ill-formed name, redefinition) is a `SchemaError` -/
theorem C10_abstracttype_errors_are_schema (st : PSt) (attrs : Attrs) (e : EFail)
    (h : startAbstracttype st attrs = .error e) : ∃ t, e = .schema t := by
  unfold startAbstracttype at h
  split at h
  · rcases bind_error h with h | ⟨n, _, h⟩
    · exact (EFail.isSchema_iff e).1 (basicKeyE_error h)
    · rcases bind_error h with h | ⟨es, _, h⟩
      · rw [addType_eq] at h
        split at h
        · cases h; exact ⟨_, rfl⟩
        · cases h
      · cases h
  · cases h; exact ⟨_, rfl⟩

/-- `<sectiontype name=v>` succeeds only if the (basic-key normalised) name is new; it then appends exactly that name
to the type table (as a concrete type) and opens it. -/
theorem C10_unique_type_names_sectiontype (env : Env) (st st' : PSt) (attrs : Attrs)
    (h : startSectiontype env st attrs = .ok st') :
    ∃ v n, attr attrs "name" = some v ∧ basicKeyE v = .ok n ∧ n ∉ st.es.types.map (·.1) ∧
      st'.es.types.map (·.1) = st.es.types.map (·.1) ++ [n] ∧ st'.stack = .stype n :: st.stack := by
  obtain ⟨v, n, t, h1, h2, h3, h4, h5, _⟩ := startSectiontype_result h
  exact ⟨v, n, h1, h2, h3, h4, h5⟩

/-- …so a `<sectiontype>` whose name is already defined is never accepted -/
theorem C10_unique_type_names_sectiontype_refused (env : Env) (st st' : PSt) (attrs : Attrs) (v n : Str)
    (hv : attr attrs "name" = some v) (hn : basicKeyE v = .ok n) (hdup : n ∈ st.es.types.map (·.1)) :
    startSectiontype env st attrs ≠ .ok st' := by
  intro h
  obtain ⟨v', n', h1, h2, h3, _⟩ := C10_unique_type_names_sectiontype env st st' attrs h
  rw [hv] at h1; cases h1
  rw [hn] at h2; cases h2
  exact h3 hdup

/-- …and it is reported as the `SchemaError` "type name cannot be redefined" as soon as the attributes that
`start_sectiontype` looks at before (prefix; key type / datatype) are acceptable — here without `extends` -/
theorem C10_unique_type_names_sectiontype_error (env : Env) (st st1 : PSt) (attrs : Attrs) (v n kt dt : Str)
    (hv : attr attrs "name" = some v) (hn : basicKeyE v = .ok n) (hp : pushPrefix st attrs = .ok st1)
    (hx : attr attrs "extends" = none) (hi : getSectTypeinfo env st1 attrs none = .ok (kt, dt))
    (hdup : n ∈ st.es.types.map (·.1)) :
    startSectiontype env st attrs = .error (.schema "type name cannot be redefined") := by
  obtain ⟨p, rfl⟩ := pushPrefix_ok hp
  rw [startSectiontype_steps env st attrs v n _ hv hn hp]
  simp only [sectiontypeBase, hx, hi, bind, Except.bind]
  rw [addType_dup _ _ _ hdup]

/-- …the same with `extends` naming a concrete base -/
theorem C10_unique_type_names_sectiontype_error_ext (env : Env) (st st1 : PSt) (attrs : Attrs)
    (v n b bn key kt dt : Str) (base : EType)
    (hv : attr attrs "name" = some v) (hn : basicKeyE v = .ok n) (hp : pushPrefix st attrs = .ok st1)
    (hx : attr attrs "extends" = some b) (hb : basicKeyE b = .ok bn)
    (hg : st.es.gettype bn = some (key, .concrete base))
    (hi : getSectTypeinfo env st1 attrs (some (base.keytype, base.datatype)) = .ok (kt, dt))
    (hdup : n ∈ st.es.types.map (·.1)) :
    startSectiontype env st attrs = .error (.schema "type name cannot be redefined") := by
  obtain ⟨p, rfl⟩ := pushPrefix_ok hp
  rw [startSectiontype_steps env st attrs v n _ hv hn hp]
  simp only [sectiontypeBase, hx, hb, (show ES.gettype _ bn = _ from hg), hi, bind, Except.bind]
  rw [addType_dup _ _ _ hdup]

/-! ## 2. unique key names and attribute names per container, inherited ones included -/

/-- `SectionType._add_child` on the container on top of the stack, whose children are `ch`:
a `SchemaError` iff the key is non-empty and already the key of a child, or the attribute name is non-empty and
already the attribute name of a child; otherwise the child is appended (and can be read back).  If there is no
container on top of the stack the failure is not a `SchemaError` (and not this rule's business). -/
theorem C10_unique_children (st : PSt) (key : Option Str) (info : EInfo) :
    ((∃ t, addChild st key info = .error (.schema t)) ↔
        ∃ ch, topChildren st = .ok ch ∧ (DupKey ch key ∨ DupAttr ch info.attr)) ∧
    (∀ ch, topChildren st = .ok ch → DupKey ch key →
        addChild st key info = .error (.schema "child name … already used")) ∧
    (∀ ch, topChildren st = .ok ch → ¬ DupKey ch key → DupAttr ch info.attr →
        addChild st key info = .error (.schema "child attribute name … already used")) ∧
    (∀ ch, topChildren st = .ok ch → ¬ DupKey ch key → ¬ DupAttr ch info.attr →
        addChild st key info = .ok (setTopChildren st (ch ++ [(key, info)])) ∧
        topChildren (setTopChildren st (ch ++ [(key, info)])) = .ok (ch ++ [(key, info)])) := by
  refine ⟨?_, fun ch h1 h2 => addChild_dupKey key info h1 h2,
    fun ch h1 h2 h3 => addChild_dupAttr key info h1 h2 h3,
    fun ch h1 h2 h3 => ⟨addChild_fresh key info h1 h2 h3, by
      rw [setTopChildren_eq, topChildren_eq]; exact topOf_setTopOf (topChildren_eq st ▸ h1)⟩⟩
  cases hch : topChildren st with
  | error e =>
    -- without a container the failure is `topChildren`'s own, an internal one
    rw [addChild_noTop key info hch]
    have hint : ∃ s, e = .internal s := by
      unfold topChildren at hch
      split at hch
      · cases hch
      · split at hch
        · cases hch
        · cases hch; exact ⟨_, rfl⟩
      · cases hch; exact ⟨_, rfl⟩
      · cases hch; exact ⟨_, rfl⟩
    obtain ⟨s, rfl⟩ := hint
    exact ⟨fun ⟨_, ht⟩ => (nomatch ht), fun ⟨_, hc, _⟩ => (nomatch hc)⟩
  | ok ch =>
    by_cases hk : DupKey ch key
    · rw [addChild_dupKey key info hch hk]
      exact ⟨fun _ => ⟨ch, rfl, .inl hk⟩, fun _ => ⟨_, rfl⟩⟩
    · by_cases ha : DupAttr ch info.attr
      · rw [addChild_dupAttr key info hch hk ha]
        exact ⟨fun _ => ⟨ch, rfl, .inr ha⟩, fun _ => ⟨_, rfl⟩⟩
      · rw [addChild_fresh key info hch hk ha]
        refine ⟨fun ⟨_, ht⟩ => (nomatch ht), fun ⟨ch', hc, h⟩ => ?_⟩
        cases hc
        exact absurd h (by rintro (h | h) <;> contradiction)

/-- what the two clash conditions mean, spelled out -/
theorem C10_unique_children_conditions (ch : List (Option Str × EInfo)) (key : Option Str) (a : Str) :
    (DupKey ch key ↔ (∃ k, key = some k ∧ k ≠ []) ∧ key ∈ ch.map (·.1)) ∧
    (DupAttr ch a ↔ a ≠ [] ∧ a ∈ ch.map (·.2.attr)) := by
  refine ⟨?_, Iff.rfl⟩
  unfold DupKey
  constructor
  · rintro ⟨h1, h2⟩
    refine ⟨?_, h2⟩
    cases key with
    | none => cases h1
    | some k => cases k with
      | nil => cases h1
      | cons c cs => exact ⟨_, rfl, by simp⟩
  · rintro ⟨⟨k, rfl, hk⟩, h2⟩
    refine ⟨?_, h2⟩
    cases k with
    | nil => exact absurd rfl hk
    | cons c cs => rfl

private def exSect : SectInfo :=
  { name := "k".toList, attr := "k".toList, multi := false, minOccurs := 0, ty := "t".toList, handler := none }
example : DupKey [(some "k".toList, EInfo.sect exSect)] (some "k".toList) := ⟨rfl, by simp⟩
example : DupAttr [(some "k".toList, EInfo.sect exSect)] "k".toList := ⟨by decide, by simp [EInfo.attr, exSect]⟩

/-- inherited names count: after `<sectiontype extends=b>` the new type — the container now on top of the stack —
already has the base's children: same keys, same attribute names, in the same order.  So by `C10_unique_children` a
key or attribute name of the base cannot be used again in the derived type. -/
theorem C10_unique_children_inherited (env : Env) (st st' : PSt) (attrs : Attrs) (b : Str)
    (hx : attr attrs "extends" = some b) (h : startSectiontype env st attrs = .ok st') :
    ∃ bn key base ch, basicKeyE b = .ok bn ∧ st.es.gettype bn = some (key, .concrete base) ∧
      topChildren st' = .ok ch ∧ ch.map (·.1) = base.children.map (·.1) ∧
      ch.map (·.2.attr) = base.children.map (·.2.attr) := by
  obtain ⟨name, st1, bn, key, base, t, _, h2, h3, _, _, h6, _, h8⟩ := startSectiontype_extends_result hx h
  exact ⟨bn, key, base, t.children, h2, h3, h6, deriveChildren_keys h8, deriveChildren_attrs h8⟩

/-- …hence: re-using in the derived type a key of the base is a `SchemaError` -/
theorem C10_inherited_key_refused (env : Env) (st st' : PSt) (attrs : Attrs) (b : Str) (k : Str) (info : EInfo)
    (hx : attr attrs "extends" = some b) (h : startSectiontype env st attrs = .ok st') (hk : k ≠ [])
    (hin : ∀ bn key base, basicKeyE b = .ok bn → st.es.gettype bn = some (key, .concrete base) →
      some k ∈ base.children.map (·.1)) :
    addChild st' (some k) info = .error (.schema "child name … already used") := by
  obtain ⟨bn, key, base, ch, h1, h2, h3, h4, _⟩ := C10_unique_children_inherited env st st' attrs b hx h
  refine addChild_dupKey _ _ h3 ⟨?_, ?_⟩
  · cases k with
    | nil => exact absurd rfl hk
    | cons c cs => rfl
  · rw [h4]; exact hin bn key base h1 h2

/-- …and re-using an attribute name of the base is a `SchemaError` too -/
theorem C10_inherited_attribute_refused (env : Env) (st st' : PSt) (attrs : Attrs) (b : Str) (key : Option Str)
    (info : EInfo) (hx : attr attrs "extends" = some b) (h : startSectiontype env st attrs = .ok st')
    (ha : info.attr ≠ [])
    (hin : ∀ bn key base, basicKeyE b = .ok bn → st.es.gettype bn = some (key, .concrete base) →
      info.attr ∈ base.children.map (·.2.attr)) :
    ∃ t, addChild st' key info = .error (.schema t) := by
  obtain ⟨bn, bkey, base, ch, h1, h2, h3, _, h5⟩ := C10_unique_children_inherited env st st' attrs b hx h
  exact (C10_unique_children st' key info).1.2 ⟨ch, h3, Or.inr ⟨ha, by rw [h5]; exact hin bn bkey base h1 h2⟩⟩

/-! ## 3. types are defined before they are used -/

/-- `get_sectiontype` (the `type` attribute of `<section>` / `<multisection>`): a `SchemaError` iff the attribute is
missing or empty, or its lower-cased value is not (yet) a key of the type table; otherwise the result is that key.
It fails for no other reason. -/
theorem C10_types_defined_before_use (st : PSt) (attrs : Attrs) :
    ((∃ t, getSectiontype st attrs = .error (.schema t)) ↔
        (attr attrs "type").getD [] = [] ∨ lower ((attr attrs "type").getD []) ∉ st.es.types.map (·.1)) ∧
    (∀ e, getSectiontype st attrs = .error e → ∃ t, e = .schema t) ∧
    (∀ n, getSectiontype st attrs = .ok n →
        n = lower ((attr attrs "type").getD []) ∧ n ∈ st.es.types.map (·.1)) := by
  rcases getSectiontype_cases st attrs with ⟨h0, h1⟩ | ⟨v, ha, hv, hm, h1⟩ | ⟨v, ha, hv, hm, h1⟩
  · refine ⟨⟨fun _ => Or.inl h0, fun _ => ⟨_, h1⟩⟩, ?_, ?_⟩
    · intro e he; rw [h1] at he; cases he; exact ⟨_, rfl⟩
    · intro n hn; rw [h1] at hn; cases hn
  · have hg : (attr attrs "type").getD [] = v := by rw [ha]; rfl
    refine ⟨⟨fun _ => Or.inr (by rw [hg]; exact hm), fun _ => ⟨_, h1⟩⟩, ?_, ?_⟩
    · intro e he; rw [h1] at he; cases he; exact ⟨_, rfl⟩
    · intro n hn; rw [h1] at hn; cases hn
  · have hg : (attr attrs "type").getD [] = v := by rw [ha]; rfl
    refine ⟨⟨?_, ?_⟩, ?_, ?_⟩
    · rintro ⟨t, ht⟩; rw [h1] at ht; cases ht
    · rw [hg]
      rintro (h | h)
      · exact absurd h hv
      · exact absurd hm h
    · intro e he; rw [h1] at he; cases he
    · intro n hn; rw [h1] at hn; cases hn; rw [hg]; exact ⟨rfl, hm⟩

/-- `<section>` / `<multisection>` start by resolving `type`, so an undefined type makes them fail with that
`SchemaError`, whatever their other attributes are -/
theorem C10_section_type_undefined (env : Env) (st : PSt) (attrs : Attrs) (e : EFail)
    (h : getSectiontype st attrs = .error e) :
    startSection env st attrs = .error e ∧ startMultisection env st attrs = .error e := by
  constructor
  · unfold startSection; simp only [h, bind, Except.bind]
  · unfold startMultisection; simp only [h, bind, Except.bind]

/-- `<sectiontype extends=b>` with `b` not (yet) defined: `SchemaError` "unknown type name" — right after the name and
the prefix of the element have been accepted -/
theorem C10_extends_defined (env : Env) (st st1 : PSt) (attrs : Attrs) (v n b bn : Str)
    (hv : attr attrs "name" = some v) (hn : basicKeyE v = .ok n) (hp : pushPrefix st attrs = .ok st1)
    (hx : attr attrs "extends" = some b) (hb : basicKeyE b = .ok bn) (hg : lower bn ∉ st.es.types.map (·.1)) :
    startSectiontype env st attrs = .error (.schema "unknown type name") := by
  obtain ⟨p, rfl⟩ := pushPrefix_ok hp
  rw [startSectiontype_steps env st attrs v n _ hv hn hp]
  simp only [sectiontypeBase, hx, hb, (show ES.gettype _ bn = none from (gettype_none_iff st.es bn).2 hg), bind, Except.bind, serr]

/-- `<sectiontype implements=i>` with `i` naming nothing (neither an earlier type nor the new type itself):
`SchemaError` "unknown type name" — once the `extends` step has passed -/
theorem C10_implements_defined (env : Env) (st st1 : PSt) (attrs : Attrs) (v n i ifn : Str) (es2 : ES)
    (hv : attr attrs "name" = some v) (hn : basicKeyE v = .ok n) (hp : pushPrefix st attrs = .ok st1)
    (h2 : sectiontypeBase env st1 attrs n = .ok es2)
    (hi : attr attrs "implements" = some i) (hb : basicKeyE i = .ok ifn)
    (hg : lower ifn ∉ st.es.types.map (·.1)) (hself : lower ifn ≠ n) :
    startSectiontype env st attrs = .error (.schema "unknown type name") := by
  rw [startSectiontype_steps env st attrs v n st1 hv hn hp]
  obtain ⟨_, t, _, rfl⟩ := sectiontypeBase_ok h2
  obtain ⟨p, rfl⟩ := pushPrefix_ok hp
  have hg' : ES.gettype { st.es with types := st.es.types ++ [(n, .concrete t)] } ifn = none := by
    rw [gettype_append_concrete, (gettype_none_iff _ _).2 hg]
    simp only
    rw [if_neg (fun e => hself e.symm)]
  simp only [h2, sectiontypeImplements, hi, hb, hg', bind, Except.bind, serr]

/-- a `<sectiontype>` that is accepted names, in `extends`, a type defined earlier, and in `implements` too -/
theorem C10_types_defined_before_use_sectiontype (env : Env) (st st' : PSt) (attrs : Attrs)
    (h : startSectiontype env st attrs = .ok st') :
    (∀ b, attr attrs "extends" = some b → ∃ bn, basicKeyE b = .ok bn ∧ lower bn ∈ st.es.types.map (·.1)) ∧
    (∀ i, attr attrs "implements" = some i → ∃ ifn, basicKeyE i = .ok ifn ∧ lower ifn ∈ st.es.types.map (·.1)) := by
  constructor
  · intro b hx
    obtain ⟨_, _, bn, key, base, _, _, h2, h3, _⟩ := startSectiontype_extends_result hx h
    exact ⟨bn, h2, gettype_some_mem h3⟩
  · intro i hi
    obtain ⟨_, _, ifn, an, nm, subs, d, h1, h2, _⟩ := startSectiontype_implements hi h
    exact ⟨ifn, h1, gettype_some_mem h2⟩

/-! ## 4. `extends` names a concrete type, `implements` an abstract one -/

/-- `<sectiontype extends=b>` with `b` an abstract type: `SchemaError` "sectiontype cannot extend an abstract type";
and an accepted `<sectiontype extends=b>` has a concrete `b`. -/
theorem C10_extends_concrete (env : Env) (st : PSt) (attrs : Attrs) (b : Str) (hx : attr attrs "extends" = some b) :
    (∀ st1 v n bn key an subs d, attr attrs "name" = some v → basicKeyE v = .ok n → pushPrefix st attrs = .ok st1 →
        basicKeyE b = .ok bn → st.es.gettype bn = some (key, .abstract_ an subs d) →
        startSectiontype env st attrs = .error (.schema "sectiontype cannot extend an abstract type")) ∧
    (∀ st', startSectiontype env st attrs = .ok st' →
        ∃ bn key base, basicKeyE b = .ok bn ∧ st.es.gettype bn = some (key, .concrete base)) := by
  constructor
  · intro st1 v n bn key an subs d hv hn hp hb hg
    obtain ⟨p, rfl⟩ := pushPrefix_ok hp
    rw [startSectiontype_steps env st attrs v n _ hv hn hp]
    simp only [sectiontypeBase, hx, hb, (show ES.gettype _ bn = _ from hg), bind, Except.bind, serr]
  · intro st' h
    obtain ⟨_, _, bn, key, base, _, _, h2, h3, _⟩ := startSectiontype_extends_result hx h
    exact ⟨bn, key, base, h2, h3⟩

/-- `<sectiontype implements=i>` with `i` a concrete type — an earlier one, or the new type itself —: `SchemaError`
"type specified by implements is not an abstracttype" (once the `extends` step has passed); and an accepted
`<sectiontype implements=i>` has an abstract `i`, defined earlier. -/
theorem C10_implements_abstract (env : Env) (st : PSt) (attrs : Attrs) (i : Str)
    (hi : attr attrs "implements" = some i) :
    (∀ st1 v n ifn es2, attr attrs "name" = some v → basicKeyE v = .ok n → pushPrefix st attrs = .ok st1 →
        sectiontypeBase env st1 attrs n = .ok es2 → basicKeyE i = .ok ifn →
        ((∃ key t, st.es.gettype ifn = some (key, .concrete t)) ∨ (st.es.gettype ifn = none ∧ lower ifn = n)) →
        startSectiontype env st attrs = .error (.schema "type specified by implements is not an abstracttype")) ∧
    (∀ st', startSectiontype env st attrs = .ok st' →
        ∃ ifn an nm subs d, basicKeyE i = .ok ifn ∧ st.es.gettype ifn = some (an, .abstract_ nm subs d)) := by
  constructor
  · intro st1 v n ifn es2 hv hn hp h2 hb hc
    rw [startSectiontype_steps env st attrs v n st1 hv hn hp]
    obtain ⟨_, t, _, rfl⟩ := sectiontypeBase_ok h2
    obtain ⟨p, rfl⟩ := pushPrefix_ok hp
    have hg' : ∃ key t', ES.gettype { st.es with types := st.es.types ++ [(n, .concrete t)] } ifn = some (key, .concrete t') := by
      rcases hc with ⟨key, t', hg⟩ | ⟨hg, hs⟩
      · exact ⟨key, t', by rw [gettype_append_concrete, hg]⟩
      · refine ⟨n, t, ?_⟩
        rw [gettype_append_concrete, hg]
        simp only
        rw [if_pos hs.symm]
    obtain ⟨key, t', hg'⟩ := hg'
    simp only [h2, sectiontypeImplements, hi, hb, hg', bind, Except.bind, serr]
  · intro st' h
    obtain ⟨_, _, ifn, an, nm, subs, d, h1, h2, _⟩ := startSectiontype_implements hi h
    exact ⟨ifn, an, nm, subs, d, h1, h2⟩

/-- the `implements` step never fails with anything but a `SchemaError` -/
theorem C10_implements_errors_are_schema (es2 : ES) (attrs : Attrs) (n : Str) (e : EFail)
    (h : sectiontypeImplements es2 attrs n = .error e) : ∃ t, e = .schema t := by
  unfold sectiontypeImplements at h
  split at h
  · rcases bind_error h with h | ⟨ifn, _, h⟩
    · exact (EFail.isSchema_iff e).1 (basicKeyE_error h)
    · split at h
      · cases h; exact ⟨_, rfl⟩
      · cases h; exact ⟨_, rfl⟩
      · cases h
  · cases h

/-! ## 5. wildcard names carry an attribute; `*` is not a key name -/

/-- `get_name_info` with the name `*` or `+` (given, or the default of `<section>`): without a non-empty `attribute`
it is the `SchemaError` "container attribute must be specified"; with one it succeeds iff the attribute name is an
identifier not starting with `getSection`, and every failure is a `SchemaError`.  The stack and the key type play no
role for wildcard names. -/
theorem C10_wildcard_needs_attribute (env : Env) (st : PSt) (attrs : Attrs) (dflt : Option Str) (n : Str)
    (hn : effName attrs dflt = some n) (hw : n = ['*'] ∨ n = ['+']) :
    ((attr attrs "attribute").getD [] = [] →
        getNameInfo env st attrs dflt = .error (.schema "container attribute must be specified")) ∧
    (∀ a, attr attrs "attribute" = some a → a ≠ [] →
        (DTSpec.isIdent a = true ∧ startsWith a Gen.reservedAttrPrefix = false →
            getNameInfo env st attrs dflt = .ok (some n, none, some a)) ∧
        (¬ (DTSpec.isIdent a = true ∧ startsWith a Gen.reservedAttrPrefix = false) →
            ∃ t, getNameInfo env st attrs dflt = .error (.schema t))) ∧
    (∀ e, getNameInfo env st attrs dflt = .error e → ∃ t, e = .schema t) := by
  refine ⟨fun ha => by rw [getNameInfo_wild env st attrs dflt n hn hw, attrNameE_none attrs ha]; rfl, ?_, fun e he => ?_⟩
  rotate_left
  · rw [getNameInfo_wild env st attrs dflt n hn hw] at he
    rcases bind_error he with h1 | ⟨o, _, h2⟩
    · exact (EFail.isSchema_iff e).1 (attrNameE_error h1)
    · cases o with
      | none => cases h2; exact ⟨_, rfl⟩
      | some a => cases h2
  intro a ha hne
  cases a with
  | nil => exact absurd rfl hne
  | cons c cs =>
    have hA := attrNameE_some ha
    constructor
    · rintro ⟨h1, h2⟩
      rw [getNameInfo_wild env st attrs dflt n hn hw, hA, if_pos h1, if_neg (by simp [h2])]
      rfl
    · intro hnot
      rw [getNameInfo_wild env st attrs dflt n hn hw, hA]
      by_cases h1 : DTSpec.isIdent (c :: cs) = true
      · rw [if_pos h1]
        by_cases h2 : startsWith (c :: cs) Gen.reservedAttrPrefix = true
        · rw [if_pos h2]; exact ⟨_, rfl⟩
        · exact absurd ⟨h1, by simpa using h2⟩ hnot
      · rw [if_neg h1]; exact ⟨_, rfl⟩

example : effName [("name".toList, ['+'])] none = some ['+'] := by decide

/-- a missing or empty name is a `SchemaError` for every element that has one -/
theorem C10_name_required (env : Env) (st : PSt) (attrs : Attrs) (dflt : Option Str)
    (h : (effName attrs dflt).getD [] = []) :
    getNameInfo env st attrs dflt = .error (.schema "name must be specified and non-empty") := by
  rw [getNameInfo_nf]
  cases hn : effName attrs dflt with
  | none => rfl
  | some v => rw [hn] at h; simp only [Option.getD_some] at h; subst h; rfl

/-- `name="*"` on `<key>` / `<multikey>`: always a `SchemaError` (`get_key_info`, hence `start_key` and
`start_multikey`), whatever the other attributes and the state are -/
theorem C10_star_key_refused (env : Env) (h : Hooks) (st : PSt) (attrs : Attrs) (hn : attr attrs "name" = some ['*']) :
    (∃ t, getKeyInfo env st attrs = .error (.schema t)) ∧
    (∃ t, startKey env st attrs = .error (.schema t)) ∧
    (∃ t, startMultikey env st attrs = .error (.schema t)) ∧
    (∃ t, startHandled env h "key".toList attrs st = .error (.schema t)) :=
  ⟨getKeyInfo_star env st attrs hn, startKey_star env st attrs hn, startMultikey_star env st attrs hn,
   by rw [startHandled_key]; exact startKey_star env st attrs hn⟩

/-! ## 6. multisections are named `*` or `+` -/

/-- `<multisection>` is accepted only if its name (default `*`) is `*` or `+`; with any other name that
`get_name_info` accepts the failure is the `SchemaError` "multisection must specify '*' or '+' for the name". -/
theorem C10_multisection_names (env : Env) (st : PSt) (attrs : Attrs) :
    (∀ st', startMultisection env st attrs = .ok st' →
        ∃ n, effName attrs (some ['*']) = some n ∧ (n = ['*'] ∨ n = ['+']) ∧ Gen.multisectionNames.contains n = true) ∧
    (∀ ty req nm an, getSectiontype st attrs = .ok ty → getRequired attrs = .ok req →
        getNameInfo env st attrs (some ['*']) = .ok (none, nm, an) →
        startMultisection env st attrs = .error (.schema "multisection must specify '*' or '+' for the name")) := by
  constructor
  · intro st' h
    obtain ⟨n, h1, h2⟩ := startMultisection_ok_name h
    exact ⟨n, h1, h2, (multisectionNames_iff n).2 h2⟩
  · intro ty req nm an h1 h2 h3
    unfold startMultisection
    simp only [bind, Except.bind, h1, h2, h3]
    rfl

/-- a fixed name reaches that point with the any-name component empty: the hypothesis of the second part of
`C10_multisection_names` is what `get_name_info` returns for every name other than `*` and `+` -/
theorem C10_multisection_names_fixed (env : Env) (st : PSt) (attrs : Attrs) (r : Option Str × Option Str × Option Str)
    (n : Str) (hn : effName attrs (some ['*']) = some n) (hw : ¬ (n = ['*'] ∨ n = ['+']))
    (h : getNameInfo env st attrs (some ['*']) = .ok r) : r.1 = none := by
  obtain ⟨n', a, h1, _, _, _, h5⟩ := getNameInfo_ok h
  rw [hn] at h1; cases h1
  rcases h5 with ⟨hw', _⟩ | ⟨_, h6, _⟩
  · exact absurd hw' hw
  · exact h6

/-! ## 7. no default on a required key -/

/-- a default on a required key, in both spellings.  (a) `<key required="yes" default=…>`: never accepted, and the `SchemaError` "required key cannot
have a default value" as soon as the name/datatype/handler attributes are acceptable.  (b) a `<default>` element inside
a key whose `minOccurs` is not 0: the `SchemaError` "required key cannot have default values"; and `required="yes"`
is what makes `minOccurs` non-zero in the key frame that `<key>` / `<multikey>` push. -/
theorem C10_required_no_default (env : Env) (st : PSt) (attrs : Attrs) :
    (∀ d, attr attrs "required" = some "yes".toList → attr attrs "default" = some d →
        (∀ st', startKey env st attrs ≠ .ok st') ∧
        (∀ r, getKeyInfo env st attrs = .ok r →
            startKey env st attrs = .error (.schema "required key cannot have a default value"))) ∧
    (∀ isC dattrs data k rest, st.stack = .key k :: rest → k.minOccurs ≠ 0 →
        charactersTag isC "default".toList dattrs data st =
          .error (.schema "required key cannot have default values")) ∧
    (∀ st', attr attrs "required" = some "yes".toList →
        (startKey env st attrs = .ok st' ∨ startMultikey env st attrs = .ok st') →
        ∃ k, st'.stack = .key k :: st.stack ∧ k.minOccurs = 1) := by
  refine ⟨fun d hr hd => ⟨fun st' => startKey_required_default_fails env st st' attrs d hr hd,
    fun r hk => by rw [startKey_nf, hk]; unfold startKeyObjM; rw [getRequired_yes attrs hr, hd]; rfl⟩, ?_, ?_⟩
  · intro isC dattrs data k rest hs hm
    unfold charactersTag
    simp only [beq_self_eq_true, ↓reduceIte, hs]
    rw [if_pos (by simpa using hm)]
    rfl
  intro st' hr h
  have hy := getRequired_yes attrs hr
  rcases h with h | h
  · obtain ⟨k, req, h1, h2, h3, _⟩ := startKey_ok_stack h
    rw [hy] at h1; cases h1
    exact ⟨k, h2, h3⟩
  · obtain ⟨k, req, h1, h2, h3, _⟩ := startMultikey_ok_stack h
    rw [hy] at h1; cases h1
    exact ⟨k, h2, h3⟩

/-- for an optional key the `<default>` element is handed to `adddefault` with its `key` attribute -/
theorem C10_default_element_optional (isC : Bool) (attrs : Attrs) (data : Str) (st : PSt) (k : EKey) (rest : List Frame)
    (hs : st.stack = .key k :: rest) (hm : k.minOccurs = 0) :
    charactersTag isC "default".toList attrs data st =
      (addDefault k data (attr attrs "key")).map fun k' => { st with stack := .key k' :: rest } := by
  unfold charactersTag
  simp only [beq_self_eq_true, ↓reduceIte, hs]
  rw [if_neg (by simp [hm])]
  cases addDefault k data (attr attrs "key") <;> rfl

/-- `<multikey default=…>` is a `SchemaError` (defaults of a multikey are given by `<default>` elements) -/
theorem C10_multikey_default_attribute (env : Env) (st : PSt) (attrs : Attrs) (h : hasAttr attrs "default" = true) :
    startMultikey env st attrs =
      .error (.schema "default values for multikey must be given using 'default' elements") := by
  rw [startMultikey_nf]; unfold startKeyObjM; rw [if_pos rfl, if_pos h]; rfl

/-! ## 8. defaults are keyed exactly when the key is a wildcard, and do not collide after key normalisation -/

/-- `BaseKeyInfo.adddefault`: it succeeds only on an unfinished key and only if a `key` is given exactly when the key's
name is `+`; the two mismatches are `SchemaError`s.  For a single-valued `+` key a key that is already present is the
`SchemaError` "duplicate default value for key", a new one is appended; for a single-valued fixed key a second
default is a `SchemaError`. -/
theorem C10_default_keying (k : EKey) (v : Str) (key : Option Str) :
    (∀ k', addDefault k v key = .ok k' → k.finished = false ∧ (k.name = ['+'] ↔ key.isSome = true)) ∧
    (k.finished = false → k.name = ['+'] → key = none →
        addDefault k v key = .error (.schema "default values must be keyed for name='+'")) ∧
    (k.finished = false → k.name ≠ ['+'] → key.isSome = true →
        addDefault k v key = .error (.schema "unexpected key for default value")) ∧
    (k.finished = true → addDefault k v key = .error (.schema "cannot add default values to finished KeyInfo")) ∧
    (∀ kk m, k.finished = false → k.multi = false → k.name = ['+'] → k.dflt = .keyed m → key = some kk →
        (kk ∈ m.map (·.1) → addDefault k v key = .error (.schema "duplicate default value for key")) ∧
        (kk ∉ m.map (·.1) →
            addDefault k v key = .ok { k with dflt := .keyed (m ++ [(kk, { value := v, pos := defaultPos })]) })) ∧
    (∀ vi0, k.finished = false → k.multi = false → k.name ≠ ['+'] → k.dflt = .one vi0 → key = none →
        addDefault k v key =
          .error (.schema "cannot set more than one default to key with maxOccurs == 1")) := by
  refine ⟨fun k' h => ⟨(addDefault_ok h).1, (addDefault_ok h).2.1⟩, ?_, ?_, ?_, ?_, ?_⟩
  · rintro hf hn rfl
    unfold addDefault
    rw [if_neg (by simp [hf]), if_pos (by simp [hn])]
    rfl
  · intro hf hn hk
    unfold addDefault
    rw [if_neg (by simp [hf]), if_neg (by simp [hn]), if_pos (by simp [hn, hk])]
    rfl
  · intro hf
    unfold addDefault
    rw [if_pos hf]
    rfl
  · rintro kk m hf hm hn hd rfl
    have hw : k.name = ['+'] ↔ (some kk).isSome = true := by simp [hn]
    rw [addDefault_wellkeyed k v (some kk) hf hw]
    exact ⟨addValueInfo_single_dup k _ kk m hm hn hd, addValueInfo_single_new k _ kk m hm hn hd⟩
  · rintro vi0 hf hm hn hd rfl
    have hw : k.name = ['+'] ↔ (none : Option Str).isSome = true := by simp [hn]
    rw [addDefault_wellkeyed k v none hf hw]
    unfold addValueInfo
    have hn' : (k.name == ['+']) = false := by simp [hn]
    simp only [hm, Bool.false_eq_true, ↓reduceIte, hn', hd]
    rfl

/-- `KeyInfo.computedefault(keytype)` for a single-valued `+` key whose defaults as written are `m`: when the key type
accepts every key as written (normalising them to `ks`), the result is the `SchemaError` "duplicate default value for
key" iff two of the normalised keys coincide; otherwise the defaults become the normalised keys paired, in order, with
the values, and the keys as written are remembered (`raw`).  Conversely success implies that every key was accepted and
that the normalised keys are pairwise distinct. -/
theorem C10_default_keys_collide (env : Env) (kt : Str) (k : EKey) (m : List (Str × VI))
    (hn : k.name = ['+']) (hm : k.multi = false) (hraw : k.raw.getD k.dflt = .keyed m) :
    (∀ ks, normKeys env kt m = .ok ks →
        (¬ ks.Nodup → computeDefault env kt k = .error (.schema "duplicate default value for key")) ∧
        (ks.Nodup → computeDefault env kt k =
            .ok { k with raw := some (.keyed m), dflt := .keyed (ks.zip (m.map (·.2))) })) ∧
    (∀ k', computeDefault env kt k = .ok k' →
        ∃ ks, normKeys env kt m = .ok ks ∧ ks.Nodup ∧
          k' = { k with raw := some (.keyed m), dflt := .keyed (ks.zip (m.map (·.2))) }) := by
  constructor
  · intro ks hks
    have := computeDefault_single env kt k m ks hn hm hraw hks
    exact ⟨this.2, this.1⟩
  · intro k' h
    exact computeDefault_single_ok hn hm hraw h

private def exEnv : Env :=
  { conv := { key := fun _ s => .ok (asciiLower s), val := fun _ s => .ok (.str s), sect := fun _ v => .ok v },
    dotted := fun _ => .valueError, comps := fun _ _ => .notImportable, bases := fun _ => none }
private def exVI : VI := { value := "v".toList, pos := defaultPos }
/-- two keys as written, `A` and `a`, that a lower-casing key type makes collide -/
example : normKeys exEnv [] [("A".toList, exVI), ("a".toList, exVI)] = .ok ["a".toList, "a".toList] ∧
    ¬ ["a".toList, "a".toList].Nodup := ⟨rfl, by decide⟩

/-- …and the collision is reported while the schema is loaded: when the `<key name="+">` element ends, the defaults
collected from its `<default key=…>` children are normalised under the key type of the enclosing container, and two
that coincide make `</key>` fail with the `SchemaError` -/
theorem C10_default_keys_collide_at_end_of_key (env : Env) (st : PSt) (k : EKey) (rest : List Frame) (kt : Str)
    (m : List (Str × VI)) (ks : List Str) (hs : st.stack = .key k :: rest) (hn : k.name = ['+'])
    (hm : k.multi = false) (hkt : topKeytype { st with stack := rest } = .ok kt)
    (hraw : k.raw.getD k.dflt = .keyed m) (hks : normKeys env kt m = .ok ks) (hdup : ¬ ks.Nodup) :
    endKey env st = .error (.schema "duplicate default value for key") ∧
    endHandled env "key".toList st = .error (.schema "duplicate default value for key") :=
  have h : endKey env st = .error (.schema "duplicate default value for key") := by
    rw [endKey_eq hs]
    unfold endKeyObj
    simp only [hn, beq_self_eq_true, ↓reduceIte, hkt, bind, Except.bind,
      (computeDefault_single env kt k m ks hn hm hraw hks).2 hdup]
  ⟨h, by rw [SchemaRules.endHandled_key]; exact h⟩

/-- …and again when a type is derived: a wildcard key inherited from the base whose defaults — as written in the base —
collide under the *derived* type's key type makes `<sectiontype extends=…>` fail with the `SchemaError`, as soon as
the earlier steps of the element pass and the base's children before that key are derivable -/
theorem C10_default_keys_collide_in_derived_type (env : Env) (st st1 : PSt) (attrs : Attrs)
    (v n b bn bkey kt dt : Str) (base : EType) (pre post pre' : List (Option Str × EInfo)) (key : Option Str)
    (k : EKey) (m : List (Str × VI)) (ks : List Str)
    (hv : attr attrs "name" = some v) (hb : basicKeyE v = .ok n) (hp : pushPrefix st attrs = .ok st1)
    (hx : attr attrs "extends" = some b) (hbn : basicKeyE b = .ok bn)
    (hg : st.es.gettype bn = some (bkey, .concrete base))
    (hi : getSectTypeinfo env st1 attrs (some (base.keytype, base.datatype)) = .ok (kt, dt))
    (hfresh : n ∉ st.es.types.map (·.1))
    (hch : base.children = pre ++ (key, .key k) :: post) (hpre : deriveChildren env kt pre = .ok pre')
    (hn : k.name = ['+']) (hm : k.multi = false) (hraw : k.raw.getD k.dflt = .keyed m)
    (hks : normKeys env kt m = .ok ks) (hdup : ¬ ks.Nodup) :
    startSectiontype env st attrs = .error (.schema "duplicate default value for key") := by
  obtain ⟨p, rfl⟩ := pushPrefix_ok hp
  -- the derivation stops at the key `k`: the children before it are derivable, its own defaults collide
  have hder : deriveChildren env kt base.children = .error (.schema "duplicate default value for key") := by
    rw [hch, deriveChildren_eq]
    rw [deriveChildren_eq] at hpre
    apply mapM_append_error _ _ _ _ _ _ hpre
    simp only [deriveChild, hn, beq_self_eq_true, ↓reduceIte,
      (computeDefault_single env kt k m ks hn hm hraw hks).2 hdup, bind, Except.bind]
  rw [startSectiontype_steps env st attrs v n _ hv hb hp]
  simp only [sectiontypeBase, hx, hbn, (show ES.gettype _ bn = _ from hg), hi, bind, Except.bind]
  rw [addType_fresh _ _ _ hfresh]
  simp only [hder]

/-- nothing is wrongly refused for a multi-valued `+` key: whenever the key type accepts every key as written,
`computedefault` succeeds (defaults whose keys coincide after normalisation are merged) -/
theorem C10_multikey_defaults_never_collide (env : Env) (kt : Str) (k : EKey) (m : List (Str × List VI))
    (hn : k.name = ['+']) (hm : k.multi = true) (hraw : k.raw.getD k.dflt = .keyedMany m)
    (hks : ∀ p ∈ m, ∃ key, convDefaultKey env kt p.1 = .ok key) :
    ∃ m', computeDefault env kt k = .ok { k with raw := some (.keyedMany m), dflt := .keyedMany m' } := by
  obtain ⟨m', h1⟩ := (normDefault_multi_ok_iff env kt m).2 hks
  rw [computeDefault_eq env kt k hn, hraw, hm]
  exact ⟨m', by rw [h1]; rfl⟩

/-- a key as written that the key type rejects is a `DataConversionError`, one it accepts is normalised -/
theorem C10_default_key_conversion (env : Env) (kt rk : Str) :
    (env.conv.key kt rk = .error .valueError → convDefaultKey env kt rk = .error (.conversion "default key")) ∧
    (∀ r, env.conv.key kt rk = .ok r → convDefaultKey env kt rk = .ok r) := by
  constructor
  · intro h; unfold convDefaultKey; rw [h]
  · intro r h; unfold convDefaultKey; rw [h]

/-! ## 9. `required` is `yes` or `no` -/

/-- `required`: absent means no, `yes` / `no` mean what they say, anything else is a `SchemaError` -/
theorem C10_required_values (attrs : Attrs) :
    (attr attrs "required" = none → getRequired attrs = .ok false) ∧
    (attr attrs "required" = some "yes".toList → getRequired attrs = .ok true) ∧
    (attr attrs "required" = some "no".toList → getRequired attrs = .ok false) ∧
    (∀ v, attr attrs "required" = some v → v ≠ "yes".toList → v ≠ "no".toList →
        getRequired attrs = .error (.schema "value for 'required' must be 'yes' or 'no'")) ∧
    (∀ e, getRequired attrs = .error e → ∃ t, e = .schema t) := by
  rw [getRequired_eq]
  refine ⟨?_, ?_, ?_, ?_, fun e h => ?_⟩
  · intro h; rw [h]
  · intro h; rw [h]; rfl
  · intro h; rw [h]; rfl
  · intro v h h1 h2; rw [h]; simp only [h1, h2, ↓reduceIte]
  · split at h
    · cases h
    · split at h
      · cases h
      · split at h
        · cases h
        · cases h; exact ⟨_, rfl⟩

/-! ## 10. element nesting as in the DTD, no stray text, the document element -/

/-- the nesting check of `startElement`: an element `name` is accepted below `parent` iff the table
`BaseParser._allowed_parents` (generated from the source) has an entry for `name` that lists `parent`; every refusal
is a `SchemaError` (unknown element, or wrong place). -/
theorem C10_nesting (parent name : Str) :
    (nestingCheck parent name = .ok () ↔ ∃ ps, (name, ps) ∈ Gen.allowedParents ∧ parent ∈ ps) ∧
    (∀ e, nestingCheck parent name = .error e → ∃ t, e = .schema t) :=
  ⟨nestingCheck_ok_iff parent name, fun e h => (EFail.isSchema_iff e).1 (nestingCheck_error h)⟩

/-- an element in the wrong place fails when it starts, before any handler runs -/
theorem C10_nesting_enforced (env : Env) (h : Hooks) (d : DocKind) (parent : Str) (st : PSt) (t : Str) (a : Attrs)
    (c : List Node) (e : EFail) (hn : nestingCheck parent t = .error e) :
    visitElem env h d (some parent) st (.elem t a c) = .error e :=
  visitElem_nest_err hn

/-- the table, read off the generated constant: where each element of the schema language may appear -/
theorem C10_nesting_table (parent : Str) :
    (nestingCheck parent "key".toList = .ok () ↔ parent ∈ ["schema", "sectiontype"].map String.toList) ∧
    (nestingCheck parent "multikey".toList = .ok () ↔ parent ∈ ["schema", "sectiontype"].map String.toList) ∧
    (nestingCheck parent "section".toList = .ok () ↔ parent ∈ ["schema", "sectiontype"].map String.toList) ∧
    (nestingCheck parent "multisection".toList = .ok () ↔ parent ∈ ["schema", "sectiontype"].map String.toList) ∧
    (nestingCheck parent "default".toList = .ok () ↔ parent ∈ ["key", "multikey"].map String.toList) ∧
    (nestingCheck parent "sectiontype".toList = .ok () ↔ parent ∈ ["component", "schema"].map String.toList) ∧
    (nestingCheck parent "abstracttype".toList = .ok () ↔ parent ∈ ["component", "schema"].map String.toList) ∧
    (nestingCheck parent "import".toList = .ok () ↔ parent ∈ ["component", "schema"].map String.toList) ∧
    (nestingCheck parent "metadefault".toList = .ok () ↔
        parent ∈ ["key", "multikey", "multisection", "section"].map String.toList) ∧
    (nestingCheck parent "example".toList = .ok () ↔
        parent ∈ ["key", "multikey", "multisection", "schema", "section", "sectiontype"].map String.toList) ∧
    (nestingCheck parent "description".toList = .ok () ↔
        parent ∈ ["abstracttype", "component", "key", "multikey", "multisection", "schema", "section", "sectiontype"].map String.toList) ∧
    (nestingCheck parent "schema".toList = .error (.schema "Unknown tag")) ∧
    (nestingCheck parent "component".toList = .error (.schema "Unknown tag")) := by
  have tbl {name : Str} {ps : List Str} (h : Gen.allowedParents.find? (·.1 == name) = some (name, ps)) :
      nestingCheck parent name = .ok () ↔ parent ∈ ps := by
    rw [nestingCheck_ok_iff_find, h]
    simp
  simp only [List.map]
  char_lits
  refine ⟨tbl (by decide +kernel), tbl (by decide +kernel), tbl (by decide +kernel), tbl (by decide +kernel),
    tbl (by decide +kernel), tbl (by decide +kernel), tbl (by decide +kernel), tbl (by decide +kernel),
    tbl (by decide +kernel), tbl (by decide +kernel), tbl (by decide +kernel), ?_, ?_⟩
  · rw [nestingCheck_eq]
    have : Gen.allowedParents.find? (·.1 == ['s', 'c', 'h', 'e', 'm', 'a']) = none := by decide +kernel
    rw [this]
  · rw [nestingCheck_eq]
    have : Gen.allowedParents.find? (·.1 == ['c', 'o', 'm', 'p', 'o', 'n', 'e', 'n', 't']) = none := by decide +kernel
    rw [this]

/-- character data between the elements of a non-character-data element: blank text is skipped, anything else is the
`SchemaError` "unexpected non-blank character data" -/
theorem C10_stray_text (env : Env) (h : Hooks) (d : DocKind) (parent : Str) (st : PSt) (s : Str) (r : List Node) :
    ((strip s).isEmpty = false →
        visitChildren env h d parent st (.text s :: r) = .error (.schema "unexpected non-blank character data")) ∧
    ((strip s).isEmpty = true →
        visitChildren env h d parent st (.text s :: r) = visitChildren env h d parent st r) := by
  rw [visitChildren_text]
  constructor
  · intro hb; rw [if_neg (by simp [hb])]
  · intro hb; rw [if_pos hb]

/-- so when the children of an element are read successfully, every text node among them is blank and every element
among them is one the table allows there -/
theorem C10_children_wellformed (env : Env) (h : Hooks) (d : DocKind) (parent : Str) (l : List Node) (st st' : PSt)
    (hv : visitChildren env h d parent st l = .ok st') :
    (∀ s, Node.text s ∈ l → (strip s).isEmpty = true) ∧
    (∀ t a c, Node.elem t a c ∈ l → nestingCheck parent t = .ok ()) :=
  ⟨fun _ hs => visitChildren_ok_all hv _ hs, fun _ _ _ ht => visitChildren_ok_all hv _ ht⟩

/-- a document whose root element is not `schema` (for a schema) / `component` (for a component) is refused with
`UnknownDocumentTypeError` — a `SchemaError` — before anything else is looked at -/
theorem C10_unknown_document_type (env : Env) (h : Hooks) (d : DocKind) (st : PSt) (t : Str) (a : Attrs) (c : List Node)
    (ht : t ≠ d.topLevel) :
    visitElem env h d none st (.elem t a c) = .error (.schema "UnknownDocumentTypeError") :=
  visitElem_root_other ht

/-- …in particular for `loadSchema` -/
theorem C10_unknown_document_type_schema (env : Env) (fuel : Nat) (t : Str) (a : Attrs) (c : List Node)
    (ht : t ≠ "schema".toList) :
    elabES env fuel (.elem t a c) = .error (.schema "UnknownDocumentTypeError") := by
  unfold elabES
  rw [visitElem_root_other (d := .schema none) (by exact ht)]
  rfl

/-! ## 11. well-formed names -/

/-- names that the schema language takes as basic-keys (type names, `handler`) are accepted exactly when they are a
letter followed by letters, digits, `-`, `.`, `_`, and are lower-cased; names taken as identifiers (`attribute`)
exactly when they are a letter or `_` followed by letters, digits, `_`.  Everything else is a `SchemaError`. -/
theorem C10_wellformed_names (s : Str) :
    (basicKeyE s = if DTSpec.isBasicKey s then .ok (asciiLower s)
                   else .error (.schema "value did not match regular expression")) ∧
    (identifierE s = if DTSpec.isIdent s then .ok s else .error (.schema "not a valid Python identifier")) ∧
    (∀ r, basicKeyE s = .ok r ↔ DT.basicKey s = .ok r) ∧
    (∀ r, identifierE s = .ok r ↔ DT.identifier s = .ok r) := by
  refine ⟨basicKeyE_eq s, identifierE_eq s, ?_, ?_⟩
  · intro r
    unfold basicKeyE
    cases DT.basicKey s with
    | ok a => simp
    | error e => simp [serr]
  · intro r
    unfold identifierE
    cases DT.identifier s with
    | ok a => simp
    | error e => simp [serr]

example : DTSpec.isBasicKey "My-Type.1".toList = true ∧ DTSpec.isBasicKey "1x".toList = false := by decide

/-- the `attribute` attribute of any named element: if present and non-empty it must be an identifier that does not
start with `getSection`, otherwise the element is refused with a `SchemaError` — whatever its name is -/
theorem C10_attribute_names (env : Env) (st : PSt) (attrs : Attrs) (dflt : Option Str) (n a : Str)
    (hn : effName attrs dflt = some n) (hne : n ≠ []) (ha : attr attrs "attribute" = some a) (hae : a ≠ []) :
    (DTSpec.isIdent a = false → getNameInfo env st attrs dflt = .error (.schema "not a valid Python identifier")) ∧
    (DTSpec.isIdent a = true → startsWith a Gen.reservedAttrPrefix = true →
        getNameInfo env st attrs dflt = .error (.schema "attribute names may not start with 'getSection'")) := by
  cases a with
  | nil => exact absurd rfl hae
  | cons c cs =>
    have hA := attrNameE_some ha
    -- the name is there (`n`, non-empty), so `get_name_info` fails as the attribute name does
    have hE : ∀ e, attrNameE attrs = .error e → getNameInfo env st attrs dflt = .error e := by
      intro e he
      rw [getNameInfo_nf, hn]
      cases n with
      | nil => exact absurd rfl hne
      | cons c' cs' => simp only [he, bind, Except.bind]
    constructor
    · intro h1
      apply hE
      rw [hA, if_neg (by simp [h1])]; rfl
    · intro h1 h2
      apply hE
      rw [hA, if_pos h1, if_pos h2]; rfl

/-- a fixed name (not `*`, not `+`) is normalised by the key type of the enclosing container: a name the key type
rejects is the `SchemaError` "could not convert key name to keytype"; an accepted one is kept in its normalised form,
and when no `attribute` is given the attribute name is derived from it (basic-key, `-` replaced by `_`, which must
give an identifier — otherwise a `SchemaError`) -/
theorem C10_fixed_names (env : Env) (st : PSt) (attrs : Attrs) (dflt : Option Str) (n kt : Str) (aname : Option Str)
    (hn : effName attrs dflt = some n) (hne : n ≠ []) (hw : ¬ (n = ['*'] ∨ n = ['+']))
    (ha : attrNameE attrs = .ok aname) (hkt : topKeytype st = .ok kt) :
    (env.conv.key kt n = .error .valueError →
        getNameInfo env st attrs dflt = .error (.schema "could not convert key name to keytype")) ∧
    (∀ nm, env.conv.key kt n = .ok nm →
        (∀ a, aname = some a → getNameInfo env st attrs dflt = .ok (none, some nm, some a)) ∧
        (aname = none → DTSpec.isBasicKey nm = false →
            getNameInfo env st attrs dflt = .error (.schema "value did not match regular expression")) ∧
        (aname = none → DTSpec.isBasicKey nm = true →
            getNameInfo env st attrs dflt =
              (identifierE ((asciiLower nm).map fun ch => if ch == '-' then '_' else ch)).map
                fun a' => (none, some nm, some a'))) := by
  -- what is left of `get_name_info` once the attribute name and the key type have been read
  have hnf : getNameInfo env st attrs dflt = (convKeyName env kt n >>= fun nm =>
      match aname with
      | some a => pure (none, some nm, some a)
      | none => (do
        let a ← basicKeyE nm
        let a' ← identifierE (a.map fun ch => if ch == '-' then '_' else ch)
        pure (none, some nm, some a'))) := by
    rw [getNameInfo_nf, hn]
    cases n with
    | nil => exact absurd rfl hne
    | cons c cs =>
      have hc : Gen.anyNames.contains (c :: cs) = false := by
        cases h : Gen.anyNames.contains (c :: cs) with
        | false => rfl
        | true => exact absurd ((anyNames_iff _).1 h) hw
      simp only [ha, nameTail, hc, hkt, bind, Except.bind, Bool.false_eq_true, ↓reduceIte]
      rcases attrNameE_ok ha with ⟨rfl, _⟩ | ⟨_ | _, rfl, _, hae, _⟩
      · rfl
      · exact absurd rfl hae
      · rfl
  constructor
  · intro h
    rw [hnf]; unfold convKeyName; rw [h]; rfl
  · intro nm h
    have hc : convKeyName env kt n = .ok nm := by unfold convKeyName; rw [h]
    refine ⟨?_, ?_, ?_⟩
    · rintro a rfl
      rw [hnf, hc]; rfl
    · rintro rfl hb
      rw [hnf, hc]; simp only [basicKeyE_eq, hb, bind, Except.bind]; rfl
    · rintro rfl hb
      rw [hnf, hc]; simp only [basicKeyE_eq, hb, bind, Except.bind, ↓reduceIte]
      cases identifierE _ <;> rfl

/-- datatype names (`datatype`, `keytype`, `valuetype`): a name without a dot must be a basic-key naming a stock
datatype; a dotted name is looked up by the registry, whose `ValueError` is a `SchemaError`.  (Only an exception
*raised by the import itself* is passed through unchanged, as in Python.) -/
theorem C10_datatype_names (env : Env) (name : Str) :
    (name.contains '.' = false → DTSpec.isBasicKey name = false →
        regGet env name = .error (.schema "value did not match regular expression")) ∧
    (name.contains '.' = false → DTSpec.isBasicKey name = true → Gen.stockNames.contains (asciiLower name) = false →
        regGet env name = .error (.schema "unloadable datatype name")) ∧
    (name.contains '.' = false → DTSpec.isBasicKey name = true → Gen.stockNames.contains (asciiLower name) = true →
        regGet env name = .ok (asciiLower name)) ∧
    (name.contains '.' = true → env.dotted name = .valueError →
        regGet env name = .error (.schema "datatype (registry ValueError)")) ∧
    (∀ c, name.contains '.' = true → env.dotted name = .found c → regGet env name = .ok c) ∧
    (∀ x, name.contains '.' = true → env.dotted name = .raises x → regGet env name = .error (.internal x)) := by
  rw [regGet_eq]
  refine ⟨?_, ?_, ?_, ?_, ?_, ?_⟩
  · intro h1 h2; simp only [h1, h2, Bool.false_eq_true, ↓reduceIte]
  · intro h1 h2 h3; simp only [h1, h2, h3, Bool.false_eq_true, ↓reduceIte]
  · intro h1 h2 h3; simp only [h1, h2, h3, Bool.false_eq_true, ↓reduceIte]
  · intro h1 h2; simp only [h1, h2, ↓reduceIte]
  · intro c h1 h2; simp only [h1, h2, ↓reduceIte]
  · intro x h1 h2; simp only [h1, h2, ↓reduceIte]

/-- the `handler` attribute is a basic-key -/
theorem C10_handler_name (attrs : Attrs) :
    (attr attrs "handler" = none → getHandler attrs = .ok none) ∧
    (∀ v, attr attrs "handler" = some v →
        getHandler attrs = if DTSpec.isBasicKey v then .ok (some (asciiLower v))
                           else .error (.schema "value did not match regular expression")) := by
  constructor
  · intro h; unfold getHandler; rw [h]
  · intro v h
    unfold getHandler; rw [h]
    simp only [basicKeyE_eq]
    split <;> rfl

/-! ## the rules, for whole documents

`Occurs none root q n`: the node `n` occurs somewhere in the tree `root`, directly below an element with tag `q`
(`q = none`: `n` is the root).  The statements hold for schemas and for components, and whatever the hooks that read
imported components and base schemas are. -/

/-- in a document the loader accepts: the root is the document element; every element, at any depth, stands where the
nesting table allows; and every text node outside the character-data elements is blank -/
theorem C10_accepted_document_shape (env : Env) (h : Hooks) (d : DocKind) (st st' : PSt) (root : Node)
    (hv : visitElem env h d none st root = .ok st') :
    (∀ t a c, root = .elem t a c → t = d.topLevel) ∧
    (∀ par t a c, Occurs none root (some par) (.elem t a c) → ∃ ps, (t, ps) ∈ Gen.allowedParents ∧ par ∈ ps) ∧
    (∀ par s, Occurs none root (some par) (.text s) →
        (strip s).isEmpty = true ∨ Gen.cdataTags.contains par = true) := by
  refine ⟨?_, ?_, ?_⟩
  · intro t a c hr
    exact (accepted_elements .here hv t a c hr).1
  · intro par t a c ho
    exact (nestingCheck_ok_iff par t).1 (accepted_elements ho hv t a c rfl).1
  · intro par s ho
    rcases accepted_text ho hv s par rfl rfl with ⟨h0, _⟩ | h1
    · cases h0
    · exact h1

/-- in a document the loader accepts, every element with a handler — at any depth — had its start handler succeed in
some loader state; so every "the handler succeeds only if …" statement above holds for every element of an accepted
document.  Spelled out for the rules that only involve the element's own attributes: -/
theorem C10_accepted_document_rules (env : Env) (h : Hooks) (d : DocKind) (st st' : PSt) (root : Node)
    (hv : visitElem env h d none st root = .ok st') :
    (∀ q a c, Occurs none root q (.elem "key".toList a c) →
        attr a "name" ≠ some ['*'] ∧ (∃ req, getRequired a = .ok req) ∧
        ¬ (attr a "required" = some "yes".toList ∧ (attr a "default").isSome = true)) ∧
    (∀ q a c, Occurs none root q (.elem "multikey".toList a c) →
        attr a "name" ≠ some ['*'] ∧ (∃ req, getRequired a = .ok req) ∧ (attr a "default").isSome = false) ∧
    (∀ q a c, Occurs none root q (.elem "section".toList a c) →
        (attr a "type").getD [] ≠ [] ∧ (∃ req, getRequired a = .ok req)) ∧
    (∀ q a c, Occurs none root q (.elem "multisection".toList a c) →
        (attr a "type").getD [] ≠ [] ∧ (∃ req, getRequired a = .ok req) ∧
        ∃ n, effName a (some ['*']) = some n ∧ (n = ['*'] ∨ n = ['+'])) ∧
    (∀ q a c, Occurs none root q (.elem "sectiontype".toList a c) →
        ∃ v, attr a "name" = some v ∧ DTSpec.isBasicKey v = true) ∧
    (∀ q a c, Occurs none root q (.elem "abstracttype".toList a c) →
        ∃ v, attr a "name" = some v ∧ DTSpec.isBasicKey v = true) := by
  have typed : ∀ (s : PSt) (a : Attrs) (ty : Str), getSectiontype s a = .ok ty → (attr a "type").getD [] ≠ [] := by
    intro s a ty hty h0
    rw [getSectiontype_missing s a h0] at hty; cases hty
  refine ⟨?_, ?_, ?_, ?_, ?_, ?_⟩
  · intro q a c ho
    obtain ⟨s0, s1, hs⟩ := accepted_start ho hv (by char_lits; decide +kernel)
    rw [startHandled_key] at hs
    refine ⟨?_, ?_, ?_⟩
    · intro hn
      obtain ⟨t, ht⟩ := startKey_star env s0 a hn
      rw [ht] at hs; cases hs
    · obtain ⟨k, req, h1, _⟩ := startKey_ok_stack hs
      exact ⟨req, h1⟩
    · rintro ⟨hr, hd⟩
      cases hdd : attr a "default" with
      | none => rw [hdd] at hd; cases hd
      | some dv => exact startKey_required_default_fails env s0 s1 a dv hr hdd hs
  · intro q a c ho
    obtain ⟨s0, s1, hs⟩ := accepted_start ho hv (by char_lits; decide +kernel)
    rw [startHandled_multikey] at hs
    refine ⟨?_, ?_, ?_⟩
    · intro hn
      obtain ⟨t, ht⟩ := startMultikey_star env s0 a hn
      rw [ht] at hs; cases hs
    · obtain ⟨k, req, h1, _⟩ := startMultikey_ok_stack hs
      exact ⟨req, h1⟩
    · cases hd : (attr a "default").isSome with
      | false => rfl
      | true =>
        rw [C10_multikey_default_attribute env s0 a hd] at hs; cases hs
  · intro q a c ho
    obtain ⟨s0, s1, hs⟩ := accepted_start ho hv (by char_lits; decide +kernel)
    rw [startHandled_section] at hs
    obtain ⟨ty, req, h1, h2⟩ := startSection_ok_type hs
    exact ⟨typed s0 a ty h1, req, h2⟩
  · intro q a c ho
    obtain ⟨s0, s1, hs⟩ := accepted_start ho hv (by char_lits; decide +kernel)
    rw [startHandled_multisection] at hs
    obtain ⟨ty, req, h1, h2⟩ := startMultisection_ok_type hs
    exact ⟨typed s0 a ty h1, ⟨req, h2⟩, startMultisection_ok_name hs⟩
  · intro q a c ho
    obtain ⟨s0, s1, hs⟩ := accepted_start ho hv (by char_lits; decide +kernel)
    rw [startHandled_sectiontype] at hs
    obtain ⟨v, n, _, h1, h2, _⟩ := startSectiontype_result hs
    exact ⟨v, h1, (basicKeyE_ok h2).1⟩
  · intro q a c ho
    obtain ⟨s0, s1, hs⟩ := accepted_start ho hv (by char_lits; decide +kernel)
    rw [startHandled_abstracttype] at hs
    cases hv' : attr a "name" with
    | none => rw [startAbstracttype_noname s0 a (by rw [hv']; rfl)] at hs; cases hs
    | some v =>
      cases hb : basicKeyE v with
      | ok n => exact ⟨v, rfl, (basicKeyE_ok hb).1⟩
      | error e =>
        by_cases hne : v = []
        · subst hne; rw [startAbstracttype_noname s0 a (by rw [hv']; rfl)] at hs; cases hs
        · rw [startAbstracttype_badname s0 a v e hv' hne hb] at hs; cases hs

/-- the same for `loadSchema`: a successful load is a successful pass over the document, to which the two theorems
above apply -/
theorem C10_accepted_schema (env : Env) (fuel : Nat) (tree : Node) (es : ES) (h : elabES env fuel tree = .ok es) :
    ∃ st', visitElem env (hooks env fuel) (.schema none) none { es := emptyES } tree = .ok st' ∧ st'.es = es :=
  elabES_ok h

/-- the hypotheses of the document-level theorems are satisfiable by a document with an inner element:
`<schema><abstracttype name="a"/></schema>` is accepted, for every environment -/
example (env : Env) (fuel : Nat) :
    (∃ es, elabES env fuel exDoc = .ok es) ∧
    Occurs none exDoc (some "schema".toList) (.elem "abstracttype".toList [("name".toList, "a".toList)] []) :=
  ⟨exDoc_accepted env fuel, .child (by simp) .here⟩

/-- **Nothing is left for load time.**  Every schema document the loader accepts — any element tree, any components and
    base schemas reached through it, any nesting of imports — yields a schema object satisfying the structural invariant
    `schemaOK` that the configuration-loading theorems C01/C02/C06/C07/C12/C14/C15/C16 assume: attribute names and keys are unique
    per type (inherited ones included), keys are stored under their own non-empty name with a default of the right shape,
    section slots refer to types that exist, type names equal their table keys.  `hkey` (key types never turn a non-empty
    name into the empty string) holds of the stock key types (`stockConv_key_ne_nil`). -/
theorem C10_elab_schemaOK (env : Elab.Env) (fuel : Nat) (t : Elab.Node) (S : Cfg.Schema)
    (hkey : ∀ (kt s r : Str), s ≠ [] → env.conv.key kt s = .ok r → r ≠ [])
    (h : Elab.elabSchema env fuel t = .ok S) : Conf.schemaOK S = true :=
  Elab.elab_schemaOK' env fuel t S hkey ZCV.lower_idem h

/-- the same for the stock key types (basic-key, identifier, ipaddr-or-hostname, string): no hypothesis left -/
theorem C10_elab_schemaOK_stock (env : Elab.Env) (fuel : Nat) (t : Elab.Node) (S : Cfg.Schema)
    (hconv : env.conv = Cfg.stockConv) (h : Elab.elabSchema env fuel t = .ok S) : Conf.schemaOK S = true :=
  C10_elab_schemaOK env fuel t S (by intro kt s r hs hr; rw [hconv] at hr; exact Elab.stockConv_key_ne_nil kt s r hs hr) h

/-- **Violations are reported as schema errors when the schema is loaded.**  Whatever the document (and the components and base
    schemas it pulls in), the schema loader ends in a schema object, a `SchemaError`, a `SchemaResourceError` or — only for a keyed
    default whose key the key type rejects — a `DataConversionError`; never in a Python exception outside the ZConfig family.
    Hypotheses (`EnvNI`): the datatype registry does not raise for dotted names, key types reject with ValueError only and never
    turn a fixed name into `*`/`+`; no document uses `<import src=…>` (not modelled); the nesting of documents does not exhaust
    the fuel (Python: no RecursionError).  A closed counterexample for each hypothesis is in `ZCV/Lemmas/ElabNoIntEx.lean`. -/
theorem C10_errors_are_schema_errors (env : Elab.Env) (fuel : Nat) (t : Elab.Node)
    (he : Elab.EnvNI env) (htr : Elab.EnvTrees Elab.NoSrc env) (hsrc : Elab.NoSrc t)
    (hfuel : Elab.elabSchema env fuel t ≠ .error (.internal "RecursionError")) :
    (∃ S, Elab.elabSchema env fuel t = .ok S) ∨ (∃ m, Elab.elabSchema env fuel t = .error (.schema m)) ∨
    (∃ m, Elab.elabSchema env fuel t = .error (.schemaResource m)) ∨ (∃ m, Elab.elabSchema env fuel t = .error (.conversion m)) :=
  Elab.elab_errors_are_schema_errors env fuel t he htr hsrc hfuel

/-- for a single document without `<import>` and without `extends` on `<schema>`: no internal error for any fuel -/
theorem C10_no_internal_single_document (env : Elab.Env) (fuel : Nat) (t : Elab.Node) (e : String)
    (he : Elab.EnvNI env) (hflat : Elab.flatDoc t = true) : Elab.elabSchema env fuel t ≠ .error (.internal e) := by
  intro h
  have hsrc : noImportSrc t = true := by
    cases t with
    | text s => rw [noImportSrc]
    | elem tg a c =>
      simp only [flatDoc, Bool.and_eq_true] at hflat
      exact noImportElem_noSrc _ hflat.2
  unfold elabSchema elabES at h
  rw [visitRoot_hooks_indep (hooks env fuel) refusingHooks none _ t hflat] at h
  have := (visitRoot_ni_keys (P := fun _ => False) (T := fun _ => True) (d := .schema none) he refusingHooks_ni
    ⟨fun _ _ _ _ => trivial, fun _ _ _ => trivial⟩ (by intro es h; cases h) (st := { es := emptyES }) rfl KeysOK.emptyES t hsrc).ni
  exact (NIx.map (f := ES.toSchema) (NIx.map (f := fun st : PSt => st.es) this)).out e h

/-! ## the rules as one judgement: a document is accepted iff it satisfies `DocRules`

The rules are the judgement `SchemaRules.DocRules env kind root` of `ZCV/Spec/SchemaRules.lean`: a Boolean checker
written rule by rule from the statement of the property (the list of the rules, those of the statement and the
"further rules" of the code, is in the header of that file).  It is decidable, so closed instances are settled by
`decide`. -/

/-- **Every document that satisfies the rules is accepted.**  A schema document — one document: no `<import>` child, no
`extends` on `<schema>` (`standalone`) — that satisfies the static rules of the schema language (`DocRules`) is loaded
successfully by the loader model, for every environment (datatype registry, key types) and every fuel (a standalone
document never reads another one, so the recursion bound plays no role).  Nothing is restricted inside the document:
`prefix`, `keytype`/`valuetype`/`datatype`, `handler`, abstract / concrete / derived / implementing section types,
keys and multikeys with `default=` / `<default>` / keyed defaults, sections and multisections, `<description>`,
`<example>`, `<metadefault>`. -/
theorem C10_rules_accepted (env : Elab.Env) (fuel : Nat) (root : Elab.Node)
    (hst : SchemaRules.standalone root = true) (hr : SchemaRules.DocRules env .schema root) :
    ∃ S, Elab.elabSchema env fuel root = .ok S :=
  SchemaRules.rules_accepted env fuel root hst hr

/-- …and the schema object obtained satisfies the structural invariant the configuration-loading theorems assume -/
theorem C10_rules_accepted_schemaOK (env : Elab.Env) (fuel : Nat) (root : Elab.Node)
    (hkey : ∀ (kt s r : Str), s ≠ [] → env.conv.key kt s = .ok r → r ≠ [])
    (hst : SchemaRules.standalone root = true) (hr : SchemaRules.DocRules env .schema root) :
    ∃ S, Elab.elabSchema env fuel root = .ok S ∧ Conf.schemaOK S = true := by
  obtain ⟨S, hS⟩ := C10_rules_accepted env fuel root hst hr
  exact ⟨S, hS, C10_elab_schemaOK env fuel root S hkey hS⟩

/-- **An accepted document satisfies the rules** — all of them at once, against the same judgement: a standalone
schema document that the loader model accepts satisfies `DocRules` (so the per-rule theorems above are not a partial
list: nothing the judgement demands is left unchecked by the loader, and the judgement demands nothing more than the
loader does). -/
theorem C10_accepted_rules (env : Elab.Env) (fuel : Nat) (root : Elab.Node) (S : Cfg.Schema)
    (hst : SchemaRules.standalone root = true) (h : Elab.elabSchema env fuel root = .ok S) :
    SchemaRules.DocRules env .schema root :=
  SchemaRules.accepted_rules env fuel root S hst h

/-- **Schema documents are accepted exactly when they obey the schema language rules** (one document: an element
without `extends`, without `<import>` child): acceptance by the loader model and the rule-by-rule judgement coincide,
for every environment and every fuel.  In particular acceptance of a standalone document is decidable by the rule
checker `SchemaRules.docRules`, and does not depend on the fuel. -/
theorem C10_accepted_iff_rules (env : Elab.Env) (fuel : Nat) (root : Elab.Node)
    (hst : SchemaRules.standalone root = true) :
    (∃ S, Elab.elabSchema env fuel root = .ok S) ↔ SchemaRules.DocRules env .schema root :=
  ⟨fun ⟨S, h⟩ => C10_accepted_rules env fuel root S hst h, C10_rules_accepted env fuel root hst⟩

/-- a document that breaks a rule is refused (contrapositive of `C10_accepted_rules`) -/
theorem C10_rule_violation_refused (env : Elab.Env) (fuel : Nat) (root : Elab.Node)
    (hst : SchemaRules.standalone root = true) (hr : ¬ SchemaRules.DocRules env .schema root) :
    ∃ e, Elab.elabSchema env fuel root = .error e := by
  cases h : Elab.elabSchema env fuel root with
  | error e => exact ⟨e, rfl⟩
  | ok S => exact absurd (C10_accepted_rules env fuel root S hst h) hr

/-! ### with `<import package=…>`: components, nested

`DocRulesN env n .schema root`: the document and the components it imports — looked up in `env.comps`, each merged once,
nested at most `n` deep — obey the rules (`SchemaRules.level`; `n = 0` is `DocRules`).  Only `extends` on `<schema>`
remains outside (`noExtends`). -/

/-- **Every document that satisfies the rules is accepted — imports included.**  A schema document without `extends`
on `<schema>` that satisfies the rules together with the components it imports (nested at most `n` deep) is loaded
successfully whenever the recursion bound allows `n` levels of nested documents. -/
theorem C10_rules_accepted_imports (env : Elab.Env) (n fuel : Nat) (root : Elab.Node)
    (hx : SchemaRules.noExtends root = true) (hr : SchemaRules.DocRulesN env n .schema root) (hfuel : n ≤ fuel) :
    ∃ S, Elab.elabSchema env fuel root = .ok S :=
  SchemaRules.rules_accepted_imports env n fuel root hx hr hfuel

/-- **An accepted document satisfies the rules — imports included**: a schema document without `extends` that the
loader accepts with recursion bound `fuel` satisfies the rules, and so does every component it read (they nest at most
`fuel` deep). -/
theorem C10_accepted_rules_imports (env : Elab.Env) (fuel : Nat) (root : Elab.Node) (S : Cfg.Schema)
    (hx : SchemaRules.noExtends root = true) (h : Elab.elabSchema env fuel root = .ok S) :
    SchemaRules.DocRulesN env fuel .schema root :=
  SchemaRules.accepted_rules_imports env fuel root S hx h

/-- **Schema documents are accepted exactly when they obey the schema language rules — imports included.**  For a
document without `extends` on `<schema>`: the loader with recursion bound `fuel` accepts it iff the document and the
components it imports, nested at most `fuel` deep, satisfy the rules. -/
theorem C10_accepted_iff_rules_imports (env : Elab.Env) (fuel : Nat) (root : Elab.Node)
    (hx : SchemaRules.noExtends root = true) :
    (∃ S, Elab.elabSchema env fuel root = .ok S) ↔ SchemaRules.DocRulesN env fuel .schema root :=
  ⟨fun ⟨S, h⟩ => C10_accepted_rules_imports env fuel root S hx h,
   fun hr => C10_rules_accepted_imports env fuel fuel root hx hr (Nat.le_refl _)⟩

/-- what the judgement means, order-free: in a document that satisfies the rules (with its imports), the names of all
types of the signature it ends with — `<abstracttype>` and `<sectiontype>` declarations of the document and of the
components it imports, after basic-key normalisation — are pairwise distinct; every concrete type of that signature
(members of the base first, then the type's own) has pairwise distinct attribute names and pairwise distinct non-empty
keys — inherited ones included — and so has the top-level container -/
theorem C10_rules_unique_names (env : Elab.Env) (n : Nat) (t : Str) (a : Attrs) (c : List Elab.Node)
    (h : SchemaRules.DocRulesN env n .schema (.elem t a c)) :
    ((SchemaRules.topAfter env (SchemaRules.level env n) (SchemaRules.prefixOf none a) [] [] c).1.names).Nodup ∧
    (∀ nm kt ms, (nm, SchemaRules.TySig.concrete kt ms) ∈
          (SchemaRules.topAfter env (SchemaRules.level env n) (SchemaRules.prefixOf none a) [] [] c).1 →
        (ms.map (·.attr)).Nodup ∧ (SchemaRules.memberKeys ms).Nodup) ∧
    ((SchemaRules.membersOf env (SchemaRules.keytypeOf env (SchemaRules.prefixOf none a) a none) c).map (·.attr)).Nodup ∧
    (SchemaRules.memberKeys
      (SchemaRules.membersOf env (SchemaRules.keytypeOf env (SchemaRules.prefixOf none a) a none) c)).Nodup :=
  ⟨(SchemaRules.docRules_signature_wf h).1, fun nm kt ms hm => (SchemaRules.docRules_signature_wf h).2 nm kt ms hm,
   SchemaRules.docRules_top_wf h⟩

namespace RulesEx
open SchemaRules

/-! In this namespace `env` and `S` are the definitions below; in the theorems above they are bound variables. -/

/-- an environment for closed instances: the key type `basic-key` as documented (structural definition), every other
key type the identity; one dotted datatype name, `my.dt`, is known -/
def env : Elab.Env :=
  { conv := { key := fun kt s => if kt == "basic-key".toList then DTSpec.basicKey s else .ok s,
              val := fun _ s => .ok (.str s), sect := fun _ v => .ok v },
    dotted := fun n => if n == "my.dt".toList then .found n else .valueError,
    comps := fun _ _ => .notImportable, bases := fun _ => none }

def E (t : String) (a : List (String × String)) (c : List Node) : Node :=
  .elem t.toList (a.map fun p => (p.1.toList, p.2.toList)) c
def T (s : String) : Node := .text s.toList
def S (c : List Node) : Node := E "schema" [] c

/-- a document with a prefix and a dotted datatype, an abstract type, a concrete type implementing it (own key type,
a key with a `default` attribute and notes, a multikey with `<default>`s, a single-valued `+` key with keyed
defaults, a required multikey), a type derived from it (a key with datatype and handler, a section of its own type,
a multisection), and a section, a multi-valued `+` key whose default keys coincide after normalisation, and a key at
top level -/
def good : Node :=
  E "schema" [("prefix", "my"), ("datatype", ".dt")] [
    T "\n  ",
    E "description" [] [T "a schema"],
    E "abstracttype" [("name", "Abs")] [E "description" [] [T "x"]],
    E "sectiontype" [("name", "Base"), ("implements", "abs"), ("keytype", "string")] [
      E "key" [("name", "Alpha"), ("default", "1")]
        [E "description" [] [T "d"], E "metadefault" [] [], E "metadefault" [] []],
      E "multikey" [("name", "beta"), ("attribute", "betas")] [E "default" [] [T "1"], E "default" [] [T "2"]],
      E "key" [("name", "+"), ("attribute", "rest")]
        [E "default" [("key", "A")] [T "1"], E "default" [("key", "a")] [T "2"]],
      E "multikey" [("name", "gamma"), ("required", "yes")] []
    ],
    E "sectiontype" [("name", "derived"), ("extends", "BASE")] [
      E "key" [("name", "delta"), ("datatype", "integer"), ("handler", "h")] [],
      E "section" [("type", "derived"), ("name", "inner"), ("attribute", "inner")] [],
      E "multisection" [("type", "abs"), ("name", "+"), ("attribute", "many")] [E "example" [] [T "e"]]
    ],
    E "section" [("type", "abs"), ("attribute", "one")] [],
    E "multikey" [("name", "+"), ("attribute", "more")]
      [E "default" [("key", "x")] [T "1"], E "default" [("key", "X")] [T "2"]],
    E "key" [("name", "top-key")] []
  ]

/-- documents that break a rule, one (or more) per rule family, in the order of the examples below -/
def broken : List Node := [
  -- rule 1, from index 0
  S [E "sectiontype" [("name", "T")] [], E "abstracttype" [("name", "t")] []],
  -- rule 2, from index 1
  S [E "key" [("name", "a")] [], E "key" [("name", "A")] []],
  S [E "key" [("name", "a")] [], E "key" [("name", "b"), ("attribute", "a")] []],
  S [E "sectiontype" [("name", "b")] [E "key" [("name", "k")] []],
    E "sectiontype" [("name", "d"), ("extends", "b")] [E "multikey" [("name", "K")] []]],
  S [E "sectiontype" [("name", "b")] [E "key" [("name", "k")] []],
    E "sectiontype" [("name", "d"), ("extends", "b")] [E "key" [("name", "other"), ("attribute", "k")] []]],
  -- rule 3, from index 5
  S [E "section" [("type", "t"), ("name", "s")] [], E "sectiontype" [("name", "t")] []],
  S [E "sectiontype" [("name", "d"), ("extends", "b")] [], E "sectiontype" [("name", "b")] []],
  S [E "sectiontype" [("name", "d"), ("implements", "a")] []],
  -- rule 4, from index 8
  S [E "abstracttype" [("name", "a")] [], E "sectiontype" [("name", "d"), ("extends", "a")] []],
  S [E "sectiontype" [("name", "b")] [], E "sectiontype" [("name", "d"), ("implements", "b")] []],
  -- rule 5, from index 10
  S [E "key" [("name", "+")] []],
  S [E "sectiontype" [("name", "t")] [], E "section" [("type", "t")] []],
  S [E "key" [("name", "*"), ("attribute", "a")] []],
  -- rule 6, index 13
  S [E "sectiontype" [("name", "t")] [], E "multisection" [("type", "t"), ("name", "s"), ("attribute", "a")] []],
  -- rule 7, from index 14
  S [E "key" [("name", "k"), ("required", "yes"), ("default", "1")] []],
  S [E "multikey" [("name", "k"), ("required", "yes")] [E "default" [] [T "1"]]],
  -- rule 8, from index 16
  S [E "multikey" [("name", "k")] [E "default" [("key", "x")] [T "1"]]],
  S [E "multikey" [("name", "+"), ("attribute", "a")] [E "default" [] [T "1"]]],
  S [E "key" [("name", "+"), ("attribute", "a")] [E "default" [("key", "X")] [T "1"], E "default" [("key", "x")] [T "2"]]],
  S [E "key" [("name", "+"), ("attribute", "a")] [E "default" [("key", "not a key")] [T "1"]]],
  S [E "sectiontype" [("name", "b"), ("keytype", "string")] [E "key" [("name", "+"), ("attribute", "a")]
      [E "default" [("key", "X")] [T "1"], E "default" [("key", "x")] [T "2"]]],
    E "sectiontype" [("name", "d"), ("extends", "b"), ("keytype", "basic-key")] []],
  -- rule 9, index 21
  S [E "key" [("name", "k"), ("required", "maybe")] []],
  -- rule 10, from index 22
  S [E "key" [("name", "k")] [E "key" [("name", "l")] []]],
  S [E "sectiontype" [("name", "t")] [E "abstracttype" [("name", "a")] []]],
  S [E "default" [] [T "1"]],
  S [T "stray"],
  S [E "key" [("name", "k")] [E "description" [] [E "b" [] []]]],
  E "component" [] [],
  S [E "frobnicate" [] []],
  -- rule 11, from index 29
  S [E "sectiontype" [("name", "1t")] []],
  S [E "key" [("name", "k"), ("attribute", "not-an-identifier")] []],
  S [E "key" [("name", "k"), ("attribute", "getSectionX")] []],
  S [E "key" [("name", "not a key")] []],
  S [E "key" [("name", "k"), ("datatype", "no-such-type")] []],
  S [E "key" [("name", "k"), ("datatype", "not.known")] []],
  E "schema" [("keytype", "nope")] [],
  S [E "key" [("name", "k"), ("handler", "1h")] []],
  S [E "key" [] []],
  -- F1–F3, F5, from index 38
  E "schema" [("prefix", ".rel")] [],
  S [E "key" [("name", "k")] [E "description" [] [], E "description" [] []]],
  S [E "example" [] [], E "example" [] []],
  S [E "key" [("name", "a.b")] []],
  S [E "key" [("name", "k")] [E "default" [] [T "1"]]],
  S [E "multikey" [("name", "k"), ("default", "1")] []],
  S [E "key" [("name", "+"), ("attribute", "a"), ("default", "1")] []],
  -- not one document, index 45
  S [E "import" [("package", "p")] []]]

/-! components, and documents with imports -/

/-- the component `pkg`: a prefix, two descriptions (allowed in a component), an abstract and a concrete type, and an
import of `pkg.sub` by a name relative to the prefix -/
def compPkg : Node :=
  E "component" [("prefix", "pkg")] [
    E "description" [] [T "one"], E "description" [] [T "two"],
    E "abstracttype" [("name", "service")] [],
    E "import" [("package", ".sub")] [T " "],
    E "sectiontype" [("name", "server"), ("implements", "service"), ("extends", "sub-base")]
      [E "key" [("name", "port"), ("datatype", "port-number")] [E "description" [] [], E "description" [] []]]
  ]
/-- the component `pkg.sub`, which imports `pkg` back (a no-op: `pkg` is being merged already) -/
def compSub : Node :=
  E "component" [] [
    E "import" [("package", "pkg")] [],
    E "sectiontype" [("name", "sub-base")] [E "key" [("name", "host")] []]
  ]
/-- a component that breaks a rule (two keys with one name) -/
def compBad : Node :=
  E "component" [] [E "sectiontype" [("name", "t")] [E "key" [("name", "k")] [], E "key" [("name", "K")] []]]

/-- `env` with four packages (`pkg`, `pkg.sub`, `bad`, `nofile`); `nofile` is a package without `component.xml` -/
def envI : Elab.Env :=
  { env with comps := fun p f =>
      if f == "component.xml".toList then
        if p == "pkg".toList then .doc compPkg
        else if p == "pkg.sub".toList then .doc compSub
        else if p == "bad".toList then .doc compBad
        else if p == "nofile".toList then .noFile
        else .notImportable
      else if p == "pkg".toList || p == "pkg.sub".toList || p == "bad".toList || p == "nofile".toList then .noFile
      else .notImportable }

/-- a schema that imports `pkg` (twice: the second import is a no-op) and uses its types -/
def withImports : Node :=
  S [E "import" [("package", "pkg")] [], E "import" [("package", "pkg"), ("file", "component.xml")] [],
     E "sectiontype" [("name", "mine"), ("extends", "server")] [E "key" [("name", "extra")] []],
     E "multisection" [("type", "service"), ("attribute", "servers")] [],
     E "section" [("type", "sub-base"), ("name", "base"), ("attribute", "base")] []]

/-- schemas whose imports break a rule, in the order of the examples below -/
def brokenImports : List Node := [
  S [E "import" [("package", "bad")] []],
  S [E "import" [("package", "nowhere")] []],
  S [E "import" [("package", "nofile")] []],
  S [E "abstracttype" [("name", "Server")] [], E "import" [("package", "pkg")] []],
  S [E "import" [("src", "http://x/y.xml")] []],
  S [E "import" [("package", "pkg")] [E "description" [] []]],
  S [E "import" [("package", "pkg"), ("file", "a/b.xml")] []],
  S [E "import" [("package", "pkg..sub")] []],
  S [E "section" [("type", "server"), ("attribute", "s")] [], E "import" [("package", "pkg")] []]]

/-- **every closed instance of the rule checker in this section**, in one evaluation: (1) the documents of `broken` are
refused; (2) `good`, a component read on its own and two variants of documents of `broken` obey the rules; (3) what is
said about `withImports`; (4) the documents of `brokenImports` are refused.  They are evaluated in one declaration because
the kernel decodes a string literal of the rule checker (`"description".toList`, …) once per declaration, and for a small
document that decoding, not the document, is what an evaluation costs. -/
theorem evaluated :
    (∀ d ∈ broken, ¬ DocRules env .schema d) ∧
    ((standalone good = true ∧ DocRules env .schema good) ∧
      DocRules env .component
        (E "component" [("prefix", "my")] [E "description" [] [T "a"], E "description" [] [T "b"],
          E "abstracttype" [("name", "a")] [], E "sectiontype" [("name", "t"), ("implements", "a")] []]) ∧
      DocRules env .schema (S [
        E "sectiontype" [("name", "b"), ("keytype", "string")] [E "key" [("name", "+"), ("attribute", "a")]
          [E "default" [("key", "X")] [T "1"], E "default" [("key", "x")] [T "2"]]],
        E "sectiontype" [("name", "d"), ("extends", "b")] []]) ∧
      DocRules env .schema (S [E "key" [("name", "a.b"), ("attribute", "ab")] []])) ∧
    ((noExtends withImports = true ∧ DocRulesN envI 2 .schema withImports) ∧
      (match withImports with
        | .elem _ a c => (topAfter envI (level envI 2) (prefixOf none a) [] [] c).1.names
        | .text _ => []) =
        ["service".toList, "sub-base".toList, "server".toList, "mine".toList] ∧
      ¬ DocRulesN envI 1 .schema withImports) ∧
    (∀ d ∈ brokenImports, ¬ DocRulesN envI 3 .schema d) := by
  char_lits
  decide +kernel

theorem broken_refused {d : Node} (i : Nat) (h : broken[i]? = some d := by rfl) : ¬ DocRules env .schema d :=
  evaluated.1 d (List.mem_of_getElem? h)

theorem brokenImports_refused {d : Node} (i : Nat) (h : brokenImports[i]? = some d := by rfl) :
    ¬ DocRulesN envI 3 .schema d :=
  evaluated.2.2.2 d (List.mem_of_getElem? h)

/-- non-vacuity of `C10_rules_accepted`: the document above is standalone and satisfies the rules… -/
example : standalone good = true ∧ DocRules env .schema good := evaluated.2.1.1
/-- …hence is accepted -/
example (fuel : Nat) : ∃ S, Elab.elabSchema env fuel good = .ok S :=
  C10_rules_accepted env fuel good evaluated.2.1.1.1 evaluated.2.1.1.2

/-- a component read on its own: type declarations and descriptions only -/
example : DocRules env .component
    (E "component" [("prefix", "my")] [E "description" [] [T "a"], E "description" [] [T "b"],
      E "abstracttype" [("name", "a")] [], E "sectiontype" [("name", "t"), ("implements", "a")] []]) :=
  evaluated.2.1.2.1

/-! the documents of `broken`, one by one, under the rule they break -/

-- 1. unique type names, after normalisation
example : ¬ DocRules env .schema (S [E "sectiontype" [("name", "T")] [], E "abstracttype" [("name", "t")] []]) :=
  broken_refused 0
/-- …and such a document is refused by the loader, e.g. this one -/
example (fuel : Nat) : ∃ e, Elab.elabSchema env fuel
    (S [E "sectiontype" [("name", "T")] [], E "abstracttype" [("name", "t")] []]) = .error e :=
  C10_rule_violation_refused env fuel _ (by decide +kernel) (broken_refused 0)
-- 2. unique key names after the key type (`a` / `A` under basic-key), unique attribute names, inherited ones included
example : ¬ DocRules env .schema (S [E "key" [("name", "a")] [], E "key" [("name", "A")] []]) := broken_refused 1
example : ¬ DocRules env .schema (S [E "key" [("name", "a")] [], E "key" [("name", "b"), ("attribute", "a")] []]) :=
  broken_refused 2
example : ¬ DocRules env .schema (S [E "sectiontype" [("name", "b")] [E "key" [("name", "k")] []],
    E "sectiontype" [("name", "d"), ("extends", "b")] [E "multikey" [("name", "K")] []]]) := broken_refused 3
example : ¬ DocRules env .schema (S [E "sectiontype" [("name", "b")] [E "key" [("name", "k")] []],
    E "sectiontype" [("name", "d"), ("extends", "b")] [E "key" [("name", "other"), ("attribute", "k")] []]]) :=
  broken_refused 4
-- 3. types defined before use
example : ¬ DocRules env .schema (S [E "section" [("type", "t"), ("name", "s")] [], E "sectiontype" [("name", "t")] []]) :=
  broken_refused 5
example : ¬ DocRules env .schema (S [E "sectiontype" [("name", "d"), ("extends", "b")] [], E "sectiontype" [("name", "b")] []]) :=
  broken_refused 6
example : ¬ DocRules env .schema (S [E "sectiontype" [("name", "d"), ("implements", "a")] []]) := broken_refused 7
-- 4. `extends` names a concrete type, `implements` an abstract one
example : ¬ DocRules env .schema (S [E "abstracttype" [("name", "a")] [], E "sectiontype" [("name", "d"), ("extends", "a")] []]) :=
  broken_refused 8
example : ¬ DocRules env .schema (S [E "sectiontype" [("name", "b")] [], E "sectiontype" [("name", "d"), ("implements", "b")] []]) :=
  broken_refused 9
-- 5. wildcard names carry an attribute; `*` is not a key name
example : ¬ DocRules env .schema (S [E "key" [("name", "+")] []]) := broken_refused 10
example : ¬ DocRules env .schema (S [E "sectiontype" [("name", "t")] [], E "section" [("type", "t")] []]) :=
  broken_refused 11
example : ¬ DocRules env .schema (S [E "key" [("name", "*"), ("attribute", "a")] []]) := broken_refused 12
-- 6. multisections are named `*` or `+`
example : ¬ DocRules env .schema
    (S [E "sectiontype" [("name", "t")] [], E "multisection" [("type", "t"), ("name", "s"), ("attribute", "a")] []]) :=
  broken_refused 13
-- 7. no default on a required key
example : ¬ DocRules env .schema (S [E "key" [("name", "k"), ("required", "yes"), ("default", "1")] []]) :=
  broken_refused 14
example : ¬ DocRules env .schema (S [E "multikey" [("name", "k"), ("required", "yes")] [E "default" [] [T "1"]]]) :=
  broken_refused 15
-- 8. defaults keyed exactly for `+`; no collision after normalisation, in the type itself and in a derived type
example : ¬ DocRules env .schema (S [E "multikey" [("name", "k")] [E "default" [("key", "x")] [T "1"]]]) :=
  broken_refused 16
example : ¬ DocRules env .schema (S [E "multikey" [("name", "+"), ("attribute", "a")] [E "default" [] [T "1"]]]) :=
  broken_refused 17
example : ¬ DocRules env .schema (S [E "key" [("name", "+"), ("attribute", "a")]
    [E "default" [("key", "X")] [T "1"], E "default" [("key", "x")] [T "2"]]]) := broken_refused 18
example : ¬ DocRules env .schema (S [E "key" [("name", "+"), ("attribute", "a")] [E "default" [("key", "not a key")] [T "1"]]]) :=
  broken_refused 19
example : ¬ DocRules env .schema (S [
    E "sectiontype" [("name", "b"), ("keytype", "string")] [E "key" [("name", "+"), ("attribute", "a")]
      [E "default" [("key", "X")] [T "1"], E "default" [("key", "x")] [T "2"]]],
    E "sectiontype" [("name", "d"), ("extends", "b"), ("keytype", "basic-key")] []]) := broken_refused 20
-- …the same base is fine on its own, and a derived type that keeps its key type too
example : DocRules env .schema (S [
    E "sectiontype" [("name", "b"), ("keytype", "string")] [E "key" [("name", "+"), ("attribute", "a")]
      [E "default" [("key", "X")] [T "1"], E "default" [("key", "x")] [T "2"]]],
    E "sectiontype" [("name", "d"), ("extends", "b")] []]) := evaluated.2.1.2.2.1
-- 9. `required`
example : ¬ DocRules env .schema (S [E "key" [("name", "k"), ("required", "maybe")] []]) := broken_refused 21
-- 10. nesting, stray text, document element
example : ¬ DocRules env .schema (S [E "key" [("name", "k")] [E "key" [("name", "l")] []]]) := broken_refused 22
example : ¬ DocRules env .schema (S [E "sectiontype" [("name", "t")] [E "abstracttype" [("name", "a")] []]]) :=
  broken_refused 23
example : ¬ DocRules env .schema (S [E "default" [] [T "1"]]) := broken_refused 24
example : ¬ DocRules env .schema (S [T "stray"]) := broken_refused 25
example : ¬ DocRules env .schema (S [E "key" [("name", "k")] [E "description" [] [E "b" [] []]]]) := broken_refused 26
example : ¬ DocRules env .schema (E "component" [] []) := broken_refused 27
example : ¬ DocRules env .schema (S [E "frobnicate" [] []]) := broken_refused 28
-- 11. well-formed names, attributes, handlers, datatype names
example : ¬ DocRules env .schema (S [E "sectiontype" [("name", "1t")] []]) := broken_refused 29
example : ¬ DocRules env .schema (S [E "key" [("name", "k"), ("attribute", "not-an-identifier")] []]) :=
  broken_refused 30
example : ¬ DocRules env .schema (S [E "key" [("name", "k"), ("attribute", "getSectionX")] []]) := broken_refused 31
example : ¬ DocRules env .schema (S [E "key" [("name", "not a key")] []]) := broken_refused 32
example : ¬ DocRules env .schema (S [E "key" [("name", "k"), ("datatype", "no-such-type")] []]) := broken_refused 33
example : ¬ DocRules env .schema (S [E "key" [("name", "k"), ("datatype", "not.known")] []]) := broken_refused 34
example : ¬ DocRules env .schema (E "schema" [("keytype", "nope")] []) := broken_refused 35
example : ¬ DocRules env .schema (S [E "key" [("name", "k"), ("handler", "1h")] []]) := broken_refused 36
example : ¬ DocRules env .schema (S [E "key" [] []]) := broken_refused 37
-- further rules F1–F3, F5
example : ¬ DocRules env .schema (E "schema" [("prefix", ".rel")] []) := broken_refused 38
example : ¬ DocRules env .schema (S [E "key" [("name", "k")] [E "description" [] [], E "description" [] []]]) :=
  broken_refused 39
example : ¬ DocRules env .schema (S [E "example" [] [], E "example" [] []]) := broken_refused 40
example : ¬ DocRules env .schema (S [E "key" [("name", "a.b")] []]) := broken_refused 41
example : DocRules env .schema (S [E "key" [("name", "a.b"), ("attribute", "ab")] []]) := evaluated.2.1.2.2.2
example : ¬ DocRules env .schema (S [E "key" [("name", "k")] [E "default" [] [T "1"]]]) := broken_refused 42
example : ¬ DocRules env .schema (S [E "multikey" [("name", "k"), ("default", "1")] []]) := broken_refused 43
example : ¬ DocRules env .schema (S [E "key" [("name", "+"), ("attribute", "a"), ("default", "1")] []]) :=
  broken_refused 44
-- not one document
example : ¬ DocRules env .schema (S [E "import" [("package", "p")] []]) := broken_refused 45
example : standalone (E "schema" [("extends", "base.xml")] []) = false := by decide +kernel

/-! ### documents with imports -/

/-- non-vacuity of `C10_rules_accepted_imports`: components nested two deep -/
example : noExtends withImports = true ∧ DocRulesN envI 2 .schema withImports := evaluated.2.2.1.1
example (fuel : Nat) (hf : 2 ≤ fuel) : ∃ S, Elab.elabSchema envI fuel withImports = .ok S :=
  C10_rules_accepted_imports envI 2 fuel withImports evaluated.2.2.1.1.1 evaluated.2.2.1.1.2 hf
/-- the signature it ends with: the types of the components, in the order in which they were merged, then its own -/
example : (match withImports with
    | .elem _ a c => (topAfter envI (level envI 2) (prefixOf none a) [] [] c).1.names
    | .text _ => []) =
    ["service".toList, "sub-base".toList, "server".toList, "mine".toList] := evaluated.2.2.1.2.1
-- one level of nesting is not enough for this document; a document is not standalone when it imports
example : ¬ DocRulesN envI 1 .schema withImports := evaluated.2.2.1.2.2
example : standalone withImports = false := by decide +kernel

-- a component that breaks a rule; a package that does not exist; a package without component file; a clash between a
-- type of the schema and a type of a component; `src`; something inside `<import>`; a `file` with a directory part; an
-- empty segment in the package name
example : ¬ DocRulesN envI 3 .schema (S [E "import" [("package", "bad")] []]) := brokenImports_refused 0
example : ¬ DocRulesN envI 3 .schema (S [E "import" [("package", "nowhere")] []]) := brokenImports_refused 1
example : ¬ DocRulesN envI 3 .schema (S [E "import" [("package", "nofile")] []]) := brokenImports_refused 2
example : ¬ DocRulesN envI 3 .schema (S [E "abstracttype" [("name", "Server")] [], E "import" [("package", "pkg")] []]) :=
  brokenImports_refused 3
example : ¬ DocRulesN envI 3 .schema (S [E "import" [("src", "http://x/y.xml")] []]) := brokenImports_refused 4
example : ¬ DocRulesN envI 3 .schema (S [E "import" [("package", "pkg")] [E "description" [] []]]) :=
  brokenImports_refused 5
example : ¬ DocRulesN envI 3 .schema (S [E "import" [("package", "pkg"), ("file", "a/b.xml")] []]) :=
  brokenImports_refused 6
example : ¬ DocRulesN envI 3 .schema (S [E "import" [("package", "pkg..sub")] []]) := brokenImports_refused 7
-- types of a component are defined only after the import
example : ¬ DocRulesN envI 3 .schema
    (S [E "section" [("type", "server"), ("attribute", "s")] [], E "import" [("package", "pkg")] []]) :=
  brokenImports_refused 8

end RulesEx

end ZCV.Props.C10

