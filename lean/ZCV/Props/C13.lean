import ZCV.Lemmas.HistoryEx
import ZCV.Lemmas.DischargeExamples
import ZCV.Lemmas.HistoryAbsorb
/-!
C13: what a load leaves behind in the schema object, and what that does to the loads after it.

Two history functions are in play.  `runHistory` (`Lemmas/SlotsLoad.lean`) starts each load from the WHOLE private schema the
previous load ended with; `runHistoryApp` (`Model/History.lean`) starts it from the application's schema object, of which a
load can only have written the implementer tables – which is what ZConfig does.  For histories without `%import`
nothing changes (first part: `C13_load_without_import_keeps_schema`, `C13_history_independent`, stated with
`runHistory`).  The second part is about `runHistoryApp` and every history: `C13_history_exact`,
`C13_implementers_only_grow`, `C13_history_independent_iff_no_leak`, `C13_later_load_depends_only_on_leak`, and
`C13_importing_first_absorbs_the_leak` (lemmas: `Lemmas/History*.lean`; closed examples in the worlds `Ex` and `HEx`).
-/
namespace ZCV.Props.C13
open ZCV ZCV.Cfg

/-- of the four things a configuration text can make the loader do, three never touch the schema:
    opening a section, closing a section and adding a value leave it exactly as it was (only `%import` extends it) -/
theorem C13_start_keeps_schema (st st' : LS) (ty : Str) (nm : Option Str) (h : lsStart st ty nm = .ok st') :
    st'.schema = st.schema := (congrArg LS.schema (lsStart_frame st st' ty nm h) :)
/-- closing a section leaves the schema as it was -/
theorem C13_stop_keeps_schema (st st' : LS) (ty : Str) (nm : Option Str) (h : lsStop st ty nm = .ok st') :
    st'.schema = st.schema := (congrArg LS.schema (lsStop_frame st st' ty nm h) :)
/-- adding a key's value leaves the schema as it was -/
theorem C13_value_keeps_schema (st st' : LS) (k v : Str) (p : Pos) (h : lsValue st k v p = .ok st') :
    st'.schema = st.schema := (congrArg LS.schema (lsValue_frame st st' k v p h) :)

/-- **A whole parse without `%import` leaves the schema untouched**: if neither the text nor any resource it can
    include contains an `%import` line, then after any successful parse — any length, any nesting, any include depth —
    the loader's schema is exactly the one it started with (in particular no abstract type gained an implementer) -/
theorem C13_parse_without_import_keeps_schema (env : Env)
    (hres : ∀ u ls, env.res u = some ls → ∀ l ∈ ls, NoImportLine l)
    (fuel : Nat) (active : List Str) (url : Option Str) (lines : List Str) (n : Nat) (st st' : PS LS)
    (hl : ∀ l ∈ lines, NoImportLine l)
    (h : parseLines fuel env loaderCtx active url lines n st = .ok st') : st'.ctx.schema = st.ctx.schema :=
  parse_without_import_keeps_schema env hres fuel active url lines n st st' hl h

/-- … and so does every PREFIX of such a text: when an import-free load fails at some line, the schema it held up to
    that line was still exactly the one it started with (the model reports no schema for a failed load; this is the
    statement that covers them) -/
theorem C13_prefix_without_import_keeps_schema (env : Env)
    (hres : ∀ u ls, env.res u = some ls → ∀ l ∈ ls, NoImportLine l)
    (fuel : Nat) (active : List Str) (url : Option Str) (lines : List Str) (n : Nat) (st st' : PS LS)
    (hl : ∀ l ∈ lines, NoImportLine l)
    (h : runLines fuel env loaderCtx active url lines n st = .ok st') : st'.ctx.schema = st.ctx.schema :=
  run_without_import_keeps_schema env hres fuel active url lines n st st' hl h

/-- **A load without `%import` returns the schema it was given.**  If no line of the text and no line of any resource
    the text could `%include` is an `%import` line, then after a successful `load` — with or without command-line
    overrides, whatever the datatypes do — the application's schema (`schemaAfter`: types, children, defaults,
    implementers of every abstract type, components) is exactly the schema passed in. -/
theorem C13_load_without_import_keeps_schema (conv : Conv) (env : Env) (pkgs : Str → Pkg) (s : Schema) (url : Option Str)
    (lines specs : List Str) (r : LoadResult)
    (hres : ∀ u ls, env.res u = some ls → ∀ l ∈ ls, NoImportLine l) (hl : ∀ l ∈ lines, NoImportLine l)
    (h : load conv env pkgs s url lines specs = .ok r) : r.schemaAfter = s :=
  load_without_import_keeps_schema conv env pkgs s url lines specs r hres hl h

/-- the same for a text that has neither `%import` nor `%include` lines, with NO assumption on the resources around -/
theorem C13_load_plain_keeps_schema (conv : Conv) (env : Env) (pkgs : Str → Pkg) (s : Schema) (url : Option Str)
    (lines specs : List Str) (r : LoadResult) (hl : ∀ l ∈ lines, PlainLine l)
    (h : load conv env pkgs s url lines specs = .ok r) : r.schemaAfter = s := by
  obtain ⟨ps0, ps, h0, hp, hr⟩ := load_ok_init conv env pkgs s url lines specs r h
  rw [hr, parse_plain_keeps_schema env _ _ _ _ _ _ _ hl hp, (loadInit_ok conv pkgs s specs ps0 h0).1]

/-- the outcome of a load is a function of the schema's description (and of the text, overrides, resources, packages and
    datatypes) and of nothing else — there is no hidden state in the model: a later load against the schema object a
    first load left behind is the load against the original schema as soon as that first load left the description
    unchanged -/
theorem C13_outcome_function_of_schema (conv : Conv) (env : Env) (pkgs : Str → Pkg) (s : Schema) (r : LoadResult)
    (url : Option Str) (lines specs : List Str) (h1 : r.schemaAfter = s) :
    load conv env pkgs r.schemaAfter url lines specs = load conv env pkgs s url lines specs := by rw [h1]

/-- **History independence (import-free histories).**  Run any sequence of loads — successful or failing, with or
    without overrides — one after the other against ONE schema object (`runHistory`: each load starts from what the
    previous one left behind).  If none of the texts, and none of the resources they can include, has an `%import` line,
    then every load of the sequence gives exactly what the same load gives against the fresh schema, and the schema
    object at the end is the schema at the start. -/
theorem C13_history_independent (conv : Conv) (env : Env) (pkgs : Str → Pkg)
    (hres : ∀ u ls, env.res u = some ls → ∀ l ∈ ls, NoImportLine l) (s : Schema) (hist : List LoadReq)
    (hh : ∀ q ∈ hist, ∀ l ∈ q.lines, NoImportLine l) :
    runHistory conv env pkgs s hist = (hist.map fun q => load conv env pkgs s q.url q.lines q.specs, s) :=
  runHistory_without_import conv env pkgs hres s hist hh

/-- in particular the load that comes after any import-free history gives what it gives on a fresh schema -/
theorem C13_load_after_history (conv : Conv) (env : Env) (pkgs : Str → Pkg)
    (hres : ∀ u ls, env.res u = some ls → ∀ l ∈ ls, NoImportLine l) (s : Schema) (hist : List LoadReq)
    (hh : ∀ q ∈ hist, ∀ l ∈ q.lines, NoImportLine l) (url : Option Str) (lines specs : List Str) :
    load conv env pkgs (runHistory conv env pkgs s hist).2 url lines specs = load conv env pkgs s url lines specs := by
  rw [runHistory_without_import conv env pkgs hres s hist hh]

/-! ### closed instances: the hypotheses are satisfiable, and with `%import` the statement is FALSE -/

/-- the import-free hypotheses of the theorems above hold for ordinary texts: comment, key line, section lines -/
example : ∀ l ∈ ["# c".toList, "k v".toList, "<leak x>".toList, "</leak>".toList], NoImportLine l :=
  DischargeEx.dis_ex_lines_noImport

/-- `C13_load_without_import_keeps_schema` at work: the one-line text `# c` loads, and leaves the schema as it was -/
example : ∃ r, load Ex.conv Ex.env Ex.pkgs Ex.schema none ["# c".toList] [] = .ok r ∧ r.schemaAfter = Ex.schema := by
  obtain ⟨r, hr⟩ := Ex.load_comment
  exact ⟨r, hr, C13_load_without_import_keeps_schema _ _ _ _ _ _ _ r (fun _ _ h => by cases h)
    DischargeEx.dis_ex_comment_noImport hr⟩

/-- **Counter-fact (known finding C13-implementers-leak).**  With `%import` the conclusion of
    `C13_load_without_import_keeps_schema` FAILS in the model, as it does in ZConfig: loading the one-line text
    `%import p` against a schema with an abstract type `ab` and no implementers succeeds, and the application's schema
    afterwards lists the imported type `leak` among the implementers of `ab` (the abstract-type tables are shared between
    the application's schema and the load's private copy). -/
theorem C13_import_alters_schema_counterexample :
    ∃ r, load Ex.conv Ex.env Ex.pkgs Ex.schema none ["%import p".toList] [] = .ok r ∧
      Conf.implementers Ex.schema "ab".toList = [] ∧
      Conf.implementers r.schemaAfter "ab".toList = ["leak".toList] ∧ r.schemaAfter ≠ Ex.schema := by
  obtain ⟨r, hr, hs⟩ := Ex.load_import_p
  refine ⟨r, hr, by decide +kernel, by rw [hs]; decide, ?_⟩
  intro h
  rw [hs] at h
  have : Conf.implementers Ex.schema' "ab".toList = Conf.implementers Ex.schema "ab".toList := by rw [h]
  exact absurd this (by decide +kernel)

/-- … and therefore a history containing such a load does not end on the schema it started with -/
theorem C13_history_with_import_counterexample :
    Conf.implementers (runHistory Ex.conv Ex.env Ex.pkgs Ex.schema [⟨none, ["%import p".toList], []⟩]).2 "ab".toList
      = ["leak".toList] := by
  obtain ⟨r, hr, _, h2, _⟩ := C13_import_alters_schema_counterexample
  rw [runHistory_cons]
  simp only [hr]
  exact h2

/-- REMARK on the model, stated as a fact so that it is not overlooked: `schemaAfter` is the load's whole private schema.
    After `%import p` it also contains the imported concrete type and the component's URL.  In ZConfig only the
    abstract-type implementer tables are shared with the application's schema (`createDerivedSchema` copies the type
    and component tables), so of `schemaAfter` only the abstract entries describe the application's schema — which is
    what the driver reports (`encAbstract`).  For import-free loads the distinction disappears (`schemaAfter = s`). -/
theorem C13_model_schemaAfter_is_private_schema :
    ∃ r, load Ex.conv Ex.env Ex.pkgs Ex.schema none ["%import p".toList] [] = .ok r ∧
      r.schemaAfter.components = ["u".toList] ∧ r.schemaAfter.gettype "leak".toList = some (.concrete Ex.leak) := by
  obtain ⟨r, hr, hs⟩ := Ex.load_import_p
  exact ⟨r, hr, by rw [hs]; rfl, by rw [hs]; rfl⟩

/-! ## histories on the application's schema object (`runHistoryApp`, ZCV/Model/History.lean): what a history with `%import` can change, exactly

`runHistory` above feeds a load's whole private schema into the next load (see the REMARK).  ZConfig does not: the next
load starts from the application's schema object, of which a load can only have written the implementer tables of the
abstract types it holds (`AbstractType.addsubtype` on objects `createDerivedSchema` shares).  `runHistoryApp` threads
exactly that (`appAfter` for a successful load, `appAfterLoad` in general: a load that fails – even inside a component
that breaks off half-way – leaves the `addsubtype` calls it made before).  The theorems below hold for EVERY history:
any texts, `%import` and `%include` anywhere, successful and failing loads, overrides, any datatypes. -/

/-- **After one load, successful or not, the application's schema object is the schema it was with the load's
    `addsubtype` calls applied** (`loadStop … .regs`: (concrete type name, key of the abstract type), in order) – nothing
    else of the load's private schema (imported types, component marks) reaches it. -/
theorem C13_load_changes_only_implementers (conv : Conv) (env : Env) (pkgs : Str → Pkg) (s : Schema) (q : LoadReq) :
    appAfterLoad conv env pkgs s q = s.withImplementers (loadStop conv env pkgs s q.url q.lines q.specs).regs :=
  appAfterLoad_eq conv env pkgs s q

/-- … for a successful load that is `appAfter s r`, computed from the result alone -/
theorem C13_appAfter_of_ok (conv : Conv) (env : Env) (pkgs : Str → Pkg) (s : Schema) (q : LoadReq) (r : LoadResult)
    (h : load conv env pkgs s q.url q.lines q.specs = .ok r) :
    appAfter s r = s.withImplementers (loadStop conv env pkgs s q.url q.lines q.specs).regs := by
  rw [← appAfterLoad_ok conv env pkgs s q r h, appAfterLoad_eq]

/-- **After a whole history** the application's schema object is the schema it was with every `addsubtype` call of the
    history applied, in order. -/
theorem C13_history_exact (conv : Conv) (env : Env) (pkgs : Str → Pkg) (s : Schema) (hist : List LoadReq) :
    (runHistoryApp conv env pkgs s hist).2 = s.withImplementers (historyRegs conv env pkgs s hist) :=
  runHistoryApp_schema conv env pkgs hist s

/-- two entries of a type table that differ at most in the implementer table of an abstract type -/
def SameButTable (p q : Str × TypeEntry) : Prop :=
  q.1 = p.1 ∧
    match p.2 with
    | .concrete t => q.2 = .concrete t
    | .abstract_ n _ => ∃ subs, q.2 = .abstract_ n subs

theorem sameButTable_regEntries (regs : List (Str × Str)) (p : Str × TypeEntry) : SameButTable p (regEntries regs p) :=
  EntRel_regEntries regs p

/-- **A history changes nothing but implementer tables.**  For EVERY history the application's schema object afterwards
    has the same top-level type (keys, sections, defaults, datatypes), the same handler, the same components, a type
    table of the same length with the same names at the same places, every concrete type exactly as it was (children,
    keys, defaults, key type, datatype), every abstract type still abstract under the same name; looked up by name:
    the same concrete types and the same set of abstract type names. -/
theorem C13_history_changes_only_implementers (conv : Conv) (env : Env) (pkgs : Str → Pkg) (s : Schema)
    (hist : List LoadReq) :
    let s' := (runHistoryApp conv env pkgs s hist).2
    s'.top = s.top ∧ s'.handler = s.handler ∧ s'.components = s.components ∧
      s'.types.map (·.1) = s.types.map (·.1) ∧
      (∀ (i : Nat) p, s.types[i]? = some p → ∃ q, s'.types[i]? = some q ∧ SameButTable p q) ∧
      (∀ x t, s'.gettype x = some (.concrete t) ↔ s.gettype x = some (.concrete t)) ∧
      (∀ x, isAbstract s' x = isAbstract s x) := by
  intro s'
  have hs : s' = s.withImplementers (historyRegs conv env pkgs s hist) := runHistoryApp_schema conv env pkgs hist s
  rw [hs]
  refine ⟨withImplementers_top _ _, withImplementers_handler _ _, withImplementers_components _ _,
    withImplementers_keys _ _, ?_, fun x t => gettype_concrete_withImplementers _ _ x t,
    fun x => isAbstract_withImplementers _ _ x⟩
  intro i p hp
  rw [withImplementers_types, List.getElem?_map, hp]
  exact ⟨_, rfl, sameButTable_regEntries _ p⟩

/-- **Implementer tables only grow, and only by what imported components declare.**  For every history and every name
    `x`: the implementers of `x` afterwards are the implementers before, followed by new names (each once); every new name
    `c` was not listed, `x` is an abstract type of the schema, and `c` is a type defined, with `implements` naming `x`'s
    key, by a component (`pkgs p = component …`) that some load of the history imported – read to its end
    (`historyImports`) or up to where it broke off (`historyBroken`). -/
theorem C13_implementers_only_grow (conv : Conv) (env : Env) (pkgs : Str → Pkg) (s : Schema) (hist : List LoadReq) (x : Str) :
    ∃ add, Conf.implementers (runHistoryApp conv env pkgs s hist).2 x = Conf.implementers s x ++ add ∧ add.Nodup ∧
      ∀ c ∈ add, c ∉ Conf.implementers s x ∧ isAbstract s x = true ∧
        ∃ p ∈ historyImports conv env pkgs s hist ++ historyBroken conv env pkgs s hist,
          ∃ url types impls, pkgs p = .component url types impls ∧ (c, lower x) ∈ impls ∧ c ∈ types.map (·.1) := by
  rw [runHistoryApp_schema]
  obtain ⟨add, he, h1, h2⟩ := implementers_withImplementers s (historyRegs conv env pkgs s hist) x
  refine ⟨add, he, h2, ?_⟩
  intro c hc
  obtain ⟨hn, hm, ha⟩ := h1 c hc
  obtain ⟨p, hp, url, types, impls, hpk, hi, ht⟩ := historyRegs_source conv env pkgs s hist _ hm
  exact ⟨hn, ha, p, hp, url, types, impls, hpk, hi, ht⟩

/-- … and membership exactly: a name is listed afterwards iff it was listed before or some load of the history made an
    `addsubtype` call for it on this abstract type -/
theorem C13_implementers_after_history (conv : Conv) (env : Env) (pkgs : Str → Pkg) (s : Schema) (hist : List LoadReq)
    (x c : Str) :
    c ∈ Conf.implementers (runHistoryApp conv env pkgs s hist).2 x ↔
      c ∈ Conf.implementers s x ∨ (isAbstract s x = true ∧ (c, lower x) ∈ historyRegs conv env pkgs s hist) := by
  rw [runHistoryApp_schema]
  exact mem_implementers_withImplementers s _ x c

/-- a call that would change the schema: an abstract type stored under the call's key does not list the name yet -/
def CallLeaks (s : Schema) (ia : Str × Str) : Prop :=
  ∃ n subs, (ia.2, TypeEntry.abstract_ n subs) ∈ s.types ∧ ia.1 ∉ subs

/-- a component that declares (for a type it defines) an implementer of an abstract type of `s` which `s` does not list -/
def PkgLeaks (s : Schema) : Pkg → Prop
  | .component _ types impls => ∃ ia ∈ impls, ia.1 ∈ types.map (·.1) ∧ CallLeaks s ia
  | _ => False

theorem not_callLeaks_iff (s : Schema) (ia : Str × Str) : ¬ CallLeaks s ia ↔ regImpl s ia = s := by
  rw [regImpl_eq_self_iff]
  unfold CallLeaks
  constructor
  · intro h n subs hm
    exact Classical.byContradiction fun hn => h ⟨n, subs, hm, hn⟩
  · rintro h ⟨n, subs, hm, hn⟩
    exact hn (h n subs hm)

/-- **History independence, exactly** (every history): the schema object is unchanged IFF no load of the history made
    an `addsubtype` call that adds something – a call for an abstract type of the application's schema with a name it did
    not list. -/
theorem C13_history_independent_iff_no_leak (conv : Conv) (env : Env) (pkgs : Str → Pkg) (s : Schema) (hist : List LoadReq) :
    (runHistoryApp conv env pkgs s hist).2 = s ↔ ∀ ia ∈ historyRegs conv env pkgs s hist, ¬ CallLeaks s ia := by
  rw [runHistoryApp_schema, withImplementers_eq_self_iff]
  constructor
  · intro h ia hia; exact (not_callLeaks_iff s ia).mpr (h ia hia)
  · intro h ia hia; exact (not_callLeaks_iff s ia).mp (h ia hia)

theorem pkgLeaks_iff (s : Schema) (pk : Pkg) : PkgLeaks s pk ↔ ∃ ia ∈ pkgRegs pk, CallLeaks s ia := by
  cases pk with
  | component url types impls =>
    simp only [PkgLeaks, pkgRegs]
    constructor
    · rintro ⟨ia, hi, ht, hl⟩; exact ⟨ia, (mem_compRegs types impls ia).mpr ⟨hi, ht⟩, hl⟩
    · rintro ⟨ia, hm, hl⟩
      obtain ⟨hi, ht⟩ := (mem_compRegs types impls ia).mp hm
      exact ⟨ia, hi, ht, hl⟩
  | notImportable => simp [PkgLeaks, pkgRegs]
  | notPackage => simp [PkgLeaks, pkgRegs]
  | noComponent => simp [PkgLeaks, pkgRegs]
  | illegalName => simp [PkgLeaks, pkgRegs]

/-- **History independence in terms of the imported components** (every history in which no component broke off – in
    particular every history of successful loads, `C13_all_ok_no_broken`): the schema object is unchanged IFF none of the
    components some load imported declares an implementer, of one of the application schema's abstract types, that was not
    already listed. -/
theorem C13_history_independent_iff_no_leaking_import (conv : Conv) (env : Env) (pkgs : Str → Pkg) (s : Schema)
    (hist : List LoadReq) (hb : historyBroken conv env pkgs s hist = []) :
    (runHistoryApp conv env pkgs s hist).2 = s ↔ ∀ p ∈ historyImports conv env pkgs s hist, ¬ PkgLeaks s (pkgs p) := by
  rw [C13_history_independent_iff_no_leak, historyRegs_complete conv env pkgs s hist hb]
  constructor
  · intro h p hp hl
    obtain ⟨ia, hia, hleak⟩ := (pkgLeaks_iff s _).mp hl
    exact h ia (List.mem_flatMap.mpr ⟨p, hp, hia⟩) hleak
  · intro h ia hia hleak
    obtain ⟨p, hp, hpi⟩ := List.mem_flatMap.mp hia
    exact h p hp ((pkgLeaks_iff s _).mpr ⟨ia, hpi, hleak⟩)

theorem C13_all_ok_no_broken (conv : Conv) (env : Env) (pkgs : Str → Pkg) (s : Schema) (hist : List LoadReq)
    (h : ∀ o ∈ (runHistoryApp conv env pkgs s hist).1, ∃ r, o = .ok r) : historyBroken conv env pkgs s hist = [] :=
  historyBroken_of_all_ok conv env pkgs hist s h

/-- **One direction holds for every history**, components that break off included: if no component that a load of the
    history imported – completely or in part – declares a missing implementer, the schema object is unchanged … -/
theorem C13_no_leaking_import_keeps_schema (conv : Conv) (env : Env) (pkgs : Str → Pkg) (s : Schema) (hist : List LoadReq)
    (h : ∀ p ∈ historyImports conv env pkgs s hist ++ historyBroken conv env pkgs s hist, ¬ PkgLeaks s (pkgs p)) :
    (runHistoryApp conv env pkgs s hist).2 = s := by
  rw [C13_history_independent_iff_no_leak]
  intro ia hia hleak
  obtain ⟨p, hp, url, types, impls, hpk, hi, ht⟩ := historyRegs_source conv env pkgs s hist ia hia
  apply h p hp
  rw [hpk]
  exact ⟨ia, hi, ht, hleak⟩

/-- … and then every load of the history gave what it gives on the fresh schema (history independence for histories WITH
    `%import`, as long as nothing leaks: components that implement nothing of the application's, or only what is listed) -/
theorem C13_history_independent_when_nothing_leaks (conv : Conv) (env : Env) (pkgs : Str → Pkg) (s : Schema) :
    ∀ (hist : List LoadReq), (∀ ia ∈ historyRegs conv env pkgs s hist, ¬ CallLeaks s ia) →
      runHistoryApp conv env pkgs s hist = (hist.map fun q => load conv env pkgs s q.url q.lines q.specs, s) := by
  intro hist
  induction hist with
  | nil => intro _; rfl
  | cons q rest ih =>
    intro h
    rw [historyRegs_cons] at h
    have h1 : appAfterLoad conv env pkgs s q = s := by
      rw [appAfterLoad_eq, withImplementers_eq_self_iff]
      intro ia hia
      exact (not_callLeaks_iff s ia).mp (h ia (List.mem_append_left _ hia))
    rw [h1] at h
    rw [runHistoryApp_cons, h1, ih (fun ia hia => h ia (List.mem_append_right _ hia))]
    rfl

/-- **A later load depends on the history through the leaked implementers only.**  The load that comes after any history
    gives exactly what the same load gives on the FRESH schema with the history's `addsubtype` calls applied
    (`s.withImplementers …`: same types, same children, same components – only the listed names added to the tables). -/
theorem C13_later_load_depends_only_on_leak (conv : Conv) (env : Env) (pkgs : Str → Pkg) (s : Schema) (hist : List LoadReq)
    (url : Option Str) (lines specs : List Str) :
    load conv env pkgs (runHistoryApp conv env pkgs s hist).2 url lines specs =
      load conv env pkgs (s.withImplementers (historyRegs conv env pkgs s hist)) url lines specs := by
  rw [runHistoryApp_schema]

/-- every outcome of a history is the load against the fresh schema with the leak of the loads before it -/
theorem C13_outcomes_depend_only_on_leak (conv : Conv) (env : Env) (pkgs : Str → Pkg) (s : Schema)
    (pre : List LoadReq) (q : LoadReq) (post : List LoadReq) :
    (runHistoryApp conv env pkgs s (pre ++ q :: post)).1[pre.length]? =
      some (load conv env pkgs (s.withImplementers (historyRegs conv env pkgs s pre)) q.url q.lines q.specs) := by
  induction pre generalizing s with
  | nil => rfl
  | cons q0 rest ih =>
    rw [List.cons_append, runHistoryApp_cons, historyRegs_cons, withImplementers_append, ← appAfterLoad_eq]
    simp only [List.length_cons, List.getElem?_cons_succ]
    exact ih _

/-! ### closed instances for `runHistoryApp` -/

/-- **Counter-fact (known finding C13-implementers-leak), for `runHistoryApp`.**  One load `%import p`: the
    application's schema object afterwards lists `leak` among the implementers of `ab`, so it is not the schema it was – and
    that is ALL: the imported concrete type and the component mark are not in it. -/
theorem C13_faithful_history_with_import_counterexample :
    let s' := (runHistoryApp Ex.conv Ex.env Ex.pkgs Ex.schema [HEx.qP]).2
    Conf.implementers s' "ab".toList = ["leak".toList] ∧ s' ≠ Ex.schema ∧
      s'.gettype "leak".toList = none ∧ s'.components = [] ∧ s' = HEx.schemaL := by
  intro s'
  have hs : s' = HEx.schemaL := HEx.runHistoryApp_p Ex.pkgs rfl
  rw [hs]
  refine ⟨by decide +kernel, ?_, by decide +kernel, rfl, rfl⟩
  intro h
  have : Conf.implementers HEx.schemaL "ab".toList = Conf.implementers Ex.schema "ab".toList := by rw [h]
  exact absurd this (by decide +kernel)

/-- the trace of that history: one call, one component read to its end, nothing broke off – the hypotheses and the
    right-hand sides of the theorems above, computed -/
theorem C13_faithful_history_trace :
    historyRegs Ex.conv Ex.env Ex.pkgs Ex.schema [HEx.qP] = [("leak".toList, "ab".toList)] ∧
      historyImports Ex.conv Ex.env Ex.pkgs Ex.schema [HEx.qP] = ["p".toList] ∧
      historyBroken Ex.conv Ex.env Ex.pkgs Ex.schema [HEx.qP] = [] := by
  unfold historyRegs historyImports historyBroken
  rw [show HEx.qP = ⟨none, ["%import p".toList], []⟩ from rfl, historyStops_cons, HEx.loadStop_p Ex.pkgs rfl]
  exact ⟨rfl, rfl, rfl⟩

/-- `C13_history_independent_iff_no_leak` / `…_iff_no_leaking_import` at work, both sides false: the history `%import p`
    changes the schema object, its one call leaks, its one component leaks -/
example : (runHistoryApp Ex.conv Ex.env Ex.pkgs Ex.schema [HEx.qP]).2 ≠ Ex.schema ∧
    CallLeaks Ex.schema ("leak".toList, "ab".toList) ∧ PkgLeaks Ex.schema (Ex.pkgs "p".toList) := by
  refine ⟨C13_faithful_history_with_import_counterexample.2.1, ⟨_, _, List.mem_cons_self, by decide +kernel⟩, ?_⟩
  exact ⟨("leak".toList, "ab".toList), List.mem_cons_self, by decide +kernel, ⟨_, _, List.mem_cons_self, by decide +kernel⟩⟩

/-- … and both sides true: the import-free history `# c` -/
example : (runHistoryApp Ex.conv Ex.env Ex.pkgs Ex.schema [⟨none, ["# c".toList], []⟩]).2 = Ex.schema := by
  obtain ⟨r, hr⟩ := Ex.load_comment
  rw [runHistoryApp_cons, appAfterLoad_ok Ex.conv Ex.env Ex.pkgs Ex.schema ⟨none, ["# c".toList], []⟩ r hr]
  show appAfter Ex.schema r = Ex.schema
  have hk : r.schemaAfter = Ex.schema :=
    C13_load_without_import_keeps_schema _ _ _ _ _ _ _ r (fun _ _ h => by cases h) DischargeEx.dis_ex_comment_noImport hr
  unfold appAfter
  rw [hk, shareInto_self]

/-- `C13_implementers_only_grow` at work: the new name `leak`, from package `p` which declares `leak implements ab` -/
example : ∃ add, Conf.implementers (runHistoryApp Ex.conv Ex.env Ex.pkgs Ex.schema [HEx.qP]).2 "ab".toList =
      Conf.implementers Ex.schema "ab".toList ++ add ∧ add = ["leak".toList] ∧
      Ex.pkgs "p".toList = .component "u".toList [("leak".toList, .concrete Ex.leak)] [("leak".toList, "ab".toList)] :=
  ⟨["leak".toList], by rw [C13_faithful_history_with_import_counterexample.1]; rfl, rfl, rfl⟩

/-- **`runHistory` and `runHistoryApp` differ.**  History: `%import p`, then `<leak/>` WITHOUT `%import`.
    `runHistory` hands the first load's private schema to the second load, which therefore knows the type `leak` and is
    ACCEPTED; with `runHistoryApp` (as in ZConfig) the application's schema object does not have that type and the second
    load is REJECTED at line 1 – although `leak` now stands in the implementer table of `ab`. -/
theorem C13_old_history_differs_from_faithful :
    (∃ r1 r2, (runHistory Ex.conv Ex.env Ex.pkgs Ex.schema [HEx.qP, HEx.qUse]).1 = [.ok r1, .ok r2]) ∧
    (∃ r1, (runHistoryApp Ex.conv Ex.env Ex.pkgs Ex.schema [HEx.qP, HEx.qUse]).1 =
      [.ok r1, .error (synErr none 1 "start:unknown type name")]) := by
  obtain ⟨r1, hr1, hs1⟩ := Ex.load_import_p
  obtain ⟨r2, hr2⟩ := HEx.load_old_use
  constructor
  · refine ⟨r1, r2, ?_⟩
    rw [runHistory_cons, runHistory_cons]
    simp only [HEx.qP, HEx.qUse, hr1, hs1, hr2]
    rfl
  · refine ⟨r1, ?_⟩
    rw [runHistoryApp_cons, runHistoryApp_cons, HEx.appAfterLoad_p Ex.pkgs rfl]
    simp only [HEx.qP, HEx.qUse, hr1, HEx.load_app_use]
    rfl

/-- **A component that breaks off leaks what it registered before** (the load FAILS and still alters the schema object):
    package `b` defines `x implements ab` and then a type named `ab`, which the schema has.  The load `%import b` is
    rejected ("type name cannot be redefined"), and the application's schema object lists `x` under `ab` afterwards. -/
theorem C13_failed_load_leaks :
    load Ex.conv Ex.env HEx.pkgsH Ex.schema none ["%import b".toList] [] =
        .error (.cfg { kind := .schema, tag := "type name cannot be redefined" }) ∧
      (runHistoryApp Ex.conv Ex.env HEx.pkgsH Ex.schema [HEx.qB]).2 = HEx.schemaX ∧
      Conf.implementers HEx.schemaX "ab".toList = ["x".toList] ∧
      historyBroken Ex.conv Ex.env HEx.pkgsH Ex.schema [HEx.qB] = ["b".toList] := by
  refine ⟨HEx.load_b, ?_, by decide +kernel, ?_⟩
  · rw [runHistoryApp_cons, HEx.appAfterLoad_b]; rfl
  · unfold historyBroken
    rw [show HEx.qB = ⟨none, ["%import b".toList], []⟩ from rfl, historyStops_cons, HEx.loadStop_b, HEx.importStop_b]
    rfl

/-- **Why the component-level "iff" needs "no component broke off"** (`C13_history_independent_iff_no_leaking_import`
    is PARTIAL in that sense; the call-level `C13_history_independent_iff_no_leak` is not): package `c` declares the missing
    implementer `x` of `ab` – it "leaks" by its declaration – but it breaks off at its first type, before `x` is reached:
    the history `%import c` imported (a part of) a leaking component and leaves the schema object unchanged. -/
theorem C13_history_independent_iff_no_leaking_import_partial_counterexample :
    PkgLeaks Ex.schema (HEx.pkgsH "c".toList) ∧ historyBroken Ex.conv Ex.env HEx.pkgsH Ex.schema [HEx.qC] = ["c".toList] ∧
      historyImports Ex.conv Ex.env HEx.pkgsH Ex.schema [HEx.qC] = [] ∧
      (runHistoryApp Ex.conv Ex.env HEx.pkgsH Ex.schema [HEx.qC]).2 = Ex.schema := by
  refine ⟨⟨("x".toList, "ab".toList), List.mem_cons_self, by decide +kernel, ⟨_, _, List.mem_cons_self, by decide +kernel⟩⟩, ?_, ?_, ?_⟩
  · unfold historyBroken
    rw [show HEx.qC = ⟨none, ["%import c".toList], []⟩ from rfl, historyStops_cons, HEx.loadStop_c, HEx.importStop_c]
    rfl
  · unfold historyImports
    rw [show HEx.qC = ⟨none, ["%import c".toList], []⟩ from rfl, historyStops_cons, HEx.loadStop_c, HEx.importStop_c]
    rfl
  · rw [runHistoryApp_cons, HEx.appAfterLoad_c]; rfl

/-- `C13_later_load_depends_only_on_leak` at work: after `%import p` the load `<leak/>` is the load against the fresh
    schema with `leak` added to `ab`'s table – rejected, the type itself is not there -/
example : load Ex.conv Ex.env Ex.pkgs (runHistoryApp Ex.conv Ex.env Ex.pkgs Ex.schema [HEx.qP]).2 none ["<leak/>".toList] [] =
    .error (synErr none 1 "start:unknown type name") := by
  rw [C13_later_load_depends_only_on_leak, C13_faithful_history_trace.1]
  exact HEx.load_app_use

/-! ### a later load that imports the leaking components itself -/

/-- **Corollary: importing first makes a load independent of the history.**  After ANY history on the schema object, take a
    load whose text starts with `%import` / `%define` / comment lines (`pre`) before anything else (`rest`: any lines).  If –
    whenever that head goes through on the FRESH schema – the head itself makes every `addsubtype` call the history made
    (it imports, before the first section, the components whose implementers leaked), then the load gives on the used
    schema object what it gives on the fresh schema: the same error, or the same value tree and handler entries (the
    schema the load ends with differs in the ORDER of implementer tables at most: `LoadEquiv`). -/
theorem C13_importing_first_absorbs_the_leak (conv : Conv) (env : Env) (pkgs : Str → Pkg) (s : Schema) (hist : List LoadReq)
    (url : Option Str) (pre rest specs : List Str) (hpre : ∀ l ∈ pre, HeaderLine l)
    (hcov : ∀ ps0 st1, loadInit conv pkgs s specs = .ok ps0 →
      runLines 64 env loaderCtx (activeOf url) url pre 0 ps0 = .ok st1 →
      ∀ ia ∈ historyRegs conv env pkgs s hist, ia ∈ (linesStop 64 env (activeOf url) url pre 0 ps0).regs) :
    LoadEquiv s.types.length (load conv env pkgs s url (pre ++ rest) specs)
      (load conv env pkgs (runHistoryApp conv env pkgs s hist).2 url (pre ++ rest) specs) := by
  rw [runHistoryApp_schema]
  exact load_absorbs conv env pkgs s _ url pre rest specs hpre
    (fun ps0 st1 h0 h1 => withImplementers_absorb s _ _ (hcov ps0 st1 h0 h1))

/-- … in terms of components: it is enough that the head of the later load reads, to its end, every component that some
    load of the history read (completely or up to where it broke off) -/
theorem C13_reimporting_components_absorbs_the_leak (conv : Conv) (env : Env) (pkgs : Str → Pkg) (s : Schema)
    (hist : List LoadReq) (url : Option Str) (pre rest specs : List Str) (hpre : ∀ l ∈ pre, HeaderLine l)
    (hcov : ∀ ps0 st1, loadInit conv pkgs s specs = .ok ps0 →
      runLines 64 env loaderCtx (activeOf url) url pre 0 ps0 = .ok st1 →
      ∀ p ∈ historyImports conv env pkgs s hist ++ historyBroken conv env pkgs s hist,
        p ∈ (linesStop 64 env (activeOf url) url pre 0 ps0).imports) :
    LoadEquiv s.types.length (load conv env pkgs s url (pre ++ rest) specs)
      (load conv env pkgs (runHistoryApp conv env pkgs s hist).2 url (pre ++ rest) specs) := by
  refine C13_importing_first_absorbs_the_leak conv env pkgs s hist url pre rest specs hpre ?_
  intro ps0 st1 h0 h1 ia hia
  obtain ⟨p, hp, hpi⟩ := historyRegs_pkg conv env pkgs s hist ia hia
  have hsrc : Sourced pkgs (linesStop 64 env (activeOf url) url pre 0 ps0) :=
    linesStop_inv (stopInv_sourced pkgs) env 64 _ _ _ _ ps0 (loadInit_ok conv pkgs s specs ps0 h0).2
  exact hsrc.complete p (hcov ps0 st1 h0 h1 p hp) ia hpi

/-- the corollary at work: after the history `%import p`, the load `%import p` / `<leak/>` – which imports the leaking
    component first – gives on the used schema object what it gives on the fresh one (it is accepted) -/
example : LoadEquiv Ex.schema.types.length
    (load Ex.conv Ex.env Ex.pkgs Ex.schema none (["%import p".toList] ++ ["<leak/>".toList]) [])
    (load Ex.conv Ex.env Ex.pkgs (runHistoryApp Ex.conv Ex.env Ex.pkgs Ex.schema [HEx.qP]).2 none
      (["%import p".toList] ++ ["<leak/>".toList]) []) := by
  refine C13_reimporting_components_absorbs_the_leak Ex.conv Ex.env Ex.pkgs Ex.schema [HEx.qP] none _ _ []
    (fun l hl => ?_) ?_
  · simp only [List.mem_cons, List.mem_nil_iff, or_false] at hl
    subst hl
    exact .inr (.inr ⟨_, Ex.shape_import⟩)
  · intro ps0 st1 h0 _ p hp
    rw [C13_faithful_history_trace.2.1, C13_faithful_history_trace.2.2] at hp
    have hl : loadStop Ex.conv Ex.env Ex.pkgs Ex.schema none ["%import p".toList] [] =
        linesStop 64 Ex.env (activeOf none) none ["%import p".toList] 0 ps0 := by
      unfold loadStop
      rw [h0]
    rw [← hl, HEx.loadStop_p Ex.pkgs rfl]
    exact hp

/-- … and the hypothesis is needed: the load `%import q` / `<leak/>` does not import `p`, and differs
    (`C12_leak_admits_non_implementer`: accepted on the used object, rejected on the fresh one) -/
example : ¬ LoadEquiv Ex.schema.types.length
    (load Ex.conv Ex.env HEx.pkgsH Ex.schema none ["%import q".toList, "<leak/>".toList] [])
    (load Ex.conv Ex.env HEx.pkgsH HEx.schemaL none ["%import q".toList, "<leak/>".toList] []) := by
  obtain ⟨r, hr, _⟩ := HEx.load_twin_used
  rw [HEx.load_twin_fresh, hr]
  exact fun h => h

end ZCV.Props.C13
