import ZCV.Lemmas.HandlersCall
import ZCV.Lemmas.HandlersDemo
import ZCV.Lemmas.DischargeElab
import ZCV.Lemmas.DischargeExamples
import ZCV.Props.C10
import ZCV.Lemmas.ImportOvFree
import ZCV.Lemmas.ImportOvEx
import ZCV.Lemmas.DischargeExDoc
import ZCV.Lemmas.ImportLoadWF
/-!
C16 — the composite handler returned with a configuration lists the handler-bearing items of the text in post-order, each
with the value the configuration holds for it, and calls each exactly once or nothing at all.

* the handler list: `C16_handlers_postorder` (trees; `docHandlers` of `ZCV/Spec/Handlers.lean`), its length (`C16_len`), its
  values (`C16_values_are_tree_values`), the text level and `C16_end_to_end`; lemmas in `ZCV/Lemmas/Handlers*.lean`;
* calling it (`callHandlers`, `ZCV/Lemmas/HandlersCall.lean`): `C16_call_exactly_once`, `C16_none_skipped`,
  `C16_all_or_nothing`, `C16_call_ok_iff`, all read off `callHandlers_cases`;
* second part: texts with `%import` lines loaded with overrides (`C16_handlers_postorder_general`, `docHandlersI` of
  `ZCV/Spec/HandlersImport.lean`; lemmas in `ZCV/Lemmas/ImportOv*.lean`).
-/
namespace ZCV.Props.C16
open ZCV ZCV.Cfg

/-- closing a section appends to the shared handler list exactly the entries of that section's own handler-bearing
    items, in schema order, after everything appended before (in particular after the entries of the sections nested in
    it, which were closed earlier) -/
theorem C16_stop_appends_own_entries (st st' : LS) (ty : Str) (nm : Option Str) (child parent : Matcher) (below : List Matcher)
    (hst : st.stack = child :: parent :: below) (h : lsStop st ty nm = .ok st') :
    ∃ v hs, finishMatcher st.conv st.schema child = .ok (v, hs) ∧ st'.handlers = st.handlers ++ hs := by
  obtain ⟨c, p, b, v, hs, p', hst', hf, _, rfl⟩ := lsStop_inv h
  rw [hst] at hst'
  cases hst'
  exact ⟨v, hs, hf, rfl⟩

open ZCV.Conf

/-! ## the handler list is the post-order of the handler-bearing items -/

/-- `loadTreeH` (the tree-driven loader returning the configuration AND the handler list, assembled as `Cfg.load`
    assembles it) is `loadTree` when the handler list is forgotten: everything C01/C02 say about `loadTree` is about
    the first component of `loadTreeH`. -/
theorem C16_loadTreeH_value (conv : Conv) (s : Schema) (items : List Item) :
    (loadTreeH conv s items).map (·.1) = loadTree conv s items :=
  loadTreeH_value conv s items

/-- **The composite handler list is the post-order of the handler-bearing items.**  For every well-formed schema, every
    datatype family and every tree (any size, any nesting depth): the loader accepts the tree iff it conforms, and then
    the handler list it returns is `handlersOf` of the top-level container — for each section in file order (the order
    in which sections are closed) that section's own `handlersOf` recursively, then the container's OWN handler-bearing
    items in schema order, each with the value `denote` gives that attribute — followed, last, by the schema-level
    handler with the configuration object itself (when the schema has a handler). -/
theorem C16_handlers_postorder (conv : Conv) (s : Schema) (items : List Item)
    (hs : schemaOK s = true) (ht : tyCanon s items = true) :
    (loadTreeH conv s items).toOption =
      (denote conv s items).map fun v =>
        (v, handlersOf conv s s.top items ++ (match s.handler with | some h => [(h, v)] | none => [])) := by
  rw [loadTreeH_eq conv s items hs ht]
  cases hd : denote conv s items with
  | none => rfl
  | some v =>
    simp only [Option.map_some, docHandlers, hd]
    cases s.handler <;> rfl

/-- the same, read from an accepted load: the handler list IS the post-order list (and the value IS `denote`) -/
theorem C16_accepted_handlers (conv : Conv) (s : Schema) (items : List Item)
    (hs : schemaOK s = true) (ht : tyCanon s items = true) (v : Val) (hh : List (Str × Val))
    (h : loadTreeH conv s items = .ok (v, hh)) :
    denote conv s items = some v ∧
      hh = handlersOf conv s s.top items ++ (match s.handler with | some h => [(h, v)] | none => []) := by
  obtain ⟨h1, h2⟩ := loadTreeH_handlers conv s items hs ht v hh h
  refine ⟨h1, ?_⟩
  rw [h2, docHandlers, h1]
  cases s.handler <;> rfl

/-- the same for configuration TEXT (no `%import`, no overrides): the handler object returned with the configuration
    of an accepted text holds the post-order list of the tree the parser builds from the text.  (`hlow`: lower-casing
    is idempotent, the theorem `lower_idem` of `Lemmas/Lower.lean`; `hkeys`: type names are stored lower-cased.  The proof
    uses neither: see `C16_text_handlers_postorder_from_general`.) -/
theorem C16_text_handlers_postorder (conv : Conv) (env : Env) (pkgs : Str → Pkg) (s : Schema) (url : Option Str)
    (lines : List Str) (r : LoadResult) (hs : schemaOK s = true) (hlow : ∀ x : Str, lower (lower x) = lower x)
    (hkeys : ∀ p ∈ s.types, lower p.1 = p.1)
    (hni : ∀ l ∈ lines, NoImportLine l) (hres : ∀ u ls, env.res u = some ls → ∀ l ∈ ls, NoImportLine l)
    (h : load conv env pkgs s url lines [] = .ok r) :
    ∃ items, treeOf env url lines = .ok items ∧ denote conv s items = some r.value ∧
      r.handlers =
        handlersOf conv s s.top items ++ (match s.handler with | some h => [(h, r.value)] | none => []) := by
  obtain ⟨items, htree, hc, hl⟩ := load_ok_loadTreeH conv env pkgs s url lines hs hni hres r h
  obtain ⟨h1, h2⟩ := C16_accepted_handlers conv s items hs hc r.value r.handlers hl
  exact ⟨items, htree, h1, h2⟩

/-! ## its length -/

/-- **`len(handler)`**: the handler list of an accepted tree has exactly one entry per handler-bearing schema item the
    text instantiates (`nHandled`: for every section of the text, at every depth, the handler-bearing children of its
    type; those of the schema itself; one more for a schema-level handler) — a number that depends on the schema and
    the shape of the text only, not on any value. -/
theorem C16_len (conv : Conv) (s : Schema) (items : List Item)
    (hs : schemaOK s = true) (ht : tyCanon s items = true) (v : Val) (hh : List (Str × Val))
    (h : loadTreeH conv s items = .ok (v, hh)) : hh.length = nHandled s items := by
  obtain ⟨h1, h2⟩ := loadTreeH_handlers conv s items hs ht v hh h
  rw [h2, docHandlers_length conv s items v h1]

/-- the same for TEXT -/
theorem C16_text_len (conv : Conv) (env : Env) (pkgs : Str → Pkg) (s : Schema) (url : Option Str)
    (lines : List Str) (r : LoadResult) (hs : schemaOK s = true) (hlow : ∀ x : Str, lower (lower x) = lower x)
    (hkeys : ∀ p ∈ s.types, lower p.1 = p.1)
    (hni : ∀ l ∈ lines, NoImportLine l) (hres : ∀ u ls, env.res u = some ls → ∀ l ∈ ls, NoImportLine l)
    (h : load conv env pkgs s url lines [] = .ok r) :
    ∃ items, treeOf env url lines = .ok items ∧ r.handlers.length = nHandled s items := by
  obtain ⟨items, htree, hc, hl⟩ := load_ok_loadTreeH conv env pkgs s url lines hs hni hres r h
  exact ⟨items, htree, C16_len conv s items hs hc r.value r.handlers hl⟩

/-! ## the values are the tree's values -/

/-- **Each entry's value is the value the value tree holds for that item.**  For any container of the text (the
    document, or a section at any depth) that conforms to its type `t`: the container's value is a section value whose
    attribute names are `t`'s children's, in schema order, and the container's own entries in the handler list are,
    position by position, the handler-bearing children of `t` with the value stored at the same position of that
    section value.  (The section value is the one `denote` builds for the section before the section's own datatype is
    applied to it: with the default `null` section datatype it is the section object of the tree itself.) -/
theorem C16_values_are_tree_values (conv : Conv) (s : Schema) (t : SType) (nm : Option Str) (items : List Item) (v : Val)
    (h : containerVal conv s t nm items (itemVals conv s items) = some v) :
    ∃ attrs, v = Val.sect (t.name.getD []) nm attrs ∧ attrs.map (·.1) = t.children.map (·.2.attr) ∧
      ownHandlers conv s t items =
        (t.children.zip attrs).filterMap fun ca => ca.1.2.handler.map fun h => (h, ca.2.2) := by
  obtain ⟨attrs, hv, ha, _⟩ := containerVal_some_inv conv s t nm items _ v h
  refine ⟨attrs, hv, omap_attrs_keys _ _ _ _ ha, ?_⟩
  rw [ownHandlers_entries]
  exact omap_entries_zip _ _ _ _ _ ha

/-- the same by attribute NAME, for a type of a well-formed schema (attribute names are distinct): the entry of a
    handler-bearing child `c` is `(c's handler, the value found under c's attribute in the section value)` -/
theorem C16_values_by_attribute (conv : Conv) (s : Schema) (t : SType) (hT : stypeOK s t = true) (nm : Option Str)
    (items : List Item) (v : Val) (h : containerVal conv s t nm items (itemVals conv s items) = some v) :
    ∃ attrs, v = Val.sect (t.name.getD []) nm attrs ∧
      ownHandlers conv s t items =
        t.children.filterMap fun c => c.2.handler.bind fun h => (attrs.lookup c.2.attr).map fun x => (h, x) :=
  ownHandlers_lookup conv s t (stypeOK_prop s t hT) nm items v h

/-- the document's own entries are read off the top-level section value of which the configuration is the image under
    the schema's datatype; the schema-level entry holds the configuration itself (see `C16_handlers_postorder`) -/
theorem C16_top_values (conv : Conv) (s : Schema) (items : List Item) (v : Val) (h : denote conv s items = some v) :
    ∃ attrs, (conv.sect s.top.datatype (Val.sect (s.top.name.getD []) none attrs)).toOption = some v ∧
      attrs.map (·.1) = s.top.children.map (·.2.attr) ∧
      ownHandlers conv s s.top items =
        (s.top.children.zip attrs).filterMap fun ca => ca.1.2.handler.map fun h => (h, ca.2.2) := by
  unfold denote at h
  cases hc : containerVal conv s s.top none items (itemVals conv s items) with
  | none => rw [hc] at h; cases h
  | some v0 =>
    rw [hc] at h
    obtain ⟨attrs, h1, h2, h3⟩ := C16_values_are_tree_values conv s s.top none items v0 hc
    subst h1
    exact ⟨attrs, h, h2, h3⟩

/-! ## non-vacuity: a schema with handlers at every level and a text instantiating them -/

section demo
open ZCV.Demo16

/-- the hypotheses of `C16_handlers_postorder` hold for a conforming text: the loader accepts it, and the handler names
    are the two sections' `p` entries first (file order), then the document's own `k` and `ss`, the schema handler last -/
example : ((loadTreeH demoConv demoSchema demoItems).toOption.map fun r => r.2.map (·.1)) =
    some [['h', 'p'], ['h', 'p'], ['h', 'k'], ['h', 's'], ['h', 'a']] := by
  rw [C16_handlers_postorder demoConv demoSchema demoItems demo_schemaOK demo_tyCanon]
  decide +kernel

/-- the hypotheses of `C16_len` hold: the loader returns something, and it has 5 entries -/
example : ∃ v hh, loadTreeH demoConv demoSchema demoItems = .ok (v, hh) ∧ hh.length = 5 := by
  have e := C16_handlers_postorder demoConv demoSchema demoItems demo_schemaOK demo_tyCanon
  have hd : (denote demoConv demoSchema demoItems).isSome = true := by decide +kernel
  cases hl : loadTreeH demoConv demoSchema demoItems with
  | error x =>
    rw [hl] at e
    cases hden : denote demoConv demoSchema demoItems with
    | none => rw [hden] at hd; cases hd
    | some v => rw [hden] at e; cases e
  | ok r =>
    obtain ⟨v, hh⟩ := r
    refine ⟨v, hh, rfl, ?_⟩
    rw [C16_len demoConv demoSchema demoItems demo_schemaOK demo_tyCanon v hh hl]
    decide +kernel

/-- the hypothesis of `C16_values_are_tree_values` holds for the document container of the demo -/
example : (containerVal demoConv demoSchema demoSchema.top none demoItems (itemVals demoConv demoSchema demoItems)).isSome
    = true := by decide +kernel

end demo

/-! ## calling the composite handler

`callHandlers` (in `ZCV/Lemmas/HandlersCall.lean`) is a small pure model of `CompositeHandler.__call__`
(`ZConfig/loader.py`) that is HAND-WRITTEN IN THE PROOF FILES: it is not part of `ZCV/Model`; the driver runs it (operation
`hcall` of `Driver.lean`), and the C16 check (`harness/zcv/props/c16.py`) compares it with the real handler object called
with complete / incomplete / None-containing / case-variant-duplicate maps and recording callables.  `hs` is ANY handler list (in particular the one of `C16_handlers_postorder`); the handler map is a list
of `(name, some callable-id | none)` items; the result is the outcome together with the log of the calls made. -/

open ZCV.Call

/-- **A mapped-to-None entry is skipped, everything else is called exactly once, in order.**  If every supplied name
    is a valid basic-key, no two supplied names normalise to the same key, and every handler name of the list is
    supplied (after normalisation) — `cb h` being what is supplied for `h`, a callable or None — then the call
    succeeds and the log of calls is the handler list in order, each entry delivered once to its callable with its own
    value, the entries mapped to None left out.  (Model of `__call__` hand-written in the proof files, see above.) -/
theorem C16_none_skipped (hs : List (Str × Val)) (hm : HMap) (cb : Str → Option Nat)
    (hv : Valid hm) (hn : ((keyed hm).map (·.1)).Nodup)
    (hc : ∀ e ∈ hs, ∃ p ∈ hm, DT.basicKey p.1 = .ok e.1 ∧ p.2 = cb e.1) :
    callHandlers hs hm = { err := none, log := hs.filterMap fun e => (cb e.1).map fun f => (f, e.2) } := by
  have hmem : ∀ e ∈ hs, (e.1, cb e.1) ∈ keyed hm := fun e he => (mem_keyed hm e.1 (cb e.1)).mpr (hc e he)
  have hall : ∀ e ∈ hs, e.1 ∈ (keyed hm).map (·.1) := fun e he => List.mem_map_of_mem (f := (·.1)) (hmem e he)
  rcases callHandlers_cases hs hm with ⟨e, hnm, _⟩ | ⟨_, _, ⟨hne, _⟩ | ⟨_, h⟩⟩
  · exact absurd hnm (normMap_ok_of_valid hm hv hn e)
  · exact absurd ((missing_nil_iff hs (keyed hm)).mpr hall) hne
  · rw [h, CallResult.mk.injEq]
    refine ⟨rfl, Conf.filterMap_congr' _ _ _ fun e he => ?_⟩
    rw [dget_of_mem (keyed hm) e.1 (cb e.1) hn (hmem e he)]
    cases cb e.1 <;> rfl

/-- **A complete map without None: every entry is delivered exactly once, in order.**  Under the hypotheses of
    `C16_none_skipped` with a callable `g h` supplied for every handler name `h`: the log of calls is the handler list
    itself, entry by entry — same length, same order, the i-th call handing the i-th entry's value to the callable
    supplied for the i-th entry's name. -/
theorem C16_call_exactly_once (hs : List (Str × Val)) (hm : HMap) (g : Str → Nat)
    (hv : Valid hm) (hn : ((keyed hm).map (·.1)).Nodup)
    (hc : ∀ e ∈ hs, ∃ p ∈ hm, DT.basicKey p.1 = .ok e.1 ∧ p.2 = some (g e.1)) :
    callHandlers hs hm = { err := none, log := hs.map fun e => (g e.1, e.2) } := by
  rw [C16_none_skipped hs hm (fun h => some (g h)) hv hn hc]
  simp only [Option.map_some, CallResult.mk.injEq, true_and]
  induction hs with
  | nil => rfl
  | cons e l ih =>
    rw [List.filterMap_cons, List.map_cons]
    simp only
    rw [ih (fun e he => hc e (List.mem_cons_of_mem _ he))]

/-- whenever the call raises, nothing has been called -/
theorem C16_error_empty_log (hs : List (Str × Val)) (hm : HMap) (h : (callHandlers hs hm).err.isSome = true) :
    (callHandlers hs hm).log = [] := by
  rcases callHandlers_cases hs hm with ⟨e, _, hc⟩ | ⟨_, _, ⟨_, hc⟩ | ⟨_, hc⟩⟩
  · rw [hc]
  · rw [hc]
  · rw [hc] at h
    cases h

/-- **All or nothing.**  If some handler name of the list is not supplied (no supplied name normalises to it), or two
    of the supplied items have names that normalise to the same basic-key, the call raises and NOTHING has been called
    (the log is empty) — whatever else the map contains, and in whatever order. -/
theorem C16_all_or_nothing (hs : List (Str × Val)) (hm : HMap)
    (h : (∃ e ∈ hs, ∀ p ∈ hm, DT.basicKey p.1 ≠ .ok e.1) ∨
         (∃ a p b q c n, hm = a ++ p :: (b ++ q :: c) ∧ DT.basicKey p.1 = .ok n ∧ DT.basicKey q.1 = .ok n)) :
    (callHandlers hs hm).err.isSome = true ∧ (callHandlers hs hm).log = [] := by
  have herr : (callHandlers hs hm).err.isSome = true := by
    rcases callHandlers_cases hs hm with ⟨e, _, hc⟩ | ⟨_, hn, ⟨_, hc⟩ | ⟨hall, _⟩⟩
    · rw [hc]; rfl
    · rw [hc]; rfl
    · exfalso
      rcases h with ⟨e, he, hmiss⟩ | ⟨a, p, b, q, c, n, rfl, hp, hq⟩
      · obtain ⟨x, hx, hxe⟩ := List.mem_map.mp (hall e he)
        obtain ⟨p, hp, hk, _⟩ := (mem_keyed hm x.1 x.2).mp hx
        rw [hxe] at hk
        exact hmiss p hp hk
      · have hk : keyed (a ++ p :: (b ++ q :: c)) = keyed a ++ (n, p.2) :: (keyed b ++ (n, q.2) :: keyed c) := by
          unfold keyed
          rw [List.filterMap_append, List.filterMap_cons, List.filterMap_append, List.filterMap_cons]
          simp only [hp, hq]
        rw [hk] at hn
        simp only [List.map_append, List.map_cons] at hn
        have := (List.nodup_append.mp hn).2.1
        rw [List.nodup_cons] at this
        exact this.1 (List.mem_append_right _ List.mem_cons_self)
  exact ⟨herr, C16_error_empty_log hs hm herr⟩

/-- sharper, for a map of valid names: a missing handler name is reported as "undefined handlers" (a configuration
    error listing every missing entry's name, in list order), duplicates as "not unique" (a configuration error naming
    one of the supplied names); in both cases nothing has been called. -/
theorem C16_refusals_are_configuration_errors (hs : List (Str × Val)) (hm : HMap) (hv : Valid hm)
    (h : (callHandlers hs hm).err.isSome = true) :
    (∃ e, (callHandlers hs hm).err = some e ∧ e.isCfg = true) ∧ (callHandlers hs hm).log = [] := by
  refine ⟨?_, C16_error_empty_log hs hm h⟩
  rcases callHandlers_cases hs hm with ⟨e, hnm, hc⟩ | ⟨_, _, ⟨_, hc⟩ | ⟨_, hc⟩⟩
  · obtain ⟨p, _, he⟩ := normMap_error_valid hm [] e hv hnm
    exact ⟨e, by rw [hc], by rw [he]; rfl⟩
  · exact ⟨_, by rw [hc], rfl⟩
  · rw [hc] at h
    cases h

/-- exactly when the call goes through: all supplied names are valid basic-keys, pairwise distinct after
    normalisation, and every handler name of the list is among them -/
theorem C16_call_ok_iff (hs : List (Str × Val)) (hm : HMap) :
    (callHandlers hs hm).err = none ↔
      Valid hm ∧ ((keyed hm).map (·.1)).Nodup ∧ ∀ e ∈ hs, e.1 ∈ (keyed hm).map (·.1) := by
  rcases callHandlers_cases hs hm with ⟨e, hnm, hc⟩ | ⟨hv, hn, ⟨hne, hc⟩ | ⟨hall, hc⟩⟩
  · rw [hc]
    exact ⟨(fun h => nomatch h), fun ⟨hv, hn, _⟩ => absurd hnm (normMap_ok_of_valid hm hv hn e)⟩
  · rw [hc]
    exact ⟨(fun h => nomatch h), fun ⟨_, _, hall⟩ => absurd ((missing_nil_iff hs (keyed hm)).mpr hall) hne⟩
  · rw [hc]
    exact ⟨fun _ => ⟨hv, hn, hall⟩, fun _ => rfl⟩

/-! non-vacuity: a complete map with a case-variant name and a None; a missing name; case-variant duplicates -/

section demoCall
open ZCV.Demo16
/-- complete map, case-variant names: three calls, in list order, `hp`'s callable twice -/
example : callHandlers demoList [(['H', 'p'], some 7), (['h', 'K'], some 8)] =
    { err := none, log := [(7, .int 1), (8, .int 2), (7, .int 3)] } := by
  simp only [callHandlers, normMap, bk1, bk2]
  rfl
/-- `hk` mapped to None: skipped -/
example : callHandlers demoList [(['H', 'p'], some 7), (['h', 'K'], none)] =
    { err := none, log := [(7, .int 1), (7, .int 3)] } := by
  simp only [callHandlers, normMap, bk1, bk2]
  rfl
/-- the hypotheses of `C16_call_exactly_once` are satisfiable -/
example : Valid [(['H', 'p'], some 7), (['h', 'K'], some 8)] ∧
    ((keyed [(['H', 'p'], some 7), (['h', 'K'], some 8)]).map (·.1)).Nodup := by
  refine ⟨?_, ?_⟩
  · intro p hp
    simp only [List.mem_cons, List.not_mem_nil, or_false] at hp
    rcases hp with rfl | rfl
    · exact ⟨_, bk1⟩
    · exact ⟨_, bk2⟩
  · simp [keyed, bk1, bk2]
/-- `hk` missing: refused, nothing called (first alternative of `C16_all_or_nothing`) -/
example : ∃ e ∈ demoList, ∀ p ∈ [((['H', 'p'] : Str), some 7)], DT.basicKey p.1 ≠ .ok e.1 := by
  refine ⟨(['h', 'k'], .int 2), by simp [demoList], ?_⟩
  intro p hp
  simp only [List.mem_cons, List.not_mem_nil, or_false] at hp
  subst hp
  rw [bk1]
  simp
/-- `Hp` and `hP` both supplied: refused (second alternative of `C16_all_or_nothing`) -/
example : (callHandlers demoList [(['H', 'p'], some 7), (['h', 'K'], some 8), (['h', 'P'], none)]).err.isSome = true ∧
    (callHandlers demoList [(['H', 'p'], some 7), (['h', 'K'], some 8), (['h', 'P'], none)]).log = [] :=
  C16_all_or_nothing _ _ (.inr ⟨[], (['H', 'p'], some 7), [(['h', 'K'], some 8)], (['h', 'P'], none), [], ['h', 'p'],
    rfl, bk1, bk3⟩)
end demoCall

/-! ## the table hypotheses discharged -/

/-- `C16_text_handlers_postorder` without the table hypothesis: `hlow` is discharged by the proved `lower_idem` -/
theorem C16_text_handlers_postorder' (conv : Conv) (env : Env) (pkgs : Str → Pkg) (s : Schema) (url : Option Str)
    (lines : List Str) (r : LoadResult) (hs : schemaOK s = true) (hkeys : ∀ p ∈ s.types, lower p.1 = p.1)
    (hni : ∀ l ∈ lines, NoImportLine l) (hres : ∀ u ls, env.res u = some ls → ∀ l ∈ ls, NoImportLine l)
    (h : load conv env pkgs s url lines [] = .ok r) :
    ∃ items, treeOf env url lines = .ok items ∧ denote conv s items = some r.value ∧
      r.handlers =
        handlersOf conv s s.top items ++ (match s.handler with | some h => [(h, r.value)] | none => []) :=
  C16_text_handlers_postorder conv env pkgs s url lines r hs ZCV.lower_idem hkeys hni hres h

/-- `C16_text_len` without the table hypothesis (`hlow` discharged by `lower_idem`) -/
theorem C16_text_len' (conv : Conv) (env : Env) (pkgs : Str → Pkg) (s : Schema) (url : Option Str)
    (lines : List Str) (r : LoadResult) (hs : schemaOK s = true) (hkeys : ∀ p ∈ s.types, lower p.1 = p.1)
    (hni : ∀ l ∈ lines, NoImportLine l) (hres : ∀ u ls, env.res u = some ls → ∀ l ∈ ls, NoImportLine l)
    (h : load conv env pkgs s url lines [] = .ok r) :
    ∃ items, treeOf env url lines = .ok items ∧ r.handlers.length = nHandled s items :=
  C16_text_len conv env pkgs s url lines r hs ZCV.lower_idem hkeys hni hres h

/-- **End to end.**  For the schema object `S` of ANY schema document the schema loader accepts (`hkey`: its key types
    never turn a non-empty name into the empty string — true of the stock key types), every datatype family and every
    text without `%import` loaded without overrides: the handler object returned with the configuration holds the
    post-order handler list of the tree of the text (then the schema-level handler), and its length is `nHandled`.
    `schemaOK`, `hlow`, `hkeys` are discharged (C10, `lower_idem`, `elab_types_keys_lower`). -/
theorem C16_end_to_end (eenv : Elab.Env) (fuel : Nat) (doc : Elab.Node) (S : Schema)
    (hkey : ∀ (kt s r : Str), s ≠ [] → eenv.conv.key kt s = .ok r → r ≠ [])
    (hS : Elab.elabSchema eenv fuel doc = .ok S)
    (conv : Conv) (env : Env) (pkgs : Str → Pkg) (url : Option Str) (lines : List Str) (r : LoadResult)
    (hni : ∀ l ∈ lines, NoImportLine l) (hres : ∀ u ls, env.res u = some ls → ∀ l ∈ ls, NoImportLine l)
    (h : load conv env pkgs S url lines [] = .ok r) :
    ∃ items, treeOf env url lines = .ok items ∧ denote conv S items = some r.value ∧
      r.handlers =
        handlersOf conv S S.top items ++ (match S.handler with | some h => [(h, r.value)] | none => []) ∧
      r.handlers.length = nHandled S items := by
  have hs := ZCV.Props.C10.C10_elab_schemaOK eenv fuel doc S hkey hS
  have hk := Elab.elab_types_keys_lower hS
  obtain ⟨items, h1, h2, h3⟩ := C16_text_handlers_postorder' conv env pkgs S url lines r hs hk hni hres h
  obtain ⟨items', h1', h4⟩ := C16_text_len' conv env pkgs S url lines r hs hk hni hres h
  rw [h1] at h1'
  cases h1'
  exact ⟨items, h1, h2, h3, h4⟩

/-- the hypotheses are satisfiable (accepted schema document with a base schema and a component, stock key types;
    import-free text; no includable resources) -/
example : ∃ S, Elab.elabSchema Elab.Example.env 1 Elab.Example.doc = .ok S ∧
    ∀ r, load Ex.conv Ex.env Ex.pkgs S none DischargeEx.lines [] = .ok r →
      ∃ items, treeOf Ex.env none DischargeEx.lines = .ok items ∧ r.handlers.length = nHandled S items := by
  obtain ⟨S, hS⟩ := DischargeEx.dis_ex_doc_accepted
  refine ⟨S, hS, fun r hr => ?_⟩
  obtain ⟨items, h1, _, _, h4⟩ := C16_end_to_end Elab.Example.env 1 _ S
    (by intro kt s r hs hr; exact Elab.stockConv_key_ne_nil kt s r hs hr) hS _ _ _ _ _ r
    DischargeEx.dis_ex_lines_noImport DischargeEx.dis_ex_res hr
  exact ⟨items, h1, h4⟩

end ZCV.Props.C16

/-! ## the general form: texts with `%import` lines, loaded with command-line overrides (C16 with C12 and C14) -/

namespace ZCV.Props.C16
open ZCV ZCV.Cfg ZCV.Conf ZCV.Call

/-- **The handler list is the post-order listing of the EDITED top-level items, in general.**  For every text (lines,
    `%define`s, `%include`s of any depth, `%import`s) that meets no `%import` inside a section and whose imports keep the
    schema of the load well-formed, every list of specifiers whose section-selecting components are basic keys, and key
    types of the schema `S` the load starts with idempotent: whenever the loader returns a configuration, the handler
    object returned with it holds `docHandlersI` (`ZCV/Spec/HandlersImport.lean`) of the top-level items of the text edited
    as the specifiers ask (`editI`, against `S`): for each top-level section in file order its post-order entries —
    listed, like its value, against the schema in force at its position —, then the document's own handler-bearing items
    in schema order with the values `denoteI` holds for those attributes, the schema-level handler with the
    configuration itself last.  The entries of overridden keys carry the override values (they are entries of the
    EDITED items). -/
theorem C16_handlers_postorder_general (conv : Conv) (env : Env) (pkgs : Str → Pkg) (S : Schema) (url : Option Str)
    (lines : List Str) (specs : List Str) (r : LoadResult)
    (hidem : KeyIdemOn conv S)
    (htop : importsAtTop env url lines)
    (hok : ∀ tops, treeOfI env url lines = .ok tops → importsOK pkgs S tops = true)
    (hovs : ∀ ovs, specs.mapM addOption = .ok ovs → OvsOK ovs)
    (h : load conv env pkgs S url lines specs = .ok r) :
    ∃ ovs tops tops', specs.mapM addOption = .ok ovs ∧ treeOfI env url lines = .ok tops ∧
      editI conv S tops ovs = .ok tops' ∧ denoteI conv S pkgs tops' = some r.value ∧
      r.handlers = docHandlersI conv S pkgs tops' := by
  obtain ⟨ovs, tops, tops', h1, h2, h3, h4, h5, _⟩ := load_ov_result conv env pkgs S url lines specs true (fun _ => hidem)
    htop hok hovs r h
  exact ⟨ovs, tops, tops', h1, h2, h3, h4, h5⟩

/-- the same with the supplied lines spelled with the normalised key (`editNormI`): no assumption on the key types -/
theorem C16_handlers_postorder_general_norm (conv : Conv) (env : Env) (pkgs : Str → Pkg) (S : Schema) (url : Option Str)
    (lines : List Str) (specs : List Str) (r : LoadResult)
    (htop : importsAtTop env url lines)
    (hok : ∀ tops, treeOfI env url lines = .ok tops → importsOK pkgs S tops = true)
    (hovs : ∀ ovs, specs.mapM addOption = .ok ovs → OvsOK ovs)
    (h : load conv env pkgs S url lines specs = .ok r) :
    ∃ ovs tops tops', specs.mapM addOption = .ok ovs ∧ treeOfI env url lines = .ok tops ∧
      editNormI conv S tops ovs = .ok tops' ∧ denoteI conv S pkgs tops' = some r.value ∧
      r.handlers = docHandlersI conv S pkgs tops' := by
  obtain ⟨ovs, tops, tops', h1, h2, h3, h4, h5, _⟩ := load_ov_result conv env pkgs S url lines specs false
    (fun h => by cases h) htop hok hovs r h
  exact ⟨ovs, tops, tops', h1, h2, h3, h4, h5⟩

/-- **No `%import` lines and no overrides, without `hkeys`**: the conclusion of `C16_text_handlers_postorder'`.  The proof is
    that of `C16_text_handlers_postorder`; it rests on `load_ok_loadTreeH` (`ImportOvFree`), which is derived from the theorem
    for texts with `%import` lines and overrides (`load_ov_result`): there `docHandlersI` is `docHandlers`. -/
theorem C16_text_handlers_postorder_from_general (conv : Conv) (env : Env) (pkgs : Str → Pkg) (s : Schema) (url : Option Str)
    (lines : List Str) (r : LoadResult) (hs : schemaOK s = true)
    (hni : ∀ l ∈ lines, NoImportLine l) (hres : ∀ u ls, env.res u = some ls → ∀ l ∈ ls, NoImportLine l)
    (h : load conv env pkgs s url lines [] = .ok r) :
    ∃ items, treeOf env url lines = .ok items ∧ denote conv s items = some r.value ∧
      r.handlers =
        handlersOf conv s s.top items ++ (match s.handler with | some h => [(h, r.value)] | none => []) := by
  obtain ⟨items, htree, hc, hl⟩ := load_ok_loadTreeH conv env pkgs s url lines hs hni hres r h
  obtain ⟨h1, h2⟩ := C16_accepted_handlers conv s items hs hc r.value r.handlers hl
  exact ⟨items, htree, h1, h2⟩

/-- **Calling the handler of such a load**: the theorems on calling the composite handler (`C16_call_exactly_once`,
    `C16_none_skipped`, `C16_all_or_nothing`, `C16_call_ok_iff`) hold for ANY handler list, hence for the list of a load
    with `%import` lines and overrides; e.g. a complete map of callables delivers every entry of `docHandlersI` of the
    edited items exactly once, in order. -/
theorem C16_general_call_exactly_once (conv : Conv) (env : Env) (pkgs : Str → Pkg) (S : Schema) (url : Option Str)
    (lines : List Str) (specs : List Str) (r : LoadResult)
    (hidem : KeyIdemOn conv S)
    (htop : importsAtTop env url lines)
    (hok : ∀ tops, treeOfI env url lines = .ok tops → importsOK pkgs S tops = true)
    (hovs : ∀ ovs, specs.mapM addOption = .ok ovs → OvsOK ovs)
    (h : load conv env pkgs S url lines specs = .ok r)
    (hm : HMap) (g : Str → Nat) (hv : Valid hm) (hn : ((keyed hm).map (·.1)).Nodup)
    (hc : ∀ e ∈ r.handlers, ∃ p ∈ hm, DT.basicKey p.1 = .ok e.1 ∧ p.2 = some (g e.1)) :
    ∃ ovs tops tops', specs.mapM addOption = .ok ovs ∧ treeOfI env url lines = .ok tops ∧
      editI conv S tops ovs = .ok tops' ∧
      callHandlers r.handlers hm = { err := none, log := (docHandlersI conv S pkgs tops').map fun e => (g e.1, e.2) } := by
  obtain ⟨ovs, tops, tops', h1, h2, h3, _, h5⟩ := C16_handlers_postorder_general conv env pkgs S url lines specs r hidem htop
    hok hovs h
  refine ⟨ovs, tops, tops', h1, h2, h3, ?_⟩
  rw [C16_call_exactly_once r.handlers hm g hv hn hc, h5]

/-- … and a map that misses one of the names, or supplies two names that normalise alike, calls NOTHING -/
theorem C16_general_all_or_nothing (r : LoadResult) (hm : HMap)
    (h : (∃ e ∈ r.handlers, ∀ p ∈ hm, DT.basicKey p.1 ≠ .ok e.1) ∨
         (∃ a p b q c n, hm = a ++ p :: (b ++ q :: c) ∧ DT.basicKey p.1 = .ok n ∧ DT.basicKey q.1 = .ok n)) :
    (callHandlers r.handlers hm).err.isSome = true ∧ (callHandlers r.handlers hm).log = [] :=
  C16_all_or_nothing r.handlers hm h

/-- **End to end**, from a schema DOCUMENT (hypotheses as in `C01_end_to_end_general`) -/
theorem C16_end_to_end_general (eenv : Elab.Env) (fuel : Nat) (doc : Elab.Node) (S : Schema)
    (hkey : ∀ (kt s r : Str), s ≠ [] → eenv.conv.key kt s = .ok r → r ≠ [])
    (hS : Elab.elabSchema eenv fuel doc = .ok S)
    (conv : Conv) (env : Env) (pkgs : Str → Pkg) (url : Option Str) (lines : List Str) (specs : List Str) (r : LoadResult)
    (hidem : KeyIdemOn conv S)
    (htop : importsAtTop env url lines)
    (hcomp : ∀ tops, treeOfI env url lines = .ok tops → compsOK pkgs S tops = true)
    (hovs : ∀ ovs, specs.mapM addOption = .ok ovs → OvsOK ovs)
    (h : load conv env pkgs S url lines specs = .ok r) :
    ∃ ovs tops tops', specs.mapM addOption = .ok ovs ∧ treeOfI env url lines = .ok tops ∧
      editI conv S tops ovs = .ok tops' ∧ denoteI conv S pkgs tops' = some r.value ∧
      r.handlers = docHandlersI conv S pkgs tops' :=
  C16_handlers_postorder_general conv env pkgs S url lines specs r hidem htop
    (fun tops ht => importsOK_of_compsOK pkgs tops S (ZCV.Props.C10.C10_elab_schemaOK eenv fuel doc S hkey hS) (hcomp tops ht))
    hovs h

/-- **non-vacuity**: in the world of `ZCV/Lemmas/ImportOvEx.lean` (handlers on the key `k` of both section types, on the
    slot and on the schema; text with a `%import` line, a section of the imported type and a section of a static type;
    an override into the latter and a top-level key override) the load is accepted and the theorem gives its handler
    list: `hk` of section `a` (value from the text), `hk` of section `b` (the OVERRIDE value), `hs` with both sections,
    `hall` with the configuration -/
example : ∃ r, load ExOv.conv ExOv.env ExOv.pkgs ExOv.schema none (ExOv.lines '1') ExOv.specsGood = .ok r ∧
    r.handlers = [("hk".toList, .str ['1']), ("hk".toList, .str ['2']),
                  ("hs".toList, .list [ExOv.vLeak '1', ExOv.vSt '2']), ("hall".toList, ExOv.vGood)] := by
  have hacc : ∃ r, load ExOv.conv ExOv.env ExOv.pkgs ExOv.schema none (ExOv.lines '1') ExOv.specsGood = .ok r := by
    have e := load_ov_eq_denoteI ExOv.conv ExOv.env ExOv.pkgs ExOv.schema none (ExOv.lines '1') ExOv.specsGood true
      (fun _ => ExOv.idem) ExOv.atTop1 ExOv.ok1 ExOv.ovsGood_ok
    rw [ExOv.split_good, ExOv.tree1] at e
    simp only [Cfg.toOption_ok, Option.bind_some] at e
    rw [show editBodyI ExOv.conv ExOv.schema true (ExOv.tops '1') ExOv.ovsGood = .ok ExOv.topsGood from ExOv.edit_good] at e
    simp only [Cfg.toOption_ok, Option.bind_some] at e
    rw [ExOv.denote_good] at e
    cases hl : load ExOv.conv ExOv.env ExOv.pkgs ExOv.schema none (ExOv.lines '1') ExOv.specsGood with
    | ok r => exact ⟨r, rfl⟩
    | error x => rw [hl] at e; cases e
  obtain ⟨r, hr⟩ := hacc
  refine ⟨r, hr, ?_⟩
  obtain ⟨ovs, tops, tops', h1, h2, h3, _, h5⟩ := C16_handlers_postorder_general ExOv.conv ExOv.env ExOv.pkgs ExOv.schema none
    (ExOv.lines '1') ExOv.specsGood r ExOv.idem ExOv.atTop1 ExOv.ok1 ExOv.ovsGood_ok hr
  rw [ExOv.split_good] at h1
  cases h1
  rw [ExOv.tree1] at h2
  cases h2
  rw [ExOv.edit_good] at h3
  cases h3
  rw [h5, ExOv.handlers_good]

end ZCV.Props.C16
