import ZCV.Lemmas.CodeEqDatatypes
import ZCV.Lemmas.Datatypes2IntSpace
import ZCV.Lemmas.Datatypes2Octet
import ZCV.Lemmas.Datatypes2V6
import ZCV.Lemmas.DatatypesHost
/-!
# C09 — every standard datatype is a total function honouring its documented contract

Outcomes are `Except ConvErr α`: a value, `ValueError`, timedelta's `TypeError`, or `.other`; `C09_total` / `C09_total_all`
prove that `.other` never comes from a stock datatype.  Each theorem below says: the model of the code — through the patterns, word tuples, bounds and
suffix tables *generated from the source* — computes exactly the documented contract, for every string.

From `C09_ipaddrOrHostname_pattern` on the file covers the remaining stock datatypes: `ipaddr-or-hostname`
(the pattern of the running module with `rx.match` + "consumed everything", then `inet_pton`), `integer` and `float` (grammars of what
Python's `int`/`float` accept, `DTSpec.IntLit` / `DTSpec.FloatLit`), `string-list` (`DTSpec.Words`), totality of the
whole stock table and idempotence of the key types.  `locale` and the four `existing-*` datatypes are not part of
`stockVal` (see `C09_unmodelled`); they, and `timedelta`, are in the complete table `Cfg.stockValH` with the host as a
parameter: section "The six host-dependent datatypes; the complete table" (`C09_total_all`).  `timedelta` has its own model (`DT.timedelta`,
`ZCV/Model/Timedelta.lean`) and contract (`DTSpec.IsTimedelta`): section "timedelta".
The section "IPv6 address text" replaces the algorithmic definition of "valid IPv6 address" (`DT.pton6`, glibc's `inet_pton`)
by the declarative RFC 4291 §2.2 text grammar `DTSpec.Inet6Text`.
Then: the contracts restated for the translation of the Python source (`C09_code_*`); the white space `int()` / `float()`
skip against `str.isspace` (`DTSpec.AllIntSpace`, `stripInt`, used from `C09_integer_spec` on, are explained there);
`timedelta` for the translated code.
-/
namespace ZCV.Props.C09
open ZCV

/-- `basic-key` accepts exactly a letter followed by letters, digits, `-`, `.`, `_`, and lower-cases it. -/
theorem C09_basicKey_spec (s : Str) : DT.basicKey s = DTSpec.basicKey s := DT.basicKey_eq_spec s
/-- `identifier` accepts exactly the ASCII identifiers and returns them unchanged. -/
theorem C09_identifier_spec (s : Str) : DT.identifier s = DTSpec.identifier s := DT.identifier_eq_spec s
/-- `dotted-name` accepts exactly one or more identifiers separated by periods. -/
theorem C09_dottedName_spec (s : Str) : DT.dottedName s = DTSpec.dottedName s := DT.dottedName_eq_spec s
/-- `dotted-suffix` accepts exactly a dotted name, possibly prefixed by a period. -/
theorem C09_dottedSuffix_spec (s : Str) : DT.dottedSuffix s = DTSpec.dottedSuffix s := DT.dottedSuffix_eq_spec s
/-- `boolean` accepts exactly yes/true/on and no/false/off in any letter case. -/
theorem C09_boolean_spec (s : Str) : DT.asBoolean s = DTSpec.boolean s := DT.asBoolean_eq_spec s
/-- `port-number` yields an integer in 0..65535 and rejects everything else. -/
theorem C09_portNumber_spec (s : Str) : DT.portNumber s = DTSpec.portNumber s := DT.portNumber_eq_spec s
/-- `byte-size` multiplies an integer by the case-insensitive suffix KB/MB/GB (none: 1). -/
theorem C09_byteSize_spec (s : Str) : DT.byteSize s = DTSpec.byteSize s := DT.byteSize_eq_spec s
/-- `time-interval` multiplies an integer by the case-insensitive suffix s/m/h/d (none: 1). -/
theorem C09_timeInterval_spec (s : Str) : DT.timeInterval s = DTSpec.timeInterval s := DT.timeInterval_eq_spec s
/-- The `inet-address` family splits host and port with the IPv6 bracket rule, lower-cases the host and supplies
    the default host `d`. -/
theorem C09_inetAddress_spec (d s : Str) : DT.inetAddress d s = DTSpec.inetAddress d s := DT.inetAddress_eq_spec d s
/-- `socket-address` classifies UNIX paths (containing `/`), IPv6 (host containing `:`) and IPv4. -/
theorem C09_socketAddress_spec (d s : Str) :
    (DT.socketAddress d s).map (fun p => (String.ofList (DT.familyStr p.1), p.2)) = DTSpec.socketFamily d s :=
  DT.socketAddress_eq_spec d s
theorem C09_basicKey_idempotent (s r : Str) (h : DT.basicKey s = .ok r) : DT.basicKey r = .ok r :=
  DT.basicKey_idempotent s r h
theorem C09_identifier_idempotent (s r : Str) (h : DT.identifier s = .ok r) : DT.identifier r = .ok r :=
  DT.identifier_idempotent s r h

attribute [local instance] DT.exceptDecEq

/-! ## ipaddr-or-hostname -/

/-- The regular-expression side of `ipaddr-or-hostname`, for ALL strings: the live pattern (used as
    `m = rx.match(v); m and m.group() == v`, i.e. the FIRST match in backtracking order must consume everything)
    accepts exactly a dotted quad, or a text over `[0-9A-Fa-f:.]` with a colon after its first character, or a host
    name `[A-Za-z_][-A-Za-z0-9_.]*[-A-Za-z0-9_]`. -/
theorem C09_ipaddrOrHostname_pattern (s : Str) :
    Rx.matchesWhole Gen.ipaddrRx s = (DTSpec.isDottedQuad s || DT.dt2V6Shape s || DTSpec.isHostname s) :=
  DT.dt2_ipaddr_matches s

/-- `ipaddr-or-hostname` computes exactly its documented contract, for every string: a dotted quad, a host name, or
    a text over `[0-9A-Fa-f:.]` containing a colon that `inet_pton(AF_INET6, ·)` (as re-implemented in `ZCV.Inet`)
    accepts once lower-cased — returned lower-cased; anything else is a `ValueError`. -/
theorem C09_ipaddrOrHostname_spec (s : Str) : DT.ipaddrOrHostname s = DTSpec.ipaddrOrHostname s :=
  DT.dt2_ipaddrOrHostname_eq_spec s

/-- Soundness, readable form: whatever `ipaddr-or-hostname` accepts has one of the three documented shapes, and
    the result is the input lower-cased. -/
theorem C09_ipaddrOrHostname_sound (s r : Str) (h : DT.ipaddrOrHostname s = .ok r) :
    r = lower s ∧ (DTSpec.isDottedQuad s = true ∨ DTSpec.isHostname s = true ∨
      (s.all DTSpec.isV6Char = true ∧ s.contains ':' = true ∧ DT.pton6 (lower s) = true)) := by
  rw [C09_ipaddrOrHostname_spec] at h
  exact (DT.dt2_spec_ok_iff s r).mp h

/-- Completeness: every dotted quad, every host name and every valid IPv6 address is accepted (and lower-cased).
    No side condition on the IPv6 branch: what `inet_pton` accepts is over `[0-9A-Fa-f:.]` and contains a colon,
    `lower` creates no such character from a non-ASCII one, and `inet_pton` ignores the case of hex letters. -/
theorem C09_ipaddrOrHostname_complete (s : Str)
    (h : DTSpec.isDottedQuad s = true ∨ DTSpec.isHostname s = true ∨ DT.pton6 s = true) :
    DT.ipaddrOrHostname s = .ok (lower s) :=
  (DT.dt2_ipaddrOrHostname_exact' s _).mpr ⟨rfl, h⟩

/-- The property as stated: `ipaddr-or-hostname` accepts EXACTLY dotted-quad IPv4, valid IPv6 addresses and host
    names, lower-casing them … -/
theorem C09_ipaddrOrHostname_exact (s r : Str) :
    DT.ipaddrOrHostname s = .ok r ↔
      r = lower s ∧ (DTSpec.isDottedQuad s = true ∨ DTSpec.isHostname s = true ∨ DT.pton6 s = true) :=
  DT.dt2_ipaddrOrHostname_exact' s r

/-- … and raises `ValueError` on every other string. -/
theorem C09_ipaddrOrHostname_reject (s : Str) :
    DT.ipaddrOrHostname s = .error .valueError ↔
      ¬ (DTSpec.isDottedQuad s = true ∨ DTSpec.isHostname s = true ∨ DT.pton6 s = true) :=
  DT.dt2_ipaddrOrHostname_exact_err' s

/-- Validity as an IPv6 address does not depend on letter case: the text and its lower-casing (the form the code
    hands to `inet_pton`) get the same verdict. -/
theorem C09_inet6_case_insensitive (s : Str) : DT.pton6 (lower s) = true ↔ DT.pton6 s = true :=
  DT.dt2_pton6_lower_iff s

/-- A valid IPv6 address (as `inet_pton` sees it) is a text over `[0-9A-Fa-f:.]` containing a colon. -/
theorem C09_inet6_alphabet (s : Str) (h : DT.pton6 s = true) : s.all DTSpec.isV6Char = true ∧ ':' ∈ s :=
  DT.dt2_pton6_shape s h

/-- The fields of an accepted dotted quad: exactly four, each written with one to three `\d` digits (any Unicode
    decimal-digit script) and denoting a number 0..255. -/
theorem C09_dottedQuad_fields (s : Str) (h : DTSpec.isDottedQuad s = true) :
    (DTSpec.splitDots s).length = 4 ∧
    ∀ o ∈ DTSpec.splitDots s, 1 ≤ o.length ∧ o.length ≤ 3 ∧ ∃ n, pyNat o = some n ∧ n ≤ 255 := by
  simp only [DTSpec.isDottedQuad, Bool.and_eq_true, beq_iff_eq, List.all_eq_true] at h
  exact ⟨h.1, fun o ho => DT.dt2_octet_range o (h.2 o ho)⟩

/-- Conversely, over ASCII digits: four fields, each a number 0..255 written with one to three digits, form a
    dotted quad.  (With non-ASCII digits the pattern `[01]?\d\d|2[0-4]\d|25[0-5]` admits fewer three-digit fields.) -/
theorem C09_dottedQuad_ascii (s : Str) (hl : (DTSpec.splitDots s).length = 4)
    (h : ∀ o ∈ DTSpec.splitDots s, o.all isAsciiDigit = true ∧
      1 ≤ o.length ∧ o.length ≤ 3 ∧ ∃ n, pyNat o = some n ∧ n ≤ 255) :
    DTSpec.isDottedQuad s = true := by
  simp only [DTSpec.isDottedQuad, Bool.and_eq_true, beq_iff_eq, List.all_eq_true]
  exact ⟨hl, fun o ho => DT.dt2_octet_ascii o (h o ho).1 (h o ho).2⟩

/-- `ipaddr-or-hostname` is idempotent: converting a converted value returns it unchanged (what a key type needs). -/
theorem C09_ipaddrOrHostname_idempotent (s r : Str) (h : DT.ipaddrOrHostname s = .ok r) :
    DT.ipaddrOrHostname r = .ok r :=
  DT.dt2_ipaddrOrHostname_idempotent s r h

example : DT.ipaddrOrHostname "192.168.0.255".toList = .ok "192.168.0.255".toList := by
  rw [C09_ipaddrOrHostname_spec]; char_lits; decide +kernel
example : DT.ipaddrOrHostname "Host-1.Example".toList = .ok "host-1.example".toList := by
  rw [C09_ipaddrOrHostname_spec]; char_lits; decide +kernel
example : DT.ipaddrOrHostname "FE80::1".toList = .ok "fe80::1".toList := by
  rw [C09_ipaddrOrHostname_spec]; char_lits; decide +kernel
example : DT.ipaddrOrHostname "::ffff:1.2.3.4".toList = .ok "::ffff:1.2.3.4".toList := by
  rw [C09_ipaddrOrHostname_spec]; char_lits; decide +kernel
example : DT.ipaddrOrHostname "1.2.3.256".toList = .error .valueError := by
  rw [C09_ipaddrOrHostname_spec]; char_lits; decide +kernel
example : DT.ipaddrOrHostname "1::2::3".toList = .error .valueError := by
  rw [C09_ipaddrOrHostname_spec]; char_lits; decide +kernel
example : DT.ipaddrOrHostname "1.2.3.4\n".toList = .error .valueError := by
  rw [C09_ipaddrOrHostname_spec]; char_lits; decide +kernel

/-! ## integer -/

/-- `integer` accepts exactly the integer literals — optional surrounding whitespace (the white space `int()` skips:
    `str.isspace` characters other than the separator controls U+001C–U+001F, `DTSpec.AllIntSpace`), an optional sign,
    digits of any Unicode decimal-digit script with single underscores between digits — and returns the decimal value. -/
theorem C09_integer_spec (s : Str) (n : Int) : DT.integer s = .ok n ↔ DTSpec.IntLit s n := by
  rw [← DT.dt2_pyInt_iff]
  unfold DT.integer
  cases pyInt s with
  | none => simp
  | some k => simp

/-- …and rejects everything else with `ValueError`. -/
theorem C09_integer_reject (s : Str) : DT.integer s = .error .valueError ↔ ¬ ∃ n, DTSpec.IntLit s n := by
  constructor
  · rintro h ⟨n, hn⟩
    rw [(C09_integer_spec s n).mpr hn] at h; cases h
  · intro h
    rcases DT.dt2_integer_spec s with ⟨n, hn, _⟩ | ⟨_, he⟩
    · exact absurd ⟨n, hn⟩ h
    · exact he

/-- An integer literal denotes one number. -/
theorem C09_integer_unique (s : Str) (n n' : Int) (h : DTSpec.IntLit s n) (h' : DTSpec.IntLit s n') : n = n' := by
  have h1 := (DT.dt2_pyInt_iff s n).mpr h
  have h2 := (DT.dt2_pyInt_iff s n').mpr h'
  rw [h1] at h2; injection h2

/-- `integer` returns a value or raises `ValueError`; nothing else. -/
theorem C09_integer_total (s : Str) : (∃ n, DT.integer s = .ok n) ∨ DT.integer s = .error .valueError :=
  DT.dt2_integer_total s

example : DTSpec.IntLit " +1_000\n".toList 1000 := (C09_integer_spec _ _).mp (by char_lits; decide +kernel)
example : DTSpec.IntLit "-٤٢".toList (-42) := (C09_integer_spec _ _).mp (by char_lits; decide +kernel)
example : DT.integer "1__0".toList = .error .valueError := by char_lits; decide +kernel
example : DT.integer "_1".toList = .error .valueError := by char_lits; decide +kernel
example : DT.integer "- 1".toList = .error .valueError := by char_lits; decide +kernel

/-! ## string-list -/

/-- `string-list` is `str.split()`: its result is THE decomposition of the text into whitespace-separated words —
    the maximal runs of non-whitespace characters, in order. -/
theorem C09_stringList_spec (s : Str) (ws : List Str) : DTSpec.Words s ws ↔ DT.stringList s = ws :=
  DT.dt2_splitWS_iff s ws

/-- No element of a `string-list` is empty or contains whitespace. -/
theorem C09_stringList_elems (s : Str) : ∀ w ∈ DT.stringList s, w ≠ [] ∧ ∀ c ∈ w, pySpace c = false :=
  DT.dt2_words_elems s _ ((C09_stringList_spec s _).mpr rfl)

/-- Concatenating the elements gives the text with all whitespace removed. -/
theorem C09_stringList_concat (s : Str) : (DT.stringList s).flatten = s.filter (fun c => !pySpace c) :=
  DT.dt2_words_flatten s _ ((C09_stringList_spec s _).mpr rfl)

example : DTSpec.Words "  ab\tc \n".toList ["ab".toList, "c".toList] := (C09_stringList_spec _ _).mpr (by char_lits; decide +kernel)
example : DT.stringList " \t ".toList = [] := by char_lits; decide +kernel

/-! ## float (acceptance) -/

/-- `float` accepts exactly the float literals of the grammar `DTSpec.FloatLit` — optional surrounding whitespace,
    an optional sign, then `inf`/`infinity`/`nan` in any letter case or a decimal number (digits with single
    underscores, optional fraction, optional exponent) — and hands the text without the white space `float` skips
    (`stripInt`: `str.isspace` minus U+001C–U+001F) to `float`. -/
theorem C09_float_accepts (s : Str) : DT.floatConv s = .ok (.float (stripInt s)) ↔ DTSpec.FloatLit s := by
  rw [← DT.dt2_floatOk_iff]
  unfold DT.floatConv
  cases DT.floatOk s <;> simp

/-- …and rejects everything else with `ValueError`. -/
theorem C09_float_reject (s : Str) : DT.floatConv s = .error .valueError ↔ ¬ DTSpec.FloatLit s := by
  rw [← DT.dt2_floatOk_iff]
  unfold DT.floatConv
  cases DT.floatOk s <;> simp

/-- Every text `integer` accepts, `float` accepts. -/
theorem C09_float_accepts_integers (s : Str) (n : Int) (h : DT.integer s = .ok n) :
    DT.floatConv s = .ok (.float (stripInt s)) :=
  (C09_float_accepts s).mpr (DT.dt2_intLit_floatLit s n ((C09_integer_spec s n).mp h))

/-- The special words, in any letter case, with an optional sign and surrounding whitespace. -/
theorem C09_float_accepts_words (pre sg t post : Str) (hpre : DTSpec.AllIntSpace pre) (hpost : DTSpec.AllIntSpace post)
    (hsg : DTSpec.IsSign sg)
    (ht : asciiLower t = "inf".toList ∨ asciiLower t = "infinity".toList ∨ asciiLower t = "nan".toList) :
    DT.floatConv (pre ++ sg ++ t ++ post) = .ok (.float (stripInt (pre ++ sg ++ t ++ post))) :=
  (C09_float_accepts _).mpr ⟨pre, sg, t, post, rfl, hpre, hpost, hsg, Or.inl ht⟩

/-- The empty string (and any all-whitespace string, whichever white space: `str.isspace`) is rejected. -/
theorem C09_float_rejects_blank (s : Str) (h : DTSpec.AllSpace s) : DT.floatConv s = .error .valueError := by
  rw [C09_float_reject]
  intro hl
  obtain ⟨pre, mid, post, rfl, _, _, ⟨c, t, rfl, hc⟩, _⟩ := DT.dt2_floatLit_sandwich _ hl
  have := h c (by simp)
  rw [hc] at this; cases this

example : DT.floatConv [] = .error .valueError := C09_float_rejects_blank [] (fun c hc => by cases hc)

/-- `float` returns a value or raises `ValueError`; nothing else. -/
theorem C09_float_total (s : Str) : (∃ v, DT.floatConv s = .ok v) ∨ DT.floatConv s = .error .valueError :=
  DT.dt2_float_total s

example : DTSpec.FloatLit " -1_0.5e+3 ".toList := (DT.dt2_floatOk_iff _).mp (by char_lits; decide +kernel)
example : DTSpec.FloatLit "+InFiNiTy".toList := (DT.dt2_floatOk_iff _).mp (by char_lits; decide +kernel)
example : DTSpec.FloatLit ".5".toList := (DT.dt2_floatOk_iff _).mp (by char_lits; decide +kernel)
example : DTSpec.FloatLit "5.".toList := (DT.dt2_floatOk_iff _).mp (by char_lits; decide +kernel)
example : ¬ DTSpec.FloatLit "".toList := DT.dt2_not_floatLit _ (by char_lits; decide +kernel)
example : ¬ DTSpec.FloatLit ".".toList := DT.dt2_not_floatLit _ (by char_lits; decide +kernel)
example : ¬ DTSpec.FloatLit "1._5".toList := DT.dt2_not_floatLit _ (by char_lits; decide +kernel)
example : ¬ DTSpec.FloatLit "1e".toList := DT.dt2_not_floatLit _ (by char_lits; decide +kernel)
example : ¬ DTSpec.FloatLit "+-1".toList := DT.dt2_not_floatLit _ (by char_lits; decide +kernel)

/-! ## the whole stock table -/

/-- The stock datatype names split into the twenty that the value-conversion table of the model (`stockVal`)
    implements and the six it does not (`locale`, the four `existing-*`, `timedelta`). -/
theorem C09_unmodelled :
    Gen.stockNames.filter (fun d => DT.dt2Modelled.contains d) = DT.dt2Modelled ∧
    Gen.stockNames.filter (fun d => !DT.dt2Modelled.contains d) =
      ["locale".toList, "existing-directory".toList, "existing-path".toList, "existing-file".toList,
       "existing-dirpath".toList, "timedelta".toList] ∧
    ∀ dt ∈ DT.dt2Unmodelled, ∀ s, Cfg.stockVal dt s = .error (.other "unknown-datatype".toList) :=
  ⟨DT.dt2_stockNames_split.1, DT.dt2_stockNames_split.2, DT.dt2_unmodelled_unknown⟩

/-- Totality: for every stock datatype name other than the six the model does not implement, and every string, the
    conversion returns a value or raises `ValueError` — never any other exception.  (`TypeError` can only come from
    `timedelta`, which is not in `stockVal` but in `Cfg.stockValH`; for its own model see `C09_timedelta_total`.) -/
theorem C09_total (dt : Str) (h : dt ∈ Gen.stockNames)
    (hm : dt ∉ ["locale".toList, "existing-directory".toList, "existing-path".toList, "existing-file".toList,
       "existing-dirpath".toList, "timedelta".toList]) (s : Str) :
    (∃ v, Cfg.stockVal dt s = .ok v) ∨ Cfg.stockVal dt s = .error .valueError :=
  DT.dt2_stockVal_total dt (DT.dt2_modelled_of_stock dt h hm) s

example : "ipaddr-or-hostname".toList ∈ Gen.stockNames ∧ "ipaddr-or-hostname".toList ∉ DT.dt2Unmodelled :=
  have hm : "ipaddr-or-hostname".toList ∈ DT.dt2Modelled := by simp only [DT.dt2Modelled, List.mem_cons, true_or, or_true]
  ⟨DT.dt2_modelled_stock _ hm, fun hu => (DT.dt2_unmodelled_stock _ hu).2 hm⟩

/-- The four key types of the model's key-conversion table (`basic-key`, `identifier`, `ipaddr-or-hostname`,
    `string`) are idempotent: converting a converted key returns it unchanged.  (The hypothesis `h` is not needed: an unknown
    key type converts nothing, `DT.dt2_stockKey_idempotent`.) -/
theorem C09_keytypes_idempotent (kt : Str)
    (h : kt ∈ ["basic-key".toList, "identifier".toList, "ipaddr-or-hostname".toList, "string".toList])
    (s r : Str) (hk : Cfg.stockKey kt s = .ok r) : Cfg.stockKey kt r = .ok r :=
  DT.dt2_stockKey_idempotent kt s r hk

/-- The same, with the key type given the way schema lemmas state it (`String.ofList t.keytype = "…"`). -/
theorem C09_keytypes_idempotent' (kt : Str)
    (h : String.ofList kt = "basic-key" ∨ String.ofList kt = "identifier" ∨
      String.ofList kt = "ipaddr-or-hostname" ∨ String.ofList kt = "string")
    (s r : Str) (hk : Cfg.stockKey kt s = .ok r) : Cfg.stockKey kt r = .ok r :=
  DT.dt2_stockKey_idempotent kt s r hk

/-- …and these are all the key types the table knows. -/
theorem C09_keytypes_all (kt : Str)
    (h : kt ∉ ["basic-key".toList, "identifier".toList, "ipaddr-or-hostname".toList, "string".toList]) (s : Str) :
    Cfg.stockKey kt s = .error (.other "unknown-keytype".toList) :=
  DT.dt2_stockKey_unknown kt h s

example : Cfg.stockKey "basic-key".toList "Ab-C".toList = .ok "ab-c".toList := by
  simp only [Cfg.stockKey, String.ofList_toList, DT.basicKey_eq_spec]
  char_lits; decide +kernel

/-! ## timedelta -/

/-- `timedelta` computes exactly its contract, for every string and every outcome: the text is cut into
    whitespace-separated words (`str.split()`); if every word is a float literal followed by one of the unit letters
    `w d h m s` (lower case only), `datetime.timedelta` is called with, for each unit, the amount of the LAST word
    carrying that letter (`0` if none); otherwise the first ill-formed word decides — `ValueError` if it is not a float
    literal followed by one more character, `TypeError` if that character is not a unit letter.
    (The value is symbolic; what the `datetime.timedelta` constructor then does with the numbers — it refuses NaN,
    infinities and more than 999999999 days, all reported as `ValueError` — is `DT.timedeltaChecked`'s parameter.) -/
theorem C09_timedelta_spec (s : Str) (r : Except ConvErr DT.TimedeltaVal) :
    DT.timedelta s = r ↔ DTSpec.IsTimedelta s r :=
  DT.td_timedelta_spec s r

/-- Acceptance, spelled out: `timedelta` gets as far as building the value `v` exactly when the text is a sequence of
    whitespace-separated `<float-literal><unit>` parts, and `v` holds the last amount given for each unit. -/
theorem C09_timedelta_accepts (s : Str) (v : DT.TimedeltaVal) :
    DT.timedelta s = .ok v ↔
      ∃ parts : List DTSpec.TdPart, DTSpec.Words s (parts.map DTSpec.tdText) ∧ (∀ p ∈ parts, DTSpec.TdGood p) ∧
        v = DTSpec.tdValue parts := by
  rw [C09_timedelta_spec]
  constructor
  · intro h
    cases h with
    | ok parts hw hp => exact ⟨parts, hw, hp, rfl⟩
  · rintro ⟨parts, hw, hp, rfl⟩
    exact DTSpec.IsTimedelta.ok parts hw hp

/-- `timedelta` is the one standard datatype that reports a malformed value as `TypeError`: this happens exactly
    when the first word that is not a well-formed part is a float literal followed by a character that is not one of
    `w d h m s` (an upper-case `W`, a digit as in `12`, …). -/
theorem C09_timedelta_unknown_unit_is_TypeError (s : Str) :
    DT.timedelta s = .error .typeError ↔
      ∃ (good : List DTSpec.TdPart) (lit : Str) (u : Char) (rest : List Str),
        DTSpec.Words s (good.map DTSpec.tdText ++ (lit ++ [u]) :: rest) ∧ (∀ p ∈ good, DTSpec.TdGood p) ∧
        DTSpec.FloatLit lit ∧ u ∉ DTSpec.tdUnits := by
  rw [C09_timedelta_spec]
  constructor
  · intro h
    cases h with
    | badUnit good lit u rest hw hp h1 h2 => exact ⟨good, lit, u, rest, hw, hp, h1, h2⟩
  · rintro ⟨good, lit, u, rest, hw, hp, h1, h2⟩
    exact DTSpec.IsTimedelta.badUnit good lit u rest hw hp h1 h2

/-- …and the loop over the parts ends in `ValueError` exactly when the first word that is not a well-formed part is
    not even a float literal followed by one character (`w`, `1`, `1.5.2s`, `1e5`, …). -/
theorem C09_timedelta_bad_amount_is_ValueError (s : Str) :
    DT.timedelta s = .error .valueError ↔
      ∃ (good : List DTSpec.TdPart) (w : Str) (rest : List Str),
        DTSpec.Words s (good.map DTSpec.tdText ++ w :: rest) ∧ (∀ p ∈ good, DTSpec.TdGood p) ∧
        ¬ ∃ lit u, w = lit ++ [u] ∧ DTSpec.FloatLit lit := by
  rw [C09_timedelta_spec]
  constructor
  · intro h
    cases h with
    | badAmount good w rest hw hp hb => exact ⟨good, w, rest, hw, hp, hb⟩
  · rintro ⟨good, w, rest, hw, hp, hb⟩
    exact DTSpec.IsTimedelta.badAmount good w rest hw hp hb

/-- A single part, readable form: a float literal followed by a unit letter is accepted, the same literal followed by
    any other (non-blank) character is a `TypeError`. -/
theorem C09_timedelta_single (lit : Str) (u : Char) (hl : DTSpec.FloatLit lit) (hn : DTSpec.NoSpace (lit ++ [u])) :
    (u ∈ DTSpec.tdUnits → DT.timedelta (lit ++ [u]) = .ok (DTSpec.tdValue [(lit, u)])) ∧
    (u ∉ DTSpec.tdUnits → DT.timedelta (lit ++ [u]) = .error .typeError) := by
  have hw : DTSpec.Words (lit ++ [u]) [lit ++ [u]] := by
    have := DTSpec.Words.word [] (lit ++ [u]) [] [] (fun c hc => by cases hc) (by simp) hn (Or.inl rfl)
      (DTSpec.Words.nil [] (fun c hc => by cases hc))
    simpa using this
  constructor
  · intro hu
    exact (C09_timedelta_accepts _ _).mpr ⟨[(lit, u)], hw, fun p hp => by
      rw [List.mem_singleton] at hp; subst hp; exact ⟨hl, hu⟩, rfl⟩
  · intro hu
    exact (C09_timedelta_unknown_unit_is_TypeError _).mpr ⟨[], lit, u, [], hw, (fun p hp => by cases hp), hl, hu⟩

/-- Totality: `timedelta` builds its value, or raises `ValueError`, or raises `TypeError`; nothing else (in particular
    the `IndexError` of `part[-1]` on an empty part cannot happen: `float('')` has already failed). -/
theorem C09_timedelta_total (s : Str) :
    (∃ v, DT.timedelta s = .ok v) ∨ DT.timedelta s = .error .valueError ∨ DT.timedelta s = .error .typeError :=
  DT.td_isTimedelta_total s _ ((C09_timedelta_spec s _).mp rfl)

/-- …and this stays true for the whole function, whatever the numeric verdict `fits` of the `datetime.timedelta`
    constructor: the code turns the constructor's `OverflowError` into `ValueError`, so an out-of-range, infinite or NaN
    amount is one more `ValueError`. -/
theorem C09_timedelta_checked_total (fits : DT.TimedeltaVal → Bool) (s : Str) :
    (∃ v, DT.timedeltaChecked fits s = .ok v ∧ DT.timedelta s = .ok v ∧ fits v = true) ∨
    DT.timedeltaChecked fits s = .error .valueError ∨ DT.timedeltaChecked fits s = .error .typeError :=
  DT.td_checked_total fits s

/-- The amounts are never added up: with two parts for the same unit the later one wins. -/
theorem C09_timedelta_last_wins (u : Char) (l1 l2 : Str) (ps : List DTSpec.TdPart)
    (h : ∀ p ∈ ps, p.2 ≠ u) : DTSpec.tdAmount u ((l1, u) :: (l2, u) :: ps) = some l2 := by
  rw [DT.td_amount_cons, DT.td_amount_cons]
  have : DTSpec.tdAmount u ps = none := by
    unfold DTSpec.tdAmount
    rw [Option.map_eq_none_iff, List.find?_eq_none]
    intro p hp
    simpa using h p (List.mem_reverse.mp hp)
  simp [this]

example : DT.timedelta "4w 2.5d 7h 12m 0.001s".toList =
    .ok { weeks := some "4".toList, days := some "2.5".toList, hours := some "7".toList,
          minutes := some "12".toList, seconds := some "0.001".toList } := by char_lits; decide +kernel
example : DT.timedelta " \t-1e3s\n+.5w  infd ".toList =
    .ok { weeks := some "+.5".toList, days := some "inf".toList, seconds := some "-1e3".toList } := by char_lits; decide +kernel
example : DT.timedelta "1w 2w".toList = .ok { weeks := some "2".toList } := by char_lits; decide +kernel
example : DT.timedelta [] = .ok {} := by char_lits; decide +kernel
example : DT.timedelta "1W".toList = .error .typeError := by char_lits; decide +kernel
example : DT.timedelta "12".toList = .error .typeError := by char_lits; decide +kernel
example : DT.timedelta "1".toList = .error .valueError := by char_lits; decide +kernel
example : DT.timedelta "w".toList = .error .valueError := by char_lits; decide +kernel
example : DT.timedelta "1 w".toList = .error .valueError := by char_lits; decide +kernel
example : DT.timedelta "1x 2".toList = .error .typeError := by char_lits; decide +kernel
example : DT.timedelta "2 1x".toList = .error .valueError := by char_lits; decide +kernel
example : DTSpec.IsTimedelta "1W".toList (.error .typeError) := (C09_timedelta_spec _ _).mp (by char_lits; decide +kernel)

/-! ## IPv6 address text: the algorithm is the RFC 4291 grammar -/

/-- glibc's `inet_pton(AF_INET6, ·)` — the definition of "valid IPv6 address" used by `ipaddr-or-hostname` — accepts
    exactly the texts of RFC 4291 §2.2: eight groups of one to four hexadecimal digits separated by single colons; or,
    with one `::` standing for at least one group of zeros, at most seven groups in all (the `::` may be leading,
    trailing, or the whole text); where the last two groups may be written as a dotted quad of canonical decimal
    numbers 0..255.  For every string. -/
theorem C09_inet6_spec (s : Str) : DT.pton6 s = true ↔ DTSpec.Inet6Text s := DT.v6_pton6_iff s

/-- The embedded IPv4 tail (glibc's `inet_pton4`): exactly four fields separated by periods, each made of ASCII digits
    without a leading zero and denoting at most 255. -/
theorem C09_inet4_tail_spec (s : Str) : DT.pton4 s = true ↔ DTSpec.V4Text s := DT.v6_pton4_iff s

/-- Such a field has one to three digits. -/
theorem C09_inet4_field_length (o : Str) (h : DTSpec.DecOctet o) : 1 ≤ o.length ∧ o.length ≤ 3 :=
  ⟨List.length_pos_iff.mpr h.1, DT.v6_decOctet_length o h⟩

/-- `ipaddr-or-hostname`, with the IPv6 side stated by the grammar: it accepts exactly dotted-quad IPv4 addresses, host
    names and RFC 4291 IPv6 texts, lower-casing them … -/
theorem C09_ipaddrOrHostname_grammar (s r : Str) :
    DT.ipaddrOrHostname s = .ok r ↔
      r = lower s ∧ (DTSpec.isDottedQuad s = true ∨ DTSpec.isHostname s = true ∨ DTSpec.Inet6Text s) := by
  rw [C09_ipaddrOrHostname_exact, C09_inet6_spec]

/-- … and raises `ValueError` on every other string. -/
theorem C09_ipaddrOrHostname_grammar_reject (s : Str) :
    DT.ipaddrOrHostname s = .error .valueError ↔
      ¬ (DTSpec.isDottedQuad s = true ∨ DTSpec.isHostname s = true ∨ DTSpec.Inet6Text s) := by
  rw [C09_ipaddrOrHostname_reject, C09_inet6_spec]

/-- The uncompressed form: any eight hex groups joined by colons are an address. -/
theorem C09_inet6_eight_groups (gs : List Str) (hl : gs.length = 8) (h : ∀ g ∈ gs, DTSpec.HexGroup g) :
    DT.pton6 (DTSpec.joinColon gs) = true :=
  (C09_inet6_spec _).mpr (Or.inl ⟨gs, ⟨gs, h, Or.inl ⟨rfl, hl.symm⟩⟩, rfl⟩)

/-- The compressed form: hex groups, `::`, hex groups — at most seven groups in all — are an address. -/
theorem C09_inet6_compressed (ls rs : List Str) (hl : ls.length + rs.length ≤ 7)
    (h1 : ∀ g ∈ ls, DTSpec.HexGroup g) (h2 : ∀ g ∈ rs, DTSpec.HexGroup g) :
    DT.pton6 (DTSpec.joinColon ls ++ ':' :: ':' :: DTSpec.joinColon rs) = true :=
  (C09_inet6_spec _).mpr (Or.inr ⟨ls, rs, rs.length, h1, ⟨rs, h2, Or.inl ⟨rfl, rfl⟩⟩, hl, rfl⟩)

example : DTSpec.Inet6Text "::".toList := (C09_inet6_spec _).mp (by char_lits; decide +kernel)
example : DTSpec.Inet6Text "1::".toList := (C09_inet6_spec _).mp (by char_lits; decide +kernel)
example : DTSpec.Inet6Text "::1.2.3.4".toList := (C09_inet6_spec _).mp (by char_lits; decide +kernel)
example : DTSpec.Inet6Text "fe80::AbCd:1".toList := (C09_inet6_spec _).mp (by char_lits; decide +kernel)
example : DTSpec.Inet6Text "1:2:3:4:5:6:7:8".toList := (C09_inet6_spec _).mp (by char_lits; decide +kernel)
example : DTSpec.Inet6Text "1:2:3:4:5:6:7::".toList := (C09_inet6_spec _).mp (by char_lits; decide +kernel)
example : DTSpec.Inet6Text "1:2:3:4:5:6:255.0.10.199".toList := (C09_inet6_spec _).mp (by char_lits; decide +kernel)
example : ¬ DTSpec.Inet6Text "1:2:3:4:5:6:7::8".toList := DT.v6_not_inet6Text _ (by char_lits; decide +kernel)
example : ¬ DTSpec.Inet6Text "::01.2.3.4".toList := DT.v6_not_inet6Text _ (by char_lits; decide +kernel)
example : ¬ DTSpec.Inet6Text "::1.2.3.256".toList := DT.v6_not_inet6Text _ (by char_lits; decide +kernel)
example : ¬ DTSpec.Inet6Text "12345::".toList := DT.v6_not_inet6Text _ (by char_lits; decide +kernel)
example : ¬ DTSpec.Inet6Text "1::2::3".toList := DT.v6_not_inet6Text _ (by char_lits; decide +kernel)
example : ¬ DTSpec.Inet6Text ":::".toList := DT.v6_not_inet6Text _ (by char_lits; decide +kernel)
example : ¬ DTSpec.Inet6Text "1:".toList := DT.v6_not_inet6Text _ (by char_lits; decide +kernel)
example : ¬ DTSpec.Inet6Text ":1".toList := DT.v6_not_inet6Text _ (by char_lits; decide +kernel)
example : ¬ DTSpec.Inet6Text "1.2.3.4".toList := DT.v6_not_inet6Text _ (by char_lits; decide +kernel)
example : ¬ DTSpec.Inet6Text "1:2:3:4:5:6:7:1.2.3.4".toList := DT.v6_not_inet6Text _ (by char_lits; decide +kernel)
/-- the grammar is inhabited directly, too (no detour through the algorithm) -/
example : DTSpec.Inet6Text "::".toList :=
  Or.inr ⟨[], [], 0, DT.v6_nil_all, ⟨[], DT.v6_nil_all, Or.inl ⟨rfl, rfl⟩⟩, by char_lits; decide +kernel, rfl⟩
example : DTSpec.Inet6Text "1::2".toList := by
  have hg : ∀ d : Str, d = "1".toList ∨ d = "2".toList → DTSpec.HexGroup d := by
    rintro d (rfl | rfl) <;> exact ⟨by char_lits; decide +kernel, by char_lits; decide +kernel, by char_lits; decide +kernel⟩
  exact Or.inr ⟨["1".toList], ["2".toList], 1, fun g h => hg g (Or.inl (List.mem_singleton.mp h)),
    ⟨["2".toList], fun g h => hg g (Or.inr (List.mem_singleton.mp h)), Or.inl ⟨rfl, rfl⟩⟩, by char_lits; decide +kernel, rfl⟩

end ZCV.Props.C09

/-!
## The six host-dependent datatypes; the complete table

`existing-directory`, `existing-path`, `existing-file`, `existing-dirpath`, `locale` and `timedelta` call out of the
library: `os.path.expanduser / isdir / exists`, `locale.setlocale`, the arithmetic of `datetime.timedelta`.  Each such
call is a field of the parameter `h : Host` (`ZCV/Model/Host.lean`); `os.path.dirname` is pure and modelled exactly.
The theorems hold for EVERY host; a fact about the host is a hypothesis of the one theorem that needs it.
`Cfg.stockValH h` is the value-conversion table for all 26 stock names (`Cfg.stockVal` on the twenty it implements).
-/
namespace ZCV.Props.C09
open ZCV

attribute [local instance] DT.exceptDecEq

/-- `os.path.dirname` (POSIX), characterised: empty for a text without a slash; for `d/b` with `b` free of slashes it
    is `d` without the slashes at its end, or `d/` when `d` is empty or consists of slashes only (the root). -/
theorem C09_dirname_spec (p : Str) :
    ('/' ∉ p → DT.dirname p = []) ∧
    (∀ d b, p = d ++ '/' :: b → '/' ∉ b →
      DT.dirname p = if d.all (· == '/') then d ++ ['/'] else DT.rstripSlash d) ∧
    (DT.dirname p = [] ↔ '/' ∉ p) :=
  ⟨DT.dh_dirname_noslash p, fun d b e hb => by rw [e]; exact DT.dh_dirname_split d b hb, DT.dh_dirname_eq_nil_iff p⟩

/-- …where `rstrip('/')` takes away a run of slashes at the end and nothing else. -/
theorem C09_dirname_rstrip (d : Str) :
    ∃ k, d = DT.rstripSlash d ++ List.replicate k '/' ∧ (DT.rstripSlash d).getLast? ≠ some '/' :=
  DT.dh_rstripSlash_spec d

/-- `existing-directory` returns its argument with the leading `~` expanded exactly when that path is a directory of
    the host, and raises `ValueError` in every other case. -/
theorem C09_existingDirectory_spec (h : Host) (s : Str) :
    (∀ r, DT.existingDirectory h s = .ok r ↔ h.expanduser s = some r ∧ h.isdir r = true) ∧
    (∀ e, DT.existingDirectory h s = .error e ↔
      e = .valueError ∧ ¬ ∃ r, h.expanduser s = some r ∧ h.isdir r = true) :=
  ⟨DT.dh_existingDirectory_ok h s, DT.dh_existingDirectory_err h s⟩

/-- `existing-path`: the same with `os.path.exists`. -/
theorem C09_existingPath_spec (h : Host) (s : Str) :
    (∀ r, DT.existingPath h s = .ok r ↔ h.expanduser s = some r ∧ h.exists_ r = true) ∧
    (∀ e, DT.existingPath h s = .error e ↔
      e = .valueError ∧ ¬ ∃ r, h.expanduser s = some r ∧ h.exists_ r = true) :=
  ⟨DT.dh_existingPath_ok h s, DT.dh_existingPath_err h s⟩

/-- `existing-file` AS THE CODE HAS IT: the test is `os.path.exists`, so it is the same function as `existing-path`
    (the repository's `test_existing_file` pins `convert('.') == '.'`). -/
theorem C09_existingFile_spec (h : Host) (s : Str) :
    (∀ r, DT.existingFile h s = .ok r ↔ h.expanduser s = some r ∧ h.exists_ r = true) ∧
    (∀ e, DT.existingFile h s = .error e ↔
      e = .valueError ∧ ¬ ∃ r, h.expanduser s = some r ∧ h.exists_ r = true) ∧
    DT.existingFile h s = DT.existingPath h s :=
  ⟨DT.dh_existingPath_ok h s, DT.dh_existingPath_err h s, rfl⟩

/-- What the documentation promises for `existing-file` ("validates that a file by the given name exists") holds on
    the hosts where everything that exists is a regular file — and, on any host whose `isfile` implies `exists`,
    every file is accepted. -/
theorem C09_existingFile_partial (h : Host) (s r : Str) :
    ((∀ p, h.exists_ p = true → h.isfile p = true) →
      DT.existingFile h s = .ok r → h.expanduser s = some r ∧ h.isfile r = true) ∧
    ((∀ p, h.isfile p = true → h.exists_ p = true) →
      h.expanduser s = some r → h.isfile r = true → DT.existingFile h s = .ok r) :=
  ⟨fun hh he => by
      obtain ⟨h1, h2⟩ := (DT.dh_existingPath_ok h s r).mp he
      exact ⟨h1, hh r h2⟩,
   fun hh h1 h2 => (DT.dh_existingPath_ok h s r).mpr ⟨h1, hh r h2⟩⟩

/-- Without that hypothesis it does not: on the example host the directory `/srv` is accepted as an "existing file". -/
theorem C09_existingFile_accepts_directory :
    DT.existingFile DT.dhExHost "/srv".toList = .ok "/srv".toList ∧ DT.dhExHost.isfile "/srv".toList = false ∧
      DT.dhExHost.isdir "/srv".toList = true := by char_lits; decide +kernel

/-- `existing-dirpath` per the code: the expanded argument is returned when it has no directory component (no slash at
    all: "relative pathname with no directory component", the empty text included) or when its `dirname` is a
    directory of the host; `ValueError` otherwise.  The file itself need not exist. -/
theorem C09_existingDirpath_spec (h : Host) (s : Str) :
    (∀ r, DT.existingDirpath h s = .ok r ↔
      h.expanduser s = some r ∧ ('/' ∉ r ∨ h.isdir (DT.dirname r) = true)) ∧
    (∀ e, DT.existingDirpath h s = .error e ↔
      e = .valueError ∧ ¬ ∃ r, h.expanduser s = some r ∧ ('/' ∉ r ∨ h.isdir (DT.dirname r) = true)) := by
  constructor
  · intro r
    rw [DT.dh_existingDirpath_ok, DT.dh_dirname_eq_nil_iff]
  · intro e
    rw [DT.dh_existingDirpath_err]
    simp only [DT.dh_dirname_eq_nil_iff]

/-- The documented example, for every host and every path: `/foo/bar` is accepted exactly when `/foo` is an existing
    directory (`d` not made of slashes only, `b` any last component — also the empty one of `/foo/`). -/
theorem C09_existingDirpath_example (h : Host) (d b : Str) (hb : '/' ∉ b) (hd : d.all (· == '/') = false)
    (hx : h.expanduser (d ++ '/' :: b) = some (d ++ '/' :: b)) :
    DT.existingDirpath h (d ++ '/' :: b) = .ok (d ++ '/' :: b) ↔ h.isdir (DT.rstripSlash d) = true := by
  rw [DT.dh_existingDirpath_ok, DT.dh_dirname_split d b hb, DT.dirPortion, hd]
  simp only [Bool.false_eq_true, if_false]
  constructor
  · rintro ⟨-, e | e⟩
    · exact absurd e (DT.dh_rstripSlash_nonempty d hd)
    · exact e
  · exact fun e => ⟨hx, Or.inr e⟩

/-- "No conversion is performed": on a host whose `expanduser` leaves a text without a leading `~` alone, whatever
    one of the four accepts for such a text is the text itself. -/
theorem C09_existing_no_conversion (h : Host) (s r : Str) (hs : s.head? ≠ some '~')
    (hx : ∀ p : Str, p.head? ≠ some '~' → h.expanduser p = some p) :
    (DT.existingDirectory h s = .ok r → r = s) ∧ (DT.existingPath h s = .ok r → r = s) ∧
    (DT.existingFile h s = .ok r → r = s) ∧ (DT.existingDirpath h s = .ok r → r = s) := by
  have key : h.expanduser s = some r → r = s := fun e => by
    rw [hx s hs] at e; exact (Option.some.inj e).symm
  exact ⟨fun e => key ((DT.dh_existingDirectory_ok h s r).mp e).1, fun e => key ((DT.dh_existingPath_ok h s r).mp e).1,
    fun e => key ((DT.dh_existingPath_ok h s r).mp e).1, fun e => key ((DT.dh_existingDirpath_ok h s r).mp e).1⟩

/-- On a host where a directory exists (`isdir p → exists p`), what `existing-directory` accepts, `existing-path`
    accepts with the same result. -/
theorem C09_existingDirectory_implies_path (h : Host) (hh : ∀ p, h.isdir p = true → h.exists_ p = true) (s r : Str)
    (he : DT.existingDirectory h s = .ok r) : DT.existingPath h s = .ok r := by
  obtain ⟨h1, h2⟩ := (DT.dh_existingDirectory_ok h s r).mp he
  exact (DT.dh_existingPath_ok h s r).mpr ⟨h1, hh r h2⟩

/-- `locale` (the conversion inside the memo) returns its argument exactly when `setlocale(LC_ALL, ·)` accepts it, and
    raises `ValueError` otherwise. -/
theorem C09_locale_spec (h : Host) (s : Str) :
    (∀ r, DT.checkLocale h s = .ok r ↔ r = s ∧ h.localeOk s = true) ∧
    (∀ e, DT.checkLocale h s = .error e ↔ e = .valueError ∧ h.localeOk s = false) :=
  ⟨DT.dh_checkLocale_ok h s, DT.dh_checkLocale_err h s⟩

/-- …and the trial leaves the process locale as it was (provided the locale in force is one `setlocale` accepts
    back), whatever the verdict. -/
theorem C09_locale_restores (h : Host) (cur s : Str) (hc : h.localeOk cur = true) :
    DT.checkLocaleSt h cur s = (cur, DT.checkLocale h s) := by
  unfold DT.checkLocaleSt DT.checkLocale DT.setlocale
  cases hl : h.localeOk s <;> simp [hc]

/-- `MemoizedConversion` is transparent: for a conversion that is a function, a wrapper object that starts empty
    answers every call of every call sequence as the conversion itself would, and never remembers anything but
    successful conversions. -/
theorem C09_memoized_transparent {α : Type} (conv : Str → DT.R α) (calls : List Str) :
    (DT.memoRun conv [] calls).2 = calls.map conv ∧
    ∀ k v, (k, v) ∈ (DT.memoRun conv [] calls).1 → conv k = .ok v :=
  DT.dh_memoRun conv [] calls (DT.dh_memoOK_nil conv)

/-- The same from any reachable state of the memo (every remembered pair a successful conversion). -/
theorem C09_memoized_transparent_from {α : Type} (conv : Str → DT.R α) (memo : DT.Memo α) (calls : List Str)
    (hm : DT.MemoOK conv memo) :
    (DT.memoRun conv memo calls).2 = calls.map conv ∧ DT.MemoOK conv (DT.memoRun conv memo calls).1 :=
  DT.dh_memoRun conv memo calls hm

/-- Failures are not cached: a failing call leaves the memo exactly as it was. -/
theorem C09_memoized_failure_not_cached {α : Type} (conv : Str → DT.R α) (memo : DT.Memo α) (s : Str) (e : ConvErr)
    (hm : DT.MemoOK conv memo) (hc : conv s = .error e) : DT.memoized conv memo s = (memo, .error e) := by
  unfold DT.memoized
  cases hl : memo.lookup s with
  | some v =>
    have := hm s v (DT.dh_lookup_mem memo s v hl)
    rw [hc] at this
    cases this
  | none => simp only [hc]

/-- Successes are: once a value has been returned for `s`, the next call for `s` returns it again without consulting
    the conversion — whatever the conversion (the host) would say by then. -/
theorem C09_memoized_success_cached {α : Type} (conv conv' : Str → DT.R α) (memo : DT.Memo α) (s : Str) (v : α)
    (hc : (DT.memoized conv memo s).2 = .ok v) :
    DT.memoized conv' (DT.memoized conv memo s).1 s = ((DT.memoized conv memo s).1, .ok v) := by
  have key : (DT.memoized conv memo s).1.lookup s = some v := by
    unfold DT.memoized at hc ⊢
    cases hl : memo.lookup s with
    | some w => rw [hl] at hc; simp only at hc ⊢; cases hc; exact hl
    | none =>
      rw [hl] at hc
      cases hcs : conv s with
      | ok w => rw [hcs] at hc; simp only at hc ⊢; cases hc; simp
      | error e => rw [hcs] at hc; cases hc
  generalize (DT.memoized conv memo s).1 = m at key ⊢
  unfold DT.memoized
  rw [key]

/-- The complete table is a conservative extension: on the twenty names `stockVal` implements it IS `stockVal`; on the
    six others it is the host-parameterised model (`locale` through the registry's memo object: `stockValHS` threads
    the memo and answers as the pure table does). -/
theorem C09_stockValH_conservative (h : Host) (s : Str) :
    (∀ dt ∈ DT.dt2Modelled, Cfg.stockValH h dt s = Cfg.stockVal dt s) ∧
    Cfg.stockValH h "locale".toList s = (DT.checkLocale h s).map .str ∧
    Cfg.stockValH h "existing-directory".toList s = (DT.existingDirectory h s).map .str ∧
    Cfg.stockValH h "existing-path".toList s = (DT.existingPath h s).map .str ∧
    Cfg.stockValH h "existing-file".toList s = (DT.existingFile h s).map .str ∧
    Cfg.stockValH h "existing-dirpath".toList s = (DT.existingDirpath h s).map .str ∧
    Cfg.stockValH h "timedelta".toList s = (DT.timedeltaChecked h.tdFits s).map DT.timedeltaToVal ∧
    (∀ memo dt, DT.MemoOK (fun v => (DT.checkLocale h v).map Val.str) memo →
      (Cfg.stockValHS h memo dt s).2 = Cfg.stockValH h dt s ∧
      DT.MemoOK (fun v => (DT.checkLocale h v).map Val.str) (Cfg.stockValHS h memo dt s).1) :=
  ⟨fun dt hd => DT.dh_stockValH_modelled h dt hd s, DT.dh_stockValH_locale h s, DT.dh_stockValH_directory h s,
   DT.dh_stockValH_path h s, DT.dh_stockValH_file h s, DT.dh_stockValH_dirpath h s, DT.dh_stockValH_timedelta h s,
   fun memo dt hm => DT.dh_stockValHS h memo dt s hm⟩

/-- **Totality, no name excluded**: for every host, every one of the 26 names of the stock registry and every string,
    the conversion returns a value or raises `ValueError` — or `TypeError`, and that only for `timedelta` and only
    when the first word that is not a well-formed part is a float literal followed by a character that is not a unit
    letter (`DTSpec.IsTimedelta s (.error .typeError)`, spelled out). -/
theorem C09_total_all (h : Host) (dt : Str) (hd : dt ∈ Gen.stockNames) (s : Str) :
    (∃ v, Cfg.stockValH h dt s = .ok v) ∨ Cfg.stockValH h dt s = .error .valueError ∨
    (Cfg.stockValH h dt s = .error .typeError ∧ dt = "timedelta".toList ∧
      ∃ (good : List DTSpec.TdPart) (lit : Str) (u : Char) (rest : List Str),
        DTSpec.Words s (good.map DTSpec.tdText ++ (lit ++ [u]) :: rest) ∧ (∀ p ∈ good, DTSpec.TdGood p) ∧
        DTSpec.FloatLit lit ∧ u ∉ DTSpec.tdUnits) := by
  rcases DT.dh_stockValH_total h dt hd s with hv | hv | hv
  · exact Or.inl hv
  · exact Or.inr (Or.inl hv)
  · have hdt := DT.dh_typeError_timedelta h dt hd s hv
    refine Or.inr (Or.inr ⟨hv, hdt, ?_⟩)
    subst hdt
    rw [DT.dh_stockValH_timedelta, DT.dh_map_err, DT.dh_timedeltaChecked_typeError] at hv
    exact (C09_timedelta_unknown_unit_is_TypeError s).mp hv

/-- …and conversely that `TypeError` does occur, for every host, on exactly those texts. -/
theorem C09_typeError_iff (h : Host) (dt : Str) (hd : dt ∈ Gen.stockNames) (s : Str) :
    Cfg.stockValH h dt s = .error .typeError ↔
      dt = "timedelta".toList ∧ DTSpec.IsTimedelta s (.error .typeError) := by
  constructor
  · intro hv
    have hdt := DT.dh_typeError_timedelta h dt hd s hv
    subst hdt
    rw [DT.dh_stockValH_timedelta, DT.dh_map_err, DT.dh_timedeltaChecked_typeError] at hv
    exact ⟨rfl, (C09_timedelta_spec s _).mp hv⟩
  · rintro ⟨rfl, ht⟩
    rw [DT.dh_stockValH_timedelta, DT.dh_map_err, DT.dh_timedeltaChecked_typeError]
    exact (C09_timedelta_spec s _).mpr ht

/-- On the twenty names of `DT.dt2Modelled` the `TypeError` alternative does not arise (`C09_total`; shown here directly). -/
example (dt : Str) (hm : dt ∈ DT.dt2Modelled) (s : Str) :
    (∃ v, Cfg.stockVal dt s = .ok v) ∨ Cfg.stockVal dt s = .error .valueError := DT.dt2_stockVal_total dt hm s

/-! non-vacuity: the example host `DT.dhExHost` (directories `/`, `/srv`, `/home/u`; file `/srv/a.conf`; home
`/home/u`; locales `C`, `POSIX`, empty) -/
example : Gen.stockNames.length = 26 ∧ ∀ dt ∈ DT.dt2Unmodelled, dt ∈ Gen.stockNames :=
  ⟨by decide, fun dt h => (DT.dt2_unmodelled_stock dt h).1⟩
example : DT.dirname "/srv/a.conf".toList = "/srv".toList ∧ DT.dirname "/a".toList = "/".toList ∧
    DT.dirname "//a".toList = "//".toList ∧ DT.dirname "/a//b".toList = "/a".toList ∧
    DT.dirname "a".toList = [] ∧ DT.dirname "a/".toList = "a".toList ∧ DT.dirname "".toList = [] := by char_lits; decide +kernel
example : DT.existingDirectory DT.dhExHost "~".toList = .ok "/home/u".toList := by char_lits; decide +kernel
example : DT.existingDirectory DT.dhExHost "/srv/a.conf".toList = .error .valueError := by char_lits; decide +kernel
example : DT.existingPath DT.dhExHost "/srv/a.conf".toList = .ok "/srv/a.conf".toList := by char_lits; decide +kernel
example : DT.existingPath DT.dhExHost "/srv/dangling".toList = .error .valueError := by char_lits; decide +kernel
example : DT.existingFile DT.dhExHost "~/x".toList = .error .valueError := by char_lits; decide +kernel
example : DT.existingDirpath DT.dhExHost "/srv/new.log".toList = .ok "/srv/new.log".toList := by char_lits; decide +kernel
example : DT.existingDirpath DT.dhExHost "new.log".toList = .ok "new.log".toList := by char_lits; decide +kernel
example : DT.existingDirpath DT.dhExHost "".toList = .ok [] := by char_lits; decide +kernel
example : DT.existingDirpath DT.dhExHost "/srv/a.conf/x".toList = .error .valueError := by char_lits; decide +kernel
example : DT.existingDirpath DT.dhExHost "~/x".toList = .ok "/home/u/x".toList := by char_lits; decide +kernel
example : DT.checkLocale DT.dhExHost "C".toList = .ok "C".toList := by char_lits; decide +kernel
example : DT.checkLocale DT.dhExHost "xx_YY".toList = .error .valueError := by char_lits; decide +kernel
example : DT.checkLocaleSt DT.dhExHost "C".toList "xx_YY".toList = ("C".toList, .error .valueError) := by char_lits; decide +kernel
example : (DT.memoRun (DT.checkLocale DT.dhExHost) [] ["C".toList, "xx".toList, "C".toList, "xx".toList]) =
    ([("C".toList, "C".toList)], [.ok "C".toList, .error .valueError, .ok "C".toList, .error .valueError]) := by char_lits; decide +kernel
example : Cfg.stockValH DT.dhExHost "timedelta".toList "1W".toList = .error .typeError :=
  (C09_typeError_iff _ _ (by char_lits; decide +kernel) _).mpr ⟨rfl, (C09_timedelta_spec _ _).mp (by char_lits; decide +kernel)⟩
example : DT.timedeltaChecked DT.dhExHost.tdFits "x".toList = .error .valueError := by char_lits; decide +kernel
example : DT.timedeltaChecked DT.dhExHost.tdFits "2d 1.5h".toList =
    .ok { days := some "2".toList, hours := some "1.5".toList } := by char_lits; decide +kernel
example : DT.timedeltaChecked (fun _ => false) "2d 1.5h".toList = .error .valueError := by char_lits; decide +kernel
example : Cfg.stockValH DT.dhExHost "existing-dirpath".toList "/srv/x".toList = .ok (.str "/srv/x".toList) := by
  rw [(C09_stockValH_conservative _ _).2.2.2.2.2.1, show DT.existingDirpath DT.dhExHost "/srv/x".toList = .ok "/srv/x".toList by char_lits; decide +kernel]
  rfl
/-- the hypotheses used above are met by the example host (and `exists → isfile` is not) -/
example : (∀ p, DT.dhExHost.isdir p = true → DT.dhExHost.exists_ p = true) ∧
    (∀ p, DT.dhExHost.isfile p = true → DT.dhExHost.exists_ p = true) ∧
    DT.dhExHost.localeOk "C".toList = true := by
  refine ⟨fun p hp => ?_, fun p hp => ?_, by char_lits; decide +kernel⟩
  · simp only [DT.dhExHost, Bool.or_eq_true, beq_iff_eq] at hp ⊢
    rcases hp with (hp | hp) | hp <;> simp [hp]
  · simp only [DT.dhExHost, Bool.or_eq_true, beq_iff_eq] at hp ⊢
    simp [hp]

end ZCV.Props.C09

/-!
# C09, restated for the translation of the Python source (generated by `harness/zcv/pytrans.py`)

`ZCV.Gen.Code.*` (`ZCV/Gen/CodeDatatypes.lean`) is the translation of the Python source of the stock conversions,
regenerated from the working tree on every run.  `ZCV/Lemmas/CodeEqDatatypes.lean` proves each generated definition equal
to the hand-written model function, for all arguments; `CodeEq.embed` only re-tags the exception type (`ConvErr` →
`PyExc`) and is injective.  So every contract above is a contract of (the translation of) the code: a change to a
Python function changes the generated definition, and these theorems then fail to check.
-/
namespace ZCV.Props.C09
open ZCV ZCV.CodeEq

attribute [local instance] DT.exceptDecEq

/-! ## (i) generated code = model -/

/-- re-tagging the exception type loses nothing -/
theorem C09_code_embed_injective {α : Type} (a b : Except ConvErr α) (h : embed a = embed b) : a = b :=
  embed_injective a b h
example : embed (DT.asBoolean "x".toList) ≠ embed (DT.asBoolean "on".toList) := fun h =>
  absurd (C09_code_embed_injective _ _ h) (by char_lits; decide +kernel)

theorem C09_code_asBoolean_eq (s : Str) : Gen.Code.asBoolean s = embed (DT.asBoolean s) := code_asBoolean_eq s
theorem C09_code_integer_eq (s : Str) : Gen.Code.integer s = embed (DT.integer s) := code_integer_eq s
theorem C09_code_nullConversion_eq (s : Str) : Gen.Code.null_conversion s = .ok s := code_null_conversion_eq s
theorem C09_code_stringList_eq (s : Str) : Gen.Code.string_list s = .ok (DT.stringList s) := code_string_list_eq s
/-- `RangeCheckedConversion.__call__` with `_conversion = integer`, any bounds -/
theorem C09_code_rangeChecked_eq (mn mx : Option Int) (s : Str) :
    Gen.Code.RangeCheckedConversion_call mn mx Gen.Code.integer s = embed (DT.rangeChecked mn mx s) :=
  code_rangeChecked_eq mn mx s
theorem C09_code_portNumber_eq (s : Str) : Gen.Code.port_number s = embed (DT.portNumber s) := code_portNumber_eq s
/-- `SuffixMultiplier.__call__`, any table, key size and default -/
theorem C09_code_suffixMult_eq (tbl : List (Str × Int)) (k : Nat) (dflt : Int) (s : Str) :
    Gen.Code.SuffixMultiplier_call tbl (k : Int) dflt s = embed (DT.suffixMult tbl k dflt s) :=
  code_suffixMult_eq tbl k dflt s
/-- `SuffixMultiplier.__init__` on the live tables computes the key sizes the instances use -/
theorem C09_code_suffix_init :
    Gen.Code.SuffixMultiplier_init Gen.Code.byte_size_d Gen.byteSizeDefault =
        .ok (Gen.Code.byte_size_d, Gen.byteSizeDefault, (Gen.byteSizeKeysz : Int)) ∧
      Gen.Code.SuffixMultiplier_init Gen.Code.time_interval_d Gen.timeIntervalDefault =
        .ok (Gen.Code.time_interval_d, Gen.timeIntervalDefault, (Gen.timeIntervalKeysz : Int)) :=
  ⟨code_byteSize_init, code_timeInterval_init⟩
theorem C09_code_byteSize_eq (s : Str) : Gen.Code.byte_size s = embed (DT.byteSize s) := code_byteSize_eq s
theorem C09_code_timeInterval_eq (s : Str) : Gen.Code.time_interval s = embed (DT.timeInterval s) := code_timeInterval_eq s
/-- `RegularExpressionConversion.__call__`, any pattern -/
theorem C09_code_regexConv_eq (r : Rx.RE) (s : Str) :
    Gen.Code.RegularExpressionConversion_call r s = embed (DT.regexConv r s) := code_regexConv_eq r s
theorem C09_code_identifier_eq (s : Str) : Gen.Code.identifier s = embed (DT.identifier s) := code_identifier_eq s
theorem C09_code_dottedName_eq (s : Str) : Gen.Code.dotted_name s = embed (DT.dottedName s) := code_dottedName_eq s
theorem C09_code_dottedSuffix_eq (s : Str) : Gen.Code.dotted_suffix s = embed (DT.dottedSuffix s) := code_dottedSuffix_eq s
/-- the pattern step of `ipaddr-or-hostname` (the `inet_pton` step is not translated) -/
theorem C09_code_ipaddrRx_eq (s : Str) : Gen.Code.ipaddr_or_hostname_rx s = embed (DT.regexConv Gen.ipaddrRx s) :=
  code_ipaddrRx_eq s
/-- `BasicKeyConversion.__call__`, any pattern -/
theorem C09_code_basicKeyConv_eq (r : Rx.RE) (s : Str) :
    Gen.Code.BasicKeyConversion_call r s = embed ((DT.regexConv r s).map lower) := code_basicKeyConv_eq r s
theorem C09_code_basicKey_eq (s : Str) : Gen.Code.basic_key s = embed (DT.basicKey s) := code_basicKey_eq s
/-- `InetAddress.__call__`, any default host -/
theorem C09_code_inetAddress_eq (d s : Str) : Gen.Code.InetAddress_call d s = embed (DT.inetAddress d s) :=
  code_inetAddress_eq d s
/-- `SocketAddress.__init__` (as the pair of attributes it sets) with `_parse_address = InetAddress(d)` -/
theorem C09_code_socketAddress_eq (d s : Str) :
    Gen.Code.SocketAddress_init (Gen.Code.InetAddress_call d) s = embedSock (DT.socketAddress d s) :=
  code_socketAddress_eq d s
theorem C09_code_embedSock_injective (a b : Except ConvErr (DT.Family × Sum Str (Str × Option Int)))
    (h : embedSock a = embedSock b) : a = b := embedSock_injective a b h
example : embedSock (DT.socketAddress [] "/x".toList) ≠ embedSock (DT.socketAddress [] "x".toList) := fun h =>
  absurd (C09_code_embedSock_injective _ _ h) (by char_lits; decide +kernel)

/-! ## (ii) the contracts, for the generated code -/

/-- `boolean` (the code): yes/true/on and no/false/off in any case, nothing else -/
theorem C09_code_boolean_spec (s : Str) : Gen.Code.asBoolean s = embed (DTSpec.boolean s) := by
  rw [code_asBoolean_eq, C09_boolean_spec]
/-- `integer` (the code) accepts exactly the integer literals, with their value -/
theorem C09_code_integer_spec (s : Str) (n : Int) : Gen.Code.integer s = .ok n ↔ DTSpec.IntLit s n := by
  rw [code_integer_eq, ← C09_integer_spec]
  cases DT.integer s <;> simp [embed]
example : Gen.Code.integer " +1_000\n".toList = .ok 1000 := (C09_code_integer_spec _ _).mpr ((C09_integer_spec _ _).mp (by char_lits; decide +kernel))
/-- …and rejects everything else with `ValueError` -/
theorem C09_code_integer_reject (s : Str) : Gen.Code.integer s = .error .ValueError ↔ ¬ ∃ n, DTSpec.IntLit s n := by
  rw [code_integer_eq, ← C09_integer_reject]
  cases h : DT.integer s with
  | ok v => simp [embed]
  | error e => cases e <;> simp [embed, embedErr]
/-- `string-list` (the code) returns THE decomposition into whitespace-separated words -/
theorem C09_code_stringList_spec (s : Str) (ws : List Str) : DTSpec.Words s ws ↔ Gen.Code.string_list s = .ok ws := by
  rw [code_string_list_eq, C09_stringList_spec]; simp
example : Gen.Code.string_list "  ab\tc \n".toList = .ok ["ab".toList, "c".toList] :=
  (C09_code_stringList_spec _ _).mp ((C09_stringList_spec _ _).mpr (by char_lits; decide +kernel))
/-- `port-number` (the code): an integer literal with value in 0..65535 -/
theorem C09_code_portNumber_spec (s : Str) : Gen.Code.port_number s = embed (DTSpec.portNumber s) := by
  rw [code_portNumber_eq, C09_portNumber_spec]
theorem C09_code_byteSize_spec (s : Str) : Gen.Code.byte_size s = embed (DTSpec.byteSize s) := by
  rw [code_byteSize_eq, C09_byteSize_spec]
theorem C09_code_timeInterval_spec (s : Str) : Gen.Code.time_interval s = embed (DTSpec.timeInterval s) := by
  rw [code_timeInterval_eq, C09_timeInterval_spec]
theorem C09_code_basicKey_spec (s : Str) : Gen.Code.basic_key s = embed (DTSpec.basicKey s) := by
  rw [code_basicKey_eq, C09_basicKey_spec]
theorem C09_code_identifier_spec (s : Str) : Gen.Code.identifier s = embed (DTSpec.identifier s) := by
  rw [code_identifier_eq, C09_identifier_spec]
theorem C09_code_dottedName_spec (s : Str) : Gen.Code.dotted_name s = embed (DTSpec.dottedName s) := by
  rw [code_dottedName_eq, C09_dottedName_spec]
theorem C09_code_dottedSuffix_spec (s : Str) : Gen.Code.dotted_suffix s = embed (DTSpec.dottedSuffix s) := by
  rw [code_dottedSuffix_eq, C09_dottedSuffix_spec]
theorem C09_code_basicKey_idempotent (s r : Str) (h : Gen.Code.basic_key s = .ok r) : Gen.Code.basic_key r = .ok r := by
  rw [code_basicKey_eq] at h ⊢
  have h' : DT.basicKey s = .ok r := embed_injective _ _ h
  rw [C09_basicKey_idempotent s r h']; rfl
example : Gen.Code.basic_key "ab-c".toList = .ok "ab-c".toList :=
  C09_code_basicKey_idempotent "Ab-C".toList _ (by rw [C09_code_basicKey_spec]; decide)
theorem C09_code_identifier_idempotent (s r : Str) (h : Gen.Code.identifier s = .ok r) : Gen.Code.identifier r = .ok r := by
  rw [code_identifier_eq] at h ⊢
  have h' : DT.identifier s = .ok r := embed_injective _ _ h
  rw [C09_identifier_idempotent s r h']; rfl
example : Gen.Code.identifier "_a1".toList = .ok "_a1".toList :=
  C09_code_identifier_idempotent "_a1".toList _ (by rw [C09_code_identifier_spec]; decide)
/-- `inet-address`, `inet-binding-address`, `inet-connection-address` (the code, with the live default hosts) -/
theorem C09_code_inetAddress_spec (s : Str) :
    Gen.Code.inet_address s = embed (DTSpec.inetAddress Gen.inetHost s) ∧
    Gen.Code.inet_binding_address s = embed (DTSpec.inetAddress Gen.inetBindingHost s) ∧
    Gen.Code.inet_connection_address s = embed (DTSpec.inetAddress Gen.inetConnectionHost s) := by
  refine ⟨?_, ?_, ?_⟩
  · rw [code_inet_address_eq, C09_inetAddress_spec]
  · rw [code_inet_binding_address_eq, C09_inetAddress_spec]
  · rw [code_inet_connection_address_eq, C09_inetAddress_spec]
/-- `InetAddress.__call__` (the code), any default host -/
theorem C09_code_inetAddressCall_spec (d s : Str) : Gen.Code.InetAddress_call d s = embed (DTSpec.inetAddress d s) := by
  rw [code_inetAddress_eq, C09_inetAddress_spec]
/-- `socket-address` and its two siblings (the code): UNIX paths, IPv6, IPv4 — family by name -/
theorem C09_code_socketAddress_spec (s : Str) :
    (Gen.Code.socket_address s).map (fun p => (famName p.1, p.2)) = embed (DTSpec.socketFamily Gen.inetHost s) ∧
    (Gen.Code.socket_binding_address s).map (fun p => (famName p.1, p.2)) = embed (DTSpec.socketFamily Gen.inetBindingHost s) ∧
    (Gen.Code.socket_connection_address s).map (fun p => (famName p.1, p.2)) =
      embed (DTSpec.socketFamily Gen.inetConnectionHost s) := by
  refine ⟨?_, ?_, ?_⟩
  · rw [code_socket_address_eq, ← C09_socketAddress_spec]; exact embedSock_famName _
  · rw [code_socket_binding_address_eq, ← C09_socketAddress_spec]; exact embedSock_famName _
  · rw [code_socket_connection_address_eq, ← C09_socketAddress_spec]; exact embedSock_famName _

/-! ## the white space `int()` / `float()` skip is NOT `str.isspace` (model; carries over to the code by (i))

CPython maps non-ASCII white space to a blank before parsing a number and leaves ASCII characters alone; the parsers
then skip C `isspace` characters only.  The separator controls U+001C–U+001F are therefore white space for
`str.strip()`, `str.split()` and `\s` and are NOT skipped by `int()` / `float()`: `int('\x1c1')` is a `ValueError`
while `'\x1c1'.strip() == '1'`.  The set is not assumed: `Gen.intSpaceExcluded` is computed from the running
interpreter on every run (`extract.py`, `gen_unicode`). -/

/-- The four separator controls are `str.isspace` white space and are in the generated table of the code points
    `int()` / `float()` do not skip. -/
theorem C09_separator_controls (c : Char) (h : c = '\x1c' ∨ c = '\x1d' ∨ c = '\x1e' ∨ c = '\x1f') :
    pySpace c = true ∧ c.toNat ∈ Gen.intSpaceExcluded ∧ intSpace c = false :=
  have hc := DT.dt2_separator_controls_excluded c h
  ⟨(DT.dt2_excluded_space c hc).1, hc, (DT.dt2_excluded_space c hc).2⟩

/-- Every code point of the generated table, at the start or at the end of a text, makes `integer` fail — whatever the
    rest of the text is. -/
theorem C09_integer_rejects_excluded (c : Char) (hc : c.toNat ∈ Gen.intSpaceExcluded) (s : Str) :
    DT.integer (c :: s) = .error .valueError ∧ DT.integer (s ++ [c]) = .error .valueError := by
  rw [C09_integer_reject, C09_integer_reject]
  exact ⟨fun ⟨n, hn⟩ => (DT.dt2_intLit_excluded c hc s n).1 hn, fun ⟨n, hn⟩ => (DT.dt2_intLit_excluded c hc s n).2 hn⟩

/-- For the four separator controls `c` (U+001C, U+001D, U+001E, U+001F) and every text `s`: `integer (c + s)` and
    `integer (s + c)` are `ValueError`s (although `(c + s).strip()` is `s.strip()`). -/
theorem C09_integer_rejects_separator_controls (c : Char) (h : c = '\x1c' ∨ c = '\x1d' ∨ c = '\x1e' ∨ c = '\x1f')
    (s : Str) : DT.integer (c :: s) = .error .valueError ∧ DT.integer (s ++ [c]) = .error .valueError :=
  C09_integer_rejects_excluded c (DT.dt2_separator_controls_excluded c h) s

/-- The characters `integer` strips are exactly the `str.isspace` characters outside the generated table: `c` can be
    put in front of and behind EVERY text without changing the outcome iff it is one of them. -/
theorem C09_integer_strips_exactly (c : Char) :
    (∀ s, DT.integer (c :: s) = DT.integer s ∧ DT.integer (s ++ [c]) = DT.integer s) ↔
      (pySpace c = true ∧ c.toNat ∉ Gen.intSpaceExcluded) :=
  DT.dt2_strips_exactly DT.integer DT.dt2_integer_stripInt ['1'] DT.dt2_integer_one_snoc c

/-- The same for `float`: every code point of the generated table at either end of a text is refused. -/
theorem C09_float_rejects_excluded (c : Char) (hc : c.toNat ∈ Gen.intSpaceExcluded) (s : Str) :
    DT.floatConv (c :: s) = .error .valueError ∧ DT.floatConv (s ++ [c]) = .error .valueError := by
  rw [C09_float_reject, C09_float_reject]
  exact DT.dt2_floatLit_excluded c hc s

/-- For the four separator controls `c` and every text `s`: `float (c + s)` and `float (s + c)` are `ValueError`s. -/
theorem C09_float_rejects_separator_controls (c : Char) (h : c = '\x1c' ∨ c = '\x1d' ∨ c = '\x1e' ∨ c = '\x1f')
    (s : Str) : DT.floatConv (c :: s) = .error .valueError ∧ DT.floatConv (s ++ [c]) = .error .valueError :=
  C09_float_rejects_excluded c (DT.dt2_separator_controls_excluded c h) s

/-- The characters `float` strips are exactly the `str.isspace` characters outside the generated table (the outcome
    includes the text handed on: it is the same text). -/
theorem C09_float_strips_exactly (c : Char) :
    (∀ s, DT.floatConv (c :: s) = DT.floatConv s ∧ DT.floatConv (s ++ [c]) = DT.floatConv s) ↔
      (pySpace c = true ∧ c.toNat ∉ Gen.intSpaceExcluded) :=
  DT.dt2_strips_exactly DT.floatConv DT.dt2_floatConv_stripInt ['i', 'n', 'f'] DT.dt2_floatConv_inf_snoc c

/-- What the two white-space classes look like: `strip` removes a separator control, `int` does not skip it. -/
example : strip "\x1c1".toList = "1".toList ∧ DT.integer "\x1c1".toList = .error .valueError := by char_lits; decide +kernel
example : DT.integer "1\x1f".toList = .error .valueError := by char_lits; decide +kernel
example : DT.integer " 1\x1f".toList = .error .valueError := by char_lits; decide +kernel
example : DT.integer "\x851".toList = .ok 1 := by char_lits; decide +kernel          -- NEL: not ASCII, mapped to a blank, skipped
example : DT.integer " 1".toList = .ok 1 := by char_lits; decide +kernel
example : DT.integer "　1 ".toList = .ok 1 := by char_lits; decide +kernel
example : DT.integer "+\x1c1".toList = .error .valueError := by char_lits; decide +kernel
example : DT.floatConv "\x1c1".toList = .error .valueError :=
  (C09_float_reject _).mpr (DT.dt2_not_floatLit _ (by char_lits; decide +kernel))
example : DT.floatConv "1.5\x1f".toList = .error .valueError :=
  (C09_float_reject _).mpr (DT.dt2_not_floatLit _ (by char_lits; decide +kernel))
example : DT.floatOk "\x851".toList = true ∧ stripInt "\x851".toList = "1".toList := by char_lits; decide +kernel
example : DT.floatOk " 1".toList = true ∧ stripInt " 1".toList = "1".toList := by char_lits; decide +kernel
example : DTSpec.FloatLit "\x85-1.5e3　".toList := (DT.dt2_floatOk_iff _).mp (by char_lits; decide +kernel)
example : ¬ DTSpec.FloatLit " 1\x1c".toList := DT.dt2_not_floatLit _ (by char_lits; decide +kernel)
example : ¬ ∃ n, DTSpec.IntLit "\x1c1".toList n := (C09_integer_reject _).mp (by char_lits; decide +kernel)
example : DT.integer "\x1c1".toList = .error .valueError := (C09_integer_rejects_separator_controls _ (Or.inl rfl) _).1
example : DT.floatConv "nan\x1e".toList = .error .valueError :=
  (C09_float_rejects_separator_controls _ (Or.inr (Or.inr (Or.inl rfl))) "nan".toList).2
/-- the suffix types inherit it: `time-interval('1\x1ch')` is `int('1\x1c')`, a `ValueError` -/
example : DT.timeInterval "1\x1ch".toList = .error .valueError := by char_lits; decide +kernel
example : DT.timeInterval "1\x85h".toList = .ok 3600 := by char_lits; decide +kernel
example : DT.portNumber "80\x1c".toList = .error .valueError := by char_lits; decide +kernel
example : DT.byteSize "\x1d1kb".toList = .error .valueError := by char_lits; decide +kernel
/-- `timedelta` splits at `str.isspace` white space first: the separator control ends the word, `float('')` fails -/
example : DT.timedelta "1\x1ch".toList = .error .valueError := by char_lits; decide +kernel

end ZCV.Props.C09

/-!
## `timedelta`, for the translation of the Python source

`Gen.Code.timedelta` is the translation of the Python source of `ZConfig.datatypes.timedelta`.  Two things stay PARAMETERS
(trusted, see `ZCV/Gen/CodeDatatypes.lean`): which texts `float()` accepts — instantiated here with the model's acceptance
grammar `DT.floatOk` (`C09_float_*`), never unfolded — and the `datetime.timedelta` constructor `ctor`, whose range verdict
(NaN, infinity, more than 999999999 days) is the model's parameter `fits`.  Values are symbolic: `float(lit)`.
-/
namespace ZCV.Props.C09
open ZCV ZCV.CodeEq

/-- generated code = model, any constructor: the model's loop over the parts, then the constructor on the collected
    arguments, its `OverflowError` turned into `ValueError` -/
theorem C09_code_timedelta_eq (ctor : Py.Num → Py.Num → Py.Num → Py.Num → Py.Num → Except Py.PyExc Py.Timedelta) (s : Str) :
    Gen.Code.timedelta DT.floatOk ctor s =
      match DT.timedelta s with
      | .ok v => tdFinish ctor v
      | .error e => .error (embedErr e) := code_timedelta_eq ctor s

/-- re-tagging the constructor arguments loses nothing -/
theorem C09_code_embedTD_injective (a b : DT.TimedeltaVal) (h : embedTD a = embedTD b) : a = b := embedTD_injective a b h

/-- generated code = `DT.timedeltaChecked`, for every constructor that behaves like `datetime.timedelta` (returns the
    object for its arguments, or raises `OverflowError` / `ValueError`): its verdict is the model's `fits` -/
theorem C09_code_timedeltaChecked_eq (ctor : Py.Num → Py.Num → Py.Num → Py.Num → Py.Num → Except Py.PyExc Py.Timedelta)
    (hc : CtorLike ctor) (s : Str) :
    Gen.Code.timedelta DT.floatOk ctor s = embed ((DT.timedeltaChecked (ctorFits ctor) s).map embedTD) :=
  code_timedeltaChecked_eq ctor hc s

/-- a constructor accepting everything, and one refusing infinite weeks, are `CtorLike` -/
example : CtorLike (fun w d h m s => .ok ⟨w, d, h, m, s⟩) := fun _ _ _ _ _ => Or.inl rfl
example : CtorLike (fun w d h m s => if w = .float ['i', 'n', 'f'] then .error .OverflowError else .ok ⟨w, d, h, m, s⟩) := by
  intro w d h m s
  by_cases hw : w = .float ['i', 'n', 'f']
  · exact Or.inr (Or.inl (by simp [hw]))
  · exact Or.inl (by simp [hw])

/-- what the code does with the outcome `r` of the loop over the parts -/
def tdOutcome (ctor : Py.Num → Py.Num → Py.Num → Py.Num → Py.Num → Except Py.PyExc Py.Timedelta) :
    Except ConvErr DT.TimedeltaVal → Except Py.PyExc Py.Timedelta
  | .ok v => tdFinish ctor v
  | .error e => .error (embedErr e)

/-- the documented shape, for the code: if the text is related to the outcome `r` by the declarative `IsTimedelta`, the
    code returns the constructor's answer on `r`'s amounts, or raises `r`'s exception -/
theorem C09_code_timedelta_spec (ctor : Py.Num → Py.Num → Py.Num → Py.Num → Py.Num → Except Py.PyExc Py.Timedelta) (s : Str)
    (r : Except ConvErr DT.TimedeltaVal) (h : DTSpec.IsTimedelta s r) :
    Gen.Code.timedelta DT.floatOk ctor s = tdOutcome ctor r := by
  rw [code_timedelta_eq, (C09_timedelta_spec s r).mpr h]; rfl
example : DTSpec.IsTimedelta [] (.ok {}) := (C09_timedelta_spec _ _).mp rfl

/-- the code raises `TypeError` exactly for an unknown unit letter after a float literal (all earlier parts being good) -/
theorem C09_code_timedelta_unknown_unit_is_TypeError
    (ctor : Py.Num → Py.Num → Py.Num → Py.Num → Py.Num → Except Py.PyExc Py.Timedelta) (hc : CtorLike ctor) (s : Str) :
    Gen.Code.timedelta DT.floatOk ctor s = .error .TypeError ↔
      ∃ (good : List DTSpec.TdPart) (lit : Str) (u : Char) (rest : List Str),
        DTSpec.Words s (good.map DTSpec.tdText ++ (lit ++ [u]) :: rest) ∧ (∀ p ∈ good, DTSpec.TdGood p) ∧
        DTSpec.FloatLit lit ∧ u ∉ DTSpec.tdUnits := by
  rw [← C09_timedelta_unknown_unit_is_TypeError, code_timedelta_eq]
  cases hd : DT.timedelta s with
  | error e => cases e <;> simp [embedErr]
  | ok v =>
    simp only [tdFinish, reduceCtorEq, iff_false]
    rcases hc (tdNum v.weeks) (tdNum v.days) (tdNum v.hours) (tdNum v.minutes) (tdNum v.seconds) with h | h | h <;>
      simp [h]

/-- totality of the code: a value, `ValueError` or `TypeError` — nothing else -/
theorem C09_code_timedelta_total (ctor : Py.Num → Py.Num → Py.Num → Py.Num → Py.Num → Except Py.PyExc Py.Timedelta)
    (hc : CtorLike ctor) (s : Str) :
    (∃ v, DT.timedelta s = .ok v ∧ Gen.Code.timedelta DT.floatOk ctor s = .ok (embedTD v)) ∨
      Gen.Code.timedelta DT.floatOk ctor s = .error .ValueError ∨ Gen.Code.timedelta DT.floatOk ctor s = .error .TypeError := by
  rw [code_timedeltaChecked_eq ctor hc]
  rcases C09_timedelta_checked_total (ctorFits ctor) s with ⟨v, h1, h2, _⟩ | h | h
  · exact Or.inl ⟨v, h2, by rw [h1]; rfl⟩
  · exact Or.inr (Or.inl (by rw [h]; rfl))
  · exact Or.inr (Or.inr (by rw [h]; rfl))

end ZCV.Props.C09
