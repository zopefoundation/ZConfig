import ZCV.Lemmas.TextDenote
import ZCV.Lemmas.DischargeElab
import ZCV.Lemmas.DischargeExamples
import ZCV.Props.C10
import ZCV.Lemmas.ImportOvFree
import ZCV.Lemmas.ImportOvEx
import ZCV.Lemmas.DischargeExDoc
import ZCV.Lemmas.ImportLoadWF
/-!
# C01 — a configuration is accepted exactly when it conforms to the schema

On trees: `C01_accept_iff_conforms` (from `Conf.loadTree_eq_denote`, `Lemmas/LoadTree.lean`).  On text without `%import`
and overrides: `C01_text_accept_iff_conforms` (`Conf.load_eq_denote`, `Lemmas/TextDenote.lean`), end to end from a schema document:
`C01_end_to_end`.  Then: texts with `%import` lines loaded with command-line overrides,
`C01_load_accept_iff` (from `load_ov_eq_denoteI`, `Lemmas/ImportOvFinal.lean`), with the import-free case as an instance.
-/
namespace ZCV.Props.C01
open ZCV ZCV.Cfg

/-- name rule of a slot: never `*` or `+` themselves; `+` = name mandatory, `*` = name optional,
    otherwise exactly the fixed name -/
theorem C01_isAllowedName_spec (si : SectInfo) (name : Option Str) :
    isAllowedName si name = true ↔
      (name ≠ some ['*'] ∧ name ≠ some ['+'] ∧
        (si.name = ['+'] → name.isSome) ∧
        (si.name ≠ ['+'] → si.name ≠ ['*'] → name = some si.name)) := by
  unfold isAllowedName
  by_cases h1 : name = some ['*']
  · simp [h1]
  by_cases h2 : name = some ['+']
  · simp [h2]
  by_cases h3 : si.name = ['+']
  · simp [h1, h2, h3]
  by_cases h4 : si.name = ['*']
  · simp [h1, h2, h4]
  · simp [h1, h2, h3, h4]


/-- which child a key line goes to: the child declared with exactly this (normalised) key wins wherever it stands;
    otherwise the wildcard (`+`) key; the search loop of `addValue` computes exactly this -/
theorem C01_key_routing (children : List (Option Str × Info)) (rk : Str) :
    addValueCore.search rk children none = route children rk := search_eq_route children rk

/-- a key that is neither declared nor captured by a wildcard key is rejected with a configuration error -/
theorem C01_unknown_key_rejected (m : Matcher) (key rk v : Str) (pos : Pos) (h : route m.ty.children rk = none) :
    ∃ e, addValueCore m key rk v pos = .error (.cfg e) ∧ e.kind = .plain :=
  addValueCore_unknown_rejected m key rk v pos h

open ZCV.Conf in
/-- **Accepted ⇔ conforms.**  For every schema the schema loader can produce (`schemaOK`), every family of datatype
    functions and every configuration tree (any size, nesting depth, number of simultaneous faults) whose headers are
    spelled as the parser spells them (`tyCanon`): the loader returns a configuration if and only if the tree conforms
    to the schema (`ZCV/Spec/Conforms.lean`). -/
theorem C01_accept_iff_conforms (conv : Conv) (s : Schema) (items : List Item)
    (hs : schemaOK s = true) (ht : tyCanon s items = true) :
    (∃ v, loadTree conv s items = .ok v) ↔ conforms conv s items = true :=
  ok_iff_isSome (f := id) (by rw [Option.map_id, id]; exact loadTree_eq_denote conv s items hs ht)

open ZCV.Conf in
/-- a non-conforming tree yields no configuration object: the outcome is an error -/
theorem C01_nonconforming_rejected (conv : Conv) (s : Schema) (items : List Item)
    (hs : schemaOK s = true) (ht : tyCanon s items = true) (hn : conforms conv s items = false) :
    ∃ e, loadTree conv s items = .error e := by
  cases hl : loadTree conv s items with
  | error e => exact ⟨e, rfl⟩
  | ok v =>
    have := (C01_accept_iff_conforms conv s items hs ht).mp ⟨v, hl⟩
    rw [hn] at this; cases this

open ZCV.Conf in
/-- **The same for configuration TEXT.**  For every text of any length (lines, `%define`s, `%include`s of any depth —
    through the parser model with its generated patterns) that contains no `%import` and is loaded without overrides:
    the loader returns a configuration iff the parser accepts the text and the tree it denotes conforms to the schema.
    `hlow` (lower-casing is idempotent) is proved: `lower_idem` (`Lemmas/Lower.lean`), see the primed version. -/
theorem C01_text_accept_iff_conforms (conv : Conv) (env : Env) (pkgs : Str → Pkg) (s : Schema) (url : Option Str)
    (lines : List Str) (hs : schemaOK s = true) (hlow : ∀ x : Str, lower (lower x) = lower x)
    (hkeys : ∀ p ∈ s.types, lower p.1 = p.1)
    (hni : ∀ l ∈ lines, NoImportLine l) (hres : ∀ u ls, env.res u = some ls → ∀ l ∈ ls, NoImportLine l) :
    (∃ r, load conv env pkgs s url lines [] = .ok r) ↔
      ∃ items, treeOf env url lines = .ok items ∧ conforms conv s items = true :=
  (ok_iff_isSome (load_eq_denote conv env pkgs s url lines hs hni hres)).trans (bind_isSome_iff _ _)

open ZCV.Conf in
/-- **Accepted ⇔ conforms, for configuration TEXT, without the table hypothesis.**  Same statement as
    `C01_text_accept_iff_conforms`; `hlow` is discharged by the proved `lower_idem` (`str.lower` is idempotent). -/
theorem C01_text_accept_iff_conforms' (conv : Conv) (env : Env) (pkgs : Str → Pkg) (s : Schema) (url : Option Str)
    (lines : List Str) (hs : schemaOK s = true) (hkeys : ∀ p ∈ s.types, lower p.1 = p.1)
    (hni : ∀ l ∈ lines, NoImportLine l) (hres : ∀ u ls, env.res u = some ls → ∀ l ∈ ls, NoImportLine l) :
    (∃ r, load conv env pkgs s url lines [] = .ok r) ↔
      ∃ items, treeOf env url lines = .ok items ∧ conforms conv s items = true :=
  C01_text_accept_iff_conforms conv env pkgs s url lines hs ZCV.lower_idem hkeys hni hres

open ZCV.Conf in
/-- **End to end: schema document → schema object → configuration text.**  Take ANY schema document `doc` the schema
    loader accepts (any element tree; components and base schemas pulled in to any depth; `hkey`: the key types never
    turn a non-empty name into the empty string, which holds of the stock key types) and let `S` be the schema object
    it returns.  Then for every family of datatype functions, every configuration text of any length (with `%define`s
    and `%include`s of any depth) that contains no `%import`, loaded without overrides: the configuration loader
    returns a configuration if and only if the parser accepts the text and the tree it denotes conforms to `S`.
    No structural hypothesis on `S` is left: `schemaOK S` comes from C10, "type names are stored lower-cased" from
    `elab_types_keys_lower`, idempotence of `str.lower` from `lower_idem`. -/
theorem C01_end_to_end (eenv : Elab.Env) (fuel : Nat) (doc : Elab.Node) (S : Schema)
    (hkey : ∀ (kt s r : Str), s ≠ [] → eenv.conv.key kt s = .ok r → r ≠ [])
    (hS : Elab.elabSchema eenv fuel doc = .ok S)
    (conv : Conv) (env : Env) (pkgs : Str → Pkg) (url : Option Str) (lines : List Str)
    (hni : ∀ l ∈ lines, NoImportLine l) (hres : ∀ u ls, env.res u = some ls → ∀ l ∈ ls, NoImportLine l) :
    (∃ r, load conv env pkgs S url lines [] = .ok r) ↔
      ∃ items, treeOf env url lines = .ok items ∧ conforms conv S items = true :=
  C01_text_accept_iff_conforms' conv env pkgs S url lines
    (ZCV.Props.C10.C10_elab_schemaOK eenv fuel doc S hkey hS) (Elab.elab_types_keys_lower hS) hni hres

open ZCV.Conf in
/-- the same when the schema loader runs with the stock key types (`basic-key`, `identifier`, `ipaddr-or-hostname`,
    `string`): no hypothesis about the schema or the key types at all -/
theorem C01_end_to_end_stock (eenv : Elab.Env) (fuel : Nat) (doc : Elab.Node) (S : Schema)
    (hconv : eenv.conv = stockConv) (hS : Elab.elabSchema eenv fuel doc = .ok S)
    (conv : Conv) (env : Env) (pkgs : Str → Pkg) (url : Option Str) (lines : List Str)
    (hni : ∀ l ∈ lines, NoImportLine l) (hres : ∀ u ls, env.res u = some ls → ∀ l ∈ ls, NoImportLine l) :
    (∃ r, load conv env pkgs S url lines [] = .ok r) ↔
      ∃ items, treeOf env url lines = .ok items ∧ conforms conv S items = true :=
  C01_end_to_end eenv fuel doc S
    (by intro kt s r hs hr; rw [hconv] at hr; exact Elab.stockConv_key_ne_nil kt s r hs hr) hS conv env pkgs url lines hni hres

open ZCV.Conf in
/-- the hypotheses of the end-to-end theorem are satisfiable: an accepted schema document (it extends a base schema
    and imports a component; stock key types), a four-line text (comment, key line, section) without `%import`, no
    includable resources, datatypes that accept everything -/
example : ∃ S, Elab.elabSchema Elab.Example.env 1 Elab.Example.doc = .ok S ∧
    ((∃ r, load Ex.conv Ex.env Ex.pkgs S none DischargeEx.lines [] = .ok r) ↔
      ∃ items, treeOf Ex.env none DischargeEx.lines = .ok items ∧ conforms Ex.conv S items = true) := by
  obtain ⟨S, hS⟩ := DischargeEx.dis_ex_doc_accepted
  exact ⟨S, hS, C01_end_to_end_stock _ 1 _ S DischargeEx.dis_ex_env_stock hS _ _ _ _ _
    DischargeEx.dis_ex_lines_noImport DischargeEx.dis_ex_res⟩

/-- … and the theorem decides a concrete case: for that schema document the one-line text `# c` is accepted (its tree
    is empty, and the empty tree conforms to the schema the document defines) -/
example : ∃ S, Elab.elabSchema Elab.Example.env 1 Elab.Example.doc = .ok S ∧
    ∃ r, load Ex.conv Ex.env Ex.pkgs S none ["# c".toList] [] = .ok r := by
  obtain ⟨S, hS, hch⟩ := DischargeEx.dis_ex_doc_accepted_empty
  exact ⟨S, hS, (C01_end_to_end_stock _ 1 _ S DischargeEx.dis_ex_env_stock hS Ex.conv Ex.env Ex.pkgs none _
    DischargeEx.dis_ex_comment_noImport DischargeEx.dis_ex_res).mpr
    ⟨[], DischargeEx.dis_ex_comment_tree, DischargeEx.dis_ex_conforms_nil S hch⟩⟩

end ZCV.Props.C01

/-! ## the general form: texts with `%import` lines, loaded with command-line overrides (C01 with C12 and C14) -/

namespace ZCV.Props.C01
open ZCV ZCV.Cfg ZCV.Conf

/-- both spellings of the lines an override supplies (`key value` lines added to a section) at once: `editBodyI … true` is `editI` (needs idempotent key types), `editBodyI … false`
    is `editNormI` -/
theorem load_accept_iff_body (conv : Conv) (env : Env) (pkgs : Str → Pkg) (S : Schema) (url : Option Str)
    (lines : List Str) (specs : List Str) (b : Bool)
    (hidem : b = true → KeyIdemOn conv S)
    (htop : importsAtTop env url lines)
    (hok : ∀ tops, treeOfI env url lines = .ok tops → importsOK pkgs S tops = true)
    (hovs : ∀ ovs, specs.mapM addOption = .ok ovs → OvsOK ovs) :
    (∃ r, load conv env pkgs S url lines specs = .ok r) ↔
      ∃ ovs, specs.mapM addOption = .ok ovs ∧ ∃ tops, treeOfI env url lines = .ok tops ∧
        ∃ tops', editBodyI conv S b tops ovs = .ok tops' ∧ conformsI conv S pkgs tops' = true := by
  rw [ok_iff_isSome (load_ov_eq_denoteI conv env pkgs S url lines specs b hidem htop hok hovs), bind_isSome_iff]
  simp only [bind_isSome_iff]
  rfl

/-- **Accepted ⇔ conforms, in general.**  For every text of any length (lines, `%define`s, `%include`s of any depth,
    `%import`s) that meets no `%import` inside a section (`importsAtTop`) and whose imports keep the schema of the load
    well-formed (`importsOK`), every list of specifiers whose section-selecting components are basic keys (`OvsOK`), and
    datatype functions whose key types in use by the schema `S` the load starts with are idempotent: the loader returns a
    configuration iff the specifiers are well-formed, the parser accepts the text, the edit the specifiers ask for is
    possible (`editI`: against `S`, see `ZCV/Spec/EditImport.lean`), and the edited top-level items conform (`conformsI`:
    every section judged by the schema in force at its position). -/
theorem C01_load_accept_iff (conv : Conv) (env : Env) (pkgs : Str → Pkg) (S : Schema) (url : Option Str)
    (lines : List Str) (specs : List Str)
    (hidem : KeyIdemOn conv S)
    (htop : importsAtTop env url lines)
    (hok : ∀ tops, treeOfI env url lines = .ok tops → importsOK pkgs S tops = true)
    (hovs : ∀ ovs, specs.mapM addOption = .ok ovs → OvsOK ovs) :
    (∃ r, load conv env pkgs S url lines specs = .ok r) ↔
      ∃ ovs, specs.mapM addOption = .ok ovs ∧ ∃ tops, treeOfI env url lines = .ok tops ∧
        ∃ tops', editI conv S tops ovs = .ok tops' ∧ conformsI conv S pkgs tops' = true :=
  load_accept_iff_body conv env pkgs S url lines specs true (fun _ => hidem) htop hok hovs

/-- the same with the supplied lines spelled with the normalised key (`editNormI`): no assumption on the key types -/
theorem C01_load_accept_iff_norm (conv : Conv) (env : Env) (pkgs : Str → Pkg) (S : Schema) (url : Option Str)
    (lines : List Str) (specs : List Str)
    (htop : importsAtTop env url lines)
    (hok : ∀ tops, treeOfI env url lines = .ok tops → importsOK pkgs S tops = true)
    (hovs : ∀ ovs, specs.mapM addOption = .ok ovs → OvsOK ovs) :
    (∃ r, load conv env pkgs S url lines specs = .ok r) ↔
      ∃ ovs, specs.mapM addOption = .ok ovs ∧ ∃ tops, treeOfI env url lines = .ok tops ∧
        ∃ tops', editNormI conv S tops ovs = .ok tops' ∧ conformsI conv S pkgs tops' = true :=
  load_accept_iff_body conv env pkgs S url lines specs false (fun h => by cases h) htop hok hovs

/-- **Special case: no overrides** — the statement of `C12_text_accept_iff_conformsI`, recovered from the general form
    (nothing is edited when there are no specifiers). -/
theorem C01_load_accept_iff_no_overrides (conv : Conv) (env : Env) (pkgs : Str → Pkg) (S : Schema) (url : Option Str)
    (lines : List Str) (htop : importsAtTop env url lines)
    (hok : ∀ tops, treeOfI env url lines = .ok tops → importsOK pkgs S tops = true) :
    (∃ r, load conv env pkgs S url lines [] = .ok r) ↔
      ∃ tops, treeOfI env url lines = .ok tops ∧ conformsI conv S pkgs tops = true := by
  rw [C01_load_accept_iff_norm conv env pkgs S url lines [] htop hok ovsOK_nil]
  constructor
  · rintro ⟨ovs, h1, tops, h2, tops', h3, h4⟩
    simp only [List.mapM_nil, pure, Except.pure, Except.ok.injEq] at h1
    subst h1
    rw [show editNormI conv S tops [] = .ok tops from editBodyI_nil conv S false tops] at h3
    cases h3
    exact ⟨tops, h2, h4⟩
  · rintro ⟨tops, h2, h4⟩
    exact ⟨[], rfl, tops, h2, tops, editBodyI_nil conv S false tops, h4⟩

/-- a text without `%import` lines (here and in what it can include): its top-level entries are its items, lower-cased
    as the parser leaves them; a well-formed schema stays so -/
theorem import_free_tops (env : Env) (pkgs : Str → Pkg) (s : Schema) (url : Option Str) (lines : List Str)
    (hs : schemaOK s = true)
    (hni : ∀ l ∈ lines, NoImportLine l) (hres : ∀ u ls, env.res u = some ls → ∀ l ∈ ls, NoImportLine l) :
    importsAtTop env url lines ∧
    (∀ items, treeOf env url lines = .ok items → treeOfI env url lines = .ok (items.map .item)) ∧
    (∀ tops, treeOfI env url lines = .ok tops →
      ∃ items, treeOf env url lines = .ok items ∧ tops = items.map .item ∧ lowItems items = true) ∧
    (∀ tops, treeOfI env url lines = .ok tops → importsOK pkgs s tops = true) := by
  have hiff := treeOfI_free_iff env url lines hni hres
  refine ⟨(treeOfI_import_free env url lines hni hres).2, fun items hT => (hiff _).mpr ⟨items, hT, rfl⟩, fun tops ht => ?_,
    fun tops ht => ?_⟩
  · obtain ⟨items, hT, rfl⟩ := (hiff tops).mp ht
    exact ⟨items, hT, rfl, treeOf_low env url lines items hT⟩
  · obtain ⟨items, _, rfl⟩ := (hiff tops).mp ht
    rw [importsOK_items]
    exact hs

/-- **Special case: no `%import` lines and no overrides** — the statement of `C01_text_accept_iff_conforms'`, recovered from
    the general form (`hkeys` of that statement is not needed). -/
theorem C01_text_accept_iff_conforms_from_general (conv : Conv) (env : Env) (pkgs : Str → Pkg) (s : Schema) (url : Option Str)
    (lines : List Str) (hs : schemaOK s = true)
    (hni : ∀ l ∈ lines, NoImportLine l) (hres : ∀ u ls, env.res u = some ls → ∀ l ∈ ls, NoImportLine l) :
    (∃ r, load conv env pkgs s url lines [] = .ok r) ↔
      ∃ items, treeOf env url lines = .ok items ∧ conforms conv s items = true := by
  obtain ⟨htop, hTI, hitems, hok⟩ := import_free_tops env pkgs s url lines hs hni hres
  rw [C01_load_accept_iff_no_overrides conv env pkgs s url lines htop hok]
  unfold conformsI conforms
  constructor
  · rintro ⟨tops, ht, hc⟩
    obtain ⟨items, hT, rfl, hl⟩ := hitems tops ht
    rw [denoteI_items conv pkgs s items hs hl] at hc
    exact ⟨items, hT, hc⟩
  · rintro ⟨items, hT, hc⟩
    obtain ⟨items2, hT2, _, hl⟩ := hitems _ (hTI items hT)
    rw [hT] at hT2
    cases hT2
    refine ⟨_, hTI items hT, ?_⟩
    rw [denoteI_items conv pkgs s items hs hl]
    exact hc

/-- **End to end**, from a schema DOCUMENT: for the schema object `S` of any document the schema loader accepts (`hkey` as
    in `C01_end_to_end`), a text whose `%import`s are at top level and bring well-formed components (`compsOK`: what the
    schema loader guarantees of a component it has parsed), specifiers whose section-selecting components are basic
    keys, key types of `S` idempotent.  `schemaOK S` is discharged by C10. -/
theorem C01_end_to_end_general (eenv : Elab.Env) (fuel : Nat) (doc : Elab.Node) (S : Schema)
    (hkey : ∀ (kt s r : Str), s ≠ [] → eenv.conv.key kt s = .ok r → r ≠ [])
    (hS : Elab.elabSchema eenv fuel doc = .ok S)
    (conv : Conv) (env : Env) (pkgs : Str → Pkg) (url : Option Str) (lines : List Str) (specs : List Str)
    (hidem : KeyIdemOn conv S)
    (htop : importsAtTop env url lines)
    (hcomp : ∀ tops, treeOfI env url lines = .ok tops → compsOK pkgs S tops = true)
    (hovs : ∀ ovs, specs.mapM addOption = .ok ovs → OvsOK ovs) :
    (∃ r, load conv env pkgs S url lines specs = .ok r) ↔
      ∃ ovs, specs.mapM addOption = .ok ovs ∧ ∃ tops, treeOfI env url lines = .ok tops ∧
        ∃ tops', editI conv S tops ovs = .ok tops' ∧ conformsI conv S pkgs tops' = true :=
  C01_load_accept_iff conv env pkgs S url lines specs hidem htop
    (fun tops ht => importsOK_of_compsOK pkgs tops S (ZCV.Props.C10.C10_elab_schemaOK eenv fuel doc S hkey hS) (hcomp tops ht))
    hovs

/-- **non-vacuity**: in the world of `ZCV/Lemmas/ImportOvEx.lean` the text with a `%import` line, a section of the imported
    type and a section of a static type, loaded with an override into the latter and a top-level key override, satisfies
    the hypotheses of `C01_load_accept_iff`, and the theorem ACCEPTS it … -/
example : ∃ r, load ExOv.conv ExOv.env ExOv.pkgs ExOv.schema none (ExOv.lines '1') ExOv.specsGood = .ok r :=
  (C01_load_accept_iff ExOv.conv ExOv.env ExOv.pkgs ExOv.schema none (ExOv.lines '1') ExOv.specsGood ExOv.idem ExOv.atTop1
    ExOv.ok1 ExOv.ovsGood_ok).mpr
    ⟨ExOv.ovsGood, ExOv.split_good, ExOv.tops '1', ExOv.tree1, ExOv.topsGood, ExOv.edit_good, by
      unfold conformsI; rw [ExOv.denote_good]; rfl⟩

/-- … and REJECTS the same text loaded with an override into the section of the imported type (the edit against the
    schema the load starts with is impossible) -/
example : ¬ ∃ r, load ExOv.conv ExOv.env ExOv.pkgs ExOv.schema none (ExOv.lines '1') ExOv.specsBad = .ok r := by
  rw [C01_load_accept_iff ExOv.conv ExOv.env ExOv.pkgs ExOv.schema none (ExOv.lines '1') ExOv.specsBad ExOv.idem ExOv.atTop1
    ExOv.ok1 ExOv.ovsBad_ok]
  rintro ⟨ovs, h1, tops, h2, tops', h3, _⟩
  rw [ExOv.split_bad] at h1
  cases h1
  rw [ExOv.tree1] at h2
  cases h2
  rw [ExOv.edit_bad] at h3
  cases h3

end ZCV.Props.C01
