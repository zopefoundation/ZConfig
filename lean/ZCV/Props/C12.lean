import ZCV.Lemmas.SlotsElab
import ZCV.Lemmas.ImportLoadEx
import ZCV.Lemmas.HistoryEx
import ZCV.Lemmas.ImportLoadFree
import ZCV.Lemmas.ImportLoadText
/-!
C12: what a slot of ABSTRACT type admits, and `%import`.  An abstract slot takes a header iff it is the first child claiming it
and the header's type is a recorded implementer (`C12_slot_admits_iff`, with the exact answers for `*`/`+` and fixed-name slots
and what `lsStart` does with them); "extends" registers nothing, "implements" does.  `%import` as a loader operation is
idempotent, adds the component's types and exactly the declared implementers, and is visible from its line onward and not
before.  Texts with `%import` lines are held against the declarative `conformsI` / `denoteI` of `Spec/ConformsImport.lean`
(`C12_text_accept_iff_conformsI`, `C12_text_value_eq_denoteI`, `C12_text_accept_iff_final`).  After a history of loads on one
schema object (`runHistoryApp` of `Model/History.lean`, which hands on the application's schema object as ZConfig does) the
vocabulary survives, the implementer tables do not (`C12_slot_after_history_admits_iff`; known findings
C13-implementers-leak / C12-import-leak-accepts).  The closed examples live in the worlds `Ex` and `HEx`.
-/
namespace ZCV.Props.C12
open ZCV ZCV.Cfg

/-- a header naming a concrete type is admitted by an abstract slot only if that type implements the slot's abstract type
    (as the schema, extended by the `%import`s read so far, records it) -/
theorem C12_abstract_slot_admits_only_implementers (s : Schema) (t : SType) (ty : Str) (name : Option Str) (si : SectInfo)
    (hconc : isAbstract s ty = false)
    (h : getsectioninfo s t ty name = .ok si) (ha : isAbstract s si.ty = true) : isSubtype s si.ty ty = true :=
  go_abstract s ty name si hconc ha _ h

/-- the abstract type itself is never admitted: the header is refused before any slot is looked at -/
theorem C12_abstract_itself_refused (st : LS) (ty : Str) (nm : Option Str) (p : Matcher) (below : List Matcher)
    (hs : st.stack = p :: below) (n : Str) (subs : List Str) (h : st.schema.gettype ty = some (.abstract_ n subs)) :
    ∃ e, lsStart st ty nm = .error (.cfg e) := by
  rw [Conf.lsStart_eq st p below hs]
  unfold Conf.sectCheck
  rw [h]
  exact ⟨_, rfl⟩

/-! ### which headers an abstract slot admits -/

/-- **An abstract slot admits exactly the implementers.**  In a well-formed schema (`schemaOK`), let `t` be the schema
    itself or one of its concrete section types, and `<ty name>` a header whose type `ty` is a known concrete type.
    `getsectioninfo` hands the header to a slot `si` of ABSTRACT type if and only if
    * `si` belongs to the first child of `t`, in schema order, that claims the header (a fixed-name child claims the
      headers carrying its name; a `*`/`+` slot claims the headers of its own type or of a type implementing its type), and
    * `ty` is among the implementers the schema records for `si`'s type at this moment
      (`Conf.implementers`: the static ones plus those registered by the `%import` lines read so far). -/
theorem C12_slot_admits_iff (s : Schema) (hs : Conf.schemaOK s = true) (t : SType)
    (ht : t = s.top ∨ ∃ pt, s.gettype pt = some (.concrete t))
    (ty : Str) (tt : SType) (hty : s.gettype ty = some (.concrete tt)) (name : Option Str) (si : SectInfo) :
    (getsectioninfo s t ty name = .ok si ∧ isAbstract s si.ty = true) ↔
      (isAbstract s si.ty = true ∧
        ∃ c, t.children.find? (Conf.claims s ty name) = some c ∧ c.2 = .sect si ∧ ty ∈ Conf.implementers s si.ty) := by
  have hOK := stypeOK_of_schemaOK s hs t ht
  have hconc := isAbstract_concrete s ty tt hty
  constructor
  · intro ⟨h, ha⟩
    exact ⟨ha, (slot_admits_iff s t hOK ty name si hconc ha).mp h⟩
  · intro ⟨ha, h⟩
    exact ⟨(slot_admits_iff s t hOK ty name si hconc ha).mpr h, ha⟩

/-- the same for any container type that is structurally well-formed (`stypeOK`), without the rest of the schema -/
theorem C12_slot_admits_iff_stype (s : Schema) (t : SType) (hOK : Conf.stypeOK s t = true) (ty : Str) (name : Option Str)
    (si : SectInfo) (hconc : isAbstract s ty = false) (ha : isAbstract s si.ty = true) :
    getsectioninfo s t ty name = .ok si ↔
      ∃ c, t.children.find? (Conf.claims s ty name) = some c ∧ c.2 = .sect si ∧ ty ∈ Conf.implementers s si.ty :=
  slot_admits_iff s t hOK ty name si hconc ha

/-- only-if half, as the property words it: whatever slot of abstract type takes the header, the header's type is one
    of that abstract type's implementers, and the slot is a child of the container -/
theorem C12_admitted_is_implementer (s : Schema) (hs : Conf.schemaOK s = true) (t : SType)
    (ht : t = s.top ∨ ∃ pt, s.gettype pt = some (.concrete t))
    (ty : Str) (tt : SType) (hty : s.gettype ty = some (.concrete tt)) (name : Option Str) (si : SectInfo)
    (h : getsectioninfo s t ty name = .ok si) (ha : isAbstract s si.ty = true) :
    ty ∈ Conf.implementers s si.ty ∧ ∃ key, (key, Info.sect si) ∈ t.children := by
  obtain ⟨_, c, hf, hc, hm⟩ := (C12_slot_admits_iff s hs t ht ty tt hty name si).mp ⟨h, ha⟩
  refine ⟨hm, c.1, ?_⟩
  have := List.mem_of_find?_eq_some hf
  rw [← hc]
  exact this

/-- **Unnamed (`*` / `+`) slot of abstract type, exactly.**  If no child before the slot claims the header, the slot takes
    the header when the header's type is a recorded implementer of the slot's type, and otherwise PASSES IT ON to the
    children after it (a type that does not implement — the abstract type's extenders included — is not admitted here). -/
theorem C12_unnamed_slot_exact (s : Schema) (t : SType) (hOK : Conf.stypeOK s t = true) (ty : Str) (name : Option Str)
    (si : SectInfo) (pre post : List (Option Str × Info)) (hch : t.children = pre ++ (none, .sect si) :: post)
    (hpre : ∀ c ∈ pre, Conf.claims s ty name c = false)
    (hconc : isAbstract s ty = false) (ha : isAbstract s si.ty = true) :
    getsectioninfo s t ty name =
      if isSubtype s si.ty ty then .ok si else getsectioninfo.go s ty name post := by
  have hsh : ∀ c ∈ pre, Conf.keyShapeOK c := fun c hc => stypeOK_shape s t hOK c (by rw [hch]; exact List.mem_append_left _ hc)
  unfold getsectioninfo
  rw [hch, go_skip s ty name pre _ hsh hpre, go_at_unnamed_abstract s ty name si post hconc ha]

/-- the converse half of the property for such a slot: an implementer is admitted -/
theorem C12_unnamed_slot_admits_implementer (s : Schema) (t : SType) (hOK : Conf.stypeOK s t = true) (ty : Str)
    (name : Option Str) (si : SectInfo) (pre post : List (Option Str × Info))
    (hch : t.children = pre ++ (none, .sect si) :: post) (hpre : ∀ c ∈ pre, Conf.claims s ty name c = false)
    (hconc : isAbstract s ty = false) (hsub : isSubtype s si.ty ty = true) :
    getsectioninfo s t ty name = .ok si := by
  rw [C12_unnamed_slot_exact s t hOK ty name si pre post hch hpre hconc (isAbstract_of_isSubtype s _ _ hsub), hsub, if_pos rfl]

/-- **Fixed-name slot of abstract type, exactly.**  A child stored under the key `k` whose section type is abstract, and a
    header `<ty k>` that no `*`/`+` slot before it claims (other fixed names cannot: keys are distinct): the header is
    admitted if `ty` is a recorded implementer of the abstract type and REFUSED otherwise — nothing after the child is
    consulted.  So a type that merely extends an implementer, and declares nothing itself, is refused under that name. -/
theorem C12_fixed_name_slot_exact (s : Schema) (t : SType) (hOK : Conf.stypeOK s t = true) (ty k : Str)
    (si : SectInfo) (pre post : List (Option Str × Info)) (hch : t.children = pre ++ (some k, .sect si) :: post)
    (hpre : ∀ c ∈ pre, c.1 = none → Conf.claims s ty (some k) c = false)
    (ha : isAbstract s si.ty = true) :
    getsectioninfo s t ty (some k) =
      if isSubtype s si.ty ty then .ok si else .error (plainErr "section type not allowed for name") := by
  have hmem : ∀ c ∈ pre, c ∈ t.children := fun c hc => by rw [hch]; exact List.mem_append_left _ hc
  have hsh : ∀ c ∈ pre, Conf.keyShapeOK c := fun c hc => stypeOK_shape s t hOK c (hmem c hc)
  have hk : k ≠ [] :=
    (stypeOK_shape s t hOK (some k, .sect si) (by rw [hch]; exact List.mem_append_right _ List.mem_cons_self)).1 k rfl
  have hpre' : ∀ c ∈ pre, Conf.claims s ty (some k) c = false := by
    intro c hc
    cases hck : c.1 with
    | none => exact hpre c hc hck
    | some k' => exact keyed_before_not_claim s t hOK ty k pre post _ hch c hc k' hck
  unfold getsectioninfo
  rw [hch, go_skip s ty (some k) pre _ hsh hpre', go_at_named_abstract s ty k si post hk ha]

/-- admitted under the fixed name iff implementer -/
theorem C12_fixed_name_slot_admits_iff (s : Schema) (t : SType) (hOK : Conf.stypeOK s t = true) (ty k : Str)
    (si : SectInfo) (pre post : List (Option Str × Info)) (hch : t.children = pre ++ (some k, .sect si) :: post)
    (hpre : ∀ c ∈ pre, c.1 = none → Conf.claims s ty (some k) c = false)
    (ha : isAbstract s si.ty = true) :
    (∃ si', getsectioninfo s t ty (some k) = .ok si') ↔ ty ∈ Conf.implementers s si.ty := by
  rw [C12_fixed_name_slot_exact s t hOK ty k si pre post hch hpre ha, ← isSubtype_iff_mem]
  cases isSubtype s si.ty ty <;> simp

/-! ### … and what the loader does with the answer -/

/-- **The header of an implementer opens a section.**  The loader is inside a section whose type has a `*`/`+` slot of
    abstract type; the header `<ty nm>` names a concrete type of the load's CURRENT schema, spelled as the schema spells
    it (the parser lower-cases headers), which is a recorded implementer; no earlier child claims the header and the
    slot's name rule admits `nm`.  Then `startSection` succeeds and pushes a fresh matcher for `ty`. -/
theorem C12_implementer_header_admitted (st : LS) (ty : Str) (nm : Option Str) (parent : Matcher) (below : List Matcher)
    (tt : SType) (si : SectInfo) (pre post : List (Option Str × Info))
    (hs : st.stack = parent :: below) (hb : parent.bag = none)
    (hg : st.schema.gettype ty = some (.concrete tt)) (hcanon : tt.name = some ty)
    (hOK : Conf.stypeOK st.schema parent.ty = true)
    (hch : parent.ty.children = pre ++ (none, .sect si) :: post)
    (hpre : ∀ c ∈ pre, Conf.claims st.schema ty nm c = false)
    (hsub : isSubtype st.schema si.ty ty = true)
    (hname : isAllowedName si nm = true) (hun : (nm.isSome || allowUnnamed si) = true) :
    lsStart st ty nm = .ok { st with stack := newMatcher tt nm none :: parent :: below } :=
  lsStart_admitted_unnamed st ty nm parent below tt si pre post hs hb hg hcanon hch
    (fun c hc => stypeOK_shape _ _ hOK c (by rw [hch]; exact List.mem_append_left _ hc)) hpre hsub hname hun

/-- the same under a fixed name -/
theorem C12_implementer_header_admitted_fixed_name (st : LS) (ty k : Str) (parent : Matcher) (below : List Matcher)
    (tt : SType) (si : SectInfo) (pre post : List (Option Str × Info))
    (hs : st.stack = parent :: below) (hb : parent.bag = none)
    (hg : st.schema.gettype ty = some (.concrete tt)) (hcanon : tt.name = some ty)
    (hOK : Conf.stypeOK st.schema parent.ty = true)
    (hch : parent.ty.children = pre ++ (some k, .sect si) :: post)
    (hpre : ∀ c ∈ pre, Conf.claims st.schema ty (some k) c = false)
    (hsub : isSubtype st.schema si.ty ty = true) (hname : isAllowedName si (some k) = true) :
    lsStart st ty (some k) = .ok { st with stack := newMatcher tt (some k) none :: parent :: below } :=
  lsStart_admitted_named st ty k parent below tt si pre post hs hb hg hcanon hch
    ((stypeOK_shape _ _ hOK (some k, .sect si) (by rw [hch]; exact List.mem_append_right _ List.mem_cons_self)).1 k rfl)
    (fun c hc => stypeOK_shape _ _ hOK c (by rw [hch]; exact List.mem_append_left _ hc)) hpre hsub hname

/-- **A header nobody claims is refused**: when every section child of the container is a slot whose type neither is
    the header's type nor lists it as implementer (and no child carries the header's name), `startSection` raises
    "no matching section defined" -/
theorem C12_non_implementer_header_refused (st : LS) (ty : Str) (nm : Option Str) (parent : Matcher) (below : List Matcher)
    (tt : SType) (hs : st.stack = parent :: below)
    (hg : st.schema.gettype ty = some (.concrete tt)) (hcanon : tt.name = some ty)
    (hOK : Conf.stypeOK st.schema parent.ty = true)
    (hnone : ∀ c ∈ parent.ty.children, Conf.claims st.schema ty nm c = false) :
    lsStart st ty nm = .error (plainErr "no matching section defined") :=
  lsStart_unclaimed_refused st ty nm parent below tt hs hg hcanon (stypeOK_shape _ _ hOK) hnone

/-- whatever the loader admits, it admitted by looking the type up in, and asking `getsectioninfo` of, the schema the
    load holds at that line; in particular a header taken by an abstract slot names an implementer recorded THERE -/
theorem C12_admitted_by_current_schema (st st' : LS) (ty : Str) (nm : Option Str) (h : lsStart st ty nm = .ok st') :
    ∃ parent below tt ci, st.stack = parent :: below ∧ st.schema.gettype ty = some (.concrete tt) ∧
      getsectioninfo st.schema parent.ty (tt.name.getD []) nm = .ok ci ∧
      (tt.name = some ty → isAbstract st.schema ci.ty = true → ty ∈ Conf.implementers st.schema ci.ty) := by
  obtain ⟨parent, below, tt, ci, _, _, hs, hg, hgi, _, _, _⟩ := lsStart_inv h
  refine ⟨parent, below, tt, ci, hs, hg, hgi, ?_⟩
  intro hcanon ha
  rw [hcanon] at hgi
  exact (isSubtype_iff_mem _ _ _).mp
    (C12_abstract_slot_admits_only_implementers _ _ _ _ _ (isAbstract_concrete _ _ _ hg) hgi ha)

/-! ### extending is not implementing -/

/-- **`isSubtype` is membership in the recorded list** and nothing else: the model of a schema has no `extends`
    relation at all, so a type that extends an implementer is an implementer only if its own name was recorded -/
theorem C12_extender_not_implementer (s : Schema) (a ty : Str) :
    isSubtype s a ty = true ↔ ty ∈ Conf.implementers s a :=
  isSubtype_iff_mem s a ty

/-- … and the schema loader records a name only on `implements`: a `<sectiontype name=… extends=…>` element WITHOUT an
    `implements` attribute leaves every abstract type's implementer list as it was (whatever it extends) -/
theorem C12_extends_registers_nothing (env : Elab.Env) (st st' : Elab.PSt) (attrs : Elab.Attrs)
    (h : Elab.startSectiontype env st attrs = .ok st') (hni : Elab.attr attrs "implements" = none) (a ty : Str) :
    isSubtype st'.es.toSchema a ty = isSubtype st.es.toSchema a ty := by
  obtain ⟨v, name, st1, es2, es3, _, _, h3, h4, h5, rfl⟩ := Elab.startSectiontype_ok h
  obtain ⟨p, rfl⟩ := Elab.pushPrefix_ok h3
  obtain ⟨_, t, _, rfl⟩ := Elab.sectiontypeBase_ok h4
  rw [Elab.sectiontypeImplements_none _ _ _ hni] at h5
  cases h5
  rw [Elab.isSubtype_toSchema, Elab.isSubtype_toSchema]
  exact Elab.esSub_append_concrete _ _ t a ty

/-- … whereas `implements="i"` does record the new type under `i` -/
theorem C12_implements_registers (env : Elab.Env) (st st' : Elab.PSt) (attrs : Elab.Attrs) (i : Str)
    (h : Elab.startSectiontype env st attrs = .ok st') (hi : Elab.attr attrs "implements" = some i) :
    ∃ nameAttr name ifname, Elab.attr attrs "name" = some nameAttr ∧ Elab.basicKeyE nameAttr = .ok name ∧
      Elab.basicKeyE i = .ok ifname ∧ isSubtype st'.es.toSchema ifname name = true := by
  obtain ⟨v, name, st1, es2, es3, h1, h2, _, _, h5, rfl⟩ := Elab.startSectiontype_ok h
  obtain ⟨ifn, an, nm, subs, d, h6, h7, rfl⟩ := Elab.sectiontypeImplements_some_ok hi h5
  refine ⟨v, name, ifn, h1, h2, h6, ?_⟩
  rw [Elab.isSubtype_toSchema]
  unfold Elab.esSub Elab.ES.gettype
  unfold Elab.ES.gettype at h7
  -- the entry found under `lower ifn` is stored under that key: it is the entry `addSubtype` writes
  have hk : an = lower ifn := by simpa using List.find?_some h7
  subst hk
  rw [Elab.addSubtype_find_self _ _ _ _ _ _ _ h7]
  simp only
  split
  · assumption
  · simp

/-! ### `%import` -/

/-- **`%import` is idempotent.**  A package whose component is already among the schema's components: nothing is read,
    nothing changes (the load merely owns a private schema from now on) -/
theorem C12_import_idempotent (st : LS) (pkg url : Str) (types : List (Str × TypeEntry)) (impls : List (Str × Str))
    (hp : st.pkgs pkg = .component url types impls) (hin : st.schema.components.contains url = true) :
    lsImport st pkg = .ok { st with privateSchema := true } := by
  rw [lsImport_component st pkg url types impls hp, hin, if_pos rfl]

/-- importing a package twice in a row: the second `%import` returns the state unchanged -/
theorem C12_import_twice (st st1 : LS) (pkg : Str) (h : lsImport st pkg = .ok st1) : lsImport st1 pkg = .ok st1 := by
  obtain ⟨_, _, hpk, _, hpriv⟩ := lsImport_frame st st1 pkg h
  obtain ⟨url, types, impls, hp⟩ := lsImport_ok_component st st1 pkg h
  have hp1 : st1.pkgs pkg = .component url types impls := by rw [hpk, hp]
  have hin := lsImport_contains st st1 pkg url types impls hp h
  rw [lsImport_component st1 pkg url types impls hp1, hin, if_pos rfl, LS_eta_private st1 hpriv]

/-- … and so does an `%import` of the same package anywhere later in the same load, whatever was read in between
    (sections, keys, other `%import`s, `%include`d resources with their own `%import`s): the schema, the values read so
    far and the handlers are untouched -/
theorem C12_import_again_later (env : Env) (fuel : Nat) (active : List Str) (url : Option Str) (lines : List Str) (n : Nat)
    (st : LS) (ps0 ps : PS LS) (pkg : Str) (h : lsImport st pkg = .ok ps0.ctx)
    (hrun : runLines fuel env loaderCtx active url lines n ps0 = .ok ps) :
    lsImport ps.ctx pkg = .ok { ps.ctx with privateSchema := true } := by
  have hg : Grows ps0.ctx ps.ctx :=
    run_rel opsRel_grows env (fun _ => True) (fun _ _ _ _ s pkg s' hi => lsImport_grows s s' pkg hi)
      (fun _ _ _ _ _ _ _ _ _ => trivial) fuel active url lines n ps0 ps (fun _ _ => trivial) hrun
  obtain ⟨_, _, hpk, _, _⟩ := lsImport_frame st ps0.ctx pkg h
  obtain ⟨u, types, impls, hp⟩ := lsImport_ok_component st ps0.ctx pkg h
  have hp1 : ps.ctx.pkgs pkg = .component u types impls := by rw [hg.1, hpk, hp]
  have hin0 := lsImport_contains st ps0.ctx pkg u types impls hp h
  rw [lsImport_component ps.ctx pkg u types impls hp1, hg.2 u hin0, if_pos rfl]

/-- **An imported implementer is an implementer from then on.**  After a successful `%import` of a component not seen
    before, every type `c` of the component declared `implements="a"` — `a` an abstract type the schema already had,
    written in its canonical (lower-case) spelling — is recorded among the implementers of `a` -/
theorem C12_import_adds_implementers (st st1 : LS) (pkg url : Str) (types : List (Str × TypeEntry))
    (impls : List (Str × Str)) (hp : st.pkgs pkg = .component url types impls)
    (hnew : st.schema.components.contains url = false) (himp : lsImport st pkg = .ok st1)
    (c a : Str) (hmem : (c, a) ∈ impls) (hc : c ∈ types.map (·.1))
    (hla : lower a = a) (habs : isAbstract st.schema a = true) :
    isSubtype st1.schema a c = true := by
  obtain ⟨te, hte, rfl⟩ := List.mem_map.mp hc
  exact (lsImport_defines_and_registers st st1 pkg url types impls hp hnew himp te.1 a te.2 hmem hte hla habs).1

/-- the same when the abstract type `a` is defined by the component itself, before `c` -/
theorem C12_import_adds_implementers_of_own_abstract (st st1 : LS) (pkg url : Str) (impls : List (Str × Str))
    (p1 p2 p3 : List (Str × TypeEntry)) (c a n : Str) (subs : List Str) (e : TypeEntry)
    (hp : st.pkgs pkg = .component url (p1 ++ (a, .abstract_ n subs) :: (p2 ++ (c, e) :: p3)) impls)
    (hnew : st.schema.components.contains url = false) (himp : lsImport st pkg = .ok st1)
    (hmem : (c, a) ∈ impls) (hla : lower a = a) :
    isSubtype st1.schema a c = true := by
  obtain ⟨hf, rfl⟩ := lsImport_ok_new st st1 pkg url _ impls hp hnew himp
  rw [isSubtype_iff_mem]
  exact withComponent_registers_own _ impls c a n subs e p1 p2 p3 hla hmem hf

/-- the component's concrete types are known types from then on -/
theorem C12_import_adds_types (st st1 : LS) (pkg url : Str) (types : List (Str × TypeEntry))
    (impls : List (Str × Str)) (hp : st.pkgs pkg = .component url types impls)
    (hnew : st.schema.components.contains url = false) (himp : lsImport st pkg = .ok st1)
    (c : Str) (tc : SType) (hc : (c, .concrete tc) ∈ types) (hlc : lower c = c) :
    st1.schema.gettype c = some (.concrete tc) := by
  obtain ⟨hf, rfl⟩ := lsImport_ok_new st st1 pkg url types impls hp hnew himp
  obtain ⟨pre, post, rfl⟩ := List.append_of_mem hc
  exact withComponent_defines _ impls c tc pre post hlc hf

/-- **… and nothing else is added** to the abstract types the schema had: an implementer recorded after the import was
    recorded before, or is a type of the component that the component declares as implementing this abstract type.
    The concrete types the schema had are unchanged, as are its top level and handler. -/
theorem C12_import_adds_only_declared (st st1 : LS) (pkg url : Str) (types : List (Str × TypeEntry))
    (impls : List (Str × Str)) (hp : st.pkgs pkg = .component url types impls)
    (hnew : st.schema.components.contains url = false) (himp : lsImport st pkg = .ok st1) :
    (∀ a y, isAbstract st.schema a = true → isSubtype st1.schema a y = true →
        isSubtype st.schema a y = true ∨ (y ∈ types.map (·.1) ∧ (y, lower a) ∈ impls)) ∧
    (∀ a y, isAbstract st.schema a = true → isSubtype st.schema a y = true → isSubtype st1.schema a y = true) ∧
    (∀ x t, st.schema.gettype x = some (.concrete t) → st1.schema.gettype x = some (.concrete t)) ∧
    st1.schema.top = st.schema.top ∧ st1.schema.handler = st.schema.handler := by
  have hext := lsImport_ext st st1 pkg url types impls hp hnew himp
  refine ⟨?_, ?_, fun x t h => hext.conc x t h, hext.top, hext.handler⟩
  · intro a y ha hy
    rw [isSubtype_iff_mem] at hy
    rcases hext.only a y ha hy with h | h
    · exact .inl ((isSubtype_iff_mem _ _ _).mpr h)
    · exact .inr h
  · intro a y ha hy
    rw [isSubtype_iff_mem] at hy ⊢
    exact hext.mono a y ha hy

/-- **`%import` is refused for names that are not importable packages providing a component**: the four refusal
    classes give configuration errors (SchemaError for an illegal name, SchemaResourceError for the rest) -/
theorem C12_import_refused (st : LS) (pkg : Str) :
    (st.pkgs pkg = .illegalName → ∃ e, lsImport st pkg = .error (.cfg e) ∧ e.kind = .schema) ∧
    (st.pkgs pkg = .notImportable → ∃ e, lsImport st pkg = .error (.cfg e) ∧ e.kind = .schemaResource) ∧
    (st.pkgs pkg = .notPackage → ∃ e, lsImport st pkg = .error (.cfg e) ∧ e.kind = .schemaResource) ∧
    (st.pkgs pkg = .noComponent → ∃ e, lsImport st pkg = .error (.cfg e) ∧ e.kind = .schemaResource) := by
  refine ⟨?_, ?_, ?_, ?_⟩ <;> intro h <;> unfold lsImport <;> rw [h] <;> exact ⟨_, rfl, rfl⟩

/-- every failure of `%import` is a configuration error, and only a package providing a component is imported -/
theorem C12_import_refused_iff (st : LS) (pkg : Str) :
    ((∃ st', lsImport st pkg = .ok st') ∨ (∃ e, lsImport st pkg = .error (.cfg e))) ∧
    ((∃ st', lsImport st pkg = .ok st') → ∃ url types impls, st.pkgs pkg = .component url types impls) := by
  rw [lsImport_eq]
  cases st.pkgs pkg with
  | component url types impls =>
    refine ⟨?_, fun _ => ⟨url, types, impls, rfl⟩⟩
    simp only [importSchema]
    cases st.schema.components.contains url
    · cases freshKeys (st.schema.types.map (·.1)) types
      · exact .inr ⟨_, rfl⟩
      · exact .inl ⟨_, rfl⟩
    · exact .inl ⟨_, rfl⟩
  | _ => exact ⟨.inr ⟨_, rfl⟩, fun ⟨_, h⟩ => by cases h⟩

/-- a component that defines a type name the load's schema already has is refused (SchemaError) -/
theorem C12_import_redefinition_refused (st : LS) (pkg url : Str) (types : List (Str × TypeEntry))
    (impls : List (Str × Str)) (hp : st.pkgs pkg = .component url types impls)
    (hnew : st.schema.components.contains url = false)
    (hclash : ∃ te ∈ types, te.1 ∈ st.schema.types.map (·.1)) :
    lsImport st pkg = .error (.cfg { kind := .schema, tag := "type name cannot be redefined" }) := by
  rw [lsImport_eq, hp, importSchema_new _ _ _ _ hnew]
  cases hf : freshKeys (st.schema.types.map (·.1)) types with
  | false => rfl
  | true =>
    obtain ⟨te, hte, hk⟩ := hclash
    exact absurd hk (freshKeys_not_mem types _ hf te hte)

/-- **An `%import` is visible only from its line onward.**  Take any accepted text `A ++ [l] ++ B` where the part `A`
    before the header line `l = <ty nm>` has no `%import` line (nor have the resources it can `%include`).  Then the
    header was judged by the schema the load STARTED with — `ty` is a concrete type of that schema and one of that
    schema's slots takes it — whatever `%import` lines follow in `B`. -/
theorem C12_import_visible_only_after (env : Env)
    (hres : ∀ u ls, env.res u = some ls → ∀ l ∈ ls, NoImportLine l)
    (fuel : Nat) (active : List Str) (url : Option Str) (A B : List Str) (l : Str) (n : Nat) (st st' : PS LS)
    (hA : ∀ x ∈ A, NoImportLine x) (ty : Str) (nm : Option Str) (e : Bool)
    (hs : lineShape (strip l) = .open_ ty nm e)
    (h : parseLines fuel env loaderCtx active url (A ++ l :: B) n st = .ok st') :
    ∃ st1 parent below t ci, runLines fuel env loaderCtx active url A n st = .ok st1 ∧
      st1.ctx.stack = parent :: below ∧ st.ctx.schema.gettype ty = some (.concrete t) ∧
      getsectioninfo st.ctx.schema parent.ty (t.name.getD []) nm = .ok ci ∧ isAllowedName ci nm = true := by
  cases h1 : runLines fuel env loaderCtx active url A n st with
  | error f => rw [parseLines_append, h1] at h; cases h
  | ok st1 =>
    rw [parse_at h1] at h
    obtain ⟨s2, hstep, _⟩ := bind_ok_inv h
    have hsch := run_without_import_keeps_schema env hres fuel active url A n st st1 hA h1
    rw [stepLine_of_open hs, openSection_eq] at hstep
    obtain ⟨_, hstart, _⟩ := bind_ok_inv hstep
    rw [mapError_ok_iff] at hstart
    obtain ⟨parent, below, t, ci, _, _, hst, hg, hgi, hal, _, _⟩ := lsStart_inv hstart
    rw [hsch] at hg hgi
    exact ⟨st1, parent, below, t, ci, rfl, hst, hg, hgi, hal⟩

/-- in particular a type that only a LATER `%import` would provide cannot be used: the text is rejected -/
theorem C12_use_before_import_rejected (env : Env)
    (hres : ∀ u ls, env.res u = some ls → ∀ l ∈ ls, NoImportLine l)
    (fuel : Nat) (active : List Str) (url : Option Str) (A B : List Str) (l : Str) (n : Nat) (st : PS LS)
    (hA : ∀ x ∈ A, NoImportLine x) (ty : Str) (nm : Option Str) (e : Bool)
    (hs : lineShape (strip l) = .open_ ty nm e) (hunknown : st.ctx.schema.gettype ty = none) :
    ∀ st', parseLines fuel env loaderCtx active url (A ++ l :: B) n st ≠ .ok st' := by
  intro st' h
  obtain ⟨_, _, _, _, _, _, _, hg, _⟩ := C12_import_visible_only_after env hres fuel active url A B l n st st' hA ty nm e hs h
  rw [hunknown] at hg
  cases hg

/-- **… and from its line onward it IS visible.**  Before the `%import` the type `c` is unknown and its header refused;
    right after a successful `%import` of a component defining `c` with `implements="a"`, the header `<c nm>` is admitted
    by a `*`/`+` slot of type `a` of the section the loader is in. -/
theorem C12_imported_implementer_admitted (st st1 : LS) (pkg url : Str) (types : List (Str × TypeEntry))
    (impls : List (Str × Str)) (hp : st.pkgs pkg = .component url types impls)
    (hnew : st.schema.components.contains url = false) (himp : lsImport st pkg = .ok st1)
    (c a : Str) (tc : SType) (hmem : (c, a) ∈ impls) (hc : (c, .concrete tc) ∈ types) (hcanon : tc.name = some c)
    (hlc : lower c = c) (hla : lower a = a) (habs : isAbstract st.schema a = true)
    (hunknown : st.schema.gettype c = none)
    (nm : Option Str) (parent : Matcher) (below : List Matcher) (si : SectInfo) (pre post : List (Option Str × Info))
    (hs : st.stack = parent :: below) (hb : parent.bag = none)
    (hOK : Conf.stypeOK st.schema parent.ty = true)
    (hch : parent.ty.children = pre ++ (none, .sect si) :: post) (hty : si.ty = a)
    (hpre : ∀ c' ∈ pre, Conf.claims st1.schema c nm c' = false)
    (hname : isAllowedName si nm = true) (hun : (nm.isSome || allowUnnamed si) = true) :
    lsStart st c nm = .error (.cfg { kind := .schema, tag := "unknown type name" }) ∧
    lsStart st1 c nm = .ok { st1 with stack := newMatcher tc nm none :: parent :: below } := by
  refine ⟨lsStart_unknown_refused st c nm parent below hs hunknown, ?_⟩
  obtain ⟨hsub, hdef⟩ := lsImport_defines_and_registers st st1 pkg url types impls hp hnew himp c a _ hmem hc hla habs
  obtain ⟨hstack, _, _, _, _⟩ := lsImport_frame st st1 pkg himp
  exact lsStart_admitted_unnamed st1 c nm parent below tc si pre post (by rw [hstack, hs]) hb (hdef tc rfl hlc) hcanon hch
    (fun c' hc' => stypeOK_shape _ _ hOK c' (by rw [hch]; exact List.mem_append_left _ hc')) hpre (by rw [hty]; exact hsub)
    hname hun

/-- **Counter-fact (known findings C13-implementers-leak / C12-import-leak-accepts).**  "`%import` extends the vocabulary
    of that load only" does NOT hold for the implementer tables, in the model as in ZConfig: after loading the one-line
    text `%import p`, the APPLICATION's schema (`schemaAfter`) records the imported type `leak` as an implementer of its
    abstract type `ab` — which it did not before the load — so a later load against the same schema object would find
    `ab`'s slot open to a type named `leak`. -/
theorem C12_import_this_load_only_counterexample :
    ∃ r, load Ex.conv Ex.env Ex.pkgs Ex.schema none ["%import p".toList] [] = .ok r ∧
      isSubtype Ex.schema "ab".toList "leak".toList = false ∧
      isSubtype r.schemaAfter "ab".toList "leak".toList = true := by
  obtain ⟨r, hr, hs⟩ := Ex.load_import_p
  exact ⟨r, hr, by decide +kernel, by rw [hs]; decide⟩

/-- whole loads, closed: with package `p` providing `leak` (which implements `ab`) and a schema whose top level has a `*`
    slot of type `ab`, the text `%import p` / `<leak/>` is ACCEPTED and yields the section in the slot's attribute … -/
theorem C12_example_import_then_use :
    ∃ r, load Ex.conv Ex.env Ex.pkgs Ex.schema none ["%import p".toList, "<leak/>".toList] [] = .ok r ∧
      r.value = .sect [] none [("s".toList, .list [.sect "leak".toList none []])] :=
  Ex.load_import_then_use

/-- … and the same two lines in the other order are REJECTED at line 1: `leak` is not a known type yet -/
theorem C12_example_use_then_import :
    load Ex.conv Ex.env Ex.pkgs Ex.schema none ["<leak/>".toList, "%import p".toList] [] =
      .error (.cfg { kind := .syntax, line := some 1, url := none, tag := "start:unknown type name" }) :=
  Ex.load_use_then_import

/-! ### closed instances (the hypotheses above are satisfiable; the statements are not vacuous) -/

/-- the example schemas are well-formed -/
example : Conf.schemaOK Ex.schema = true ∧ Conf.schemaOK Ex.schema' = true ∧ Conf.schemaOK Ex.schema2 = true ∧
    Conf.schemaOK Ex.schema3 = true := by decide +kernel

/-- schema2 = abstract `ab` implemented by `impl`; `ext` extends `impl` without `implements`; the top level has a `*` slot
    and a slot named `fx`, both of type `ab`.  `<impl>` goes to the `*` slot (instance of
    `C12_unnamed_slot_admits_implementer`); `<ext>` is claimed by no child and refused. -/
example : getsectioninfo Ex.schema2 Ex.top2 "impl".toList none = .ok Ex.slot :=
  C12_unnamed_slot_admits_implementer Ex.schema2 Ex.top2 (by decide +kernel) "impl".toList none Ex.slot []
    [(some "fx".toList, .sect Ex.fixedSlot)] rfl (fun _ h => by cases h) (by decide +kernel) (by decide +kernel)
example : getsectioninfo Ex.schema2 Ex.top2 "ext".toList none = .error (plainErr "no matching section defined") :=
  go_none_claims Ex.schema2 "ext".toList none Ex.top2.children (stypeOK_shape Ex.schema2 Ex.top2 (by decide +kernel)) (by decide +kernel)
/-- under the fixed name (schema3: only the `fx` slot; instances of `C12_fixed_name_slot_exact`): `<impl fx>` is admitted
    and `<ext fx>` refused -/
example : getsectioninfo Ex.schema3 Ex.top3 "impl".toList (some "fx".toList) = .ok Ex.fixedSlot := by
  rw [C12_fixed_name_slot_exact Ex.schema3 Ex.top3 (by decide +kernel) "impl".toList "fx".toList Ex.fixedSlot [] [] rfl
    (fun _ h => by cases h) (by decide +kernel)]
  rw [show isSubtype Ex.schema3 Ex.fixedSlot.ty "impl".toList = true by decide +kernel, if_pos rfl]
example : getsectioninfo Ex.schema3 Ex.top3 "ext".toList (some "fx".toList) =
    .error (plainErr "section type not allowed for name") := by
  rw [C12_fixed_name_slot_exact Ex.schema3 Ex.top3 (by decide +kernel) "ext".toList "fx".toList Ex.fixedSlot [] [] rfl
    (fun _ h => by cases h) (by decide +kernel)]
  rw [show isSubtype Ex.schema3 Ex.fixedSlot.ty "ext".toList = false by decide +kernel]
  rfl
/-- `C12_slot_admits_iff` for schema2: `ext` is a known concrete type and no abstract slot takes it -/
example : ¬ (getsectioninfo Ex.schema2 Ex.schema2.top "ext".toList none = .ok Ex.slot ∧
    isAbstract Ex.schema2 Ex.slot.ty = true) := by
  rw [C12_slot_admits_iff Ex.schema2 (by decide +kernel) Ex.schema2.top (.inl rfl) "ext".toList Ex.ext rfl none Ex.slot]
  intro ⟨_, c, _, _, hm⟩
  revert hm
  decide +kernel

/-- use before / after `%import p` (package `p` provides `leak`, which implements `ab`): refused, then admitted
    — an instance of `C12_imported_implementer_admitted`, all of whose hypotheses hold here -/
example : lsStart Ex.st0 "leak".toList none = .error (.cfg { kind := .schema, tag := "unknown type name" }) ∧
    lsStart Ex.st1 "leak".toList none =
      .ok { Ex.st1 with stack := newMatcher Ex.leak none none :: newMatcher Ex.top none none :: [] } :=
  C12_imported_implementer_admitted Ex.st0 Ex.st1 "p".toList "u".toList [("leak".toList, .concrete Ex.leak)]
    [("leak".toList, "ab".toList)] rfl (by decide +kernel) Ex.import_p "leak".toList "ab".toList Ex.leak
    (List.Mem.head _) (List.Mem.head _) rfl (by decide +kernel) (by decide +kernel) (by decide +kernel) (by decide +kernel)
    none (newMatcher Ex.top none none) [] Ex.slot [] [] rfl rfl (by decide +kernel) rfl rfl (fun _ h => by cases h)
    (by decide +kernel) (by decide +kernel)
example : lsImport Ex.st1 "p".toList = .ok Ex.st1 := C12_import_twice Ex.st0 Ex.st1 "p".toList Ex.import_p
example : isSubtype Ex.st0.schema "ab".toList "leak".toList = false ∧ isSubtype Ex.st1.schema "ab".toList "leak".toList = true := by
  decide +kernel
/-- `C12_use_before_import_rejected` at work: `<leak/>` on line 1 and `%import p` on line 2 is rejected -/
example : ∀ st', parseLines 64 Ex.env loaderCtx [] none ["<leak/>".toList, "%import p".toList] 0
    { ctx := Ex.st0, stack := [], defs := [] } ≠ .ok st' :=
  C12_use_before_import_rejected Ex.env (fun _ _ h => by cases h) 64 [] none [] ["%import p".toList] "<leak/>".toList 0
    { ctx := Ex.st0, stack := [], defs := [] } (fun _ h => by cases h) "leak".toList none true
    Ex.shape_leak rfl
/-- the refusal classes -/
example : (∃ e, lsImport Ex.st0 "bad name".toList = .error (.cfg e) ∧ e.kind = .schema) ∧
    (∃ e, lsImport Ex.st0 "os".toList = .error (.cfg e) ∧ e.kind = .schemaResource) ∧
    (∃ e, lsImport Ex.st0 "os.path".toList = .error (.cfg e) ∧ e.kind = .schemaResource) ∧
    (∃ e, lsImport Ex.st0 "nosuch".toList = .error (.cfg e) ∧ e.kind = .schemaResource) :=
  ⟨⟨_, rfl, rfl⟩, ⟨_, rfl, rfl⟩, ⟨_, rfl, rfl⟩, ⟨_, rfl, rfl⟩⟩

/-! ### texts WITH `%import` lines against the declarative "conforms with imports" (`ZCV/Spec/ConformsImport.lean`) -/

open ZCV.Conf in
/-- **The spec's `extend` is what `%import` does.**  `lsImport` succeeds iff `extend` is defined on the load's current
    schema and the package, and the load then continues with exactly the schema `extend` gives; nothing else of the
    load's state changes (but the "private copy" flag). -/
theorem C12_extend_eq_lsImport (st : LS) (pkg : Str) :
    (lsImport st pkg).toOption =
      (extend st.schema (st.pkgs pkg)).map fun sch => { st with schema := sch, privateSchema := true } :=
  lsImport_toOption st pkg

open ZCV.Conf in
/-- **Accepted ⇔ conforms, with `%import`s, on trees.**  Top-level items (sections and keys of any size and depth,
    `%import`s anywhere between them) whose headers are spelled as the parser spells them (`lowTops`), imports that
    keep the schema of the load well-formed (`importsOK`: `schemaOK` at the start and after each successful
    `%import`): the tree-driven loader returns a configuration iff the items conform in the sense of `conformsI` —
    every `%import` succeeds; every top-level section, with everything in it, conforms to the schema in force AT ITS
    POSITION; the top-level container is complete against the fully extended schema. -/
theorem C12_accept_iff_conformsI (conv : Conv) (pkgs : Str → Pkg) (s : Schema) (tops : List TopItem)
    (hok : importsOK pkgs s tops = true) (hl : lowTops tops = true) :
    (∃ r, loadTops conv pkgs s tops = .ok r) ↔ conformsI conv s pkgs tops = true :=
  ok_iff_isSome (loadTops_eq_denoteI conv pkgs s tops hok hl)

open ZCV.Conf in
/-- … and the configuration returned is `denoteI`; the schema the load ends with is the fully extended one -/
theorem C12_value_eq_denoteI (conv : Conv) (pkgs : Str → Pkg) (s : Schema) (tops : List TopItem)
    (hok : importsOK pkgs s tops = true) (hl : lowTops tops = true) (v : Val) (sA : Schema)
    (h : loadTops conv pkgs s tops = .ok (v, sA)) :
    denoteI conv s pkgs tops = some v ∧ schemaAt s pkgs tops tops.length = some sA := by
  have h1 := loadTops_eq_denoteI conv pkgs s tops hok hl
  rw [h] at h1
  exact ⟨h1.symm, by rw [schemaAt_length]; exact loadTops_schema conv pkgs s tops hok hl v sA h⟩

open ZCV.Conf in
/-- **`conformsI` in one schema** ("from the importing line onward", made explicit): the items conform iff every
    `%import` succeeds, every section header — at any depth — names a type KNOWN to the schema in force at the position
    of its top-level item (`knownAt`), and the text without its `%import` lines conforms (`conforms` of C01) to the
    fully extended schema.  The value is then `denote` (C02) against that schema. -/
theorem C12_denoteI_eq_final (conv : Conv) (pkgs : Str → Pkg) (s : Schema) (tops : List TopItem)
    (hok : importsOK pkgs s tops = true) (hl : lowTops tops = true) :
    denoteI conv s pkgs tops =
      (extendBy pkgs s tops).bind fun sF =>
        if knownAt pkgs s tops then denote conv sF (itemsOf tops) else none :=
  denoteI_eq_final conv pkgs s tops hok hl

open ZCV.Conf in
/-- the same as an equivalence -/
theorem C12_conformsI_iff_final (conv : Conv) (pkgs : Str → Pkg) (s : Schema) (tops : List TopItem)
    (hok : importsOK pkgs s tops = true) (hl : lowTops tops = true) :
    conformsI conv s pkgs tops = true ↔
      ∃ sF, extendBy pkgs s tops = some sF ∧ knownAt pkgs s tops = true ∧ conforms conv sF (itemsOf tops) = true := by
  unfold conformsI conforms
  rw [denoteI_eq_final conv pkgs s tops hok hl]
  cases extendBy pkgs s tops with
  | none => simp
  | some sF =>
    simp only [Option.bind_some, Option.some.injEq, exists_eq_left']
    cases knownAt pkgs s tops <;> simp

open ZCV.Conf in
/-- **Use before import, position by position.**  In conforming items, the `k`-th top-level item is a section (or key)
    all of whose headers name types of `schemaAt … k`, the schema extended by the `%import`s among the first `k`
    items only: a type that a LATER `%import` provides cannot be used. -/
theorem C12_type_known_at_position (conv : Conv) (pkgs : Str → Pkg) (s : Schema) (tops : List TopItem)
    (hok : importsOK pkgs s tops = true) (hl : lowTops tops = true) (hc : conformsI conv s pkgs tops = true)
    (k : Nat) (i : Item) (hk : tops[k]? = some (.item i)) :
    ∃ sk, schemaAt s pkgs tops k = some sk ∧ knownItem sk i = true := by
  obtain ⟨_, _, hkn, _⟩ := (C12_conformsI_iff_final conv pkgs s tops hok hl).mp hc
  exact knownAt_pos pkgs tops s hkn k i hk

open ZCV.Conf in
/-- **Accepted ⇔ conforms, for configuration TEXT with `%import` lines.**  For every text of any length (lines,
    `%define`s, `%include`s of any depth, `%import`s here and in the included resources — through the parser model with
    its generated patterns), loaded without overrides, such that
    * no `%import` is met while a section is open (`importsAtTop`; the code allows that, the spec does not cover it), and
    * the imports of the text keep the schema of the load well-formed (`importsOK`, which includes `schemaOK s`):

    the loader returns a configuration iff the parser accepts the text and its top-level items conform (`conformsI`). -/
theorem C12_text_accept_iff_conformsI (conv : Conv) (env : Env) (pkgs : Str → Pkg) (s : Schema) (url : Option Str)
    (lines : List Str) (htop : importsAtTop env url lines)
    (hok : ∀ tops, treeOfI env url lines = .ok tops → importsOK pkgs s tops = true) :
    (∃ r, load conv env pkgs s url lines [] = .ok r) ↔
      ∃ tops, treeOfI env url lines = .ok tops ∧ conformsI conv s pkgs tops = true :=
  (ok_iff_isSome (load_eq_denoteI conv env pkgs s url lines htop hok)).trans (bind_isSome_iff _ _)

open ZCV.Conf in
/-- **… and the value is `denoteI`** of the top-level items of the text; the schema the load ends with (reported as
    `schemaAfter`) is the schema extended by all the `%import`s of the text -/
theorem C12_text_value_eq_denoteI (conv : Conv) (env : Env) (pkgs : Str → Pkg) (s : Schema) (url : Option Str)
    (lines : List Str) (r : LoadResult) (htop : importsAtTop env url lines)
    (hok : ∀ tops, treeOfI env url lines = .ok tops → importsOK pkgs s tops = true)
    (h : load conv env pkgs s url lines [] = .ok r) :
    ∃ tops, treeOfI env url lines = .ok tops ∧ denoteI conv s pkgs tops = some r.value ∧
      schemaAt s pkgs tops tops.length = some r.schemaAfter := by
  have e := load_eq_loadTops conv env pkgs s url lines htop
  rw [h] at e
  cases ht : treeOfI env url lines with
  | error x => rw [ht] at e; cases e
  | ok tops =>
    rw [ht] at e
    exact ⟨tops, rfl, C12_value_eq_denoteI conv pkgs s tops (hok tops ht) (treeOfI_low env url lines tops ht) _ _
      (Cfg.toOption_eq_some.mp e.symm)⟩

open ZCV.Conf in
/-- **The text-level theorem in one schema.**  Same hypotheses: the text is accepted iff the parser accepts it, all its
    `%import`s succeed, every section header names a type known at its position, and the text without its `%import`
    lines conforms — in the sense of C01 — to the fully extended schema. -/
theorem C12_text_accept_iff_final (conv : Conv) (env : Env) (pkgs : Str → Pkg) (s : Schema) (url : Option Str)
    (lines : List Str) (htop : importsAtTop env url lines)
    (hok : ∀ tops, treeOfI env url lines = .ok tops → importsOK pkgs s tops = true) :
    (∃ r, load conv env pkgs s url lines [] = .ok r) ↔
      ∃ tops sF, treeOfI env url lines = .ok tops ∧ extendBy pkgs s tops = some sF ∧ knownAt pkgs s tops = true ∧
        conforms conv sF (itemsOf tops) = true := by
  rw [C12_text_accept_iff_conformsI conv env pkgs s url lines htop hok]
  constructor
  · rintro ⟨tops, ht, hc⟩
    obtain ⟨sF, h1, h2, h3⟩ := (C12_conformsI_iff_final conv pkgs s tops (hok tops ht)
      (treeOfI_low env url lines tops ht)).mp hc
    exact ⟨tops, sF, ht, h1, h2, h3⟩
  · rintro ⟨tops, sF, ht, h1, h2, h3⟩
    exact ⟨tops, ht, (C12_conformsI_iff_final conv pkgs s tops (hok tops ht)
      (treeOfI_low env url lines tops ht)).mpr ⟨sF, h1, h2, h3⟩⟩

open ZCV.Conf in
/-- **Imports first.**  A text whose top level is `%import`s followed by import-free items is loaded exactly as the
    import-free rest is loaded (`loadTree`, the loader of C01 / C02) against the schema extended by the imports:
    same acceptance, same configuration. -/
theorem C12_imports_first (conv : Conv) (env : Env) (pkgs : Str → Pkg) (s : Schema) (url : Option Str)
    (lines : List Str) (imps : List Str) (its : List Item) (htop : importsAtTop env url lines)
    (hok : importsOK pkgs s (imps.map .imp ++ its.map .item) = true)
    (htree : treeOfI env url lines = .ok (imps.map .imp ++ its.map .item)) :
    (load conv env pkgs s url lines []).toOption.map (·.value) =
      (extendBy pkgs s (imps.map .imp)).bind fun s' => (loadTree conv s' its).toOption := by
  have hl := treeOfI_low env url lines _ htree
  obtain ⟨h1, _, h3, _⟩ := first_shape pkgs its imps s
  rw [h3] at hl
  rw [load_eq_denoteI conv env pkgs s url lines htop (fun tops ht => by rw [htree] at ht; cases ht; exact hok), htree]
  simp only [Cfg.toOption_ok, Option.bind_some]
  rw [denoteI_imports_first conv pkgs s imps its hok hl]
  cases he : extendBy pkgs s (imps.map .imp) with
  | none => rfl
  | some s' =>
    have hs' : schemaOK s' = true := importsOK_final pkgs _ s s' hok (by rw [h1]; exact he)
    simp only [Option.bind_some]
    rw [loadTree_eq_denote conv s' its hs' (tyCanon_of_low s' hs' its hl)]

open ZCV.Conf in
/-- in particular a text WITHOUT `%import` conforms in the sense of `conformsI` iff it conforms in the sense of C01, with the
    same value: `denoteI` extends `denote` -/
theorem C12_denoteI_import_free (conv : Conv) (pkgs : Str → Pkg) (s : Schema) (its : List Item)
    (hs : schemaOK s = true) (hl : lowItems its = true) :
    denoteI conv s pkgs (its.map .item) = denote conv s its :=
  denoteI_items conv pkgs s its hs hl

/-- **Use before import is rejected, at text level.**  Any text `A ++ [l] ++ B` (loaded without overrides) where the
    part `A` before the header line `l = <ty …>` has no `%import` line (nor have the resources it can `%include`) and
    `ty` is not a type of the application's schema: the load is rejected, whatever `%import` lines follow in `B` —
    including one that would provide `ty`. -/
theorem C12_header_before_import_rejected_text (conv : Conv) (env : Env) (pkgs : Str → Pkg) (s : Schema)
    (url : Option Str) (A B : List Str) (l : Str)
    (hres : ∀ u ls, env.res u = some ls → ∀ l ∈ ls, NoImportLine l)
    (hA : ∀ x ∈ A, NoImportLine x) (ty : Str) (nm : Option Str) (e : Bool)
    (hs : lineShape (strip l) = .open_ ty nm e) (hunknown : s.gettype ty = none) :
    ∀ r, load conv env pkgs s url (A ++ l :: B) [] ≠ .ok r := by
  intro r h
  rw [Conf.load_nil_eq] at h
  obtain ⟨ps, hps, _⟩ := bind_ok_inv h
  exact C12_use_before_import_rejected env hres 64 (Conf.activeOf url) url A B l 0
    { ctx := Conf.loadSt0 conv pkgs s, stack := [], defs := [] } hA ty nm e hs hunknown ps hps

open ZCV.Conf in
/-- the hypothesis `importsOK` follows from a text-independent one: the schema stays well-formed under every sequence
    of importable packages -/
theorem C12_importsOK_of_closed (pkgs : Str → Pkg) (s : Schema) (tops : List TopItem)
    (h : ∀ (ps : List Str) (sc : Schema), extendBy pkgs s (ps.map .imp) = some sc → schemaOK sc = true) :
    importsOK pkgs s tops = true :=
  importsOK_of_closed pkgs tops s h

open ZCV.Conf in
/-- **`schemaOK` is preserved by `%import`** of a component whose own types are well-formed with respect to the schema
    the import produces (`compOK`: each type stored under its own name, children well-shaped, slot types known — what the
    schema loader guarantees of a component it has parsed) -/
theorem C12_schemaOK_after_import (s s' : Schema) (url : Str) (types : List (Str × TypeEntry)) (impls : List (Str × Str))
    (hs : schemaOK s = true) (he : extend s (.component url types impls) = some s') (hc : compOK s' types = true) :
    schemaOK s' = true :=
  schemaOK_extend s s' url types impls hs he hc

open ZCV.Conf in
/-- … hence the hypothesis `importsOK` of the text-level theorems follows from `schemaOK s` and `compOK` of each component
    the text imports (`compsOK`, decidable) -/
theorem C12_importsOK_of_components (pkgs : Str → Pkg) (s : Schema) (tops : List TopItem)
    (hs : schemaOK s = true) (hc : compsOK pkgs s tops = true) : importsOK pkgs s tops = true :=
  importsOK_of_compsOK pkgs tops s hs hc

open ZCV.Conf in
/-- **`treeOfI` extends `treeOf`.**  On a text without `%import` lines (here and in what it can include)
    `treeOfI` accepts iff `treeOf` (C01 / C02) does, delivers the same items, and meets no `%import` inside a section. -/
theorem C12_treeOfI_import_free (env : Env) (url : Option Str) (lines : List Str)
    (hni : ∀ l ∈ lines, NoImportLine l) (hres : ∀ u ls, env.res u = some ls → ∀ l ∈ ls, NoImportLine l) :
    (treeOfI env url lines).toOption = (treeOf env url lines).toOption.map (List.map .item) ∧
      importsAtTop env url lines :=
  treeOfI_import_free env url lines hni hres

open ZCV.Conf in
/-- … so for import-free texts the right-hand side of `C12_text_accept_iff_conformsI` is the right-hand side of
    `C01_text_accept_iff_conforms`: `C12_text_accept_iff_conformsI` specialises to it -/
theorem C12_conformsI_import_free_text (conv : Conv) (env : Env) (pkgs : Str → Pkg) (s : Schema) (url : Option Str)
    (lines : List Str) (hs : schemaOK s = true)
    (hni : ∀ l ∈ lines, NoImportLine l) (hres : ∀ u ls, env.res u = some ls → ∀ l ∈ ls, NoImportLine l) :
    (∃ tops, treeOfI env url lines = .ok tops ∧ conformsI conv s pkgs tops = true) ↔
      ∃ items, treeOf env url lines = .ok items ∧ conforms conv s items = true := by
  have hd : ∀ items, treeOf env url lines = .ok items → conformsI conv s pkgs (items.map .item) = conforms conv s items :=
    fun items hT => by
      unfold conformsI conforms
      rw [C12_denoteI_import_free conv pkgs s items hs (treeOf_low env url lines items hT)]
  simp only [treeOfI_free_iff env url lines hni hres]
  constructor
  · rintro ⟨_, ⟨items, hT, rfl⟩, hc⟩; exact ⟨items, hT, hd items hT ▸ hc⟩
  · rintro ⟨items, hT, hc⟩; exact ⟨_, ⟨items, hT, rfl⟩, (hd items hT).symm ▸ hc⟩

open ZCV.Conf in
/-- **Counter-fact: `pkgWF` is not enough.**  The hypothesis on the imported components cannot be weakened to `pkgWF`
    (the well-formedness that suffices for "no internal error", C07): with a well-formed schema and a `pkgWF` component
    whose type `box` stores a section child under the EMPTY key (the schema loader never produces that; `schemaOK` /
    `compOK` exclude it), the items `%import p` / `<box>` `<leak/>` `</box>` are ACCEPTED by the loader —
    `getsectioninfo` treats the empty key as "no key" — whereas they do not conform: `conformsI` (like `conforms`)
    lets a child with a key claim only headers carrying that key. -/
theorem C12_pkgWF_not_enough :
    (∀ n, pkgWF (Ex.pkgsW n) = true) ∧ schemaOK Ex.schema = true ∧ lowTops Ex.topsW = true ∧
    (∃ r, loadTops Ex.conv Ex.pkgsW Ex.schema Ex.topsW = .ok r) ∧
    conformsI Ex.conv Ex.schema Ex.pkgsW Ex.topsW = false ∧ importsOK Ex.pkgsW Ex.schema Ex.topsW = false := by
  refine ⟨?_, by decide +kernel, by decide +kernel, loadTops_of_accepts _ _ _ _ Ex.accW, by decide +kernel, by decide +kernel⟩
  intro n
  unfold Ex.pkgsW
  split
  · decide +kernel
  · rfl

/-! closed instances of the text-level theorems: `%import p` / `<leak/>` in both orders -/

/-- the hypotheses of `C12_text_accept_iff_conformsI` hold for the two-line text `%import p` / `<leak/>`, its top-level
    items are `[imp p, <leak/>]`, they conform, and so the theorem ACCEPTS the text … -/
example : ∃ r, load Ex.conv Ex.env Ex.pkgs Ex.schema none Ex.linesIU [] = .ok r :=
  (C12_text_accept_iff_conformsI Ex.conv Ex.env Ex.pkgs Ex.schema none Ex.linesIU Ex.atTop_IU Ex.ok_IU).mpr
    ⟨Ex.topsIU, Ex.tree_IU, Ex.conformsI_IU⟩
/-- `importsOK` of that text through `C12_importsOK_of_components` -/
example : Conf.importsOK Ex.pkgs Ex.schema Ex.topsIU = true :=
  C12_importsOK_of_components Ex.pkgs Ex.schema Ex.topsIU (by decide +kernel) Ex.compsOK_IU
/-- … and REJECTS the same two lines in the other order: the items `[<leak/>, imp p]` do not conform -/
example : ¬ ∃ r, load Ex.conv Ex.env Ex.pkgs Ex.schema none Ex.linesUI [] = .ok r := by
  rw [C12_text_accept_iff_conformsI Ex.conv Ex.env Ex.pkgs Ex.schema none Ex.linesUI Ex.atTop_UI Ex.ok_UI]
  rintro ⟨tops, ht, hc⟩
  rw [Ex.tree_UI] at ht
  cases ht
  rw [Ex.conformsI_UI] at hc
  cases hc
/-- the value of the accepted text is `denoteI`: the section in the slot's attribute -/
example : Conf.denoteI Ex.conv Ex.schema Ex.pkgs Ex.topsIU =
    some (.sect [] none [("s".toList, .list [.sect "leak".toList none []])]) := by rfl
/-- `C12_header_before_import_rejected_text` at work on the second text -/
example : ∀ r, load Ex.conv Ex.env Ex.pkgs Ex.schema none ([] ++ "<leak/>".toList :: ["%import p".toList]) [] ≠ .ok r :=
  C12_header_before_import_rejected_text Ex.conv Ex.env Ex.pkgs Ex.schema none [] _ _ (fun _ _ h => by cases h)
    (fun _ h => by cases h) "leak".toList none true Ex.shape_leak rfl

/-! ## abstract slots after a history on the application's schema object (`runHistoryApp`, ZCV/Model/History.lean)

"`%import` extends the vocabulary of that load only": for the TYPE table and the component marks this holds across loads
(`C12_history_keeps_vocabulary`); for the implementer tables it does not (known findings C13-implementers-leak /
C12-import-leak-accepts), and what a slot admits after a history is stated exactly (`C12_slot_after_history_admits_iff`). -/

/-- **The vocabulary of the application's schema object survives every history**: whatever the loads imported – and
    whether they succeeded or not – the schema object offers the same type names, the same concrete types and the same
    components to the next load as it did to the first. -/
theorem C12_history_keeps_vocabulary (conv : Conv) (env : Env) (pkgs : Str → Pkg) (s : Schema) (hist : List LoadReq) :
    let s' := (runHistoryApp conv env pkgs s hist).2
    s'.types.map (·.1) = s.types.map (·.1) ∧ s'.components = s.components ∧
      (∀ x, s'.gettype x = none ↔ s.gettype x = none) ∧
      (∀ x t, s'.gettype x = some (.concrete t) ↔ s.gettype x = some (.concrete t)) := by
  intro s'
  have hs : s' = s.withImplementers (historyRegs conv env pkgs s hist) := runHistoryApp_schema conv env pkgs hist s
  rw [hs]
  refine ⟨withImplementers_keys _ _, withImplementers_components _ _, ?_, fun x t => gettype_concrete_withImplementers _ _ x t⟩
  intro x
  rw [gettype_none_iff_keys, gettype_none_iff_keys, withImplementers_keys]

/-- **What an abstract slot admits after a history, exactly.**  After any history on one schema object, the type `ty` counts
    as an implementer of `a` (`isSubtype`, which is what `getsectioninfo` asks: `C12_slot_admits_iff`) iff it was listed in
    the schema, or `a` is an abstract type of the schema and some load of the history made the `addsubtype` call
    (`ty`, key of `a`) – i.e. (`C13_implementers_only_grow`) a component some load imported declares `ty implements a`. -/
theorem C12_slot_after_history_admits_iff (conv : Conv) (env : Env) (pkgs : Str → Pkg) (s : Schema) (hist : List LoadReq)
    (a ty : Str) :
    isSubtype (runHistoryApp conv env pkgs s hist).2 a ty = true ↔
      ty ∈ Conf.implementers s a ∨ (isAbstract s a = true ∧ (ty, lower a) ∈ historyRegs conv env pkgs s hist) := by
  rw [isSubtype_iff_mem, runHistoryApp_schema]
  exact mem_implementers_withImplementers s _ a ty

/-- in particular a history without leak leaves every slot as it was -/
theorem C12_slot_after_history_unchanged (conv : Conv) (env : Env) (pkgs : Str → Pkg) (s : Schema) (hist : List LoadReq)
    (h : (runHistoryApp conv env pkgs s hist).2 = s) (a ty : Str) :
    isSubtype (runHistoryApp conv env pkgs s hist).2 a ty = isSubtype s a ty := by rw [h]

/-- **Counter-fact for `runHistoryApp` (known findings C13-implementers-leak / C12-import-leak-accepts).**
    After the one-load history `%import p` the APPLICATION's schema object counts `leak` as an implementer of `ab`, which
    it did not before – while the type `leak` itself is not in its vocabulary. -/
theorem C12_faithful_import_this_load_only_counterexample :
    isSubtype Ex.schema "ab".toList "leak".toList = false ∧
      isSubtype (runHistoryApp Ex.conv Ex.env Ex.pkgs Ex.schema [HEx.qP]).2 "ab".toList "leak".toList = true ∧
      (runHistoryApp Ex.conv Ex.env Ex.pkgs Ex.schema [HEx.qP]).2.gettype "leak".toList = none := by
  rw [HEx.runHistoryApp_p Ex.pkgs rfl]
  exact ⟨by decide +kernel, by decide +kernel, by decide +kernel⟩

/-- **The two-load witness (known finding C12-import-leak-accepts), with `runHistoryApp`.**  Package `p` defines
    `leak implements ab`; package `q` defines a type of the same name that implements nothing.  History: `%import p`; then
    `%import q` / `<leak/>`.  On the used schema object the second load is ACCEPTED – `q`'s `leak` sits in `ab`'s slot –
    although the same load on a fresh schema object is REJECTED at line 2 ("no matching section defined"). -/
theorem C12_leak_admits_non_implementer :
    (∃ r1 r2, (runHistoryApp Ex.conv Ex.env HEx.pkgsH Ex.schema [HEx.qP, HEx.qTwin]).1 = [.ok r1, .ok r2] ∧
      r2.value = .sect [] none [("s".toList, .list [.sect "leak".toList none []])]) ∧
    load Ex.conv Ex.env HEx.pkgsH Ex.schema HEx.qTwin.url HEx.qTwin.lines HEx.qTwin.specs =
      .error (synErr none 2 "start:no matching section defined") := by
  obtain ⟨r1, hr1, _⟩ := Ex.load_import_p_of HEx.pkgsH rfl
  obtain ⟨r2, hr2, hv⟩ := HEx.load_twin_used
  refine ⟨⟨r1, r2, ?_, hv⟩, HEx.load_twin_fresh⟩
  rw [runHistoryApp_cons, runHistoryApp_cons, HEx.appAfterLoad_p HEx.pkgsH rfl]
  simp only [HEx.qP, HEx.qTwin, hr1, hr2]
  rfl

/-- `C12_slot_after_history_admits_iff` at work: the right-hand side holds through the call (`leak`, `ab`) of the history -/
example : isAbstract Ex.schema "ab".toList = true ∧
    ("leak".toList, lower "ab".toList) ∈ historyRegs Ex.conv Ex.env Ex.pkgs Ex.schema [HEx.qP] := by
  unfold historyRegs
  rw [show HEx.qP = ⟨none, ["%import p".toList], []⟩ from rfl, historyStops_cons, HEx.loadStop_p Ex.pkgs rfl]
  exact ⟨by decide +kernel, by decide +kernel⟩

/-- `C12_history_keeps_vocabulary` at work on a history that DOES change the tables -/
example : ((runHistoryApp Ex.conv Ex.env Ex.pkgs Ex.schema [HEx.qP]).2).types.map (·.1) = ["ab".toList] ∧
    (runHistoryApp Ex.conv Ex.env Ex.pkgs Ex.schema [HEx.qP]).2 ≠ Ex.schema := by
  rw [HEx.runHistoryApp_p Ex.pkgs rfl]
  refine ⟨rfl, ?_⟩
  intro h
  have : Conf.implementers HEx.schemaL "ab".toList = Conf.implementers Ex.schema "ab".toList := by rw [h]
  exact absurd this (by decide +kernel)

end ZCV.Props.C12
