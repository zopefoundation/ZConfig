import ZCV.Lemmas.NoInternalLoader
import ZCV.Lemmas.NoInternalExamples
import ZCV.Lemmas.Validator
/-!
# C07 — user input can only produce configuration errors, never internal exceptions

The models make every partial Python operation explicit: `Fail.internal exc` is "a Python exception outside the ZConfig
error family escaped" (TypeError, KeyError, IndexError, AttributeError, RecursionError, NotImplementedError …);
`Fail.dtExc` is an exception raised by a datatype function itself (allowed to pass through by the property).

Statements
* `C07_lineShape_no_internal` — reading one line never ends in the `AttributeError` of a missing `handle_<name>`;
* `C07_no_internal` — `load` (the `ConfigLoader` / `ExtendedConfigLoader` model: parser, matcher, option bags,
  `%define` / `%import` / `%include`) never ends in `.internal`, over ALL texts, ALL override lists, ALL datatype
  tables and ALL include graphs, under four hypotheses, each of which is shown necessary by a closed counterexample below;
* `C07_no_internal_schemaOK`, `C07_no_internal_no_resources` — the same for a schema that passes `schemaOK`, and with
  nothing to `%include`; `C07_outcomes` — the same in positive form;
* `C07_schemaless_no_internal` — the schema-less loader: only the deliberate `NotImplementedError`, and only for a
  text with a `%define` / `%include` line; `C07_schemaless_plain_no_internal` — none at all for a text without such a line;
* `C07_parser_no_internal` — the parser alone, for an arbitrary context;
* `C07_validator_exit`, `C07_validator_status_zero_iff`, `C07_validator_escape`, `C07_validator_on_loads` — the consequence
  for the command `validator.main`: status 0 or 1 and one message per invalid file, as long as no load lets anything but a
  configuration error out.

Proofs: `ZCV/Lemmas/NoInternal*.lean`, `StepView.lean` (what a failure of one line can be), `Position.lean` (`Culprit`: where a
failing parse fails), `LineView.lean` (the shape of a line), `Lower.lean` (`lower_idem`), `Validator.lean`.
-/
namespace ZCV.Props.C07
open ZCV ZCV.Cfg

/-! ## the loader with a schema -/

/-- the directive names `handle_directive` lets through all have a handler method: with the *generated* tuple,
    reading one line can never end in the AttributeError of a missing `handle_<name>` -/
theorem C07_lineShape_no_internal (l : Str) (e : String) : lineShape l ≠ .internal e :=
  lineShape_no_internal l e

/-- **No input produces an internal exception.**  Whatever the text `lines` of the configuration, whatever the texts of
    the resources it includes (`env.res`), whatever the command-line override specifiers `ovs`, whatever the datatype
    functions do (`conv`; they may reject with ValueError or raise anything else, which passes through as `.dtExc`),
    loading never ends in a Python exception outside the ZConfig error family, provided

    * `hs`: the schema is well-formed in the sense of `schemaWF` — the schema-independent part of `schemaOK`, which the
      schema loader guarantees (distinct attribute names per type, a key is stored under its own non-empty name, a
      required single key has no default, a concrete type is stored under its own name);
    * `hp`: so are the types of every schema component a `%import` can bring in;
    * `henv.resolved`: resolving an `%include` argument always answers (`.unknown` only marks arguments outside the
      table the test harness computed);
    * `henv.bounded`, `hlen`: the resources that can be opened have non-empty URLs out of a list of at most 64 (the model
      represents Python's recursion limit by 64 nested includes; nesting cannot exceed the number of distinct resources
      because a resource that is already being read is refused — which the loader only checks for non-empty URLs).

    No hypothesis on the text, the overrides, the datatypes, the include graph (cycles included), `%define`s or the
    environment variables. -/
theorem C07_no_internal (conv : Conv) (env : Env) (pkgs : Str → Pkg) (s : Schema) (url : Option Str)
    (lines : List Str) (ovs : List Str) (urls : List Str)
    (hs : schemaWF s = true) (hp : ∀ p, pkgWF (pkgs p) = true) (henv : EnvOK env urls) (hlen : urls.length ≤ 64)
    (e : String) : load conv env pkgs s url lines ovs ≠ .error (.internal e) := by
  have hsok := schemaWF_SOK s hs
  refine fun h => Ends.of_error (P := fun _ => True) (Q := NotInternal) ?_ h e rfl
  rw [Conf.load_ov_eq]
  unfold Conf.bagOf
  refine (Ends.mapM (R := fun _ it => it.path ≠ []) fun sp _ => addOption_ok sp).bind fun overrides hov => ?_
  have hbag : Ends (if overrides.isEmpty then pure Option.none else (mkBag conv s.top overrides).map some)
      (fun bag => ∀ b, bag = some b → BagOK b) NotInternal :=
    .ite (fun _ => .ok nofun) fun _ => .map ((mkBag_ok conv s.top overrides fun it hit => let ⟨_, _, h⟩ := hov it hit; h).mono
      (fun b hb b' h => Option.some.inj h ▸ hb) fun _ => id)
  exact hbag.bind fun bag hb => loadRest_no_internal conv env pkgs s url lines bag urls hsok hp henv hlen hb

/-- the same for a schema that passes the full structural check `schemaOK` (what the harness verifies on every schema) -/
theorem C07_no_internal_schemaOK (conv : Conv) (env : Env) (pkgs : Str → Pkg) (s : Schema) (url : Option Str)
    (lines : List Str) (ovs : List Str) (urls : List Str)
    (hs : Conf.schemaOK s = true) (hp : ∀ p, pkgWF (pkgs p) = true) (henv : EnvOK env urls) (hlen : urls.length ≤ 64)
    (e : String) : load conv env pkgs s url lines ovs ≠ .error (.internal e) :=
  C07_no_internal conv env pkgs s url lines ovs urls (schemaOK_schemaWF s hs) hp henv hlen e

/-- positive form: a load returns a configuration, or raises an exception of the configuration-error family, or lets an
    exception of a datatype function through -/
theorem C07_outcomes (conv : Conv) (env : Env) (pkgs : Str → Pkg) (s : Schema) (url : Option Str)
    (lines : List Str) (ovs : List Str) (urls : List Str)
    (hs : schemaWF s = true) (hp : ∀ p, pkgWF (pkgs p) = true) (henv : EnvOK env urls) (hlen : urls.length ≤ 64) :
    (∃ r, load conv env pkgs s url lines ovs = .ok r) ∨
    (∃ err, load conv env pkgs s url lines ovs = .error (.cfg err)) ∨
    (∃ n, load conv env pkgs s url lines ovs = .error (.dtExc n)) := by
  have h := C07_no_internal conv env pkgs s url lines ovs urls hs hp henv hlen
  cases hl : load conv env pkgs s url lines ovs with
  | ok r => exact .inl ⟨r, rfl⟩
  | error f =>
    cases f with
    | cfg err => exact .inr (.inl ⟨err, rfl⟩)
    | dtExc n => exact .inr (.inr ⟨n, rfl⟩)
    | internal x => exact absurd hl (h x)

/-- without `%include` in play (nothing can be opened) the two resource hypotheses reduce to "`resolve` answers" -/
theorem C07_no_internal_no_resources (conv : Conv) (env : Env) (pkgs : Str → Pkg) (s : Schema) (url : Option Str)
    (lines : List Str) (ovs : List Str)
    (hs : schemaWF s = true) (hp : ∀ p, pkgWF (pkgs p) = true)
    (hres : ∀ b a, env.resolve b a ≠ .unknown) (hnone : ∀ u, env.res u = none)
    (e : String) : load conv env pkgs s url lines ovs ≠ .error (.internal e) :=
  C07_no_internal conv env pkgs s url lines ovs [] hs hp
    ⟨hres, fun _ _ u _ ho => by rw [hnone u] at ho; cases ho⟩ (Nat.zero_le _) e

/-! ### the hypotheses are satisfiable by non-trivial instances -/

namespace Sat
open ZCV.Cfg.Ex

example : schemaWF sNice = true := by decide +kernel
example : Conf.schemaOK sNice = true := by decide +kernel
/-- a component that is fine -/
example : pkgWF (.component "u".toList [("t".toList, .concrete (sty "t".toList []))] []) = true := by decide +kernel
example : ∀ p, pkgWF (pkgs0 p) = true := fun _ => rfl
/-- an include environment with 65 resources satisfies `EnvOK` (so `hlen` is the only hypothesis it violates) -/
example : EnvOK envChain chain := envChain_ok.1
/-- one with nothing to include -/
example : EnvOK env0 [] := ⟨fun _ _ h => (by cases h), fun _ _ _ _ ho => (by cases ho)⟩

/-- and loads do succeed: the empty text against the empty schema -/
example : ∃ r, load conv0 env0 pkgs0 sEmpty none [] [] = .ok r :=
  ⟨_, (load_closed conv0 env0 pkgs0 _ (parse_nil rfl)).trans rfl⟩

end Sat

/-! ### each hypothesis is needed (closed counterexamples) -/

namespace Needed
open ZCV.Cfg.Ex

/-- `hs`, "a required single key has no default": `default[:]` on a ValueInfo raises TypeError when the key is missing.
    (Empty text, no overrides, nothing importable or includable.) -/
example : load conv0 env0 pkgs0 (sch [(some "k".toList, .key (key1 "k" "k" false 1 (.one vi0)))] []) none [] [] =
    .error (.internal "TypeError") :=
  (load_closed conv0 env0 pkgs0 _ (parse_nil rfl)).trans rfl
example : schemaWF (sch [(some "k".toList, .key (key1 "k" "k" false 1 (.one vi0)))] []) = false := by decide +kernel

/-- `hs`, "distinct attribute names": a key and a multikey sharing the attribute `x` — the multikey finds the other's
    `None` where it expects its list. -/
example : load conv0 env0 pkgs0
    (sch [(some "a".toList, .key (key1 "a" "x" false 0 .none)), (some "b".toList, .key (key1 "b" "x" true 0 (.many [])))] [])
    none [] [] = .error (.internal "TypeError") :=
  (load_closed conv0 env0 pkgs0 _ (parse_nil rfl)).trans rfl
example : schemaWF
    (sch [(some "a".toList, .key (key1 "a" "x" false 0 .none)), (some "b".toList, .key (key1 "b" "x" true 0 (.many [])))] [])
    = false := by decide +kernel

/-- `hs`, "a key is stored under its own name": a key child without a key is taken for a section slot by
    `getsectioninfo` (`info.sectiontype` on a KeyInfo: AttributeError) as soon as the text opens a section. -/
example : load conv0 env0 pkgs0 sWrongKey none ["<a/>".toList] [] = .error (.internal "AttributeError") :=
  wrongKey_counterexample
example : schemaWF sWrongKey = false := by decide +kernel

/-- `hs`, "a concrete type is stored under its own name": the table maps `a` to a type that calls itself `b`; both
    implement the abstract type of the only section slot.  `<a/>` is accepted, its value is labelled `b`, and when the
    schema matcher finishes, `gettype("b")` for the section datatype finds nothing the loader expects. -/
example : load conv0 env0 pkgs0 sMisnamed none ["<a/>".toList] [] = .error (.internal "AttributeError") :=
  misnamed_counterexample
example : schemaWF sMisnamed = false := by decide +kernel

/-- `hp`: the application schema is fine, the imported component declares a type with a required key that has a
    default; the text imports the component and uses the type (`%import p`, then `<t/>`). -/
example : load conv0 env0 pkgsBad sHost none ["%import p".toList, "<t/>".toList] [] = .error (.internal "TypeError") :=
  pkg_counterexample
example : schemaWF sHost = true := by decide +kernel
example : pkgWF (pkgsBad []) = false := by decide +kernel

/-- `henv.resolved`: an include argument outside the harness table. -/
example : load conv0 { env0 with resolve := fun _ _ => .unknown } pkgs0 sEmpty none [inc] [] =
    .error (.internal "unresolved-by-harness") :=
  (load_closed conv0 _ pkgs0 sEmpty
    (parse_cons_error (incgen_include_unresolved _ _ loaderCtx _ _ _ _ _ _ _ shape_inc rfl arg_y rfl))).trans rfl

/-- `henv.bounded`, "non-empty URL": a resource whose URL is the empty string and which includes itself is never
    refused ("resource includes itself" is only tested for a true `resource.url`), the nesting is unbounded.
    Every other hypothesis holds (`urls := [[]]`). -/
example : load conv0 envSelf pkgs0 sEmpty none [inc] [] = .error (.internal "RecursionError") :=
  (load_closed conv0 envSelf pkgs0 sEmpty (self_runs_out loaderCtx rfl 64 _ _ _)).trans rfl
example : (∀ b a, envSelf.resolve b a ≠ .unknown) ∧
    (∀ b a u, envSelf.resolve b a = .url u → (envSelf.res u).isSome = true → u ∈ [([] : Str)]) :=
  ⟨fun _ _ h => (by cases h), fun _ _ u h _ => (by cases h; exact List.mem_cons_self)⟩

/-- `hlen`: 65 resources `x`, `xx`, … each including the next exhaust the 64 levels of the model: the bound is tight
    (`envChain` satisfies `EnvOK` with a list of 65 URLs, see `Sat`). -/
example : load conv0 envChain pkgs0 sEmpty none [inc] [] = .error (.internal "RecursionError") := by
  refine (load_closed conv0 envChain pkgs0 sEmpty (parse_cons_error ?_)).trans rfl
  -- the main text opens `x`, from where `chain_runs_out` takes over with 63 levels left
  show stepLine 64 envChain loaderCtx [] none (0 + 1) (strip inc) _ = _
  rw [chain_step loaderCtx rfl 64 0 [] _ _ none rfl (by omega) nofun]
  show (parseLines 63 envChain loaderCtx _ _ [inc] 0 _ >>= _) = _
  rw [chain_runs_out loaderCtx rfl 63 (0 + 1) _ _ rfl (by intro a ha; cases List.mem_singleton.mp ha; exact Nat.le_refl _)]
  rfl
example : chain.length = 65 := envChain_ok.2

end Needed

/-! ## the schema-less loader -/

/-- **Schema-less loader**: the only internal outcome of `schemaless.loadConfigFile` is the deliberate
    `NotImplementedError`, and it needs a `%define` or `%include` line in the text. -/
theorem C07_schemaless_no_internal (getenv : Str → Option Str) (url : Option Str) (lines : List Str) (e : String)
    (h : slLoad getenv url lines = .error (.internal e)) :
    e = "NotImplementedError" ∧ ∃ l ∈ lines, ∃ a, lineShape (strip l) = .define a ∨ lineShape (strip l) = .include_ a :=
  slLoad_internal getenv url lines e h

/-- a text without `%define` and `%include` lines never makes the schema-less loader fail internally -/
theorem C07_schemaless_plain_no_internal (getenv : Str → Option Str) (url : Option Str) (lines : List Str)
    (hplain : ∀ l ∈ lines, ∀ a, lineShape (strip l) ≠ .define a ∧ lineShape (strip l) ≠ .include_ a) (e : String) :
    slLoad getenv url lines ≠ .error (.internal e) := by
  intro h
  obtain ⟨_, l, hl, a, ha⟩ := C07_schemaless_no_internal getenv url lines e h
  rcases ha with ha | ha
  · exact (hplain l hl a).1 ha
  · exact (hplain l hl a).2 ha

/-- the exception is real: `%define` makes the schema-less loader raise `NotImplementedError` (and so does `%include`) -/
example : slLoad (fun _ => none) none ["%define a b".toList] = .error (.internal "NotImplementedError") := by
  unfold slLoad
  have hs : lineShape (strip "%define a b".toList) = .define "a b".toList :=
    shape_define _ _ (by char_lits; decide +kernel) (by char_lits; decide +kernel)
  rw [parse_cons_error ((stepLine_define _ _ _ _ _ _ _ _ _ hs).trans rfl)]
  rfl

/-- the empty text is loaded -/
example : ∃ r, slLoad (fun _ => none) none [] = .ok r := by
  unfold slLoad
  rw [parse_nil rfl]
  exact ⟨_, rfl⟩

/-! ## the parser alone -/

/-- **The parser for an arbitrary context** (`ZConfigParser` driving any object with `startSection` / `endSection` /
    `addValue` / `importSchemaComponent`): if the four callbacks never raise an internal exception on states satisfying
    an invariant `Inv n` (`n` = sections that may still be closed) and preserve it, a parse from a state satisfying
    `Inv st.stack.length` — over any text and include graph, with enough fuel for the resources not yet being read —
    never ends in an internal exception other than the `NotImplementedError` of a context that refuses `%define` or
    `%include`; and a successful parse ends with all sections closed, in a state satisfying `Inv 0`. -/
theorem C07_parser_no_internal {σ} (c : PCtx σ) (Inv : Nat → σ → Prop) (hc : CtxOK c Inv) (env : Env) (urls : List Str)
    (henv : c.canInclude = true → EnvOK env urls) (fuel : Nat) (active : List Str) (url : Option Str) (lines : List Str)
    (n : Nat) (st : PS σ) (hfuel : (urls.filter fun u => !active.contains u).length ≤ fuel)
    (hinv : Inv st.stack.length st.ctx) :
    (∀ e, parseLines fuel env c active url lines n st = .error (.internal e) →
      e = "NotImplementedError" ∧ (c.canDefine = false ∨ c.canInclude = false)) ∧
    (∀ st', parseLines fuel env c active url lines n st = .ok st' → st'.stack = [] ∧ Inv 0 st'.ctx) := by
  have P := parseLines_no_internal c Inv hc env urls henv fuel active url lines n st 0 hfuel
    (by rw [Nat.zero_add]; exact hinv)
  exact ⟨fun e h => (P.of_error h e rfl).1, fun _ h => P.of_ok h⟩

/-- the two contexts of the library satisfy the hypothesis on the callbacks -/
example : CtxOK loaderCtx LSInv := loaderCtx_ok
example : CtxOK schemalessCtx SLInv := schemalessCtx_ok

/-! ## the validator command (`ZConfig/validator.py`), given a loadable schema -/

section ValidatorCmd
open ZCV.Validator

/-- THE CONSEQUENCE stated in the property, for the loop of `validator.main`: if no load lets anything but a configuration
    error out, the command ends (no exception escapes) with status 0 when every file is valid and 1 otherwise, having printed
    exactly one message per invalid file, in file order. -/
theorem C07_validator_exit (files : List Outcome) (hf : ∀ o ∈ files, isInternal o = false) :
    run files = .exit (if files.any isInvalid then 1 else 0) (files.filterMap msgOf) ∧
    (files.filterMap msgOf).length = files.countP isInvalid := by
  refine ⟨?_, filterMap_msgOf_length files⟩
  have := loop_spec files hf false []
  simpa [run] using this

/-- status 0 ⇔ all files valid -/
theorem C07_validator_status_zero_iff (files : List Outcome) (hf : ∀ o ∈ files, isInternal o = false) :
    run files = .exit 0 [] ↔ ∀ o ∈ files, o = .valid := by
  rw [(C07_validator_exit files hf).1]
  constructor
  · intro h o ho
    cases o with
    | valid => rfl
    | cfgError m =>
      have : files.any isInvalid = true := List.any_eq_true.mpr ⟨_, ho, rfl⟩
      simp [this] at h
    | internal e => have := hf _ ho; simp [isInternal] at this
  · intro h
    have h1 : files.any isInvalid = false := by
      rw [List.any_eq_false]; intro o ho; rw [h o ho]; simp [isInvalid]
    have h2 : files.filterMap msgOf = [] := by
      rw [List.filterMap_eq_nil_iff]; intro o ho; rw [h o ho]; rfl
    simp [h1, h2]

/-- conversely the loop protects nothing else: the first non-configuration exception ends the command there -/
theorem C07_validator_escape (pre : List Outcome) (hpre : ∀ o ∈ pre, isInternal o = false) (e : Str) (post : List Outcome) :
    run (pre ++ .internal e :: post) = .escaped e (pre.filterMap msgOf) := by
  have := loop_escapes pre hpre e post false []
  simpa [run] using this

/-- with the loader model in the loop: for a well-formed schema and datatypes that fail only with ValueError
    (`hdt`: no load ends in an exception of a datatype function — the exception the property makes), whatever the texts are,
    the validator ends with status 0 or 1 and one message per rejected text. -/
theorem C07_validator_on_loads (conv : Conv) (env : Env) (pkgs : Str → Pkg) (s : Schema) (render : Err → Str)
    (texts : List (Option Str × List Str)) (urls : List Str)
    (hs : schemaWF s = true) (hp : ∀ p, pkgWF (pkgs p) = true) (henv : EnvOK env urls) (hlen : urls.length ≤ 64)
    (hdt : ∀ t ∈ texts, ∀ n, load conv env pkgs s t.1 t.2 [] ≠ .error (.dtExc n)) :
    let outs := texts.map fun t => outcomeOf render (load conv env pkgs s t.1 t.2 [])
    ∃ status msgs, run outs = .exit status msgs ∧ (status = 0 ∨ status = 1) ∧
      (status = 0 ↔ ∀ t ∈ texts, ∃ r, load conv env pkgs s t.1 t.2 [] = .ok r) ∧
      msgs.length = (texts.filter fun t => !(load conv env pkgs s t.1 t.2 []).toBool).length := by
  intro outs
  have hc : ∀ t ∈ texts, (∃ r, load conv env pkgs s t.1 t.2 [] = .ok r) ∨
      ∃ e, load conv env pkgs s t.1 t.2 [] = .error (.cfg e) := by
    intro t ht
    rcases C07_outcomes conv env pkgs s t.1 t.2 [] urls hs hp henv hlen with h | h | ⟨n, h⟩
    · exact .inl h
    · exact .inr h
    · exact absurd h (hdt t ht n)
  have hf : ∀ o ∈ outs, isInternal o = false := by
    intro o ho
    obtain ⟨t, ht, rfl⟩ := List.mem_map.mp ho
    exact (outcomeOf_cfg render _ (hc t ht)).1
  obtain ⟨hrun, hlen'⟩ := C07_validator_exit outs hf
  have hany : outs.any isInvalid = false ↔ ∀ t ∈ texts, ∃ r, load conv env pkgs s t.1 t.2 [] = .ok r := by
    rw [List.any_eq_false]
    constructor
    · intro h t ht
      exact (outcomeOf_cfg render _ (hc t ht)).2.2.mp (Bool.eq_false_iff.mpr (h _ (List.mem_map.mpr ⟨t, ht, rfl⟩)))
    · intro h o ho
      obtain ⟨t, ht, rfl⟩ := List.mem_map.mp ho
      exact Bool.eq_false_iff.mp ((outcomeOf_cfg render _ (hc t ht)).2.2.mpr (h t ht))
  refine ⟨_, _, hrun, ?_, ?_, ?_⟩
  · cases outs.any isInvalid <;> simp
  · rw [← hany]
    cases outs.any isInvalid <;> simp
  · rw [hlen']
    show (texts.map _).countP isInvalid = _
    rw [List.countP_map, List.countP_eq_length_filter]
    congr 1
    exact List.filter_congr fun t ht => (outcomeOf_cfg render _ (hc t ht)).2.1

example : run [.valid, .cfgError "m1".toList, .valid, .cfgError "m2".toList] = .exit 1 ["m1".toList, "m2".toList] := by
  char_lits; decide +kernel
example : run [.valid, .valid] = .exit 0 [] := by decide +kernel
example : run [.cfgError "m".toList, .internal "KeyError".toList, .cfgError "n".toList] = .escaped "KeyError".toList ["m".toList] := by
  char_lits; decide +kernel

end ValidatorCmd

end ZCV.Props.C07
