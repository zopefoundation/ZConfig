import ZCV.Lemmas.CodeEqSubst
import ZCV.Lemmas.SubstCor
import ZCV.Lemmas.Lits
/-!
# C04 — `$`-substitution computes exactly the documented replacement function

Model: `ZCV.Subst.substitute` (mirrors `substitution.py` with its index arithmetic and the
*generated* `_name_match` pattern).  Spec: `ZCV.SubstSpec.substituteSpec` (recursion on the text).
-/
namespace ZCV.Props.C04
open ZCV ZCV.Subst ZCV.SubstSpec

/-- Main theorem: for every mapping, environment and string (any length, any characters) the
    model of the code returns exactly what the documented function returns — same text, or the
    same error (same raise site; for a missing name: same source text and same name). -/
theorem C04_substitute_eq_spec (defs env : Str → Option Str) (s : Str) :
    conv (substitute defs env s) = substituteSpec defs env s :=
  substcor_conv_main defs env s

/-- a string without `$` is returned as is -/
theorem C04_no_dollar_id (defs env : Str → Option Str) (s : Str) (h : '$' ∉ s) :
    substitute defs env s = .ok s := by
  unfold substitute
  have : s.contains '$' = false := by simpa using h
  simp only [this, Bool.false_eq_true, ↓reduceIte]

/-- `isname` accepts exactly: a letter or underscore followed by letters, digits, underscores -/
theorem C04_isname_spec (s : Str) : isname s = isnameSpec s :=
  substcor_isname s

/-- The replacement error carries the whole source text (the first conjunct of `C04_missing_carries_name` below, on its own). -/
theorem C04_missing_carries_source (defs env : Str → Option Str) (s a b : Str)
    (h : substitute defs env s = .error (.missing a b)) : a = s :=
  (substcor_model_missing defs env s a b h).1

/-! ## The documented clauses, one `$` construct at a time (corollaries about the MODEL)

Every non-trivial string is `pre ++ "$" ++ t` with `pre` free of `$`; `t` is the text after the first `$`.
`withSource s r` is `r` with the source quoted by a replacement error replaced by `s` (the error raised while
substituting into the rest of the text still quotes the WHOLE text).  The relations `IsRef`, `Replaced`, `Malformed`
(`ZCV/Lemmas/SubstConstruct.lean`) describe the construct in plain list terms: no regular expression, no index. -/

/-- One construct at a time.  The model, on a text whose first `$` is followed by `t`: a malformed construct gives the
    syntax error; `$$` gives `$`; a reference gives its value (mapping lookups lower-cased, environment lookups not) or
    the replacement error; the text before the `$` is copied, and substitution goes on with the text after the construct
    only. -/
theorem C04_one_construct (defs env : Str → Option Str) (pre t : Str) (hp : '$' ∉ pre) :
    substitute defs env (pre ++ '$' :: t) =
      match firstConstruct t with
      | .malformed c => .error (.syntax c)
      | .esc r => withSource (pre ++ '$' :: t) ((substitute defs env r).map (pre ++ '$' :: ·))
      | .ref name vt r =>
        match lookupRef defs env vt name with
        | none => .error (.missing (pre ++ '$' :: t) name)
        | some v => withSource (pre ++ '$' :: t) ((substitute defs env r).map (pre ++ v ++ ·)) :=
  substcor_model_step defs env pre t hp

/-- Every `$` construct is malformed, or replaced by a value, or a reference without a value — whatever the text. -/
theorem C04_fates (defs env : Str → Option Str) (t : Str) :
    (∃ c, Malformed t c) ∨ (∃ v r, Replaced defs env t v r) ∨
      (∃ name vt r, IsRef t name vt r ∧ lookupRef defs env vt name = none) := by
  cases hf : firstConstruct t with
  | malformed k => exact .inl ⟨k, (substcor_first_malformed _ _).1 hf⟩
  | esc r => exact .inr (.inl ⟨_, r, (substcor_replaced_iff _ _ _ _ _).2 (.inl ⟨hf, rfl⟩)⟩)
  | ref name vt r =>
    cases hv : lookupRef defs env vt name with
    | none => exact .inr (.inr ⟨name, vt, r, (substcor_first_ref _ _ _ _).1 hf, hv⟩)
    | some v => exact .inr (.inl ⟨v, r, (substcor_replaced_iff _ _ _ _ _).2 (.inr ⟨name, vt, hf, hv⟩)⟩)

/-- A construct that is replaced by `v` (`$$` by `$`, a reference by its value): the result is the text before it, then
    `v`, then the substitution of the text AFTER the construct. -/
theorem C04_replaced (defs env : Str → Option Str) (pre t v r : Str) (hp : '$' ∉ pre)
    (h : Replaced defs env t v r) :
    substitute defs env (pre ++ '$' :: t) =
      withSource (pre ++ '$' :: t) ((substitute defs env r).map (pre ++ v ++ ·)) := by
  rw [substcor_model_step _ _ _ _ hp]
  rcases (substcor_replaced_iff _ _ _ _ _).1 h with ⟨h1, rfl⟩ | ⟨name, vt, h1, h2⟩
  · rw [h1]
    simp only
    congr 2
    funext x
    simp only [List.append_assoc, List.singleton_append]
  · rw [h1]
    simp only [h2]

/-- `${Ab}` with the mapping knowing `ab` only, its value full of `$`: an instance of `Replaced` -/
example : Replaced (fun k => if k = "ab".toList then some "$x".toList else none) (fun _ => none)
    "{Ab}-".toList "$x".toList "-".toList :=
  .ref (.brace "Ab".toList "-".toList (by char_lits; decide +kernel)) (by char_lits; decide +kernel)

/-- `$$` is replaced by `$`: `pre$$post` gives `pre$` followed by the substitution of `post` (or the error of `post`,
    a replacement error quoting the whole text). -/
theorem C04_dollar_dollar (defs env : Str → Option Str) (pre post : Str) (hp : '$' ∉ pre) :
    substitute defs env (pre ++ '$' :: '$' :: post) =
      withSource (pre ++ '$' :: '$' :: post) ((substitute defs env post).map (pre ++ '$' :: ·)) := by
  have := C04_replaced defs env pre ('$' :: post) ['$'] post hp (.esc post)
  rw [this]
  congr 2
  funext x
  simp only [List.append_assoc, List.singleton_append]

example : substitute (fun _ => none) (fun _ => none) "a$$$$b".toList = .ok "a$$b".toList := by
  rw [substcor_eval_eq]; char_lits; decide +kernel

/-- Mapping lookups are lower-cased, environment lookups are not.  `$Name…` and `${Name}…` consult the mapping at
    `lower Name` (and at nothing else); `$(NAME)…` consults the environment at `NAME` as written.  In each case a value
    is spliced in and substitution goes on after the reference; no value gives the replacement error carrying the name
    AS WRITTEN and the whole text. -/
theorem C04_case (defs env : Str → Option Str) (pre name rest : Str) (hp : '$' ∉ pre)
    (hn : isnameSpec name = true) :
    -- `$Name`, the name being maximal
    ((∀ c ∈ rest.head?, isNameChar c = false) →
      substitute defs env (pre ++ '$' :: (name ++ rest)) =
        match defs (lower name) with
        | none => .error (.missing (pre ++ '$' :: (name ++ rest)) name)
        | some v => withSource (pre ++ '$' :: (name ++ rest)) ((substitute defs env rest).map (pre ++ v ++ ·))) ∧
    -- `${Name}`
    (substitute defs env (pre ++ '$' :: '{' :: (name ++ '}' :: rest)) =
        match defs (lower name) with
        | none => .error (.missing (pre ++ '$' :: '{' :: (name ++ '}' :: rest)) name)
        | some v => withSource (pre ++ '$' :: '{' :: (name ++ '}' :: rest))
            ((substitute defs env rest).map (pre ++ v ++ ·))) ∧
    -- `$(NAME)`
    (substitute defs env (pre ++ '$' :: '(' :: (name ++ ')' :: rest)) =
        match env name with
        | none => .error (.missing (pre ++ '$' :: '(' :: (name ++ ')' :: rest)) name)
        | some v => withSource (pre ++ '$' :: '(' :: (name ++ ')' :: rest))
            ((substitute defs env rest).map (pre ++ v ++ ·))) := by
  refine ⟨fun hr => ?_, ?_, ?_⟩
  · rw [substcor_model_step _ _ _ _ hp, (substcor_first_ref _ _ _ _).2 (.bare name rest hn hr)]
    simp only [lookupRef]
    cases defs (lower name) <;> rfl
  · rw [substcor_model_step _ _ _ _ hp, (substcor_first_ref _ _ _ _).2 (.brace name rest hn)]
    simp only [lookupRef]
    cases defs (lower name) <;> rfl
  · rw [substcor_model_step _ _ _ _ hp, (substcor_first_ref _ _ _ _).2 (.paren name rest hn)]
    simp only [lookupRef]
    cases env name <;> rfl

/-- the mapping knows `name` only, the environment `NAME` only: `$NaMe`, `${NAME}` find the first, `$(NAME)` the second,
    `$(name)` nothing -/
example :
    let defs : Str → Option Str := fun k => if k = "name".toList then some "v".toList else none
    let env : Str → Option Str := fun k => if k = "NAME".toList then some "E".toList else none
    substitute defs env "$NaMe ${NAME} $(NAME)".toList = .ok "v v E".toList ∧
    substitute defs env "$(name)".toList = .error (.missing "$(name)".toList "name".toList) := by
  simp only [substcor_eval_eq]; char_lits; decide +kernel

/-- Replacement text is never rescanned: if the mapping gives `v` for (the lower-cased) `name`, then `pre$name rest`
    (`rest` not continuing the name) is `pre`, then `v` AS IS — whatever it contains, `$` constructs included — then the
    substitution of `rest` alone. -/
theorem C04_no_rescan (defs env : Str → Option Str) (pre name rest v : Str) (hp : '$' ∉ pre)
    (hn : isnameSpec name = true) (hr : ∀ c ∈ rest.head?, isNameChar c = false)
    (hv : defs (lower name) = some v) :
    substitute defs env (pre ++ '$' :: (name ++ rest)) =
      withSource (pre ++ '$' :: (name ++ rest)) ((substitute defs env rest).map (pre ++ v ++ ·)) := by
  rw [(C04_case defs env pre name rest hp hn).1 hr, hv]

/-- the same for `${name}` -/
theorem C04_no_rescan_braces (defs env : Str → Option Str) (pre name rest v : Str) (hp : '$' ∉ pre)
    (hn : isnameSpec name = true) (hv : defs (lower name) = some v) :
    substitute defs env (pre ++ '$' :: '{' :: (name ++ '}' :: rest)) =
      withSource (pre ++ '$' :: '{' :: (name ++ '}' :: rest)) ((substitute defs env rest).map (pre ++ v ++ ·)) := by
  rw [(C04_case defs env pre name rest hp hn).2.1, hv]

/-- the same for `$(NAME)` -/
theorem C04_no_rescan_env (defs env : Str → Option Str) (pre name rest v : Str) (hp : '$' ∉ pre)
    (hn : isnameSpec name = true) (hv : env name = some v) :
    substitute defs env (pre ++ '$' :: '(' :: (name ++ ')' :: rest)) =
      withSource (pre ++ '$' :: '(' :: (name ++ ')' :: rest)) ((substitute defs env rest).map (pre ++ v ++ ·)) := by
  rw [(C04_case defs env pre name rest hp hn).2.2, hv]

/-- values full of `$` constructs (a reference to an undefined name, a lone `$`) come out untouched -/
example :
    let defs : Str → Option Str := fun k => if k = "a".toList then some "${b}$".toList else none
    substitute defs (fun _ => none) "x$a-${A}".toList = .ok "x${b}$-${b}$".toList := by
  simp only [substcor_eval_eq]; char_lits; decide +kernel

/-- `$name` takes the maximal run of name characters: after a letter or underscore `c`, the name is `c` followed by ALL
    the letters, digits and underscores that follow, and the text goes on where they stop. -/
theorem C04_maximal_name (defs env : Str → Option Str) (pre : Str) (c : Char) (r : Str) (hp : '$' ∉ pre)
    (hc : isNameStart c = true) :
    substitute defs env (pre ++ '$' :: c :: r) =
      match defs (lower (c :: r.takeWhile isNameChar)) with
      | none => .error (.missing (pre ++ '$' :: c :: r) (c :: r.takeWhile isNameChar))
      | some v => withSource (pre ++ '$' :: c :: r)
          ((substitute defs env (r.dropWhile isNameChar)).map (pre ++ v ++ ·)) := by
  have hn : isnameSpec (c :: r.takeWhile isNameChar) = true := by
    simp only [isnameSpec, hc, List.all_takeWhile, Bool.and_self]
  have := (C04_case defs env pre (c :: r.takeWhile isNameChar) (r.dropWhile isNameChar) hp hn).1
    (substcor_head_dropWhile _ _)
  simp only [List.cons_append, List.takeWhile_append_dropWhile] at this
  exact this

/-- `$ab1_c-d` looks up `ab1_c`, not `a` nor `ab` -/
example :
    let defs : Str → Option Str := fun k => if k = "ab1_c".toList then some "V".toList else
      if k = "a".toList then some "wrong".toList else none
    substitute defs (fun _ => none) "$ab1_c-d".toList = .ok "V-d".toList := by
  simp only [substcor_eval_eq]; char_lits; decide +kernel

/-- A malformed construct gives the syntax error, at the raise site the relation names: a trailing lone `$` (0); `$`
    followed by something that is not `$`, `{`, `(`, a letter or an underscore (5); `${` / `$(` followed by no name —
    empty or starting with an illegal character (1 / 3); `${name` / `$(name` not followed by `}` / `)` — unterminated, or an
    illegal character in the name (2 / 4). -/
theorem C04_malformed (defs env : Str → Option Str) (pre t : Str) (c : Nat) (hp : '$' ∉ pre) (h : Malformed t c) :
    substitute defs env (pre ++ '$' :: t) = .error (.syntax c) := by
  rw [substcor_model_step _ _ _ _ hp, (substcor_first_malformed _ _).2 h]

example : Malformed "{a-b}".toList 2 := .braceClose "a".toList "-b}".toList (by char_lits; decide +kernel) (by char_lits; decide +kernel)
example : Malformed "(A".toList 4 := .parenClose "A".toList [] (by char_lits; decide +kernel) (by char_lits; decide +kernel)
example : Malformed "-".toList 5 := .other '-' [] (by char_lits; decide +kernel) (by char_lits; decide +kernel) (by char_lits; decide +kernel) (by char_lits; decide +kernel)

/-- When the result is the syntax error.  For a text whose first `$` is followed by `t`: the result is the syntax error
    `c` exactly when the first construct is malformed at site `c` (see `C04_malformed` for the list), or the first
    construct is replaced and the text after it gives the syntax error `c`.  (A reference without a value gives the
    replacement error instead, whatever follows.) -/
theorem C04_syntax_error_iff (defs env : Str → Option Str) (pre t : Str) (c : Nat) (hp : '$' ∉ pre) :
    substitute defs env (pre ++ '$' :: t) = .error (.syntax c) ↔
      Malformed t c ∨ ∃ v r, Replaced defs env t v r ∧ substitute defs env r = .error (.syntax c) := by
  -- both sides are statements about `firstConstruct t`
  rw [substcor_model_step _ _ _ _ hp]
  simp only [← substcor_first_malformed, substcor_replaced_iff]
  cases firstConstruct t with
  | malformed k =>
    simp only [reduceCtorEq, Construct.malformed.injEq, Except.error.injEq, Subst.Err.syntax.injEq, false_and, exists_false,
      or_false]
  | esc r =>
    simp only [substcor_withSource_syntax, reduceCtorEq, Construct.esc.injEq, false_or, false_and, exists_false, or_false]
    exact ⟨fun h => ⟨_, _, ⟨rfl, rfl⟩, h⟩, fun ⟨_, _, ⟨e, _⟩, h⟩ => e ▸ h⟩
  | ref name vt r =>
    cases hv : lookupRef defs env vt name with
    | none =>
      simp only [hv, Except.error.injEq, reduceCtorEq, false_or, false_iff]
      rintro ⟨v, _, h | ⟨_, _, e, h2⟩, _⟩
      · exact h.1
      · cases e
        rw [hv] at h2
        cases h2
    | some v =>
      simp only [hv, substcor_withSource_syntax, reduceCtorEq, Construct.ref.injEq, false_or, false_and]
      exact ⟨fun h => ⟨_, _, ⟨_, _, ⟨rfl, rfl, rfl⟩, hv⟩, h⟩, fun ⟨_, _, ⟨_, _, ⟨_, _, e⟩, _⟩, h⟩ => e ▸ h⟩

/-- the list of malformed constructs, spelled out on lists -/
theorem C04_malformed_iff (t : Str) (c : Nat) :
    Malformed t c ↔
      (t = [] ∧ c = 0) ∨
      (∃ d r, t = d :: r ∧ d ≠ '$' ∧ d ≠ '{' ∧ d ≠ '(' ∧ isNameStart d = false ∧ c = 5) ∨
      (∃ r, t = '{' :: r ∧ (∀ x ∈ r.head?, isNameStart x = false) ∧ c = 1) ∨
      (∃ n r, t = '{' :: (n ++ r) ∧ isnameSpec n = true ∧ (∀ x ∈ r.head?, isNameChar x = false ∧ x ≠ '}') ∧ c = 2) ∨
      (∃ r, t = '(' :: r ∧ (∀ x ∈ r.head?, isNameStart x = false) ∧ c = 3) ∨
      (∃ n r, t = '(' :: (n ++ r) ∧ isnameSpec n = true ∧ (∀ x ∈ r.head?, isNameChar x = false ∧ x ≠ ')') ∧ c = 4) := by
  constructor
  · intro h
    cases h with
    | lone => exact .inl ⟨rfl, rfl⟩
    | other d r h1 h2 h3 h4 => exact .inr (.inl ⟨d, r, rfl, h1, h2, h3, h4, rfl⟩)
    | braceName r k => exact .inr (.inr (.inl ⟨r, rfl, k, rfl⟩))
    | braceClose n r hn hr => exact .inr (.inr (.inr (.inl ⟨n, r, rfl, hn, hr, rfl⟩)))
    | parenName r k => exact .inr (.inr (.inr (.inr (.inl ⟨r, rfl, k, rfl⟩))))
    | parenClose n r hn hr => exact .inr (.inr (.inr (.inr (.inr ⟨n, r, rfl, hn, hr, rfl⟩))))
  · rintro (⟨rfl, rfl⟩ | ⟨d, r, rfl, h1, h2, h3, h4, rfl⟩ | ⟨r, rfl, k, rfl⟩ | ⟨n, r, rfl, hn, hr, rfl⟩ |
      ⟨r, rfl, k, rfl⟩ | ⟨n, r, rfl, hn, hr, rfl⟩)
    · exact .lone
    · exact .other d r h1 h2 h3 h4
    · exact .braceName r k
    · exact .braceClose n r hn hr
    · exact .parenName r k
    · exact .parenClose n r hn hr

/-- one text per raise site; `${a}}` and `$a{` are fine -/
example :
    let S := fun (s : String) => substitute (fun _ => some []) (fun _ => some []) s.toList
    S "x$" = .error (.syntax 0) ∧ S "$-" = .error (.syntax 5) ∧ S "$1" = .error (.syntax 5) ∧
    S "${}" = .error (.syntax 1) ∧ S "${1a}" = .error (.syntax 1) ∧ S "${a" = .error (.syntax 2) ∧
    S "${a-b}" = .error (.syntax 2) ∧ S "$()" = .error (.syntax 3) ∧ S "$(A" = .error (.syntax 4) ∧
    S "$(A}" = .error (.syntax 4) ∧ S "$$$" = .error (.syntax 0) ∧ S "${a}}" = .ok "}".toList ∧
    S "$a{" = .ok "{".toList := by
  simp only [substcor_eval_eq]; char_lits; decide +kernel

/-- A reference without a value, as the first construct: the replacement error carries exactly the name as written
    (not lower-cased, nothing more, nothing less) and the whole source text. -/
theorem C04_missing_first (defs env : Str → Option Str) (pre t name : Str) (vt : VT) (r : Str) (hp : '$' ∉ pre)
    (h : IsRef t name vt r) (hv : lookupRef defs env vt name = none) :
    substitute defs env (pre ++ '$' :: t) = .error (.missing (pre ++ '$' :: t) name) := by
  rw [substcor_model_step _ _ _ _ hp, (substcor_first_ref _ _ _ _).2 h]
  simp only [hv]

example : IsRef "ab1-c".toList "ab1".toList .define "-c".toList :=
  .bare "ab1".toList "-c".toList (by char_lits; decide +kernel) (by char_lits; decide +kernel)

/-- The replacement error carries exactly the name as written and the whole source text: whenever `substitute` raises
    it, the source is the text given, and the name is that of a reference occurring in the text (`$name` taken
    maximally, `${name}` or `$(NAME)`), exactly as written there, whose lookup (mapping at the lower-cased name,
    environment at the name as written) finds nothing. -/
theorem C04_missing_carries_name (defs env : Str → Option Str) (s a b : Str)
    (h : substitute defs env s = .error (.missing a b)) :
    a = s ∧ ∃ pre t vt rest, s = pre ++ '$' :: t ∧ IsRef t b vt rest ∧ lookupRef defs env vt b = none :=
  substcor_model_missing defs env s a b h

example :
    substitute (fun k => if k = "a".toList then some [] else none) (fun _ => none) "$a ${Bc_1} $a".toList =
      .error (.missing "$a ${Bc_1} $a".toList "Bc_1".toList) := by
  simp only [substcor_eval_eq]; char_lits; decide +kernel

end ZCV.Props.C04

/-!
# C04, restated for the generated code (`harness/zcv/pytrans.py`)

`ZCV.Gen.Code.substitute / _split / isname` (`ZCV/Gen/CodeSubstitution.lean`) are the translation of the Python source of
`ZConfig/substitution.py`, regenerated from the working tree on every run; `mapping.get` and `os.getenv` are the
parameters `defs` and `env`, `_name_match` is the generated pattern.  `ZCV/Lemmas/CodeEqSubst.lean` proves them equal to
the hand-written model for all arguments.  `embedSpec` re-tags the documented function's outcome as the exception CLASS the
code raises (the raise-site number stands for the message and is dropped; a missing name keeps source text and name).
-/
namespace ZCV.Props.C04
open ZCV ZCV.Subst ZCV.SubstSpec ZCV.CodeEq

/-- the documented function's outcome in the generated code's vocabulary -/
def embedSpec : Except SubstSpec.Err Str → Except Py.PyExc Str
  | .ok v => .ok v
  | .error (.syntax _) => .error .SubstitutionSyntaxError
  | .error (.missing src name) => .error (.SubstitutionReplacementError src (some name))

theorem embedS_eq_embedSpec_conv (x : Except Subst.Err Str) : embedS x = embedSpec (conv x) := by
  cases x with
  | ok v => rfl
  | error e => cases e <;> rfl

/-! ## (i) generated code = model -/

theorem C04_code_isname_eq (s : Str) : Gen.Code.isname s = .ok (Subst.isname s) := code_isname_eq s
/-- `_split`: the Python 5-tuple `(prefix, name, namecase, suffix, vtype)` is the model's triple with `name = namecase.lower()`;
    the suffix is `None` exactly when the text has no `$` -/
theorem C04_code_split_eq (s : Str) : Gen.Code._split s = embedSplit (s.contains '$') (Subst.split s) := code_split_eq s
/-- `substitute(s, mapping)` with `mapping.get = defs`, `os.getenv = env`: the `while` loop, run with fuel `len(s) + 1`,
    is the model's -/
theorem C04_code_substitute_eq (defs env : Str → Option Str) (s : Str) :
    Gen.Code.substitute env s defs = embedS (Subst.substitute defs env s) := code_substitute_eq defs env s
/-- what `embedS` forgets: nothing but the raise-site number of a syntax error -/
theorem C04_code_embedS_injective_upto (a b : Except Subst.Err Str) (h : embedS a = embedS b) :
    a = b ∨ ∃ i j, a = .error (.syntax i) ∧ b = .error (.syntax j) := embedS_injective_upto a b h
example : embedS (.error (.syntax 1) : Except Subst.Err Str) = embedS (.error (.syntax 2)) := rfl
example : embedS (.ok ['a'] : Except Subst.Err Str) ≠ embedS (.ok ['b']) := by simp [embedS]

/-! ## (ii) the contracts, for the generated code -/

/-- Main theorem for the code: for every mapping, environment and string the translation of `substitute` returns what the
    documented function returns — the same text, or the same class of error (for a missing name: with the same source
    text and the same name). -/
theorem C04_code_substitute_eq_spec (defs env : Str → Option Str) (s : Str) :
    Gen.Code.substitute env s defs = embedSpec (substituteSpec defs env s) := by
  rw [code_substitute_eq, embedS_eq_embedSpec_conv, C04_substitute_eq_spec]

/-- `isname` (the code) accepts exactly: a letter or underscore followed by letters, digits, underscores -/
theorem C04_code_isname_spec (s : Str) : Gen.Code.isname s = .ok (isnameSpec s) := by
  rw [code_isname_eq, C04_isname_spec]

/-- a string without `$` is returned as is (the code) -/
theorem C04_code_no_dollar_id (defs env : Str → Option Str) (s : Str) (h : '$' ∉ s) :
    Gen.Code.substitute env s defs = .ok s := by
  rw [code_substitute_eq, C04_no_dollar_id defs env s h]; rfl
example : Gen.Code.substitute (fun _ => none) "a{b}".toList (fun _ => none) = .ok "a{b}".toList :=
  C04_code_no_dollar_id _ _ _ (by char_lits; decide +kernel)

/-- the code raises `SubstitutionSyntaxError` exactly when the documented function reports a malformed construct -/
theorem C04_code_syntax_error_iff (defs env : Str → Option Str) (s : Str) :
    Gen.Code.substitute env s defs = .error .SubstitutionSyntaxError ↔ ∃ c, substituteSpec defs env s = .error (.syntax c) := by
  rw [C04_code_substitute_eq_spec]
  cases substituteSpec defs env s with
  | ok v => simp [embedSpec]
  | error e => cases e <;> simp [embedSpec]
example : Gen.Code.substitute (fun _ => none) "a$".toList (fun _ => none) = .error .SubstitutionSyntaxError :=
  have hm : Subst.substitute (fun _ => none) (fun _ => none) "a$".toList = .error (.syntax 0) := by
    rw [substcor_eval_eq]; char_lits; decide +kernel
  (C04_code_syntax_error_iff _ _ _).mpr ⟨0, by rw [← C04_substitute_eq_spec, hm]; rfl⟩

/-- a `SubstitutionReplacementError` of the code carries the WHOLE source text and the name as written -/
theorem C04_code_missing_carries_source (defs env : Str → Option Str) (s a : Str) (b : Option Str)
    (h : Gen.Code.substitute env s defs = .error (.SubstitutionReplacementError a b)) : a = s ∧ ∃ n, b = some n := by
  rw [code_substitute_eq] at h
  cases hm : Subst.substitute defs env s with
  | ok v => rw [hm] at h; simp [embedS] at h
  | error e =>
    rw [hm] at h
    cases e with
    | «syntax» c => simp [embedS, embedSErr] at h
    | «missing» src name =>
      simp only [embedS, embedSErr, Except.error.injEq, Py.PyExc.SubstitutionReplacementError.injEq] at h
      obtain ⟨h1, h2⟩ := h
      subst h1
      exact ⟨C04_missing_carries_source defs env s _ _ hm, name, h2.symm⟩
example : Gen.Code.substitute (fun _ => none) "-$Ab".toList (fun _ => none) =
    .error (.SubstitutionReplacementError "-$Ab".toList (some "Ab".toList)) := by
  have hm : Subst.substitute (fun _ => none) (fun _ => none) "-$Ab".toList = .error (.missing "-$Ab".toList "Ab".toList) := by
    rw [substcor_eval_eq]; char_lits; decide +kernel
  rw [C04_code_substitute_eq, hm]; rfl

end ZCV.Props.C04
