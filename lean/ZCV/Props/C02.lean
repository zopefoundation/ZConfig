import ZCV.Props.C01
/-!
# C02 — the configuration returned is exactly the value the schema defines

On trees: `C02_value_eq_denote` (from `Conf.loadTree_eq_denote`).  On text without `%import` and overrides:
`C02_text_value_eq_denote`, end to end `C02_end_to_end`.  Then: texts with `%import` lines and overrides,
`C02_load_value_eq`, with the import-free case as an instance.  The lemmas are those of C01.
-/
namespace ZCV.Props.C02
open ZCV ZCV.Cfg

/-- every section value the model builds from a matcher without option bag exposes exactly the attributes its type
    declares (own and inherited children), in schema order, and reports its type and name -/
theorem C02_attrs_exact (conv : Conv) (s : Schema) (m : Matcher) (ty : Str) (nm : Option Str)
    (attrs : List (Str × Val)) (hs : List (Str × Val))
    (h : finishMatcher conv s m = .ok (.sect ty nm attrs, hs)) (hb : m.bag = none) :
    attrs.map (·.1) = m.ty.children.map (fun c => c.2.attr) ∧ ty = m.ty.name.getD [] ∧ nm = m.name := by
  rw [Conf.finishMatcher_nobag conv s m hb] at h
  unfold Conf.finishMatcher' Conf.fin1 Conf.fin2 at h
  simp only [bind, Except.bind] at h
  split at h
  · simp at h
  · rename_i slots hslots
    split at h
    · simp at h
    · rename_i vals hvals
      simp only [pure, Except.pure, Except.ok.injEq, Prod.mk.injEq, Val.sect.injEq] at h
      obtain ⟨⟨h1, h2, h3⟩, _⟩ := h
      refine ⟨?_, h1.symm, h2.symm⟩
      rw [← h3, List.map_map]
      have e1 := mapM_ok_map _ (fun (p : Info × Val) => p.1.attr) (fun (p : Info × Slot) => p.1.attr) ?_ slots vals hvals
      have e2 := mapM_ok_map _ (fun (p : Info × Slot) => p.1.attr) (fun (c : Option Str × Info) => c.2.attr) ?_ m.ty.children slots hslots
      · exact e1.trans e2
      · intro a b hab
        obtain ⟨k, ci⟩ := a
        simp only at hab
        split at hab
        · rename_i sl _
          cases hfc : finishChild ci sl with
          | ok r => rw [hfc] at hab; simp [Except.map] at hab; subst hab; rfl
          | error e => rw [hfc] at hab; simp [Except.map] at hab
        · simp at hab
      · intro a b hab
        obtain ⟨ci, sl⟩ := a
        simp only at hab
        cases hcc : constructChild conv s ci sl with
        | ok r => rw [hcc] at hab; simp [Except.map] at hab; subst hab; rfl
        | error e => rw [hcc] at hab; simp [Except.map] at hab

open ZCV.Conf in
/-- **The value tree is exactly what the schema defines**: whenever the loader returns a configuration it is `denote`,
    the declarative value of `ZCV/Spec/Conforms.lean` (attributes in schema order; single key = converted value, else
    converted default, else None; multikey = values in file order, else defaults; wildcard = mapping with schema defaults
    only when no key is supplied; slot = the section's value passed through its datatype, or None; multisection = list in
    file order; type and name reported) -/
theorem C02_value_eq_denote (conv : Conv) (s : Schema) (items : List Item) (v : Val)
    (hs : schemaOK s = true) (ht : tyCanon s items = true) (h : loadTree conv s items = .ok v) :
    denote conv s items = some v := by
  have e := loadTree_eq_denote conv s items hs ht
  rw [h] at e
  exact e.symm

open ZCV.Conf in
/-- the same for configuration TEXT (no `%import`, no overrides): the configuration returned for an accepted text is
    `denote` of the tree the parser builds from it -/
theorem C02_text_value_eq_denote (conv : Conv) (env : Env) (pkgs : Str → Pkg) (s : Schema) (url : Option Str)
    (lines : List Str) (r : LoadResult) (hs : schemaOK s = true) (hlow : ∀ x : Str, lower (lower x) = lower x)
    (hkeys : ∀ p ∈ s.types, lower p.1 = p.1)
    (hni : ∀ l ∈ lines, NoImportLine l) (hres : ∀ u ls, env.res u = some ls → ∀ l ∈ ls, NoImportLine l)
    (h : load conv env pkgs s url lines [] = .ok r) :
    ∃ items, treeOf env url lines = .ok items ∧ denote conv s items = some r.value := by
  have e := load_eq_denote conv env pkgs s url lines hs hni hres
  rw [h] at e
  cases ht : treeOf env url lines with
  | error x => rw [ht] at e; cases e
  | ok items => rw [ht] at e; exact ⟨items, rfl, e.symm⟩

open ZCV.Conf in
/-- the same without the table hypothesis: `hlow` is discharged by the proved `lower_idem` -/
theorem C02_text_value_eq_denote' (conv : Conv) (env : Env) (pkgs : Str → Pkg) (s : Schema) (url : Option Str)
    (lines : List Str) (r : LoadResult) (hs : schemaOK s = true) (hkeys : ∀ p ∈ s.types, lower p.1 = p.1)
    (hni : ∀ l ∈ lines, NoImportLine l) (hres : ∀ u ls, env.res u = some ls → ∀ l ∈ ls, NoImportLine l)
    (h : load conv env pkgs s url lines [] = .ok r) :
    ∃ items, treeOf env url lines = .ok items ∧ denote conv s items = some r.value :=
  C02_text_value_eq_denote conv env pkgs s url lines r hs ZCV.lower_idem hkeys hni hres h

open ZCV.Conf in
/-- **End to end: the value tree is exactly what the schema DOCUMENT defines.**  Take any schema document `doc` the
    schema loader accepts (components and base schemas to any depth; `hkey`: the key types never turn a non-empty name
    into the empty string — true of the stock key types) and the schema object `S` it returns.  For every family of
    datatype functions and every configuration text without `%import`, loaded without overrides: whenever the loader
    returns a configuration, its value is `denote conv S` of the tree the parser builds from the text — attributes in
    schema order, converted values or defaults, sections in file order (see `C02_value_eq_denote`).  No structural
    hypothesis on `S` is left (C10 + `elab_types_keys_lower` + `lower_idem`). -/
theorem C02_end_to_end (eenv : Elab.Env) (fuel : Nat) (doc : Elab.Node) (S : Schema)
    (hkey : ∀ (kt s r : Str), s ≠ [] → eenv.conv.key kt s = .ok r → r ≠ [])
    (hS : Elab.elabSchema eenv fuel doc = .ok S)
    (conv : Conv) (env : Env) (pkgs : Str → Pkg) (url : Option Str) (lines : List Str) (r : LoadResult)
    (hni : ∀ l ∈ lines, NoImportLine l) (hres : ∀ u ls, env.res u = some ls → ∀ l ∈ ls, NoImportLine l)
    (h : load conv env pkgs S url lines [] = .ok r) :
    ∃ items, treeOf env url lines = .ok items ∧ denote conv S items = some r.value :=
  C02_text_value_eq_denote' conv env pkgs S url lines r
    (ZCV.Props.C10.C10_elab_schemaOK eenv fuel doc S hkey hS) (Elab.elab_types_keys_lower hS) hni hres h

open ZCV.Conf in
/-- the same when the schema loader runs with the stock key types: no hypothesis about the schema or the key types -/
theorem C02_end_to_end_stock (eenv : Elab.Env) (fuel : Nat) (doc : Elab.Node) (S : Schema)
    (hconv : eenv.conv = stockConv) (hS : Elab.elabSchema eenv fuel doc = .ok S)
    (conv : Conv) (env : Env) (pkgs : Str → Pkg) (url : Option Str) (lines : List Str) (r : LoadResult)
    (hni : ∀ l ∈ lines, NoImportLine l) (hres : ∀ u ls, env.res u = some ls → ∀ l ∈ ls, NoImportLine l)
    (h : load conv env pkgs S url lines [] = .ok r) :
    ∃ items, treeOf env url lines = .ok items ∧ denote conv S items = some r.value :=
  C02_end_to_end eenv fuel doc S
    (by intro kt s r hs hr; rw [hconv] at hr; exact Elab.stockConv_key_ne_nil kt s r hs hr) hS conv env pkgs url lines r
    hni hres h

open ZCV.Conf in
/-- the hypotheses of the end-to-end theorem are satisfiable (accepted schema document with a base schema and a
    component, stock key types; import-free four-line text; no includable resources): whatever that load returns is
    `denote` of the tree of the text -/
example : ∃ S, Elab.elabSchema Elab.Example.env 1 Elab.Example.doc = .ok S ∧
    ∀ r, load Ex.conv Ex.env Ex.pkgs S none DischargeEx.lines [] = .ok r →
      ∃ items, treeOf Ex.env none DischargeEx.lines = .ok items ∧ denote Ex.conv S items = some r.value := by
  obtain ⟨S, hS⟩ := DischargeEx.dis_ex_doc_accepted
  exact ⟨S, hS, fun r hr => C02_end_to_end_stock _ 1 _ S DischargeEx.dis_ex_env_stock hS _ _ _ _ _ r
    DischargeEx.dis_ex_lines_noImport DischargeEx.dis_ex_res hr⟩

open ZCV.Conf in
/-- … including `h`: for that schema document the one-line text `# c` IS accepted, and the configuration returned is
    `denote` of its (empty) tree -/
example : ∃ S r, Elab.elabSchema Elab.Example.env 1 Elab.Example.doc = .ok S ∧
    load Ex.conv Ex.env Ex.pkgs S none ["# c".toList] [] = .ok r ∧
    ∃ items, treeOf Ex.env none ["# c".toList] = .ok items ∧ denote Ex.conv S items = some r.value := by
  obtain ⟨S, hS, hch⟩ := DischargeEx.dis_ex_doc_accepted_empty
  obtain ⟨r, hr⟩ := (ZCV.Props.C01.C01_end_to_end_stock _ 1 _ S DischargeEx.dis_ex_env_stock hS Ex.conv Ex.env Ex.pkgs none _
    DischargeEx.dis_ex_comment_noImport DischargeEx.dis_ex_res).mpr
    ⟨[], DischargeEx.dis_ex_comment_tree, DischargeEx.dis_ex_conforms_nil S hch⟩
  exact ⟨S, r, hS, hr, C02_end_to_end_stock _ 1 _ S DischargeEx.dis_ex_env_stock hS _ _ _ _ _ r
    DischargeEx.dis_ex_comment_noImport DischargeEx.dis_ex_res hr⟩

end ZCV.Props.C02

/-! ## the general form: texts with `%import` lines, loaded with command-line overrides (C02 with C12 and C14) -/

namespace ZCV.Props.C02
open ZCV ZCV.Cfg ZCV.Conf

/-- **The value is exactly what the schema defines, in general.**  Same hypotheses as `C01_load_accept_iff` (`%import`s at
    top level keeping the schema of the load well-formed, specifiers whose section-selecting components are basic keys,
    key types of the schema `S` the load starts with idempotent): whenever the loader returns a configuration, it is
    `denoteI` of the top-level items of the text EDITED as the specifiers ask (against `S`) — every section valued by the
    schema in force at its position, the document completed against the fully extended schema — and the schema the load
    ends with (`schemaAfter`) is `S` extended by all the `%import`s of the text. -/
theorem C02_load_value_eq (conv : Conv) (env : Env) (pkgs : Str → Pkg) (S : Schema) (url : Option Str)
    (lines : List Str) (specs : List Str) (r : LoadResult)
    (hidem : KeyIdemOn conv S)
    (htop : importsAtTop env url lines)
    (hok : ∀ tops, treeOfI env url lines = .ok tops → importsOK pkgs S tops = true)
    (hovs : ∀ ovs, specs.mapM addOption = .ok ovs → OvsOK ovs)
    (h : load conv env pkgs S url lines specs = .ok r) :
    ∃ ovs tops tops', specs.mapM addOption = .ok ovs ∧ treeOfI env url lines = .ok tops ∧
      editI conv S tops ovs = .ok tops' ∧ denoteI conv S pkgs tops' = some r.value ∧
      schemaAt S pkgs tops' tops'.length = some r.schemaAfter := by
  obtain ⟨ovs, tops, tops', h1, h2, h3, h4, _, h6⟩ := load_ov_result conv env pkgs S url lines specs true (fun _ => hidem)
    htop hok hovs r h
  exact ⟨ovs, tops, tops', h1, h2, h3, h4, by rw [schemaAt_length]; exact h6⟩

/-- the same with the supplied lines spelled with the normalised key (`editNormI`): no assumption on the key types -/
theorem C02_load_value_eq_norm (conv : Conv) (env : Env) (pkgs : Str → Pkg) (S : Schema) (url : Option Str)
    (lines : List Str) (specs : List Str) (r : LoadResult)
    (htop : importsAtTop env url lines)
    (hok : ∀ tops, treeOfI env url lines = .ok tops → importsOK pkgs S tops = true)
    (hovs : ∀ ovs, specs.mapM addOption = .ok ovs → OvsOK ovs)
    (h : load conv env pkgs S url lines specs = .ok r) :
    ∃ ovs tops tops', specs.mapM addOption = .ok ovs ∧ treeOfI env url lines = .ok tops ∧
      editNormI conv S tops ovs = .ok tops' ∧ denoteI conv S pkgs tops' = some r.value ∧
      schemaAt S pkgs tops' tops'.length = some r.schemaAfter := by
  obtain ⟨ovs, tops, tops', h1, h2, h3, h4, _, h6⟩ := load_ov_result conv env pkgs S url lines specs false
    (fun h => by cases h) htop hok hovs r h
  exact ⟨ovs, tops, tops', h1, h2, h3, h4, by rw [schemaAt_length]; exact h6⟩

/-- **Special case: no overrides** — the statement of `C12_text_value_eq_denoteI`, recovered from the general form. -/
theorem C02_load_value_eq_no_overrides (conv : Conv) (env : Env) (pkgs : Str → Pkg) (S : Schema) (url : Option Str)
    (lines : List Str) (r : LoadResult) (htop : importsAtTop env url lines)
    (hok : ∀ tops, treeOfI env url lines = .ok tops → importsOK pkgs S tops = true)
    (h : load conv env pkgs S url lines [] = .ok r) :
    ∃ tops, treeOfI env url lines = .ok tops ∧ denoteI conv S pkgs tops = some r.value ∧
      schemaAt S pkgs tops tops.length = some r.schemaAfter := by
  obtain ⟨tops, h2, h4, _, h6⟩ := load_result_nil conv env pkgs S url lines htop hok r h
  exact ⟨tops, h2, h4, by rw [schemaAt_length]; exact h6⟩

/-- **Special case: no `%import` lines and no overrides** — the statement of `C02_text_value_eq_denote'`, recovered from the
    general form (`hkeys` of that statement is not needed). -/
theorem C02_text_value_eq_denote_from_general (conv : Conv) (env : Env) (pkgs : Str → Pkg) (s : Schema) (url : Option Str)
    (lines : List Str) (r : LoadResult) (hs : schemaOK s = true)
    (hni : ∀ l ∈ lines, NoImportLine l) (hres : ∀ u ls, env.res u = some ls → ∀ l ∈ ls, NoImportLine l)
    (h : load conv env pkgs s url lines [] = .ok r) :
    ∃ items, treeOf env url lines = .ok items ∧ denote conv s items = some r.value := by
  obtain ⟨htop, _, hitems, hok⟩ := ZCV.Props.C01.import_free_tops env pkgs s url lines hs hni hres
  obtain ⟨tops, ht, hd, _⟩ := C02_load_value_eq_no_overrides conv env pkgs s url lines r htop hok h
  obtain ⟨items, hT, rfl, hl⟩ := hitems tops ht
  rw [denoteI_items conv pkgs s items hs hl] at hd
  exact ⟨items, hT, hd⟩

/-- **End to end**, from a schema DOCUMENT (hypotheses as in `C01_end_to_end_general`) -/
theorem C02_end_to_end_general (eenv : Elab.Env) (fuel : Nat) (doc : Elab.Node) (S : Schema)
    (hkey : ∀ (kt s r : Str), s ≠ [] → eenv.conv.key kt s = .ok r → r ≠ [])
    (hS : Elab.elabSchema eenv fuel doc = .ok S)
    (conv : Conv) (env : Env) (pkgs : Str → Pkg) (url : Option Str) (lines : List Str) (specs : List Str) (r : LoadResult)
    (hidem : KeyIdemOn conv S)
    (htop : importsAtTop env url lines)
    (hcomp : ∀ tops, treeOfI env url lines = .ok tops → compsOK pkgs S tops = true)
    (hovs : ∀ ovs, specs.mapM addOption = .ok ovs → OvsOK ovs)
    (h : load conv env pkgs S url lines specs = .ok r) :
    ∃ ovs tops tops', specs.mapM addOption = .ok ovs ∧ treeOfI env url lines = .ok tops ∧
      editI conv S tops ovs = .ok tops' ∧ denoteI conv S pkgs tops' = some r.value ∧
      schemaAt S pkgs tops' tops'.length = some r.schemaAfter :=
  C02_load_value_eq conv env pkgs S url lines specs r hidem htop
    (fun tops ht => importsOK_of_compsOK pkgs tops S (ZCV.Props.C10.C10_elab_schemaOK eenv fuel doc S hkey hS) (hcomp tops ht))
    hovs h

/-- **non-vacuity**: in the world of `ZCV/Lemmas/ImportOvEx.lean` (text with a `%import` line, a section of the imported type,
    a section of a static type; an override into the latter and a top-level key override) the hypotheses hold, the load
    is accepted (`C01_load_accept_iff`), and the theorem gives its value: `k` of section `b` and `plain` carry the
    override values, section `a` keeps its own -/
example : ∃ r, load ExOv.conv ExOv.env ExOv.pkgs ExOv.schema none (ExOv.lines '1') ExOv.specsGood = .ok r ∧
    r.value = ExOv.vGood := by
  obtain ⟨r, hr⟩ := (ZCV.Props.C01.C01_load_accept_iff ExOv.conv ExOv.env ExOv.pkgs ExOv.schema none (ExOv.lines '1')
    ExOv.specsGood ExOv.idem ExOv.atTop1 ExOv.ok1 ExOv.ovsGood_ok).mpr
    ⟨ExOv.ovsGood, ExOv.split_good, ExOv.tops '1', ExOv.tree1, ExOv.topsGood, ExOv.edit_good, by
      unfold conformsI; rw [ExOv.denote_good]; rfl⟩
  refine ⟨r, hr, ?_⟩
  obtain ⟨ovs, tops, tops', h1, h2, h3, h4, _⟩ := C02_load_value_eq ExOv.conv ExOv.env ExOv.pkgs ExOv.schema none
    (ExOv.lines '1') ExOv.specsGood r ExOv.idem ExOv.atTop1 ExOv.ok1 ExOv.ovsGood_ok hr
  rw [ExOv.split_good] at h1
  cases h1
  rw [ExOv.tree1] at h2
  cases h2
  rw [ExOv.edit_good] at h3
  cases h3
  rw [ExOv.denote_good] at h4
  exact (Option.some.inj h4).symm

end ZCV.Props.C02
