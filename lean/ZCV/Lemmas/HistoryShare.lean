import ZCV.Model.History
/-!
C13, histories on the application's schema object (`runHistoryApp`): the type table under `addsubtype` calls.  A schema with calls
applied (`Schema.withImplementers`) is the schema with every entry treated by `regEntries`
(SlotsTable.lean); looking a name up in it.  `shareTables` of a table against "the same table after some calls, plus new
entries at the end" gives the table after the calls – which is why the application's schema object after a load is the
schema it was with the load's `addsubtype` calls applied (`Traced`, `shareInto_traced`).
-/
namespace ZCV.Cfg
open ZCV ZCV.Conf

/-! ### a schema with calls applied -/

theorem withImplementers_nil (s : Schema) : s.withImplementers [] = s := rfl

theorem withImplementers_cons (s : Schema) (ia : Str × Str) (rest : List (Str × Str)) :
    s.withImplementers (ia :: rest) = (regImpl s ia).withImplementers rest := rfl

theorem withImplementers_append (s : Schema) (a b : List (Str × Str)) :
    s.withImplementers (a ++ b) = (s.withImplementers a).withImplementers b := by
  unfold Schema.withImplementers
  rw [List.foldl_append]

theorem withImplementers_eq (regs : List (Str × Str)) (s : Schema) :
    s.withImplementers regs = { s with types := s.types.map (regEntries regs) } :=
  foldl_regImpl_eq regs s

theorem withImplementers_types (s : Schema) (regs : List (Str × Str)) :
    (s.withImplementers regs).types = s.types.map (regEntries regs) := by rw [withImplementers_eq]

theorem withImplementers_top (s : Schema) (regs : List (Str × Str)) : (s.withImplementers regs).top = s.top := by
  rw [withImplementers_eq]

theorem withImplementers_handler (s : Schema) (regs : List (Str × Str)) :
    (s.withImplementers regs).handler = s.handler := by rw [withImplementers_eq]

theorem withImplementers_components (s : Schema) (regs : List (Str × Str)) :
    (s.withImplementers regs).components = s.components := by rw [withImplementers_eq]

theorem withImplementers_keys (s : Schema) (regs : List (Str × Str)) :
    (s.withImplementers regs).types.map (·.1) = s.types.map (·.1) := by
  rw [withImplementers_types, List.map_map]
  apply List.map_congr_left
  intro p _
  exact regEntries_fst regs p

theorem map_eq_self_iff {α} (f : α → α) : ∀ (L : List α), L.map f = L ↔ ∀ p ∈ L, f p = p := by
  intro L
  induction L with
  | nil => simp
  | cons a t ih => simp [ih]

theorem regImpl_eq_self_iff_entries (s : Schema) (ia : Str × Str) :
    regImpl s ia = s ↔ ∀ p ∈ s.types, regEntry ia p = p := by
  rw [← map_eq_self_iff]
  constructor
  · intro h; exact congrArg Schema.types h
  · intro h; unfold regImpl; rw [h]

theorem withImplementers_eq_self_iff (s : Schema) (regs : List (Str × Str)) :
    s.withImplementers regs = s ↔ ∀ ia ∈ regs, regImpl s ia = s := by
  constructor
  · intro h ia hia
    rw [regImpl_eq_self_iff_entries]
    intro p hp
    have ht : s.types.map (regEntries regs) = s.types := by
      have := congrArg Schema.types h
      rwa [withImplementers_types] at this
    have hp' := (map_eq_self_iff _ _).mp ht p hp
    exact Classical.byContradiction fun hne => regEntries_ne_of_mem regs ia p hia hne hp'
  · intro h
    rw [withImplementers_eq]
    have : s.types.map (regEntries regs) = s.types := by
      rw [map_eq_self_iff]
      intro p hp
      exact regEntries_eq_of_all regs p (fun ia hia => (regImpl_eq_self_iff_entries s ia).mp (h ia hia) p hp)
    rw [this]

theorem regImpl_eq_self_iff (s : Schema) (ia : Str × Str) :
    regImpl s ia = s ↔ ∀ n subs, (ia.2, TypeEntry.abstract_ n subs) ∈ s.types → ia.1 ∈ subs := by
  rw [regImpl_eq_self_iff_entries]
  constructor
  · intro h n subs hm
    have := h _ hm
    rw [regEntry_abstract] at this
    by_cases hc : subs.contains ia.1 = true
    · simpa using hc
    · simp only [beq_self_eq_true, hc, Bool.not_false, Bool.and_self, if_true] at this
      have h2 := congrArg (fun e : Str × TypeEntry => match e.2 with | .abstract_ _ s => s.length | _ => 0) this
      simp at h2
  · intro h p hp
    obtain ⟨k, te⟩ := p
    cases te with
    | concrete t => rfl
    | abstract_ n subs =>
      rw [regEntry_abstract]
      by_cases hk : k = ia.2
      · subst hk
        have := h n subs hp
        simp [this]
      · simp [hk]

/-! ### looking a name up in a schema with calls applied -/

theorem gettype_withImplementers (s : Schema) (regs : List (Str × Str)) (x : Str) :
    (s.withImplementers regs).gettype x = (s.gettype x).map fun e => (regEntries regs (lower x, e)).2 := by
  rw [gettype_regs_append s _ regs [] (by rw [withImplementers_types, List.append_nil])]
  simp

theorem isAbstract_withImplementers (s : Schema) (regs : List (Str × Str)) (x : Str) :
    isAbstract (s.withImplementers regs) x = isAbstract s x := by
  unfold isAbstract
  rw [gettype_withImplementers]
  cases s.gettype x with
  | none => rfl
  | some te =>
    cases te with
    | concrete t => rw [Option.map_some, regEntries_concrete]
    | abstract_ n subs =>
      obtain ⟨subs', he, _⟩ := regEntries_abstract_mem regs (lower x) n subs
      rw [Option.map_some, he]

theorem gettype_concrete_withImplementers (s : Schema) (regs : List (Str × Str)) (x : Str) (t : SType) :
    (s.withImplementers regs).gettype x = some (.concrete t) ↔ s.gettype x = some (.concrete t) := by
  rw [gettype_withImplementers]
  cases s.gettype x with
  | none => simp
  | some te =>
    cases te with
    | concrete t' => simp [regEntries_concrete]
    | abstract_ n subs =>
      obtain ⟨add, he, _⟩ := regEntries_abstract regs (lower x) n subs
      simp [he]

theorem implementers_withImplementers (s : Schema) (regs : List (Str × Str)) (x : Str) :
    ∃ add, implementers (s.withImplementers regs) x = implementers s x ++ add ∧
      (∀ c ∈ add, c ∉ implementers s x ∧ (c, lower x) ∈ regs ∧ isAbstract s x = true) ∧ add.Nodup := by
  unfold implementers isAbstract
  rw [gettype_withImplementers]
  cases s.gettype x with
  | none => exact ⟨[], by simp, by simp, List.nodup_nil⟩
  | some te =>
    cases te with
    | concrete t => exact ⟨[], by simp [regEntries_concrete], by simp, List.nodup_nil⟩
    | abstract_ n subs =>
      obtain ⟨add, he, h1, _, h3⟩ := regEntries_abstract regs (lower x) n subs
      refine ⟨add, by simp [he], ?_, h3⟩
      intro c hc
      exact ⟨by simpa using (h1 c hc).1, (h1 c hc).2, by simp⟩

theorem mem_implementers_withImplementers (s : Schema) (regs : List (Str × Str)) (x c : Str) :
    c ∈ implementers (s.withImplementers regs) x ↔
      c ∈ implementers s x ∨ (isAbstract s x = true ∧ (c, lower x) ∈ regs) := by
  unfold implementers isAbstract
  rw [gettype_withImplementers]
  cases s.gettype x with
  | none => simp
  | some te =>
    cases te with
    | concrete t => simp [regEntries_concrete]
    | abstract_ n subs =>
      obtain ⟨subs', he, hm⟩ := regEntries_abstract_mem regs (lower x) n subs
      simp only [Option.map_some, he, true_and]
      exact hm c

/-! ### one entry, a whole table, as the application sees them -/

theorem shareEntry_regEntries (regs : List (Str × Str)) (p : Str × TypeEntry) :
    shareEntry p (regEntries regs p) = regEntries regs p := by
  obtain ⟨k, te⟩ := p
  cases te with
  | concrete t => rw [regEntries_concrete]; rfl
  | abstract_ n subs =>
    obtain ⟨add, he, _⟩ := regEntries_abstract regs k n subs
    rw [he]
    rfl

theorem shareTables_map_append (f : Str × TypeEntry → Str × TypeEntry) (hf : ∀ p, shareEntry p (f p) = f p) :
    ∀ (L new : List (Str × TypeEntry)), shareTables L (L.map f ++ new) = L.map f := by
  intro L
  induction L with
  | nil => intro new; rfl
  | cons p ps ih =>
    intro new
    simp only [List.map_cons, List.cons_append, shareTables, hf, ih]

theorem shareTables_self (L : List (Str × TypeEntry)) : shareTables L L = L := by
  have := shareTables_map_append id (fun p => by
    obtain ⟨k, te⟩ := p
    cases te <;> rfl) L []
  simpa using this

/-! ### the application's schema object after a traced load -/

/-- the private schema `x.schema` descends from `sc` by the calls `x.regs` and by appending new types -/
def Traced (sc : Schema) (x : Stop) : Prop :=
  (∃ new, x.schema.types = sc.types.map (regEntries x.regs) ++ new) ∧ x.schema.top = sc.top ∧ x.schema.handler = sc.handler

theorem Traced.here (sc : Schema) : Traced sc (Stop.here sc) :=
  ⟨⟨[], by simp [Stop.here, regEntries_nil_fun]⟩, rfl, rfl⟩

theorem Traced.andThen {sc : Schema} {x y : Stop} (hx : Traced sc x) (hy : Traced x.schema y) :
    Traced sc (x.andThen y) := by
  obtain ⟨⟨n1, h1⟩, t1, d1⟩ := hx
  obtain ⟨⟨n2, h2⟩, t2, d2⟩ := hy
  refine ⟨⟨n1.map (regEntries y.regs) ++ n2, ?_⟩, t2.trans t1, d2.trans d1⟩
  simp only [Stop.andThen]
  rw [h2, h1, List.map_append, List.map_map, List.append_assoc]
  congr 1
  apply List.map_congr_left
  intro p _
  simp only [Function.comp, regEntries_append]

theorem shareInto_traced (s : Schema) (x : Stop) (h : Traced s x) : shareInto s x.schema = s.withImplementers x.regs := by
  obtain ⟨⟨new, hn⟩, _, _⟩ := h
  rw [withImplementers_eq]
  unfold shareInto
  rw [hn, shareTables_map_append _ (shareEntry_regEntries x.regs)]

theorem shareInto_self (s : Schema) : shareInto s s = s := by
  unfold shareInto
  rw [shareTables_self]

end ZCV.Cfg
