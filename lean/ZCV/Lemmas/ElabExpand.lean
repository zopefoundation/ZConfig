import ZCV.Lemmas.ElabExpandElem
/-!
C11 (`extends` = written-out expansion) for one `<sectiontype>`.  When the derived type keeps its base's key type,
`start_sectiontype` with `extends` is `start_sectiontype` on the written-out attributes followed by "give the new type the
base's children" (`startSectiontype_extends_eq`); re-reading the base's inherited elements on the fresh type reproduces
those children (`replay`), given how the base came about (`BaseHistory`).  Hence, in any parser state with a current
prefix, reading `<sectiontype name=d extends=b …> c </sectiontype>` and reading its written-out form (`Spec/Expand.lean`)
give the same outcome, state or error (`sectiontype_extends_eq_expanded`) — provided `d` has no `keytype` and no `prefix`
attribute of its own and `b`'s written-out `keytype` / `datatype` attributes resolve, under the current prefix, to what `b`
has in the type table.  The last part prepares the walk over the document: what one child of `<schema>` other than
`<import>` leaves alone (`TopStep`, `StypeRun`), and what a `<sectiontype>` without `extends` adds (`NewType`).
-/
namespace ZCV.Elab
open ZCV ZCV.Cfg

theorem attr_append (l1 l2 : Attrs) (k : String) : attr (l1 ++ l2) k = (attr l1 k).or (attr l2 k) := by
  unfold attr
  rw [List.find?_append]
  cases l1.find? (·.1 == k.toList) <;> rfl

theorem find_filter_key (a : Attrs) (x kk : Str) (hk : kk ≠ x) :
    (a.filter (fun p => p.1 != x)).find? (·.1 == kk) = a.find? (·.1 == kk) := by
  rw [List.find?_filter]
  congr 1; funext p
  by_cases h : p.1 = kk
  · subst h; simp [hk]
  · simp [h]

theorem attr_filter_ne (a : Attrs) (k : String) (x : Str) (hk : k.toList ≠ x) :
    attr (a.filter (fun p => p.1 != x)) k = attr a k := by
  unfold attr
  rw [find_filter_key a x k.toList hk]

theorem attr_none_of {l : Attrs} {k : String} (h : ∀ p ∈ l, p.1 ≠ k.toList) : attr l k = none := by
  unfold attr
  rw [List.find?_eq_none.2 fun p hp => by simpa using h p hp]
  rfl

theorem attr_filter_self (a : Attrs) (k : String) : attr (a.filter (fun p => p.1 != k.toList)) k = none :=
  attr_none_of fun p hp => by simpa using (List.mem_filter.1 hp).2

theorem attr_inheritAttr_ne (own base : Attrs) (k' k : String) (hk : k.toList ≠ k'.toList) :
    attr (inheritAttr own base k') k = none := by
  unfold inheritAttr
  split
  · rfl
  · split
    · exact attr_none_of fun p hp => by cases List.mem_singleton.1 hp; exact fun h => hk h.symm
    · rfl

theorem attr_inheritAttr_self (own base : Attrs) (k : String) :
    attr (inheritAttr own base k) k = if (attr own k).isSome then none else attr base k := by
  unfold inheritAttr
  cases ho : attr own k with
  | some v => rfl
  | none =>
    cases hb : attr base k with
    | none => rfl
    | some v =>
      simp only [Option.isSome_none, Bool.false_eq_true, ↓reduceIte]
      unfold attr
      simp

/-- the attributes of the written-out type -/
def expandedAttrs (a ba : Attrs) : Attrs :=
  a.filter (fun p => p.1 != "extends".toList) ++ inheritAttr a ba "keytype" ++ inheritAttr a ba "datatype"

theorem attr_expanded_other (a ba : Attrs) (k : String) (h1 : k.toList ≠ "extends".toList)
    (h2 : k.toList ≠ "keytype".toList) (h3 : k.toList ≠ "datatype".toList) : attr (expandedAttrs a ba) k = attr a k := by
  unfold expandedAttrs
  rw [attr_append, attr_append, attr_filter_ne a k _ h1, attr_inheritAttr_ne _ _ _ _ h2, attr_inheritAttr_ne _ _ _ _ h3]
  cases attr a k <;> rfl

theorem attr_expanded_extends (a ba : Attrs) : attr (expandedAttrs a ba) "extends" = none := by
  unfold expandedAttrs
  rw [attr_append, attr_append, attr_filter_self, attr_inheritAttr_ne _ _ _ _ (by char_lits; decide),
    attr_inheritAttr_ne _ _ _ _ (by char_lits; decide)]
  rfl

theorem attr_expanded_keytype (a ba : Attrs) :
    attr (expandedAttrs a ba) "keytype" = (attr a "keytype").or (attr ba "keytype") := by
  unfold expandedAttrs
  rw [attr_append, attr_append, attr_filter_ne a "keytype" _ (by char_lits; decide), attr_inheritAttr_self,
    attr_inheritAttr_ne _ _ _ _ (by char_lits; decide)]
  cases attr a "keytype" <;> cases attr ba "keytype" <;> rfl

theorem attr_expanded_datatype (a ba : Attrs) :
    attr (expandedAttrs a ba) "datatype" = (attr a "datatype").or (attr ba "datatype") := by
  unfold expandedAttrs
  rw [attr_append, attr_append, attr_filter_ne a "datatype" _ (by char_lits; decide), attr_inheritAttr_ne _ _ _ _ (by char_lits; decide),
    attr_inheritAttr_self]
  cases attr a "datatype" <;> cases attr ba "datatype" <;> rfl

/-- a datatype attribute inherited in writing is the base's value -/
theorem getDatatype_inherit {env : Env} {st : PSt} {a a' ba : Attrs} {key dflt : String} {bv : Str}
    (hB : getDatatype env st ba key dflt none = .ok bv) (ha' : attr a' key = (attr a key).or (attr ba key)) :
    getDatatype env st a' key dflt none = getDatatype env st a key dflt (some bv) := by
  unfold getDatatype at hB ⊢
  rw [ha']
  cases hk : attr a key with
  | some v => rfl
  | none =>
    simp only [Option.none_or]
    cases hb : attr ba key with
    | some v => simp only [hb] at hB; exact hB
    | none => simp only [hb] at hB; exact hB

/-! ### the four places where `start_sectiontype` reads other attributes -/

theorem attr_expanded_name (a ba : Attrs) : attr (expandedAttrs a ba) "name" = attr a "name" :=
  attr_expanded_other a ba "name" (by char_lits; decide) (by char_lits; decide) (by char_lits; decide)

theorem attr_expanded_prefix (a ba : Attrs) : attr (expandedAttrs a ba) "prefix" = attr a "prefix" :=
  attr_expanded_other a ba "prefix" (by char_lits; decide) (by char_lits; decide) (by char_lits; decide)

theorem pushPrefix_expanded (st : PSt) (a ba : Attrs) : pushPrefix st (expandedAttrs a ba) = pushPrefix st a := by
  unfold pushPrefix
  rw [attr_expanded_prefix]

theorem sectiontypeImplements_expanded (es : ES) (a ba : Attrs) (name : Str) :
    sectiontypeImplements es (expandedAttrs a ba) name = sectiontypeImplements es a name := by
  unfold sectiontypeImplements
  rw [attr_expanded_other a ba "implements" (by char_lits; decide) (by char_lits; decide) (by char_lits; decide)]

theorem getSectTypeinfo_expanded {env : Env} {st : PSt} {a ba : Attrs} {bk bd : Str}
    (hk : getDatatype env st ba "keytype" "basic-key" none = .ok bk)
    (hd : getDatatype env st ba "datatype" "null" none = .ok bd) :
    getSectTypeinfo env st (expandedAttrs a ba) none = getSectTypeinfo env st a (some (bk, bd)) := by
  have hv : ∀ base, getDatatype env st (expandedAttrs a ba) "valuetype" "string" base =
      getDatatype env st a "valuetype" "string" base := by
    intro base
    unfold getDatatype
    rw [attr_expanded_other a ba "valuetype" (by char_lits; decide) (by char_lits; decide) (by char_lits; decide)]
  unfold getSectTypeinfo
  simp only [Option.map_none, Option.map_some]
  rw [getDatatype_inherit hk (attr_expanded_keytype a ba), getDatatype_inherit hd (attr_expanded_datatype a ba), hv]

/-! ### `implements` commutes with setting the children; the handler with `extends` -/

theorem basicKeyE_spec {b nb : Str} (h : DTSpec.basicKey b = .ok nb) : basicKeyE b = .ok nb := by
  unfold DTSpec.basicKey at h; rw [basicKeyE_eq]
  split at h <;> cases h; rw [if_pos ‹_›]

theorem addSubtype_updType (es : ES) (an name n : Str) (f : EType → EType) :
    addSubtype (es.updType n f) an name = (addSubtype es an name).updType n f := by
  unfold addSubtype ES.updType
  simp only [List.map_map]
  congr 1
  apply List.map_congr_left
  intro ⟨k, e⟩ _
  simp only [Function.comp]
  cases e <;> by_cases h1 : (k == n) = true <;> by_cases h2 : (k == an) = true <;>
    simp only [h1, h2, ↓reduceIte, Bool.false_eq_true]

theorem sectiontypeImplements_updType (a : Attrs) (name n : Str) (f : EType → EType) (es : ES) :
    sectiontypeImplements (es.updType n f) a name = (sectiontypeImplements es a name).map (fun e => e.updType n f) := by
  unfold sectiontypeImplements
  cases attr a "implements" with
  | none => rfl
  | some i =>
    simp only [bind, Except.bind, pure, Except.pure]
    cases basicKeyE i with
    | error e => rfl
    | ok ifn =>
      simp only
      rw [show (es.updType n f).gettype ifn = (es.gettype ifn).map _ from updType_find es n (lower ifn) f]
      cases es.gettype ifn with
      | none => rfl
      | some q =>
        obtain ⟨an, e⟩ := q
        cases e with
        | concrete t =>
          simp only [Option.map_some]
          by_cases hk : (an == n) = true
          · rw [if_pos hk]; rfl
          · rw [if_neg hk]; rfl
        | abstract_ x y z =>
          simp only [Option.map_some]
          by_cases hk : (an == n) = true
          · rw [if_pos hk]; exact congrArg Except.ok (addSubtype_updType ..)
          · rw [if_neg hk]; exact congrArg Except.ok (addSubtype_updType ..)

theorem getSectTypeinfo_kt {env : Env} {st : PSt} {a : Attrs} {bk bd kt dt : Str} (hnokt : attr a "keytype" = none)
    (h : getSectTypeinfo env st a (some (bk, bd)) = .ok (kt, dt)) : kt = bk := by
  have hkt : getDatatype env st a "keytype" "basic-key" (some bk) = .ok kt := (getSectTypeinfo_ok h).1
  rw [getDatatype_base env st a _ _ _ hnokt] at hkt
  cases hkt
  rfl

theorem sectiontypeBase_extends {env : Env} {st1 : PSt} {a ba : Attrs} {name b nb q : Str} {base : EType}
    (hext : attr a "extends" = some b) (hb : basicKeyE b = .ok nb)
    (hg : st1.es.gettype nb = some (q, .concrete base)) (hnokt : attr a "keytype" = none)
    (hcu : ComputedUnder env base.keytype base.children)
    (hT : getSectTypeinfo env st1 (expandedAttrs a ba) none = getSectTypeinfo env st1 a (some (base.keytype, base.datatype))) :
    sectiontypeBase env st1 a name =
      (sectiontypeBase env st1 (expandedAttrs a ba) name).map
        (fun es => es.updType name fun t => { t with children := base.children }) := by
  unfold sectiontypeBase
  rw [hext, attr_expanded_extends]
  simp only [hb, bind, Except.bind, hg, hT, pure, Except.pure]
  cases hti : getSectTypeinfo env st1 a (some (base.keytype, base.datatype)) with
  | error e => rfl
  | ok r =>
    obtain ⟨kt, dt⟩ := r
    have hkt := getSectTypeinfo_kt hnokt hti
    subst hkt
    simp only
    cases addType st1.es name (.concrete { name := some name, keytype := base.keytype, datatype := dt }) with
    | error e => rfl
    | ok es' =>
      simp only [deriveChildren_same_keytype hcu]
      rfl

/-- **`start_sectiontype` with `extends`**, when the derived type keeps the base's key type: the same as starting the
    written-out type and then giving it the base's children. -/
theorem startSectiontype_extends_eq {env : Env} {S0 : PSt} {a ba : Attrs} {b nb q : Str} {base : EType}
    (hext : attr a "extends" = some b) (hb : DTSpec.basicKey b = .ok nb)
    (hg : S0.es.gettype nb = some (q, .concrete base)) (hnokt : attr a "keytype" = none)
    (hcu : ComputedUnder env base.keytype base.children)
    (hkB : ∀ st1, pushPrefix S0 a = .ok st1 → getDatatype env st1 ba "keytype" "basic-key" none = .ok base.keytype)
    (hdB : ∀ st1, pushPrefix S0 a = .ok st1 → getDatatype env st1 ba "datatype" "null" none = .ok base.datatype) :
    startSectiontype env S0 a =
      (startSectiontype env S0 (expandedAttrs a ba)).map
        (fun s => { s with es := setTopOf s.es s.stack base.children }) := by
  rw [startSectiontype_eq, startSectiontype_eq]
  rw [attr_expanded_name]
  cases attr a "name" with
  | none => rfl
  | some n =>
    cases n with
    | nil => rfl
    | cons c cs =>
      simp only [bind, Except.bind, pure, Except.pure]
      cases basicKeyE (c :: cs) with
      | error e => rfl
      | ok name =>
        simp only
        rw [pushPrefix_expanded]
        cases hpp : pushPrefix S0 a with
        | error e => rfl
        | ok st1 =>
          simp only
          obtain ⟨x, hst1⟩ := pushPrefix_ok hpp
          have hg1 : st1.es.gettype nb = some (q, .concrete base) := by rw [hst1]; exact hg
          rw [sectiontypeBase_extends (name := name) hext (basicKeyE_spec hb) hg1 hnokt hcu
            (getSectTypeinfo_expanded (hkB st1 hpp) (hdB st1 hpp))]
          cases sectiontypeBase env st1 (expandedAttrs a ba) name with
          | error e => rfl
          | ok es2 =>
            simp only [Except.map]
            rw [sectiontypeImplements_updType, sectiontypeImplements_expanded]
            cases sectiontypeImplements es2 a name with
            | error e => rfl
            | ok es3 => rfl

def ConcSame (n : Str) (es es' : ES) : Prop :=
  ∀ q t, es.types.find? (·.1 == n) = some (q, .concrete t) → es'.types.find? (·.1 == n) = some (q, .concrete t)

theorem ConcSame.refl (n : Str) (es : ES) : ConcSame n es es := fun _ _ h => h
theorem ConcSame.trans {n : Str} {a b c : ES} (h1 : ConcSame n a b) (h2 : ConcSame n b c) : ConcSame n a c :=
  fun q t h => h2 q t (h1 q t h)
theorem ConcSame.of_types_eq {n : Str} {a b : ES} (h : b.types = a.types) : ConcSame n a b := by
  intro q t hf; rw [h]; exact hf

theorem concSame_updType (es : ES) {n D : Str} (hne : n ≠ D) (f : EType → EType) : ConcSame n es (es.updType D f) := by
  intro q t hf
  have hq : (q == D) = false := by have := (find_fst_some _ _ _ hf).1; simp only at this; subst this; simpa using hne
  rw [updType_find, hf]; simp only [Option.map_some, hq, Bool.false_eq_true, ↓reduceIte]

theorem concSame_map (es : ES) (n : Str) (g : Str × EEntry → Str × EEntry) (hk : ∀ p, (g p).1 = p.1)
    (hc : ∀ k t, g (k, .concrete t) = (k, .concrete t)) : ConcSame n es { es with types := es.types.map g } := by
  intro q t hf
  show (es.types.map g).find? _ = _
  rw [find_fst_map _ _ g hk, hf]
  simp [hc]

theorem concSame_append (es : ES) (n : Str) (l : List (Str × EEntry)) : ConcSame n es { es with types := es.types ++ l } := by
  intro q t hf
  show (es.types ++ l).find? _ = _
  rw [List.find?_append, hf]
  rfl

theorem concSame_setTopOf (es : ES) (n : Str) (stack : List Frame) (ch : List (Option Str × EInfo))
    (hne : ∀ D r, stack = .stype D :: r → n ≠ D) : ConcSame n es (setTopOf es stack ch) := by
  cases stack with
  | nil => exact ConcSame.refl _ _
  | cons f r =>
    cases f with
    | schema => exact ConcSame.of_types_eq rfl
    | stype D => exact concSame_updType es (hne D r rfl) _
    | atype m => exact ConcSame.refl _ _
    | key k => exact ConcSame.refl _ _
    | sect a b => exact ConcSame.refl _ _

/-- the type `start_sectiontype` has just entered: found under `name`, concrete, childless, with key type `kt` and datatype
    `dt`.  `only`: `ES.updType` rewrites every entry stored under a name, not just the one `find?` returns. -/
structure FreshEntry (es : ES) (name kt dt : Str) : Prop where
  find : ∃ t, es.types.find? (·.1 == name) = some (name, .concrete t) ∧ t.children = [] ∧ t.keytype = kt ∧ t.datatype = dt
  only : ∀ p ∈ es.types, p.1 = name → ∃ t, p.2 = .concrete t ∧ t.children = []

theorem FreshEntry.append {es : ES} {name kt dt : Str} (hnew : name ∉ es.typeNames) :
    FreshEntry { es with types := es.types ++ [(name, .concrete { name := some name, keytype := kt, datatype := dt })] }
      name kt dt := by
  refine ⟨⟨_, find_fst_append_fresh _ _ _ hnew, rfl, rfl, rfl⟩, ?_⟩
  intro p hp hpn
  rcases List.mem_append.mp hp with hp | hp
  · exact absurd (List.mem_map.2 ⟨p, hp, hpn⟩) hnew
  · simp only [List.mem_singleton] at hp
    subst hp
    exact ⟨_, rfl, rfl⟩

theorem FreshEntry.mapAbstract {es : ES} {name kt dt : Str} (h : FreshEntry es name kt dt) (g : Str × EEntry → Str × EEntry)
    (hk : ∀ p, (g p).1 = p.1) (hc : ∀ k t, g (k, .concrete t) = (k, .concrete t)) :
    FreshEntry { es with types := es.types.map g } name kt dt := by
  obtain ⟨⟨t, hf, ht1, ht2⟩, honly⟩ := h
  refine ⟨⟨t, ?_, ht1, ht2⟩, ?_⟩
  · show (es.types.map g).find? _ = _
    rw [find_fst_map _ _ g hk, hf]
    simp [hc]
  · intro p hp hpn
    simp only [List.mem_map] at hp
    obtain ⟨p0, hp0, rfl⟩ := hp
    rw [hk] at hpn
    obtain ⟨t0, ht0, hch0⟩ := honly p0 hp0 hpn
    obtain ⟨k0, e0⟩ := p0
    simp only at ht0
    subst ht0
    exact ⟨t0, by rw [hc], hch0⟩

theorem sectiontypeImplements_fresh {a : Attrs} {name kt dt : Str} {es2 es3 : ES}
    (h : sectiontypeImplements es2 a name = .ok es3) (hf : FreshEntry es2 name kt dt) :
    FreshEntry es3 name kt dt ∧ Grows es2 es3 ∧ ∀ n, ConcSame n es2 es3 := by
  refine ⟨?_, Grows.of_keys_eq (sectiontypeImplements_typeNames h), fun n q t => sectiontypeImplements_find_concrete h⟩
  cases hi : attr a "implements" with
  | none => rw [sectiontypeImplements_none _ _ _ hi] at h; cases h; exact hf
  | some i =>
    obtain ⟨_, an, _, _, _, _, _, rfl⟩ := sectiontypeImplements_some_ok hi h
    refine hf.mapAbstract _ ?_ ?_
    · intro ⟨k, e⟩; dsimp only; split <;> rfl
    · intro k t; dsimp only; split <;> rfl

theorem FreshEntry.topOf {es : ES} {name kt dt : Str} (h : FreshEntry es name kt dt) (r : List Frame) :
    topOf es (.stype name :: r) = .ok [] ∧ ktOf es (.stype name :: r) = .ok kt ∧ dtOf es (.stype name :: r) = .ok dt := by
  obtain ⟨⟨t, hf, ht1, ht2, ht3⟩, _⟩ := h
  unfold Elab.topOf ktOf dtOf
  simp only [hf, ht1, ht2, ht3, and_self]

theorem FreshEntry.setTop_nil {es : ES} {name kt dt : Str} (h : FreshEntry es name kt dt) (r : List Frame) :
    setTopOf es (.stype name :: r) [] = es := by
  show ES.updType es name _ = es
  unfold ES.updType
  have honly := h.only
  cases es with
  | mk types top handler comps =>
    simp only [ES.mk.injEq, and_true]
    conv => rhs; rw [← List.map_id types]
    apply List.map_congr_left
    intro ⟨k, e⟩ hp
    dsimp only
    by_cases hk : (k == name) = true
    · simp only [hk, ↓reduceIte]
      obtain ⟨t, ht, hch⟩ := honly (k, e) hp (by simpa using hk)
      simp only at ht
      subst ht
      simp only [id]
      rw [← hch]
    · simp only [hk, Bool.false_eq_true, ↓reduceIte, id]

/-- **`start_sectiontype` without `extends`**: a fresh childless type is on top of the stack -/
theorem startSectiontype_fresh {env : Env} {S0 s' : PSt} {a : Attrs} (hext : attr a "extends" = none)
    (h : startSectiontype env S0 a = .ok s') :
    ∃ name st1 kt dt, pushPrefix S0 a = .ok st1 ∧ getSectTypeinfo env st1 a none = .ok (kt, dt) ∧
      s'.stack = .stype name :: S0.stack ∧ s'.prefixes = st1.prefixes ∧ FreshEntry s'.es name kt dt ∧ Grows S0.es s'.es ∧
      (∀ n, ConcSame n S0.es s'.es) ∧ (∃ nm, attr a "name" = some nm ∧ basicKeyE nm = .ok name) ∧
      name ∉ S0.es.typeNames := by
  obtain ⟨nm, name, st1, es2, es3, hname, hbk, hpp, he2, he3, rfl⟩ := startSectiontype_ok h
  obtain ⟨kt, dt, hti, hnew, rfl⟩ := sectiontypeBase_plain_ok hext he2
  obtain ⟨hf3, hg3, hc3⟩ := sectiontypeImplements_fresh he3 (FreshEntry.append hnew)
  obtain ⟨x, rfl⟩ := pushPrefix_ok hpp
  exact ⟨name, _, kt, dt, hpp, hti, rfl, rfl, hf3, Grows.trans ⟨_, List.map_append.symm⟩ hg3,
    fun n => (concSame_append _ _ _).trans (hc3 n), ⟨nm, hname, hbk⟩, hnew⟩

theorem SimTop.refl {sb : PSt} {ch : List (Option Str × EInfo)} (h : topOf sb.es sb.stack = .ok ch) : SimTop sb sb :=
  ⟨⟨ch, h, h⟩, rfl, rfl, Grows.refl _⟩

/-- how the base type `base` (an entry of the type table of the current state `S0`) came about: by reading the child elements
    `bc` of a `<sectiontype>` on a fresh type with the same key type, in a state `sbH` that `S0` extends -/
structure BaseHistory (env : Env) (h : Hooks) (d : DocKind) (S0 : PSt) (base : EType) (bc : List Node) : Prop where
  run : ∃ sbH sbH', visitChildren env h d "sectiontype".toList sbH bc = .ok sbH' ∧
    (∃ B r, sbH.stack = .stype B :: r) ∧ topOf sbH.es sbH.stack = .ok [] ∧ ktOf sbH.es sbH.stack = .ok base.keytype ∧
    topOf sbH'.es sbH'.stack = .ok base.children ∧ sbH.prefixes.head? = S0.prefixes.head? ∧ Grows sbH.es S0.es

theorem BaseHistory.computed {env : Env} {h : Hooks} {d : DocKind} {S0 : PSt} {base : EType} {bc : List Node}
    (hH : BaseHistory env h d S0 base bc) : ComputedUnder env base.keytype base.children := by
  obtain ⟨sbH, sbH', hrun, hB, hfresh, hkt, hch, _, _⟩ := hH.run
  have hp : pkOfB (isComp d) "sectiontype".toList = some .stype := pkOfB_sectiontype _
  obtain ⟨_, _, _, _, hc', _⟩ :=
    replay hp base.keytype bc sbH sbH' sbH (SimTop.refl hfresh) hB (.of_nil hkt hfresh) hrun
  exact hc'.2 _ hch

theorem pushPrefix_noattr {st st1 : PSt} {a : Attrs} (hnp : attr a "prefix" = none) (hne : st.prefixes ≠ [])
    (h : pushPrefix st a = .ok st1) : st1.prefixes.head? = st.prefixes.head? := by
  rw [pushPrefix_none st a (by rw [hnp]; rfl)] at h
  cases h
  cases hp : st.prefixes with
  | nil => exact absurd hp hne
  | cons p r => rfl

/-- **`extends` = written-out expansion, for one section type.** -/
theorem sectiontype_extends_eq_expanded {env : Env} {h : Hooks} {d : DocKind} {p : Str} {S0 : PSt} {a ba : Attrs}
    {b nb q : Str} {base : EType} {c bc : List Node}
    (hext : attr a "extends" = some b) (hb : DTSpec.basicKey b = .ok nb)
    (hg : S0.es.gettype nb = some (q, .concrete base)) (hnokt : attr a "keytype" = none)
    (hnoprefix : attr a "prefix" = none) (hS0pre : S0.prefixes ≠ [])
    (hkB : ∀ st1, pushPrefix S0 a = .ok st1 → getDatatype env st1 ba "keytype" "basic-key" none = .ok base.keytype)
    (hdB : ∀ st1, pushPrefix S0 a = .ok st1 → getDatatype env st1 ba "datatype" "null" none = .ok base.datatype)
    (hH : BaseHistory env h d S0 base bc) :
    visitElem env h d (some p) S0 (.elem "sectiontype".toList a c) =
      visitElem env h d (some p) S0 (.elem "sectiontype".toList (expandedAttrs a ba) (inheritedChildren bc ++ c)) := by
  cases hn : nestingCheck p "sectiontype".toList with
  | error e => rw [visitElem_nest_err hn, visitElem_nest_err hn]
  | ok u =>
    rw [visitElem_sectiontype hn, visitElem_sectiontype hn]
    have hcu := hH.computed
    rw [startSectiontype_extends_eq hext hb hg hnokt hcu hkB hdB]
    cases hs' : startSectiontype env S0 (expandedAttrs a ba) with
    | error e => rfl
    | ok s' =>
      simp only [Except.map, bind, Except.bind]
      rw [visitChildren_append]
      obtain ⟨name, st1, kt, dt, hpp', hti', hstack, hpre, hfresh, hgrow, _, _, _⟩ :=
        startSectiontype_fresh (attr_expanded_extends a ba) hs'
      have hpp : pushPrefix S0 a = .ok st1 := by rw [← pushPrefix_expanded S0 a ba]; exact hpp'
      have hkt : kt = base.keytype := by
        rw [getSectTypeinfo_expanded (hkB st1 hpp) (hdB st1 hpp)] at hti'
        exact getSectTypeinfo_kt hnokt hti'
      subst hkt
      obtain ⟨sbH, sbH', hrun, hB, hHfresh, hHkt, hHch, hHpre, hHgrow⟩ := hH.run
      obtain ⟨htop', hkt', _⟩ := hfresh.topOf S0.stack
      have hsim : SimTop sbH s' := by
        refine ⟨⟨[], hHfresh, by rw [hstack]; exact htop'⟩, by rw [hHkt, hstack, hkt'], ?_, hHgrow.trans hgrow⟩
        rw [hpre, pushPrefix_noattr hnoprefix hS0pre hpp]
        exact hHpre
      obtain ⟨sd', hd', hs2, hu, _, _⟩ :=
        replay (pkOfB_sectiontype _) base.keytype bc sbH sbH' s' hsim hB (.of_nil hHkt hHfresh) hrun
      have hsd' : sd' = { s' with es := setTopOf s'.es s'.stack base.children } := by
        obtain ⟨ch2, e1, e2⟩ := hs2.ch
        rw [hHch] at e1
        injection e1 with e1
        subst e1
        rcases hu with rfl | ⟨cs, rfl⟩
        · rw [hstack, htop'] at e2
          injection e2 with e2
          have hself : setTopOf sd'.es sd'.stack [] = sd'.es := by rw [hstack]; exact hfresh.setTop_nil _
          rw [← e2, hself]
        · have : topOf (setTopOf s'.es s'.stack cs) s'.stack = .ok cs :=
            topOf_setTopOf (ch := []) (by rw [hstack]; exact htop')
          have e2' : topOf (setTopOf s'.es s'.stack cs) s'.stack = .ok base.children := e2
          rw [this] at e2'
          injection e2' with e2'
          rw [e2']
      rw [hd', hsd']
      rfl

theorem entry_of_top {es : ES} {D : Str} {r : List Frame} {kt dt : Str}
    (h2 : ktOf es (.stype D :: r) = .ok kt) (h3 : dtOf es (.stype D :: r) = .ok dt) :
    ∃ q t, es.types.find? (·.1 == D) = some (q, .concrete t) ∧ topOf es (.stype D :: r) = .ok t.children ∧
      t.keytype = kt ∧ t.datatype = dt := by
  rcases projTop_ok (g := (·.keytype)) (ktOf_eq_proj ▸ h2) with ⟨_, hs, _⟩ | ⟨n, _, t, hs, hf, rfl⟩
  · cases hs
  · cases hs
    refine ⟨_, t, hf, by simp only [topOf, hf], rfl, ?_⟩
    simpa only [dtOf, hf, Except.ok.injEq] using h3

/-! ### the children of a `<sectiontype>` only touch that type -/

/-- what reading children of `<sectiontype name=D>` does to the state -/
structure StypeRun (D : Str) (s s2 : PSt) : Prop where
  stack : s2.stack = s.stack
  prefixes : s2.prefixes = s.prefixes
  grows : Grows s.es s2.es
  frozen : ∀ n, n ≠ D → ConcSame n s.es s2.es
  kt : ktOf s2.es s.stack = ktOf s.es s.stack
  dt : dtOf s2.es s.stack = dtOf s.es s.stack

theorem StypeRun.refl (D : Str) (s : PSt) : StypeRun D s s :=
  ⟨rfl, rfl, Grows.refl _, fun _ _ => ConcSame.refl _ _, rfl, rfl⟩

theorem StypeRun.trans {D : Str} {a b c : PSt} (h1 : StypeRun D a b) (h2 : StypeRun D b c) : StypeRun D a c :=
  ⟨h2.stack.trans h1.stack, h2.prefixes.trans h1.prefixes, h1.grows.trans h2.grows,
   fun n hn => (h1.frozen n hn).trans (h2.frozen n hn),
   by have := h2.kt; rw [h1.stack] at this; exact this.trans h1.kt,
   by have := h2.dt; rw [h1.stack] at this; exact this.trans h1.dt⟩

theorem StypeRun.setTop {D : Str} {s : PSt} {r : List Frame} (hs : s.stack = .stype D :: r)
    (c : List (Option Str × EInfo)) : StypeRun D s { s with es := setTopOf s.es s.stack c } := by
  refine ⟨rfl, rfl, setTopOf_grows _ _ _, ?_, ktOf_setTopOf _ _ _, dtOf_setTopOf _ _ _⟩
  intro n hn
  apply concSame_setTopOf
  intro D' r' hs'
  rw [hs] at hs'
  injection hs' with h1 _
  injection h1 with h1
  rw [← h1]; exact hn

theorem StypeRun.flag {D : Str} {s : PSt} (f : EType → EType)
    (hf : ∀ t, (f t).children = t.children ∧ (f t).keytype = t.keytype ∧ (f t).datatype = t.datatype) :
    StypeRun D s { s with es := s.es.updType D f } :=
  ⟨rfl, rfl, Grows.updType _ _ _, fun _ hn => concSame_updType _ hn _,
   ktOf_updType_flag _ _ _ (fun t => (hf t).2.1) _, dtOf_updType_flag _ _ _ (fun t => (hf t).2.2) _⟩

theorem stypeChildren_run {env : Env} {h : Hooks} {d : DocKind} {p : Str} (hp : pkOfB (isComp d) p = some .stype)
    {D : Str} {r : List Frame} :
    ∀ (c : List Node) (s s2 : PSt), s.stack = .stype D :: r → (∃ ch, topOf s.es s.stack = .ok ch) →
      visitChildren env h d p s c = .ok s2 → StypeRun D s s2 := fun c s s2 hs ht hv =>
  (visitChildren_keeps (I := fun s1 => StypeRun D s s1 ∧ ∃ ch, topOf s1.es s1.stack = .ok ch)
    (fun t a c0 s1 s1' ⟨hrun, ch, hch⟩ he => by
      have hs1 : s1.stack = .stype D :: r := by rw [hrun.stack]; exact hs
      rcases stype_child_cases (visitElem_ok_nesting he) hp with hin | hcd
      · obtain ⟨x, rfl, _⟩ := member_run hin hch he
        exact ⟨hrun.trans (StypeRun.setTop hs1 _), _, topOf_setTopOf hch⟩
      · rw [hcd, bind_ok] at he
        obtain ⟨data, _, hcht⟩ := he
        rcases stypeCdata_form hs1 hcht with rfl | ⟨f, hf, rfl⟩
        · exact ⟨hrun, ch, hch⟩
        · refine ⟨hrun.trans (StypeRun.flag f hf), ch, ?_⟩
          show topOf (s1.es.updType D f) s1.stack = _
          rw [topOf_updType_flag _ _ _ (fun t => (hf t).1)]
          exact hch) c ⟨StypeRun.refl _ _, ht⟩ hv).1

structure TopStep (st st' : PSt) : Prop where
  stack : st'.stack = st.stack
  prefixes : st'.prefixes = st.prefixes
  grows : Grows st.es st'.es
  frozen : ∀ n, ConcSame n st.es st'.es

theorem TopStep.refl (st : PSt) : TopStep st st := ⟨rfl, rfl, Grows.refl _, fun _ => ConcSame.refl _ _⟩
theorem TopStep.trans {a b c : PSt} (h1 : TopStep a b) (h2 : TopStep b c) : TopStep a c :=
  ⟨h2.stack.trans h1.stack, h2.prefixes.trans h1.prefixes, h1.grows.trans h2.grows,
   fun n => (h1.frozen n).trans (h2.frozen n)⟩

theorem schemaCdata_step {c : Bool} {tag : Str} {attrs : Attrs} {data : Str} {st st' : PSt} {r : List Frame}
    (hs : st.stack = .schema :: r) (h : charactersTag c tag attrs data st = .ok st') : TopStep st st' := by
  rcases charactersTag_ok h with ⟨k, rest, _, hk, _⟩ | hfl
  · rw [hs] at hk; cases hk
  · cases hfl with
    | same => exact TopStep.refl _
    | top t rest _ _ _ => exact ⟨rfl, rfl, Grows.of_types_eq rfl, fun n => ConcSame.of_types_eq rfl⟩
    | stype n rest f hs' _ => rw [hs] at hs'; cases hs'
    | atype n rest hs' => rw [hs] at hs'; cases hs'
    | key k d e rest hs' => rw [hs] at hs'; cases hs'
    | sect a b a' b' rest hs' => rw [hs] at hs'; cases hs'

theorem atypeCdata_step {c : Bool} {tag : Str} {attrs : Attrs} {data : Str} {st st' : PSt} {n : Str} {r : List Frame}
    (hs : st.stack = .atype n :: r) (h : charactersTag c tag attrs data st = .ok st') : TopStep st st' := by
  rcases charactersTag_ok h with ⟨k, rest, _, hk, _⟩ | hfl
  · rw [hs] at hk; cases hk
  · cases hfl with
    | same => exact TopStep.refl _
    | top t rest hs' _ _ => rw [hs] at hs'; cases hs'
    | stype m rest f hs' _ => rw [hs] at hs'; cases hs'
    | atype m rest _ =>
      exact ⟨rfl, rfl, Grows.map _ _ (descEntry_absOnly m).fst,
        fun x => concSame_map _ x _ (descEntry_absOnly m).fst (descEntry_absOnly m).conc⟩
    | key k d e rest hs' => rw [hs] at hs'; cases hs'
    | sect a b a' b' rest hs' => rw [hs] at hs'; cases hs'

theorem atypeChildren_run {env : Env} {h : Hooks} {d : DocKind} {p : Str} (hp : pkOfB (isComp d) p = some .atype)
    {n : Str} {r : List Frame} :
    ∀ (c : List Node) (s s2 : PSt), s.stack = .atype n :: r → visitChildren env h d p s c = .ok s2 → TopStep s s2 := fun c s s2 hs hv =>
  visitChildren_keeps (I := TopStep s) (fun t a c0 s1 s1' h1 he => by
    rw [cdata_child (visitElem_ok_nesting he) hp (Or.inr (Or.inr rfl)), bind_ok] at he
    obtain ⟨data, _, hcht⟩ := he
    exact h1.trans (atypeCdata_step (by rw [h1.stack]; exact hs) hcht)) c (TopStep.refl s) hv

theorem abstracttypeElem_step {env : Env} {h : Hooks} {d : DocKind} {p : Str} {st st' : PSt} {a : Attrs} {c : List Node}
    (hv : visitElem env h d (some p) st (.elem "abstracttype".toList a c) = .ok st') : TopStep st st' := by
  have hn := visitElem_ok_nesting hv
  rw [visitElem_abstracttype hn, bind_ok] at hv
  obtain ⟨s1, hstart', hv⟩ := hv
  rw [bind_ok] at hv
  obtain ⟨s2, hch, hend'⟩ := hv
  obtain ⟨_, n, es, _, _, hadd, rfl⟩ := startAbstracttype_ok hstart'
  obtain ⟨_, hes⟩ := addType_eff hadd
  have hrun := atypeChildren_run (pkOfB_abstracttype _) c _ s2 (r := st.stack) (n := n) rfl hch
  have hst' := popFrame_ok hend'
  subst hst'
  refine ⟨?_, hrun.prefixes, ?_, ?_⟩
  · show s2.stack.tail = st.stack
    rw [hrun.stack]; rfl
  · exact (addType_grows hadd).trans hrun.grows
  · intro m
    have : ConcSame m st.es es := by rw [hes]; exact concSame_append _ _ _
    exact this.trans (hrun.frozen m)

/-- `<key>`, `<multikey>`, `<section>`, `<multisection>` directly below `<schema>` -/
theorem topContainer_step {env : Env} {h : Hooks} {d : DocKind} {p t : Str} {st st' : PSt} {a : Attrs} {c : List Node}
    {r : List Frame} (hin : inheritedTags.contains t = true) (hs : st.stack = .schema :: r)
    (hv : visitElem env h d (some p) st (.elem t a c) = .ok st') : TopStep st st' := by
  have htop : topOf st.es st.stack = .ok st.es.top.children := by rw [hs]; rfl
  obtain ⟨x, rfl, _⟩ := member_run hin htop hv
  refine ⟨rfl, rfl, setTopOf_grows _ _ _, fun n => concSame_setTopOf _ _ _ _ ?_⟩
  intro D r' hs'
  rw [hs] at hs'
  cases hs'

/-- what a `<sectiontype>` element without `extends` adds: a type whose children are what reading its child elements
    on a fresh type produced -/
structure NewType (env : Env) (h : Hooks) (d : DocKind) (st st' : PSt) (a : Attrs) (c : List Node) : Prop where
  ex : ∃ name nm st1 s' s2 kt dt, attr a "name" = some nm ∧ basicKeyE nm = .ok name ∧ pushPrefix st a = .ok st1 ∧
    getSectTypeinfo env st1 a none = .ok (kt, dt) ∧ s'.stack = .stype name :: st.stack ∧ s'.prefixes = st1.prefixes ∧
    FreshEntry s'.es name kt dt ∧ Grows st.es s'.es ∧
    visitChildren env h d "sectiontype".toList s' c = .ok s2 ∧ StypeRun name s' s2 ∧ st'.es = s2.es

theorem sectiontypeElem_step {env : Env} {h : Hooks} {d : DocKind} {p : Str} {st st' : PSt} {a : Attrs} {c : List Node}
    (hext : attr a "extends" = none) (hv : visitElem env h d (some p) st (.elem "sectiontype".toList a c) = .ok st') :
    TopStep st st' ∧ NewType env h d st st' a c := by
  have hn := visitElem_ok_nesting hv
  rw [visitElem_sectiontype hn, bind_ok] at hv
  obtain ⟨s', hstart', hv⟩ := hv
  rw [bind_ok] at hv
  obtain ⟨s2, hch, hend'⟩ := hv
  obtain ⟨name, st1, kt, dt, hpp, hti, hstack, hpre, hfresh, hgrow, hfrozen, ⟨nm, hnm, hbk⟩, hnew⟩ :=
    startSectiontype_fresh hext hstart'
  obtain ⟨htop', _, _⟩ := hfresh.topOf st.stack
  have hrun := stypeChildren_run (pkOfB_sectiontype _) c s' s2 hstack ⟨[], by rw [hstack]; exact htop'⟩ hch
  have hst' := popFrame_ok hend'
  obtain ⟨x, hst1⟩ := pushPrefix_ok hpp
  refine ⟨⟨?_, ?_, ?_, ?_⟩, ⟨name, nm, st1, s', s2, kt, dt, hnm, hbk, hpp, hti, hstack, hpre, hfresh, hgrow, hch, hrun, ?_⟩⟩
  · rw [hst']
    show s2.stack.tail = st.stack
    rw [hrun.stack, hstack]; rfl
  · rw [hst']
    show s2.prefixes.drop 1 = st.prefixes
    rw [hrun.prefixes, hpre, hst1]; rfl
  · rw [hst']
    exact hgrow.trans hrun.grows
  · intro n q t hf
    rw [hst']
    show s2.es.types.find? _ = _
    refine hrun.frozen n ?_ q t (hfrozen n q t hf)
    intro hnn
    subst hnn
    exact hnew (List.mem_map.2 ⟨_, (find_fst_some _ _ _ hf).2, (find_fst_some _ _ _ hf).1⟩)
  · rw [hst']; rfl

end ZCV.Elab
