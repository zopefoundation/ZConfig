import ZCV.Lemmas.LayoutRel
import ZCV.Lemmas.LayoutErase
import ZCV.Lemmas.TextDenote
/-!
C15 at the level of the loader: inserting a blank or comment line changes neither the configuration the loader
returns nor whether it rejects the text (`load_insert_skip`: the tree builder respects "equal up to positions",
`treeCtx_posSim`; the schema's value ignores positions; the loader computes the schema's value, so texts whose trees the
schema reads alike are loaded alike, `load_congr_tree`).
-/
namespace ZCV.Conf
open ZCV ZCV.Cfg

def eraseLevel (x : Str × Option Str × List Item) : Str × Option Str × List Item := (x.1, x.2.1, eraseItems x.2.2)

def eraseTB (a : TB) : TB := ⟨a.stack.map eraseLevel⟩

/-- tree-builder states that differ only in recorded positions -/
def TBrel (a b : TB) : Prop := eraseTB a = eraseTB b

theorem relM_of_map_eq {α β} {f : α → β} {x y : M α} (h : x.map f = y.map f) : relM (fun a b => f a = f b) x y := by
  cases x <;> cases y <;> first | exact Except.ok.inj h | exact trivial | cases h

/-! Forgetting positions commutes with the tree builder's operations. -/

theorem tbStop_erase (a : TB) (ty : Str) (nm : Option Str) :
    (tbStop a ty nm).map eraseTB = tbStop (eraseTB a) ty nm := by
  obtain ⟨stk⟩ := a
  match stk with
  | [] => rfl
  | [_] => rfl
  | lv :: pl :: rest =>
    show Except.ok (eraseTB _) = Except.ok _
    simp only [eraseTB, List.map_cons, eraseLevel, eraseItems_cons, eraseItem, eraseItems_reverse]

theorem tbValue_erase (a : TB) (k v : Str) (p : Pos) :
    (tbValue a k v p).map eraseTB = tbValue (eraseTB a) k v pos0 := by
  obtain ⟨stk⟩ := a
  match stk with
  | [] => rfl
  | lv :: rest => rfl

theorem tbFin_erase (a : TB) : (tbFin a).map eraseItems = tbFin (eraseTB a) := by
  obtain ⟨stk⟩ := a
  match stk with
  | [] => rfl
  | [lv] => exact congrArg Except.ok (eraseItems_reverse _)
  | _ :: _ :: _ => rfl

theorem treeCtx_posSim : PosSim treeCtx TBrel where
  start := fun a b ty nm h => show TBrel _ _ from congrArg (fun t : TB => (⟨(ty, nm, []) :: t.stack⟩ : TB)) h
  stop := fun a b ty nm (h : eraseTB a = eraseTB b) =>
    relM_of_map_eq (x := tbStop a ty nm) (y := tbStop b ty nm) (by rw [tbStop_erase, tbStop_erase, h])
  value := fun a b k v p p' (h : eraseTB a = eraseTB b) =>
    relM_of_map_eq (x := tbValue a k v p) (y := tbValue b k v p') (by rw [tbValue_erase, tbValue_erase, h])
  imp := fun _ _ _ _ => trivial

theorem treeOf_insert_skip (env : Env) (url : Option Str) (A B : List Str) (l : Str)
    (hl : lineShape (strip l) = .skip) :
    relM (fun x y => eraseItems x = eraseItems y) (treeOf env url (A ++ l :: B)) (treeOf env url (A ++ B)) := by
  rw [treeOf_eq, treeOf_eq]
  refine relM_bind (insert_skip_rel treeCtx TBrel treeCtx_posSim env 64 (activeOf url) url A B l 0 _ _ hl
    ⟨rfl, rfl, rfl⟩) ?_
  intro s1 s2 h12
  exact relM_of_map_eq (by rw [tbFin_erase, tbFin_erase, show eraseTB s1.ctx = eraseTB s2.ctx from h12.1])

theorem load_congr_tree (conv : Conv) (env : Env) (pkgs : Str → Pkg) (s : Schema) (url : Option Str) (L L' : List Str)
    (hs : schemaOK s = true) (hni : ∀ x ∈ L, NoImportLine x) (hni' : ∀ x ∈ L', NoImportLine x)
    (hres : ∀ u ls, env.res u = some ls → ∀ x ∈ ls, NoImportLine x)
    (hrel : relM (fun x y => denote conv s (eraseItems x) = denote conv s (eraseItems y))
      (treeOf env url L) (treeOf env url L')) :
    (load conv env pkgs s url L []).toOption.map (·.value) = (load conv env pkgs s url L' []).toOption.map (·.value) := by
  rw [load_eq_denote conv env pkgs s url L hs hni hres, load_eq_denote conv env pkgs s url L' hs hni' hres]
  cases h1 : treeOf env url L <;> cases h2 : treeOf env url L' <;> rw [h1, h2] at hrel
  · rfl
  · exact hrel.elim
  · exact hrel.elim
  · exact (denote_erase conv s _).symm.trans (hrel.trans (denote_erase conv s _))

theorem noImport_splice {A B : List Str} (X : List Str) (hni : ∀ x ∈ A ++ B, NoImportLine x)
    (hX : ∀ x ∈ X, NoImportLine x) : ∀ x ∈ A ++ (X ++ B), NoImportLine x := by
  intro x hx
  simp only [List.mem_append] at hx hni
  rcases hx with h | h | h
  · exact hni x (.inl h)
  · exact hX x h
  · exact hni x (.inr h)

theorem load_insert_skip (conv : Conv) (env : Env) (pkgs : Str → Pkg) (s : Schema) (url : Option Str)
    (A B : List Str) (l : Str) (hs : schemaOK s = true)
    (hni : ∀ x ∈ A ++ B, NoImportLine x) (hres : ∀ u ls, env.res u = some ls → ∀ x ∈ ls, NoImportLine x)
    (hl : lineShape (strip l) = .skip) :
    (load conv env pkgs s url (A ++ l :: B) []).toOption.map (·.value) =
      (load conv env pkgs s url (A ++ B) []).toOption.map (·.value) :=
  load_congr_tree conv env pkgs s url _ _ hs
    (noImport_splice [l] hni (by intro x hx a ha; cases List.mem_singleton.1 hx; rw [hl] at ha; cases ha)) hni hres
    (relM_mono (treeOf_insert_skip env url A B l hl) fun _ _ h => by rw [h])

end ZCV.Conf
