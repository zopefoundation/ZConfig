import ZCV.Model.Logger
/-!
C20 — `FileHandlerFactory.__init__`: the complete decision table of `fileHandlerKind`.
-/
namespace ZCV.Log
open ZCV

/-- no rotation option, no `delay`, no `encoding`: what a standard stream accepts -/
def FileOpts.plainStd (o : FileOpts) : Prop :=
  o.maxBytes = 0 ∧ o.oldFiles = 0 ∧ truthy o.when = false ∧ o.delay = false ∧ truthy o.encoding = false

instance (o : FileOpts) : Decidable o.plainStd := by unfold FileOpts.plainStd; infer_instance

/-- the path names one of the two standard streams -/
def FileOpts.isStd (o : FileOpts) : Prop := o.path = "STDERR".toList ∨ o.path = "STDOUT".toList

instance (o : FileOpts) : Decidable o.isStd := by unfold FileOpts.isStd; infer_instance

/-- the `interval` handed to `TimedRotatingFileHandler`: `if not interval: interval = 1` -/
def FileOpts.effInterval (o : FileOpts) : Nat := if o.interval = 0 then 1 else o.interval

theorem logdec_stderr_ne_stdout : "STDERR".toList ≠ "STDOUT".toList := by decide

/-- the decision of `FileHandlerFactory.__init__` as a table: first the path, then the option combination -/
def fileHandlerTable (o : FileOpts) : Except ConvErr HandlerKind :=
  if o.path = "STDERR".toList then (if o.plainStd then .ok .stderr else .error .valueError)
  else if o.path = "STDOUT".toList then (if o.plainStd then .ok .stdout else .error .valueError)
  else if o.oldFiles = 0 then
    (if truthy o.when = false ∧ o.maxBytes = 0 ∧ o.interval = 0 then .ok .plainFile else .error .valueError)
  else if truthy o.when = true then
    (if o.maxBytes = 0 then .ok (.timedRotating o.effInterval) else .error .valueError)
  else if o.maxBytes = 0 then .error .valueError
  else .ok .rotating

/-- Both sides are computed, in each of the cases the tests tell apart: the path is STDERR, STDOUT or neither; a number
    is zero or not; an optional string is absent, empty or not empty. -/
theorem logdec_table (o : FileOpts) : fileHandlerKind o = fileHandlerTable o := by
  obtain ⟨path, mb, old, wh, iv, enc, dl⟩ := o
  unfold fileHandlerKind fileHandlerTable FileOpts.effInterval
  by_cases h1 : path = "STDERR".toList
  · simp only [h1, beq_self_eq_true, if_true]
    rcases mb with _ | mb <;> rcases old with _ | old <;> rcases wh with _ | _ | ⟨c, t⟩ <;> cases dl <;>
      rcases enc with _ | _ | ⟨c', t'⟩ <;> rfl
  · have h1' : (path == "STDERR".toList) = false := by simpa using h1
    simp only [h1', h1, Bool.false_eq_true, if_false]
    by_cases h2 : path = "STDOUT".toList
    · simp only [h2, beq_self_eq_true, if_true]
      rcases mb with _ | mb <;> rcases old with _ | old <;> rcases wh with _ | _ | ⟨c, t⟩ <;> cases dl <;>
        rcases enc with _ | _ | ⟨c', t'⟩ <;> rfl
    · have h2' : (path == "STDOUT".toList) = false := by simpa using h2
      simp only [h2', h2, Bool.false_eq_true, if_false]
      rcases mb with _ | mb <;> rcases old with _ | old <;> rcases wh with _ | _ | ⟨c, t⟩ <;> rcases iv with _ | iv <;> rfl

/-- `logdec_table_cases o` proves a characterisation of one outcome of `fileHandlerKind o`: it passes to the table
    (`logdec_table`), forgets what the two stream names are except that they differ, and goes through the cases of the
    table: the path (STDERR, STDOUT, a file), then `plainStd` or the four options of a file. -/
macro "logdec_table_cases" o:ident : tactic => `(tactic|
  (rw [logdec_table]
   unfold fileHandlerTable
   try unfold FileOpts.isStd
   have hne := logdec_stderr_ne_stdout
   generalize "STDERR".toList = se at hne ⊢
   generalize "STDOUT".toList = so at hne ⊢
   by_cases h1 : FileOpts.path $o = se
   · have h2 : FileOpts.path $o ≠ so := h1 ▸ hne
     by_cases hp : FileOpts.plainStd $o <;> simp [*] <;> try exact eq_comm
   · by_cases h2 : FileOpts.path $o = so
     · have hne' : so ≠ se := Ne.symm hne
       by_cases hp : FileOpts.plainStd $o <;> simp [*] <;> try exact eq_comm
     · by_cases b : FileOpts.oldFiles $o = 0 <;> by_cases c : truthy (FileOpts.when $o) = true <;>
         by_cases a : FileOpts.maxBytes $o = 0 <;> by_cases g : FileOpts.interval $o = 0 <;> simp [*] <;> try exact eq_comm))

theorem logdec_iff_error (o : FileOpts) (e : ConvErr) :
    fileHandlerKind o = .error e ↔
      e = .valueError ∧
      ((o.isStd ∧ ¬ o.plainStd) ∨
       (¬ o.isStd ∧ o.oldFiles = 0 ∧ (truthy o.when = true ∨ o.maxBytes ≠ 0 ∨ o.interval ≠ 0)) ∨
       (¬ o.isStd ∧ o.oldFiles ≠ 0 ∧ truthy o.when = true ∧ o.maxBytes ≠ 0) ∨
       (¬ o.isStd ∧ o.oldFiles ≠ 0 ∧ truthy o.when = false ∧ o.maxBytes = 0)) := by
  logdec_table_cases o

end ZCV.Log
