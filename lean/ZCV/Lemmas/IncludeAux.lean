import ZCV.Lemmas.Misc
/-!
`stepLine` / `parseLines` for any context: one equation of `stepLine` per line shape; the `%include` arm in two stages
(`incgenTarget`: find the resource; `incgenEnter`: cycle test, recursion budget, then the resource is read by a parser of its
own from `subState st`); `parseLines` as a fold (`runLines`) followed by the end-of-resource check;
a resource read up to an `%include` line; the rules by which closed texts are derived.
-/
namespace ZCV.Cfg
open ZCV

@[simp] theorem toOption_ok {ε α} (a : α) : (Except.ok a : Except ε α).toOption = some a := rfl
@[simp] theorem toOption_error {ε α} (e : ε) : (Except.error e : Except ε α).toOption = none := rfl

theorem toOption_eq_some {ε α} {x : Except ε α} {a : α} : x.toOption = some a ↔ x = .ok a := by
  cases x <;> simp

/-- the state in which an included resource is read -/
def subState {σ} (st : PS σ) : PS σ := { ctx := st.ctx, stack := [], defs := st.defs }

/-! ### an `%include` line in two stages -/

/-- first stage: expand the argument with the definitions in force, resolve it against `url` — the URL of the resource that
    CONTAINS the line —, open the resource.  No fuel, no list of active resources. -/
def incgenTarget {σ} (env : Env) (c : PCtx σ) (url : Option Str) (line : Nat) (arg : Str) (defs : List (Str × Str)) :
    M (Str × List Str) :=
  replace env defs url line (strip arg) >>= fun a =>
    if !c.canInclude then .error (.internal "NotImplementedError") else
    match env.resolve url a with
    | .fragment => .error (.cfg { kind := .plain, url := none, tag := "fragment" })
    | .unknown => .error (.internal "unresolved-by-harness")
    | .url u =>
      match env.res u with
      | none => .error (.cfg { kind := .plain, url := some u, tag := "error opening" })
      | some lines => .ok (u, lines)

/-- second stage: the cycle check, the recursion budget, then the resource `p.1` (lines `p.2`) is read by a parser of its
    own — URL `some p.1`, line 0, no open section, the includer's context and definitions — and what comes back is the
    context and the definitions -/
def incgenEnter {σ} (fuel : Nat) (env : Env) (c : PCtx σ) (active : List Str) (p : Str × List Str) (st : PS σ) : M (PS σ) :=
  if p.1 != [] && active.contains p.1 then
    .error (.cfg { kind := .plain, url := some p.1, tag := "resource includes itself" })
  else match fuel with
    | 0 => .error (.internal "RecursionError")
    | fuel' + 1 =>
      parseLines fuel' env c (p.1 :: active) (some p.1) p.2 0 (subState st) >>= fun sub =>
        .ok { st with ctx := sub.ctx, defs := sub.defs }

theorem incgen_stepLine_include {σ} (fuel : Nat) (env : Env) (c : PCtx σ) (active : List Str) (url : Option Str) (line : Nat)
    (l arg : Str) (st : PS σ) (h : lineShape l = .include_ arg) :
    stepLine fuel env c active url line l st =
      incgenTarget env c url line arg st.defs >>= fun p => incgenEnter fuel env c active p st := by
  rw [stepLine]
  simp only [h]
  unfold incgenTarget
  cases replace env st.defs url line (strip arg) with
  | error e => rfl
  | ok a =>
    simp only [ok_bind]
    cases c.canInclude
    · rfl
    · simp only [Bool.not_true, Bool.false_eq_true, if_false]
      cases env.resolve url a with
      | fragment => rfl
      | unknown => rfl
      | url u =>
        dsimp only
        cases env.res u with
        | none => rfl
        | some lines =>
          unfold incgenEnter
          cases hb : (u != [] && active.contains u)
          · cases fuel <;> simp only [ok_bind, Bool.false_eq_true, if_false, hb] <;> rfl
          · simp only [ok_bind, hb, if_true]
            rfl

theorem incgen_target_ok {σ} (env : Env) (c : PCtx σ) (url : Option Str) (line : Nat) (arg a u : Str) (F : List Str)
    (defs : List (Str × Str)) (hci : c.canInclude = true)
    (hrep : replace env defs url line (strip arg) = .ok a)
    (hres : env.resolve url a = .url u) (hfile : env.res u = some F) :
    incgenTarget env c url line arg defs = .ok (u, F) := by
  unfold incgenTarget
  rw [hrep, ok_bind]
  simp only [hci, Bool.not_true, Bool.false_eq_true, ↓reduceIte, hres, hfile]

theorem incgen_target_ok_inv {σ} (env : Env) (c : PCtx σ) (url : Option Str) (line : Nat) (arg : Str)
    (defs : List (Str × Str)) (p : Str × List Str) (h : incgenTarget env c url line arg defs = .ok p) :
    ∃ a, replace env defs url line (strip arg) = .ok a ∧ c.canInclude = true ∧ env.resolve url a = .url p.1 ∧
      env.res p.1 = some p.2 := by
  unfold incgenTarget at h
  obtain ⟨a, ha, h⟩ := bind_ok_inv h
  refine ⟨a, ha, ?_⟩
  split at h
  · cases h
  · rename_i hci
    split at h
    · cases h
    · cases h
    · rename_i u hres
      split at h
      · cases h
      · rename_i lines hl
        cases h
        exact ⟨by simpa using hci, hres, hl⟩
/-- the first stage looks at the context only through `canInclude` -/
theorem incgenTarget_ctx {σ₁ σ₂} (env : Env) (c₁ : PCtx σ₁) (c₂ : PCtx σ₂) (h : c₁.canInclude = c₂.canInclude) (url : Option Str)
    (line : Nat) (arg : Str) (defs : List (Str × Str)) :
    incgenTarget env c₁ url line arg defs = incgenTarget env c₂ url line arg defs := by
  unfold incgenTarget; rw [h]

theorem incgen_enter_ok {σ} (fuel : Nat) (env : Env) (c : PCtx σ) (active : List Str) (u : Str) (F : List Str) (st : PS σ)
    (hact : u = [] ∨ u ∉ active) :
    incgenEnter (fuel + 1) env c active (u, F) st =
      parseLines fuel env c (u :: active) (some u) F 0 (subState st) >>= fun sub =>
        .ok { st with ctx := sub.ctx, defs := sub.defs } := by
  unfold incgenEnter
  have hg : ((u, F).1 != [] && active.contains (u, F).1) = false := by
    rcases hact with h | h
    · simp [h]
    · simp [h]
  rw [if_neg (by rw [hg]; simp)]

theorem incgen_include_found {σ} (fuel : Nat) (env : Env) (c : PCtx σ) (active : List Str) (url : Option Str) (line : Nat)
    (l arg a u : Str) (F : List Str) (st : PS σ)
    (hshape : lineShape l = .include_ arg) (hci : c.canInclude = true)
    (hrep : replace env st.defs url line (strip arg) = .ok a)
    (hres : env.resolve url a = .url u) (hfile : env.res u = some F) (hact : u = [] ∨ u ∉ active) :
    stepLine (fuel + 1) env c active url line l st =
      parseLines fuel env c (u :: active) (some u) F 0 (subState st) >>= fun sub =>
        .ok { st with ctx := sub.ctx, defs := sub.defs } := by
  rw [incgen_stepLine_include _ _ _ _ _ _ _ _ _ hshape, incgen_target_ok env c url line arg a u F st.defs hci hrep hres hfile,
    ok_bind, incgen_enter_ok _ _ _ _ _ _ _ hact]

theorem incgen_include_unresolved {σ} (fuel : Nat) (env : Env) (c : PCtx σ) (active : List Str) (url : Option Str) (line : Nat)
    (l arg a : Str) (st : PS σ) (hshape : lineShape l = .include_ arg) (hci : c.canInclude = true)
    (hrep : replace env st.defs url line (strip arg) = .ok a) (hres : env.resolve url a = .unknown) :
    stepLine fuel env c active url line l st = .error (.internal "unresolved-by-harness") := by
  rw [incgen_stepLine_include _ _ _ _ _ _ _ _ _ hshape]
  unfold incgenTarget
  rw [hrep, ok_bind]
  simp only [hci, Bool.not_true, Bool.false_eq_true, ↓reduceIte, hres]
  rfl

theorem incgen_include_depth {σ} (env : Env) (c : PCtx σ) (active : List Str) (url : Option Str) (line : Nat)
    (l arg a u : Str) (F : List Str) (st : PS σ)
    (hshape : lineShape l = .include_ arg) (hci : c.canInclude = true)
    (hrep : replace env st.defs url line (strip arg) = .ok a)
    (hres : env.resolve url a = .url u) (hfile : env.res u = some F) (hact : u = [] ∨ u ∉ active) :
    stepLine 0 env c active url line l st = .error (.internal "RecursionError") := by
  rw [incgen_stepLine_include _ _ _ _ _ _ _ _ _ hshape, incgen_target_ok env c url line arg a u F st.defs hci hrep hres hfile,
    ok_bind]
  unfold incgenEnter
  have hg : ((u, F).1 != [] && active.contains (u, F).1) = false := by
    rcases hact with h | h
    · simp [h]
    · simp [h]
  rw [if_neg (by rw [hg]; simp)]

/-- the `%define` arm of `stepLine` -/
def defStep {σ} (env : Env) (c : PCtx σ) (url : Option Str) (line : Nat) (arg : Str) (st : PS σ) : M (PS σ) :=
  if !c.canDefine then .error (.internal "NotImplementedError")
  else (define env url line arg st.defs).map fun d => { st with defs := d }

theorem stepLine_define {σ} (fuel : Nat) (env : Env) (c : PCtx σ) (active : List Str) (url : Option Str) (line : Nat)
    (l arg : Str) (st : PS σ) (h : lineShape l = .define arg) :
    stepLine fuel env c active url line l st = defStep env c url line arg st := by
  rw [stepLine]
  simp only [h]
  unfold defStep
  show (if (!c.canDefine) = true then _ else _) = _
  split
  · rfl
  · cases define env url line arg st.defs <;> rfl

/-- the `%import` arm of `stepLine` -/
def impStep {σ} (env : Env) (c : PCtx σ) (url : Option Str) (line : Nat) (arg : Str) (st : PS σ) : M (PS σ) :=
  replace env st.defs url line (strip arg) >>= fun pkg => (c.imp st.ctx pkg).map fun ctx' => { st with ctx := ctx' }

theorem stepLine_import {σ} (fuel : Nat) (env : Env) (c : PCtx σ) (active : List Str) (url : Option Str) (line : Nat)
    (l arg : Str) (st : PS σ) (h : lineShape l = .import_ arg) :
    stepLine fuel env c active url line l st = impStep env c url line arg st := by
  rw [stepLine]
  simp only [h]
  unfold impStep
  cases replace env st.defs url line (strip arg) with
  | error e => rfl
  | ok a => generalize c.imp st.ctx a = r; cases r <;> rfl

/-! a context that does not implement `%define` / `%include` (`schemaless.Parser`, `schemaless.Context`) refuses the line -/

theorem stepLine_define_refused {σ} {fuel : Nat} {env : Env} {c : PCtx σ} {active : List Str} {url : Option Str} {line : Nat}
    {l arg : Str} {st : PS σ} (h : lineShape l = .define arg) (hc : c.canDefine = false) :
    stepLine fuel env c active url line l st = .error (.internal "NotImplementedError") := by
  rw [stepLine_define _ _ _ _ _ _ _ _ _ h, defStep, hc]
  rfl

/-- the argument fails to substitute, or the context raises `NotImplementedError` -/
theorem stepLine_include_refused {σ} {fuel : Nat} {env : Env} {c : PCtx σ} {active : List Str} {url : Option Str} {line : Nat}
    {l arg : Str} {st st' : PS σ} (h : lineShape l = .include_ arg) (hc : c.canInclude = false) :
    stepLine fuel env c active url line l st ≠ .ok st' := by
  rw [incgen_stepLine_include _ _ _ _ _ _ _ _ _ h, incgenTarget, hc]
  cases replace env st.defs url line (strip arg) with
  | error e => intro h'; cases h'
  | ok a => intro h'; cases h'

/-! ### `stepLine` by the shape of the line -/

section shapes
variable {σ : Type} {fuel : Nat} {env : Env} {c : PCtx σ} {active : List Str} {url : Option Str} {line : Nat} {l : Str}
  {st : PS σ}

theorem stepLine_of_skip (h : lineShape l = .skip) : stepLine fuel env c active url line l st = .ok st := by
  rw [stepLine]; simp only [h]

theorem stepLine_of_bad {t : String} (h : lineShape l = .bad t) :
    stepLine fuel env c active url line l st = .error (synErr url line t) := by
  rw [stepLine]; simp only [h]

theorem stepLine_of_close {ty : Str} (h : lineShape l = .close ty) :
    stepLine fuel env c active url line l st = closeSection c url line ty st := by
  rw [stepLine]; simp only [h]

theorem stepLine_of_open {ty : Str} {nm : Option Str} {e : Bool} (h : lineShape l = .open_ ty nm e) :
    stepLine fuel env c active url line l st = openSection c url line ty nm e st := by
  rw [stepLine]; simp only [h]

theorem replace_nodollar (env : Env) (defs) (url : Option Str) (line : Nat) (t : Str) (h : '$' ∉ t) :
    replace env defs url line t = .ok t := by
  unfold replace Subst.substitute
  simp [h]

theorem replace_of_subst {defs : List (Str × Str)} {t v : Str}
    (h : Subst.substitute (lookupDef defs) env.getenv t = .ok v) : replace env defs url line t = .ok v := by
  unfold replace; rw [h]

/-- the empty value needs no special case: `replace` leaves it alone -/
theorem stepLine_of_kv {k raw : Str} (h : lineShape l = .kv k raw) :
    stepLine fuel env c active url line l st =
      (replace env st.defs url line raw >>= fun v => kvCore c url line k v st) := by
  rw [stepLine]; simp only [h]
  rw [keyValue_eq]
  split
  · rename_i hr
    rw [eq_of_beq hr, replace_nodollar _ _ _ _ _ List.not_mem_nil]
    rfl
  · rfl

end shapes

/-! ### `parseLines` = fold of `stepLine`, then the "unclosed sections" check -/

/-- the check at the end of a resource -/
def finish {σ} (url : Option Str) (k : Nat) (st : PS σ) : M (PS σ) :=
  if st.stack != [] then .error (synErr url k "unclosed sections") else .ok st

/-- the loop of `parseLines` without the final check -/
def runLines {σ} (fuel : Nat) (env : Env) (c : PCtx σ) (active : List Str) (url : Option Str) :
    List Str → Nat → PS σ → M (PS σ)
  | [], _, st => .ok st
  | l :: rest, n, st =>
    stepLine fuel env c active url (n + 1) (strip l) st >>= fun s => runLines fuel env c active url rest (n + 1) s

theorem parseLines_eq_run {σ} (fuel : Nat) (env : Env) (c : PCtx σ) (active : List Str) (url : Option Str) :
    ∀ (lines : List Str) (n : Nat) (st : PS σ),
      parseLines fuel env c active url lines n st =
        runLines fuel env c active url lines n st >>= finish url (n + lines.length) := by
  intro lines
  induction lines with
  | nil => intro n st; rw [parseLines]; rfl
  | cons l rest ih =>
    intro n st
    rw [parseLines]
    simp only [runLines, bind_assoc]
    congr 1
    funext s
    rw [ih]
    have : n + 1 + rest.length = n + (l :: rest).length := by simp only [List.length_cons]; omega
    rw [this]

theorem runLines_append {σ} (fuel : Nat) (env : Env) (c : PCtx σ) (active : List Str) (url : Option Str) :
    ∀ (xs ys : List Str) (n : Nat) (st : PS σ),
      runLines fuel env c active url (xs ++ ys) n st =
        runLines fuel env c active url xs n st >>= runLines fuel env c active url ys (n + xs.length) := by
  intro xs
  induction xs with
  | nil => intro ys n st; rfl
  | cons l rest ih =>
    intro ys n st
    simp only [List.cons_append, runLines, bind_assoc]
    congr 1
    funext s
    rw [ih]
    have : n + 1 + rest.length = n + (l :: rest).length := by simp only [List.length_cons]; omega
    rw [this]

theorem parseLines_append {σ} (fuel : Nat) (env : Env) (c : PCtx σ) (active : List Str) (url : Option Str) :
    ∀ (xs ys : List Str) (n : Nat) (st : PS σ),
      parseLines fuel env c active url (xs ++ ys) n st =
        runLines fuel env c active url xs n st >>= parseLines fuel env c active url ys (n + xs.length) := by
  intro xs
  induction xs with
  | nil => intro ys n st; rfl
  | cons l rest ih =>
    intro ys n st
    rw [List.cons_append, parseLines]
    simp only [runLines, bind_assoc]
    congr 1
    funext s
    rw [ih]
    have : n + 1 + rest.length = n + (l :: rest).length := by simp only [List.length_cons]; omega
    rw [this]

/-! ### a resource read up to an `%include` line -/

theorem parse_at {σ} {fuel : Nat} {env : Env} {c : PCtx σ} {active : List Str} {url : Option Str} {A : List Str} {n : Nat}
    {st sA : PS σ} (hA : runLines fuel env c active url A n st = .ok sA) (l : Str) (B : List Str) :
    parseLines fuel env c active url (A ++ l :: B) n st =
      stepLine fuel env c active url (n + A.length + 1) (strip l) sA >>= parseLines fuel env c active url B (n + A.length + 1) := by
  rw [parseLines_append, hA, ok_bind, parseLines]

/-- a resource read up to an `%include` line that finds its target: what is opened is `resolve` of THIS resource's URL and
    the expanded argument; the target is read under its own URL with the definitions of that moment, and the rest of this
    resource goes on with the context and the definitions the target leaves behind -/
theorem incgen_parse_at_include {σ} (fuel : Nat) (env : Env) (c : PCtx σ) (active : List Str) (url : Option Str)
    (P Q : List Str) (inc arg a u : Str) (F : List Str) (n : Nat) (st sP : PS σ)
    (hP : runLines (fuel + 1) env c active url P n st = .ok sP)
    (hshape : lineShape (strip inc) = .include_ arg) (hci : c.canInclude = true)
    (hrep : replace env sP.defs url (n + P.length + 1) (strip arg) = .ok a)
    (hres : env.resolve url a = .url u) (hfile : env.res u = some F) (hact : u = [] ∨ u ∉ active) :
    parseLines (fuel + 1) env c active url (P ++ inc :: Q) n st =
      parseLines fuel env c (u :: active) (some u) F 0 (subState sP) >>= fun sub =>
        parseLines (fuel + 1) env c active url Q (n + P.length + 1) { sP with ctx := sub.ctx, defs := sub.defs } := by
  rw [parse_at hP, incgen_include_found fuel env c active url _ (strip inc) arg a u F sP hshape hci hrep hres hfile hact, bind_assoc]
  rfl

theorem incgen_include_missing {σ} (fuel : Nat) (env : Env) (c : PCtx σ) (active : List Str) (url : Option Str) (line : Nat)
    (l arg a u : Str) (st : PS σ) (hshape : lineShape l = .include_ arg) (hci : c.canInclude = true)
    (hrep : replace env st.defs url line (strip arg) = .ok a)
    (hres : env.resolve url a = .url u) (hfile : env.res u = none) :
    stepLine fuel env c active url line l st = .error (.cfg { kind := .plain, url := some u, tag := "error opening" }) := by
  rw [incgen_stepLine_include _ _ _ _ _ _ _ _ _ hshape]
  unfold incgenTarget
  rw [hrep, ok_bind]
  simp only [hci, Bool.not_true, Bool.false_eq_true, ↓reduceIte, hres, hfile]
  rfl

theorem incgen_parse_at_include_missing {σ} (fuel : Nat) (env : Env) (c : PCtx σ) (active : List Str) (url : Option Str)
    (P Q : List Str) (inc arg a u : Str) (n : Nat) (st sP : PS σ)
    (hP : runLines fuel env c active url P n st = .ok sP)
    (hshape : lineShape (strip inc) = .include_ arg) (hci : c.canInclude = true)
    (hrep : replace env sP.defs url (n + P.length + 1) (strip arg) = .ok a)
    (hres : env.resolve url a = .url u) (hfile : env.res u = none) :
    parseLines fuel env c active url (P ++ inc :: Q) n st =
      .error (.cfg { kind := .plain, url := some u, tag := "error opening" }) := by
  rw [parse_at hP, incgen_include_missing fuel env c active url _ (strip inc) arg a u sP hshape hci hrep hres hfile]
  rfl

/-! ### closed texts, rule by rule

A closed example is a derivation with these rules: one per line of the text (`parse_cons`, `parse_cons_error`,
`parse_nil`), with the line's own rule (`step_import`, `stepLine_of_open`, `stepLine_of_skip`) for its first premise. -/

section rules
variable {σ : Type} {fuel : Nat} {env : Env} {c : PCtx σ} {active : List Str} {url : Option Str}

theorem parse_nil {n : Nat} {st : PS σ} (h : st.stack = []) : parseLines fuel env c active url [] n st = .ok st := by
  rw [parseLines, h]; rfl

theorem parse_nil_error {n : Nat} {st : PS σ} (h : st.stack ≠ []) :
    parseLines fuel env c active url [] n st = .error (synErr url n "unclosed sections") := by
  rw [parseLines, if_pos (by simpa using h)]

theorem parse_cons {l : Str} {rest : List Str} {n : Nat} {st st' : PS σ} {r : M (PS σ)}
    (hstep : stepLine fuel env c active url (n + 1) (strip l) st = .ok st')
    (hrest : parseLines fuel env c active url rest (n + 1) st' = r) :
    parseLines fuel env c active url (l :: rest) n st = r := by
  rw [parseLines, hstep]; exact hrest

theorem parse_cons_error {l : Str} {rest : List Str} {n : Nat} {st : PS σ} {f : Fail}
    (hstep : stepLine fuel env c active url (n + 1) (strip l) st = .error f) :
    parseLines fuel env c active url (l :: rest) n st = .error f := by
  rw [parseLines, hstep]; rfl

/-- `<ty nm/>` -/
theorem open_empty {line : Nat} {ty : Str} {nm : Option Str} {st : PS σ} {c1 c2 : σ}
    (h1 : c.start st.ctx ty nm = .ok c1) (h2 : c.stop c1 ty nm = .ok c2) :
    openSection c url line ty nm true st = .ok { st with ctx := c2 } := by
  unfold openSection; rw [h1]; simp only [if_true, h2]; rfl

theorem open_error {line : Nat} {ty : Str} {nm : Option Str} {e : Bool} {st : PS σ} {er : Err}
    (h1 : c.start st.ctx ty nm = .error (.cfg er)) :
    openSection c url line ty nm e st = .error (synErr url line ("start:" ++ er.tag)) := by
  unfold openSection; rw [h1]

/-- `%import a`: `pkg` is the argument after `strip` and `$`-substitution -/
theorem step_import {line : Nat} {l a pkg : Str} {st : PS σ} {ctx' : σ} (hs : lineShape l = .import_ a)
    (hr : replace env st.defs url line (strip a) = .ok pkg) (hi : c.imp st.ctx pkg = .ok ctx') :
    stepLine fuel env c active url line l st = .ok { st with ctx := ctx' } := by
  rw [stepLine_import _ _ _ _ _ _ _ _ _ hs]; unfold impStep; rw [hr, ok_bind, hi]; rfl

theorem step_import_error {line : Nat} {l a pkg : Str} {st : PS σ} {f : Fail} (hs : lineShape l = .import_ a)
    (hr : replace env st.defs url line (strip a) = .ok pkg) (hi : c.imp st.ctx pkg = .error f) :
    stepLine fuel env c active url line l st = .error f := by
  rw [stepLine_import _ _ _ _ _ _ _ _ _ hs]; unfold impStep; rw [hr, ok_bind, hi]; rfl

theorem replace_closed {defs : List (Str × Str)} {line : Nat} {a pkg : Str} (h : strip a = pkg ∧ '$' ∉ pkg) :
    replace env defs url line (strip a) = .ok pkg := by
  rw [h.1]; exact replace_nodollar _ _ _ _ _ h.2

end rules

end ZCV.Cfg
