import ZCV.Lemmas.Subst
import ZCV.Lemmas.Except
/-!
C04: `substitute` = the documented function (`substcor_conv_main`), and what follows from it one `$` construct at a time: where a
replacement error comes from (`spec_missing`: a reference whose lookup fails; it carries the whole source and the name as written);
the source text only matters for that error (`withSource`, `substcor_spec_src`); the unfolding `substcor_spec_step` for the MODEL
(`substcor_model_step`), from which `Props/C04.lean` reads the three fates of a `$` construct; an evaluator that reduces, for closed examples.
-/
namespace ZCV.Subst
open ZCV ZCV.SubstSpec

theorem spec_missing (defs env : Str → Option Str) (src t a b : Str)
    (h : spec defs env src t = .error (.missing a b)) :
    a = src ∧ ∃ pre u vt rest, t = pre ++ '$' :: u ∧ IsRef u b vt rest ∧ lookupRef defs env vt b = none := by
  induction t using construct_induct with
  | nil => rw [spec_nil] at h; cases h
  | lit c t hc ih =>
    rw [spec_lit _ _ _ _ _ hc] at h
    obtain ⟨e, pre, u, vt, rest, rfl, h2⟩ := ih (map_error_inv h)
    exact ⟨e, c :: pre, u, vt, rest, rfl, h2⟩
  | mal t k hk => rw [spec_malformed _ _ _ hk] at h; cases h
  | esc r ih =>
    rw [spec_esc] at h
    obtain ⟨e, pre, u, vt, rest, rfl, h2⟩ := ih (map_error_inv h)
    exact ⟨e, '$' :: '$' :: pre, u, vt, rest, rfl, h2⟩
  | ref t n vt r href ih =>
    rw [spec_ref _ _ _ href] at h
    cases hv : lookupRef defs env vt n with
    | none =>
      simp only [hv, Except.error.injEq, SubstSpec.Err.missing.injEq] at h
      obtain ⟨rfl, rfl⟩ := h
      exact ⟨rfl, [], t, vt, r, rfl, href, hv⟩
    | some v =>
      simp only [hv] at h
      obtain ⟨e, pre, u, vt', rest, rfl, h2⟩ := ih (map_error_inv h)
      obtain ⟨x, rfl⟩ := substcor_isRef_suffix href
      exact ⟨e, '$' :: x ++ pre, u, vt', rest, by simp, h2⟩


/-! ### the source text only matters for the replacement error -/

/-- the result of substituting into a sub-text, as reported for the whole text `src`: the replacement error quotes the
    whole source; everything else is unchanged -/
def withSource (src : Str) : Except Err Str → Except Err Str
  | .error (.missing _ n) => .error (.missing src n)
  | r => r

def withSourceS (src : Str) : Except SubstSpec.Err Str → Except SubstSpec.Err Str
  | .error (.missing _ n) => .error (.missing src n)
  | r => r

theorem substcor_withSourceS_map (src : Str) (x : Except SubstSpec.Err Str) (f : Str → Str) :
    withSourceS src (x.map f) = (withSourceS src x).map f := by
  cases x with
  | ok v => rfl
  | error e => cases e <;> rfl

theorem substcor_withSource_map (src : Str) (x : Except Err Str) (f : Str → Str) :
    withSource src (x.map f) = (withSource src x).map f := by
  cases x with
  | ok v => rfl
  | error e => cases e <;> rfl

theorem substcor_conv_withSource (src : Str) (x : Except Err Str) :
    conv (withSource src x) = withSourceS src (conv x) := by
  cases x with
  | ok v => rfl
  | error e => cases e <;> rfl

theorem substcor_conv_map (x : Except Err Str) (f : Str → Str) : conv (x.map f) = (conv x).map f := by
  cases x <;> rfl

theorem substcor_conv_inj {x y : Except Err Str} (h : conv x = conv y) : x = y := by
  cases x with
  | ok a =>
    cases y with
    | ok b => simp only [conv, Except.ok.injEq] at h; rw [h]
    | error e => simp [conv] at h
  | error e =>
    cases y with
    | ok b => simp [conv] at h
    | error e' =>
      cases e <;> cases e' <;> simp_all [conv, toSpecErr]

theorem substcor_spec_src (defs env : Str → Option Str) (src src' t : Str) :
    spec defs env src' t = withSourceS src' (spec defs env src t) := by
  induction t using construct_induct with
  | nil => rw [spec_nil, spec_nil]; rfl
  | lit c t hc ih => rw [spec_lit _ _ _ _ _ hc, spec_lit _ _ _ _ _ hc, ih, substcor_withSourceS_map]
  | mal t k h => rw [spec_malformed _ _ _ h, spec_malformed _ _ _ h]; rfl
  | esc r ih => rw [spec_esc, spec_esc, ih, substcor_withSourceS_map]
  | ref t n vt r h ih =>
    rw [spec_ref _ _ _ h, spec_ref _ _ _ h]
    cases lookupRef defs env vt n with
    | none => rfl
    | some v => simp only; rw [ih, substcor_withSourceS_map]

/-- the main theorem of C04 (`C04_substitute_eq_spec`) -/
theorem substcor_conv_main (defs env : Str → Option Str) (r : Str) :
    conv (substitute defs env r) = spec defs env r r := by
  have h := loop_eq defs env r (r.length + 1) r [] (by omega)
  unfold substitute
  by_cases hd : '$' ∈ r
  · have : r.contains '$' = true := by simpa using hd
    simp only [this, ↓reduceIte]
    rw [h]
    cases spec defs env r r <;> simp
  · have : r.contains '$' = false := by simpa using hd
    simp only [this, Bool.false_eq_true, ↓reduceIte]
    have := spec_prefix defs env r r [] hd
    simp only [List.append_nil, spec_nil, map_ok] at this
    simp [conv, this]

theorem substcor_conv_sub (defs env : Str → Option Str) (src r : Str) :
    withSourceS src (conv (substitute defs env r)) = spec defs env src r := by
  rw [substcor_conv_main]
  exact (substcor_spec_src defs env r src r).symm

/-- one construct at a time, for the model -/
theorem substcor_model_step (defs env : Str → Option Str) (pre t : Str) (hp : '$' ∉ pre) :
    substitute defs env (pre ++ '$' :: t) =
      match firstConstruct t with
      | .malformed c => .error (.syntax c)
      | .esc r => withSource (pre ++ '$' :: t) ((substitute defs env r).map (pre ++ '$' :: ·))
      | .ref name vt r =>
        match lookupRef defs env vt name with
        | none => .error (.missing (pre ++ '$' :: t) name)
        | some v => withSource (pre ++ '$' :: t) ((substitute defs env r).map (pre ++ v ++ ·)) := by
  apply substcor_conv_inj
  rw [substcor_conv_main, spec_prefix _ _ _ _ _ hp, substcor_spec_step]
  cases firstConstruct t with
  | malformed c => rfl
  | esc r =>
    simp only
    rw [substcor_conv_withSource, substcor_conv_map, substcor_withSourceS_map, substcor_conv_sub, map_map]
    rfl
  | ref name vt r =>
    simp only
    cases lookupRef defs env vt name with
    | none => rfl
    | some v =>
      simp only
      rw [substcor_conv_withSource, substcor_conv_map, substcor_withSourceS_map, substcor_conv_sub, map_map]
      congr 1
      funext x
      simp only [Function.comp, List.append_assoc]

/-! ### for the fates of a `$` construct: `Replaced` by `firstConstruct`, a syntax error through `withSource`, where a replacement error comes from -/

theorem substcor_replaced_iff (defs env : Str → Option Str) (t v r : Str) :
    Replaced defs env t v r ↔
      (firstConstruct t = .esc r ∧ v = ['$']) ∨
      (∃ name vt, firstConstruct t = .ref name vt r ∧ lookupRef defs env vt name = some v) := by
  constructor
  · intro h
    cases h with
    | esc r => exact .inl ⟨(substcor_first_esc _ _).2 rfl, rfl⟩
    | ref h1 h2 => exact .inr ⟨_, _, (substcor_first_ref _ _ _ _).2 h1, h2⟩
  · rintro (⟨h, rfl⟩ | ⟨name, vt, h1, h2⟩)
    · rw [(substcor_first_esc _ _).1 h]; exact .esc r
    · exact .ref ((substcor_first_ref _ _ _ _).1 h1) h2

theorem substcor_withSource_syntax (src : Str) (x : Except Err Str) (f : Str → Str) (c : Nat) :
    withSource src (x.map f) = .error (.syntax c) ↔ x = .error (.syntax c) := by
  cases x with
  | ok v => simp [withSource, Except.map]
  | error e => cases e <;> simp [withSource, Except.map]

theorem substcor_model_missing (defs env : Str → Option Str) (s a b : Str)
    (h : substitute defs env s = .error (.missing a b)) :
    a = s ∧ ∃ pre u vt rest, s = pre ++ '$' :: u ∧ IsRef u b vt rest ∧ lookupRef defs env vt b = none := by
  have h1 := substcor_conv_main defs env s
  rw [h] at h1
  simp only [conv, toSpecErr] at h1
  exact spec_missing defs env s s a b h1.symm

/-- results can be compared: for the closed examples -/
instance substcor_decEqResult : DecidableEq (Except Err Str) := fun x y =>
  match x, y with
  | .ok a, .ok b => if h : a = b then isTrue (by rw [h]) else isFalse (by intro h'; cases h'; exact h rfl)
  | .error a, .error b => if h : a = b then isTrue (by rw [h]) else isFalse (by intro h'; cases h'; exact h rfl)
  | .ok _, .error _ => isFalse (by intro h; cases h)
  | .error _, .ok _ => isFalse (by intro h; cases h)

/-! ### an evaluator that reduces (structural recursion on fuel), for closed examples -/

def substcorEval (defs env : Str → Option Str) (src : Str) : Nat → Str → Except Err Str
  | 0, _ => .ok []
  | _ + 1, [] => .ok []
  | n + 1, c :: t =>
    if c = '$' then
      match firstConstruct t with
      | .malformed k => .error (.syntax k)
      | .esc r => (substcorEval defs env src n r).map ('$' :: ·)
      | .ref name vt r =>
        match lookupRef defs env vt name with
        | none => .error (.missing src name)
        | some v => (substcorEval defs env src n r).map (v ++ ·)
    else (substcorEval defs env src n t).map (c :: ·)

theorem substcor_eval_spec (defs env : Str → Option Str) (src t : Str) :
    ∀ n, t.length < n → conv (substcorEval defs env src n t) = spec defs env src t := by
  induction t using construct_induct with
  | nil =>
    intro n hn
    cases n with
    | zero => omega
    | succ n => rw [spec_nil]; rfl
  | lit c t hc ih =>
    intro n hn
    cases n with
    | zero => omega
    | succ n =>
      rw [spec_lit _ _ _ _ _ hc]
      simp only [substcorEval, hc, ↓reduceIte]
      rw [substcor_conv_map, ih n (by simpa using hn)]
  | mal t k h =>
    intro n hn
    cases n with
    | zero => omega
    | succ n => rw [spec_malformed _ _ _ h]; simp only [substcorEval, ↓reduceIte, substcor_of_malformed h]; rfl
  | esc r ih =>
    intro n hn
    cases n with
    | zero => omega
    | succ n =>
      rw [spec_esc]
      simp only [substcorEval, ↓reduceIte, firstConstruct]
      rw [substcor_conv_map, ih n (by simp only [List.length_cons] at hn; omega)]
  | ref t m vt r h ih =>
    intro n hn
    cases n with
    | zero => omega
    | succ n =>
      rw [spec_ref _ _ _ h]
      simp only [substcorEval, ↓reduceIte, substcor_of_isRef h]
      cases lookupRef defs env vt m with
      | none => rfl
      | some v =>
        simp only
        rw [substcor_conv_map, ih n (by have := substcor_isRef_len h; simp only [List.length_cons] at hn; omega)]

theorem substcor_eval_eq (defs env : Str → Option Str) (s : Str) :
    substitute defs env s = substcorEval defs env s (s.length + 1) s := by
  apply substcor_conv_inj
  rw [substcor_conv_main, substcor_eval_spec defs env s s (s.length + 1) (by omega)]

/-- `isname` accepts exactly the legal names (`C04_isname_spec`) -/
theorem substcor_isname (s : Str) : isname s = isnameSpec s := by
  unfold isname isnameSpec
  have := nameMatchAt_eq [] s
  simp only [List.nil_append, List.length_nil, Nat.zero_add] at this
  rw [this]
  cases s with
  | nil => simp [nameSplit]
  | cons c t =>
    simp only [nameSplit]
    by_cases hc : isNameStart c
    · simp only [hc, ↓reduceIte, Option.map_some, Bool.true_and, ← takeWhile_beq_self]
      rw [Bool.eq_iff_iff]; simp
    · simp [hc]

end ZCV.Subst
