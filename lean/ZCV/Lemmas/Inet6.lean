import ZCV.Spec.Inet6
import ZCV.Inet
import ZCV.Lemmas.Lists
/-!
glibc's `inet_pton(AF_INET6, ·)` as re-implemented in `ZCV/Inet.lean` against the grammar of `Spec/Inet6.lean`: `pton4` accepts exactly the
dotted quads `DTSpec.V4Text`; the main loop `pton6Loop`, token by token (`v6_token`), accepts the texts of the shape `V6Tail` (a stepping
stone); these are the colon-joined lists of the grammar: `pton6 s = true ↔ DTSpec.Inet6Text s`.
-/
namespace ZCV.DT
open ZCV ZCV.DTSpec

/-- `DTSpec.decVal` continued from the value `cur` read so far -/
def v6ValFrom (cur : Nat) (ds : Str) : Nat := ds.foldl (fun a c => a * 10 + (c.toNat - 48)) cur

theorem v6_valFrom_nil (cur : Nat) : v6ValFrom cur [] = cur := rfl
theorem v6_valFrom_cons (cur : Nat) (d : Char) (ds : Str) :
    v6ValFrom cur (d :: ds) = v6ValFrom (cur * 10 + (d.toNat - 48)) ds := by
  unfold v6ValFrom; rw [List.foldl_cons]
theorem v6_decVal_eq (o : Str) : decVal o = v6ValFrom 0 o := rfl

theorem v6_valFrom_ge (ds : Str) : ∀ cur, cur ≤ v6ValFrom cur ds := by
  induction ds with
  | nil => intro cur; exact Nat.le_refl _
  | cons d ds ih =>
    intro cur
    rw [v6_valFrom_cons]
    have := ih (cur * 10 + (d.toNat - 48))
    omega

theorem v6_digit_bounds (c : Char) (h : isAsciiDigit c = true) : 48 ≤ c.toNat ∧ c.toNat ≤ 57 := by
  simp only [isAsciiDigit, inRange, Bool.and_eq_true, decide_eq_true_eq, Char.reduceToNat] at h
  exact h

theorem v6_digit_zero (c : Char) (h : c.toNat = 48) : c = '0' := by
  have h1 : c = Char.ofNat c.toNat := (Char.ofNat_toNat c).symm
  rw [h1, h]

/-- inside a field (`saw = true`): the machine reads further digits, refusing a leading zero and a value above 255 -/
theorem v6_pton4_scan (ds : Str) (hd : ∀ c ∈ ds, isAsciiDigit c = true) (r : Str) (k : Nat) :
    ∀ cur, cur ≤ 255 → pton4Go (ds ++ r) true k cur =
      if (ds ≠ [] ∧ cur = 0) ∨ 255 < v6ValFrom cur ds then false else pton4Go r true k (v6ValFrom cur ds) := by
  induction ds with
  | nil =>
    intro cur hc
    have : ¬ (([] : Str) ≠ [] ∧ cur = 0 ∨ 255 < v6ValFrom cur []) := by
      rw [v6_valFrom_nil]; rintro (⟨h, _⟩ | h)
      · exact h rfl
      · omega
    rw [if_neg this]; rfl
  | cons d ds ih =>
    intro cur hc
    have hdig := hd d (List.mem_cons_self ..)
    have ih := ih (fun c hc' => hd c (List.mem_cons_of_mem _ hc'))
    rw [List.cons_append, pton4Go, if_pos hdig, v6_valFrom_cons]
    by_cases h0 : cur = 0
    · subst h0
      simp
    · have hb : ((true && cur == 0) = true) = False := by simp [h0]
      simp only [hb, if_false]
      by_cases hn : cur * 10 + (d.toNat - 48) > 255
      · have hge := v6_valFrom_ge ds (cur * 10 + (d.toNat - 48))
        have : (d :: ds ≠ [] ∧ cur = 0) ∨ 255 < v6ValFrom (cur * 10 + (d.toNat - 48)) ds := Or.inr (by omega)
        rw [if_pos hn, if_pos this]
      · rw [if_neg hn]
        simp only [Bool.not_true, Bool.false_eq_true, if_false]
        rw [ih _ (by omega)]
        have hne : cur * 10 + (d.toNat - 48) ≠ 0 := by omega
        by_cases hv : 255 < v6ValFrom (cur * 10 + (d.toNat - 48)) ds
        · rw [if_pos (Or.inr hv), if_pos (Or.inr hv)]
        · rw [if_neg, if_neg]
          · rintro (⟨_, h⟩ | h)
            · exact h0 h
            · exact hv h
          · rintro (⟨_, h⟩ | h)
            · exact hne h
            · exact hv h

/-- at the start of a field (`saw = false`), `k ≤ 3` fields done: a whole non-empty run of digits is read -/
theorem v6_pton4_octet (a : Str) (ha : a ≠ []) (hd : ∀ c ∈ a, isAsciiDigit c = true) (r : Str) (k : Nat) (hk : k ≤ 3) :
    pton4Go (a ++ r) false k 0 =
      if (1 < a.length ∧ a.head? = some '0') ∨ 255 < decVal a then false else pton4Go r true (k + 1) (decVal a) := by
  cases a with
  | nil => exact absurd rfl ha
  | cons d ds =>
    have hdig := hd d (List.mem_cons_self ..)
    have hb := v6_digit_bounds d hdig
    rw [List.cons_append, pton4Go, if_pos hdig]
    have h1 : ¬ (0 * 10 + (d.toNat - 48) > 255) := by omega
    have h2 : ¬ (k + 1 > 4) := by omega
    simp only [Bool.false_and, Bool.false_eq_true, if_false, h1, Bool.not_false, if_true, h2]
    rw [v6_pton4_scan ds (fun c hc => hd c (List.mem_cons_of_mem _ hc)) r (k + 1) _ (by omega),
      v6_decVal_eq, v6_valFrom_cons]
    have hiff : (ds ≠ [] ∧ 0 * 10 + (d.toNat - 48) = 0) ↔ (1 < (d :: ds).length ∧ (d :: ds).head? = some '0') := by
      simp only [List.length_cons, List.head?_cons, Option.some.injEq]
      constructor
      · rintro ⟨h, hz⟩
        refine ⟨?_, v6_digit_zero d (by omega)⟩
        cases ds with
        | nil => exact absurd rfl h
        | cons _ _ => simp
      · rintro ⟨h, rfl⟩
        refine ⟨?_, by decide⟩
        rintro rfl
        simp at h
    by_cases hc : (ds ≠ [] ∧ 0 * 10 + (d.toNat - 48) = 0) ∨ 255 < v6ValFrom (0 * 10 + (d.toNat - 48)) ds
    · rw [if_pos hc, if_pos (hc.imp hiff.mp id)]
    · rw [if_neg hc, if_neg (fun h => hc (h.imp hiff.mpr id))]

theorem v6_decOctet_iff (a : Str) :
    DecOctet a ↔ a ≠ [] ∧ (∀ c ∈ a, isAsciiDigit c = true) ∧ ¬ ((1 < a.length ∧ a.head? = some '0') ∨ 255 < decVal a) := by
  unfold DecOctet
  constructor
  · rintro ⟨h1, h2, h3, h4⟩
    refine ⟨h1, h2, ?_⟩
    rintro (⟨h, h'⟩ | h)
    · exact h3 h h'
    · omega
  · rintro ⟨h1, h2, h3⟩
    exact ⟨h1, h2, fun h h' => h3 (Or.inl ⟨h, h'⟩), by
      have : ¬ 255 < decVal a := fun h => h3 (Or.inr h)
      omega⟩

/-- what follows a field: the end (then it must be the fourth), or a period and the next field -/
theorem v6_pton4_after (r : Str) (hr : r = [] ∨ ∃ c r', r = c :: r' ∧ isAsciiDigit c = false) (k v : Nat) :
    pton4Go r true (k + 1) v = true ↔
      (r = [] ∧ 3 ≤ k) ∨ (∃ r', r = '.' :: r' ∧ k ≠ 3 ∧ pton4Go r' false (k + 1) 0 = true) := by
  rcases hr with rfl | ⟨c, r', rfl, hc⟩
  · rw [pton4Go]
    simp only [ge_iff_le, decide_eq_true_eq, true_and, reduceCtorEq, false_and, exists_false, or_false]
    omega
  · rw [pton4Go, if_neg (by rw [hc]; exact Bool.false_ne_true)]
    by_cases hdot : c = '.'
    · subst hdot
      simp only [beq_self_eq_true, Bool.and_self, if_true, reduceCtorEq, false_and, List.cons.injEq, true_and,
        exists_eq_left', false_or]
      by_cases hk : k + 1 = 4
      · have : k = 3 := by omega
        simp [this]
      · have : k ≠ 3 := by omega
        simp [this]
    · have : (c == '.') = false := by simpa using hdot
      simp only [this, Bool.false_and, Bool.false_eq_true, if_false, reduceCtorEq, false_and, List.cons.injEq,
        false_or, false_iff, not_exists, not_and]
      intro r'' h
      exact absurd h.1 hdot

theorem v6_pton4_start_false (r : Str) (hr : r = [] ∨ ∃ c r', r = c :: r' ∧ isAsciiDigit c = false) (k : Nat)
    (hk : k ≤ 3) : pton4Go r false k 0 = false := by
  rcases hr with rfl | ⟨c, r', rfl, hc⟩
  · rw [pton4Go]; simp; omega
  · rw [pton4Go, if_neg (by rw [hc]; exact Bool.false_ne_true)]
    simp

theorem v6_pton4_step (s : Str) (k : Nat) (hk : k ≤ 3) :
    pton4Go s false k 0 = true ↔
      ∃ a r, s = a ++ r ∧ DecOctet a ∧
        ((r = [] ∧ k = 3) ∨ (∃ r', r = '.' :: r' ∧ k < 3 ∧ pton4Go r' false (k + 1) 0 = true)) := by
  constructor
  · intro h
    obtain ⟨a, r, rfl, ha, hr⟩ := span_stop isAsciiDigit s
    by_cases hne : a = []
    · subst hne
      rw [List.nil_append, v6_pton4_start_false r hr k hk] at h; cases h
    · rw [v6_pton4_octet a hne ha r k hk] at h
      split at h
      · cases h
      · rename_i hc
        refine ⟨a, r, rfl, (v6_decOctet_iff a).mpr ⟨hne, ha, hc⟩, ?_⟩
        rcases (v6_pton4_after r hr k _).mp h with ⟨h1, h2⟩ | ⟨r', h1, h2, h3⟩
        · exact Or.inl ⟨h1, by omega⟩
        · exact Or.inr ⟨r', h1, by omega, h3⟩
  · rintro ⟨a, r, rfl, hoct, hr⟩
    obtain ⟨hne, ha, hc⟩ := (v6_decOctet_iff a).mp hoct
    rw [v6_pton4_octet a hne ha r k hk, if_neg hc]
    have hr' : r = [] ∨ ∃ c r', r = c :: r' ∧ isAsciiDigit c = false := by
      rcases hr with ⟨h, _⟩ | ⟨r', h, _⟩
      · exact Or.inl h
      · exact Or.inr ⟨'.', r', h, by decide⟩
    rw [v6_pton4_after r hr' k _]
    rcases hr with ⟨h1, h2⟩ | ⟨r', h1, h2, h3⟩
    · exact Or.inl ⟨h1, by omega⟩
    · exact Or.inr ⟨r', h1, by omega, h3⟩

/-- `inet_pton4` accepts exactly the dotted quads of canonical decimal fields -/
theorem v6_pton4_iff (s : Str) : pton4 s = true ↔ V4Text s := by
  unfold pton4 V4Text
  rw [v6_pton4_step s 0 (by omega)]
  constructor
  · rintro ⟨a, r, rfl, ha, hr⟩
    rcases hr with ⟨_, h⟩ | ⟨r1, rfl, _, h1⟩
    · omega
    obtain ⟨b, r, rfl, hb, hr⟩ := (v6_pton4_step r1 1 (by omega)).mp h1
    rcases hr with ⟨_, h⟩ | ⟨r2, rfl, _, h2⟩
    · omega
    obtain ⟨c, r, rfl, hc, hr⟩ := (v6_pton4_step r2 2 (by omega)).mp h2
    rcases hr with ⟨_, h⟩ | ⟨r3, rfl, _, h3⟩
    · omega
    obtain ⟨d, r, rfl, hd, hr⟩ := (v6_pton4_step r3 3 (by omega)).mp h3
    rcases hr with ⟨rfl, _⟩ | ⟨_, _, h, _⟩
    · exact ⟨a, b, c, d, by simp, ha, hb, hc, hd⟩
    · omega
  · rintro ⟨a, b, c, d, rfl, ha, hb, hc, hd⟩
    refine ⟨a, _, rfl, ha, Or.inr ⟨_, rfl, by omega, ?_⟩⟩
    refine (v6_pton4_step _ 1 (by omega)).mpr ⟨b, _, rfl, hb, Or.inr ⟨_, rfl, by omega, ?_⟩⟩
    refine (v6_pton4_step _ 2 (by omega)).mpr ⟨c, _, rfl, hc, Or.inr ⟨_, rfl, by omega, ?_⟩⟩
    exact (v6_pton4_step _ 3 (by omega)).mpr ⟨d, [], by simp, hd, Or.inl ⟨rfl, rfl⟩⟩

theorem v6_decOctet_length (o : Str) (h : DecOctet o) : o.length ≤ 3 := by
  obtain ⟨_, hd, hz, hv⟩ := h
  rcases o with _ | ⟨a, _ | ⟨b, _ | ⟨c, _ | ⟨d, rest⟩⟩⟩⟩
  iterate 4 exact Nat.le_of_ble_eq_true rfl
  exfalso
  have ha := v6_digit_bounds a (hd a List.mem_cons_self)
  have hne : a.toNat ≠ 48 := fun h => hz (Nat.le_of_ble_eq_true rfl) (by rw [v6_digit_zero a h]; rfl)
  rw [v6_decVal_eq, v6_valFrom_cons, v6_valFrom_cons, v6_valFrom_cons, v6_valFrom_cons] at hv
  have := v6_valFrom_ge rest ((((0 * 10 + (a.toNat - 48)) * 10 + (b.toNat - 48)) * 10 + (c.toNat - 48)) * 10 +
    (d.toNat - 48))
  -- four digits, the first not `0`, denote at least 1000
  generalize b.toNat - 48 = x, c.toNat - 48 = y, d.toNat - 48 = z at hv this
  omega

/-! ## the main loop of `inet_pton6`, token by token -/

theorem v6_hex_eq (c : Char) : isHexDigit c = v6Hex c := rfl

theorem v6_colon_not_hex : isHexDigit ':' = false := by decide
theorem v6_dot_not_hex : isHexDigit '.' = false := by decide

theorem v6_digit_hex (c : Char) (h : isAsciiDigit c = true) : isHexDigit c = true := by
  simp [isHexDigit, h]

theorem v6_loop_hex (h : Str) (hh : ∀ c ∈ h, isHexDigit c = true) (r curtok : Str) (tp : Nat) (colon : Bool) :
    ∀ xd, xd + h.length ≤ 4 → pton6Loop (h ++ r) curtok tp colon xd = pton6Loop r curtok tp colon (xd + h.length) := by
  induction h with
  | nil => intro xd _; rfl
  | cons c h ih =>
    intro xd hx
    rw [List.length_cons] at hx
    rw [List.cons_append, pton6Loop, if_pos (hh c (List.mem_cons_self ..))]
    have : (xd == 4) = false := by simp; omega
    rw [this]
    simp only [Bool.false_eq_true, if_false]
    rw [ih (fun x hx' => hh x (List.mem_cons_of_mem _ hx')) (xd + 1) (by omega), List.length_cons]
    congr 1; omega

/-- a fifth hexadecimal digit is refused -/
theorem v6_loop_hex_over (h : Str) (hh : ∀ c ∈ h, isHexDigit c = true) (r curtok : Str) (tp : Nat) (colon : Bool) :
    ∀ xd, xd ≤ 4 → 4 < xd + h.length → pton6Loop (h ++ r) curtok tp colon xd = false := by
  induction h with
  | nil => intro xd h1 h2; simp at h2; omega
  | cons c h ih =>
    intro xd h1 h2
    rw [List.length_cons] at h2
    rw [List.cons_append, pton6Loop, if_pos (hh c (List.mem_cons_self ..))]
    by_cases h4 : xd = 4
    · subst h4; rfl
    · have : (xd == 4) = false := by simpa using h4
      rw [this]
      simp only [Bool.false_eq_true, if_false]
      exact ih (fun x hx' => hh x (List.mem_cons_of_mem _ hx')) (xd + 1) (by omega) (by omega)

/-- the final test, in arithmetic form (`tp ≤ 16` bytes written so far) -/
theorem v6_finish_iff (tp : Nat) (colon : Bool) (xd : Nat) (htp : tp ≤ 16) :
    pton6Finish tp colon xd = true ↔
      (if colon = true then tp + (if 0 < xd then 2 else 0) < 16 else tp + (if 0 < xd then 2 else 0) = 16) := by
  unfold pton6Finish
  by_cases hx : 0 < xd
  · cases colon <;> simp [hx] <;> omega
  · cases colon <;> simp [hx] <;> omega

/-- one token of the loop: at the start of a token (no digit read, `tp ≤ 16` bytes written) the loop succeeds
    exactly when the rest of the text is: empty; a colon (the second one of `::`) and a good rest; a last hex group; a
    hex group, a colon and a good non-empty rest; or a dotted quad that ends the text -/
theorem v6_token (t : Str) (tp : Nat) (colon : Bool) (htp : tp ≤ 16) :
    pton6Loop t t tp colon 0 = true ↔
      (t = [] ∧ (if colon = true then tp < 16 else tp = 16)) ∨
      (∃ r', t = ':' :: r' ∧ colon = false ∧ pton6Loop r' r' tp true 0 = true) ∨
      (HexGroup t ∧ (if colon = true then tp + 2 < 16 else tp + 2 = 16)) ∨
      (∃ g r', HexGroup g ∧ t = g ++ ':' :: r' ∧ r' ≠ [] ∧ tp + 2 ≤ 16 ∧ pton6Loop r' r' (tp + 2) colon 0 = true) ∨
      (V4Text t ∧ (if colon = true then tp + 4 < 16 else tp + 4 = 16)) := by
  constructor
  · intro h
    obtain ⟨a, r, rfl, ha, hr⟩ := span_stop isHexDigit t
    have hav : ∀ c ∈ a, v6Hex c = true := fun c hc => by rw [← v6_hex_eq]; exact ha c hc
    by_cases hlen : a.length ≤ 4
    · rw [v6_loop_hex a ha r _ tp colon 0 (by omega), Nat.zero_add] at h
      rcases hr with rfl | ⟨c, r', rfl, hc⟩
      · rw [pton6Loop, v6_finish_iff tp colon _ htp] at h
        by_cases hne : a = []
        · subst hne
          exact Or.inl ⟨rfl, by simpa using h⟩
        · have hpos : 0 < a.length := List.length_pos_iff.mpr hne
          rw [if_pos hpos] at h
          rw [List.append_nil]
          exact Or.inr (Or.inr (Or.inl ⟨⟨hpos, hlen, hav⟩, h⟩))
      · rw [pton6Loop, if_neg (by rw [hc]; exact Bool.false_ne_true)] at h
        by_cases hcol : c = ':'
        · subst hcol
          rw [if_pos (by rfl)] at h
          by_cases hne : a = []
          · subst hne
            rw [List.length_nil, if_pos (by rfl)] at h
            cases colon with
            | true => simp at h
            | false => exact Or.inr (Or.inl ⟨r', rfl, rfl, by simpa using h⟩)
          · have hpos : 0 < a.length := List.length_pos_iff.mpr hne
            have hz : (a.length == 0) = false := by rw [beq_eq_false_iff_ne]; omega
            rw [hz] at h
            simp only [Bool.false_eq_true, if_false] at h
            split at h
            · cases h
            · rename_i hr'
              split at h
              · cases h
              · rename_i htp2
                exact Or.inr (Or.inr (Or.inr (Or.inl ⟨a, r', ⟨hpos, hlen, hav⟩, rfl, by simpa using hr', by omega, h⟩)))
        · have hcf : (c == ':') = false := by simpa using hcol
          rw [hcf] at h
          simp only [Bool.false_eq_true, if_false] at h
          split at h
          · rename_i hd
            simp only [Bool.and_eq_true, decide_eq_true_eq] at hd
            rw [v6_finish_iff _ colon 0 hd.1.2] at h
            exact Or.inr (Or.inr (Or.inr (Or.inr ⟨(v6_pton4_iff _).mp hd.2, by simpa using h⟩)))
          · cases h
    · rw [v6_loop_hex_over a ha r _ tp colon 0 (by omega) (by omega)] at h; cases h
  · rintro (⟨rfl, h⟩ | ⟨r', rfl, rfl, h⟩ | ⟨⟨h1, h2, h3⟩, h⟩ | ⟨g, r', ⟨h1, h2, h3⟩, rfl, hr', htp2, h⟩ | ⟨hv, h⟩)
    · rw [pton6Loop, v6_finish_iff tp colon 0 htp]
      simpa using h
    · rw [pton6Loop, if_neg (by rw [v6_colon_not_hex]; exact Bool.false_ne_true)]
      simpa using h
    · have h3' : ∀ c ∈ t, isHexDigit c = true := fun c hc => by rw [v6_hex_eq]; exact h3 c hc
      have := v6_loop_hex t h3' [] t tp colon 0 (by omega)
      rw [List.append_nil, Nat.zero_add] at this
      rw [this, pton6Loop, v6_finish_iff tp colon _ htp]
      have hp : 0 < t.length := by omega
      simp only [hp, ↓reduceIte]
      exact h
    · have h3' : ∀ c ∈ g, isHexDigit c = true := fun c hc => by rw [v6_hex_eq]; exact h3 c hc
      rw [v6_loop_hex g h3' _ _ tp colon 0 (by omega), Nat.zero_add, pton6Loop,
        if_neg (by rw [v6_colon_not_hex]; exact Bool.false_ne_true), if_pos (by rfl)]
      have hz : (g.length == 0) = false := by rw [beq_eq_false_iff_ne]; omega
      have hr2 : (r' == []) = false := by simpa using hr'
      rw [hz, hr2]
      simp only [Bool.false_eq_true, if_false]
      rw [if_neg (by omega)]
      exact h
    · obtain ⟨a, b, c, d, rfl, ha, hb, hc, hd⟩ := id hv
      have hal := v6_decOctet_length a ha
      have hah : ∀ x ∈ a, isHexDigit x = true := fun x hx => v6_digit_hex x (ha.2.1 x hx)
      have htp4 : tp + 4 ≤ 16 := by
        cases colon <;> simp at h <;> omega
      rw [v6_loop_hex a hah _ _ tp colon 0 (by omega), Nat.zero_add, pton6Loop,
        if_neg (by rw [v6_dot_not_hex]; exact Bool.false_ne_true)]
      have h1 : ('.' == ':') = false := by decide
      rw [h1]
      simp only [Bool.false_eq_true, if_false]
      rw [(v6_pton4_iff _).mpr hv]
      simp only [beq_self_eq_true, Bool.true_and, Bool.and_true, decide_eq_true_eq, htp4, if_true]
      rw [v6_finish_iff _ colon 0 htp4]
      simpa using h

/-- what the loop accepts from the start of a token: `n` = number of groups denoted (a dotted quad counts for two),
    `c` = "the text contains the second colon of a `::`" -/
inductive V6Tail : Str → Nat → Bool → Prop
  | nil : V6Tail [] 0 false
  | gap (t : Str) (n : Nat) : V6Tail t n false → V6Tail (':' :: t) n true
  | grp (g : Str) : HexGroup g → V6Tail g 1 false
  | v4 (q : Str) : V4Text q → V6Tail q 2 false
  | cons (g t : Str) (n : Nat) (c : Bool) : HexGroup g → t ≠ [] → V6Tail t n c → V6Tail (g ++ ':' :: t) (n + 1) c

theorem v6_loop_sound : ∀ (k : Nat) (t : Str), t.length < k → ∀ (tp : Nat) (colon : Bool), tp ≤ 16 →
    pton6Loop t t tp colon 0 = true →
    ∃ n c, V6Tail t n c ∧ (c = true → colon = false) ∧
      (if (colon || c) = true then tp + 2 * n < 16 else tp + 2 * n = 16) := by
  intro k
  induction k with
  | zero => intro t hk; omega
  | succ k ih =>
    intro t hk tp colon htp h
    rcases (v6_token t tp colon htp).mp h with ⟨rfl, h'⟩ | ⟨r', rfl, rfl, h'⟩ | ⟨hg, h'⟩ |
        ⟨g, r', hg, rfl, hr', htp2, h'⟩ | ⟨hv, h'⟩
    · exact ⟨0, false, V6Tail.nil, by simp, by simpa using h'⟩
    · obtain ⟨n, c, hT, hc, ha⟩ := ih r' (by simp at hk; omega) tp true htp h'
      cases c with
      | true => exact absurd (hc rfl) (by simp)
      | false => exact ⟨n, true, V6Tail.gap r' n hT, fun _ => rfl, by simpa using ha⟩
    · exact ⟨1, false, V6Tail.grp t hg, by simp, by simpa using h'⟩
    · obtain ⟨n, c, hT, hc, ha⟩ := ih r' (by simp at hk; omega) (tp + 2) colon htp2 h'
      refine ⟨n + 1, c, V6Tail.cons g r' n c hg hr' hT, hc, ?_⟩
      cases hcc : (colon || c) <;> simp only [hcc, Bool.false_eq_true, if_false, if_true] at ha ⊢ <;> omega
    · exact ⟨2, false, V6Tail.v4 t hv, by simp, by simpa using h'⟩

theorem v6_loop_complete (t : Str) (n : Nat) (c : Bool) (hT : V6Tail t n c) :
    ∀ (tp : Nat) (colon : Bool), tp ≤ 16 → (c = true → colon = false) →
      (if (colon || c) = true then tp + 2 * n < 16 else tp + 2 * n = 16) → pton6Loop t t tp colon 0 = true := by
  induction hT with
  | nil =>
    intro tp colon htp _ ha
    exact (v6_token [] tp colon htp).mpr (Or.inl ⟨rfl, by simpa using ha⟩)
  | gap t n _ ih =>
    intro tp colon htp hc ha
    have := hc rfl; subst this
    exact (v6_token _ tp false htp).mpr (Or.inr (Or.inl ⟨t, rfl, rfl, ih tp true htp (by simp) (by simpa using ha)⟩))
  | grp g hg =>
    intro tp colon htp _ ha
    exact (v6_token g tp colon htp).mpr (Or.inr (Or.inr (Or.inl ⟨hg, by simpa using ha⟩)))
  | v4 q hv =>
    intro tp colon htp _ ha
    exact (v6_token q tp colon htp).mpr (Or.inr (Or.inr (Or.inr (Or.inr ⟨hv, by simpa using ha⟩))))
  | cons g t n c hg hne _ ih =>
    intro tp colon htp hc ha
    have htp2 : tp + 2 ≤ 16 := by
      cases hcc : (colon || c) <;> simp only [hcc, Bool.false_eq_true, if_false, if_true] at ha <;> omega
    refine (v6_token _ tp colon htp).mpr (Or.inr (Or.inr (Or.inr (Or.inl ⟨g, t, hg, rfl, hne, htp2, ?_⟩))))
    apply ih (tp + 2) colon htp2 hc
    cases hcc : (colon || c) <;> simp only [hcc, Bool.false_eq_true, if_false, if_true] at ha ⊢ <;> omega

theorem v6_loop_iff (t : Str) (tp : Nat) (colon : Bool) (htp : tp ≤ 16) :
    pton6Loop t t tp colon 0 = true ↔
      ∃ n c, V6Tail t n c ∧ (c = true → colon = false) ∧
        (if (colon || c) = true then tp + 2 * n < 16 else tp + 2 * n = 16) :=
  ⟨v6_loop_sound (t.length + 1) t (Nat.lt_succ_self _) tp colon htp,
   fun ⟨n, c, hT, hc, ha⟩ => v6_loop_complete t n c hT tp colon htp hc ha⟩

/-! ## the texts the loop accepts are the colon-joined lists of the grammar -/

/-! ### first characters -/

theorem v6_colon_not_v6Hex : v6Hex ':' = false := by decide
theorem v6_colon_not_digit : isAsciiDigit ':' = false := by decide

theorem v6_hexGroup_head (g : Str) (h : HexGroup g) : ∃ ch r, g = ch :: r ∧ ch ≠ ':' := by
  obtain ⟨h1, _, h3⟩ := h
  cases g with
  | nil => simp at h1
  | cons ch r =>
    refine ⟨ch, r, rfl, ?_⟩
    rintro rfl
    have := h3 ':' (List.mem_cons_self ..)
    rw [v6_colon_not_v6Hex] at this; cases this

theorem v6_v4_head (q : Str) (h : V4Text q) : ∃ ch r, q = ch :: r ∧ ch ≠ ':' := by
  obtain ⟨a, b, c, d, rfl, ⟨hne, hd, _, _⟩, _, _, _⟩ := h
  cases a with
  | nil => exact absurd rfl hne
  | cons ch r =>
    refine ⟨ch, _, rfl, ?_⟩
    rintro rfl
    have := hd ':' (List.mem_cons_self ..)
    rw [v6_colon_not_digit] at this; cases this

theorem v6_pieces_mem (ps : List Str) (n : Nat) (h : V6Pieces ps n) : ∀ p ∈ ps, HexGroup p ∨ V4Text p := by
  obtain ⟨gs, hgs, ⟨rfl, _⟩ | ⟨q, hq, rfl, _⟩⟩ := h
  · exact fun p hp => Or.inl (hgs p hp)
  · intro p hp
    rcases List.mem_append.mp hp with hp | hp
    · exact Or.inl (hgs p hp)
    · rw [List.mem_singleton] at hp; subst hp; exact Or.inr hq

theorem v6_piece_head (p : Str) (h : HexGroup p ∨ V4Text p) : ∃ ch r, p = ch :: r ∧ ch ≠ ':' :=
  h.elim (v6_hexGroup_head p) (v6_v4_head p)

theorem v6_join_cons_ne (g : Str) (ps : List Str) (h : ps ≠ []) : joinColon (g :: ps) = g ++ ':' :: joinColon ps := by
  cases ps with
  | nil => exact absurd rfl h
  | cons p ps => rfl

theorem v6_join_head (ch : Char) (r : Str) (ps : List Str) : ∃ r', joinColon ((ch :: r) :: ps) = ch :: r' := by
  cases ps with
  | nil => exact ⟨r, rfl⟩
  | cons p ps => exact ⟨r ++ ':' :: joinColon (p :: ps), rfl⟩

theorem v6_join_pieces_head (ps : List Str) (n : Nat) (h : V6Pieces ps n) (hne : ps ≠ []) :
    ∃ ch r, joinColon ps = ch :: r ∧ ch ≠ ':' := by
  cases ps with
  | nil => exact absurd rfl hne
  | cons p ps =>
    obtain ⟨ch, r, rfl, hc⟩ := v6_piece_head p (v6_pieces_mem _ n h p (List.mem_cons_self ..))
    obtain ⟨r', hr'⟩ := v6_join_head ch r ps
    exact ⟨ch, r', hr', hc⟩

/-! ### the left part of a compressed address: every group followed by a colon -/

def v6Pre : List Str → Str
  | [] => []
  | g :: gs => g ++ ':' :: v6Pre gs

theorem v6_pre_eq (ls : List Str) (h : ls ≠ []) : v6Pre ls = joinColon ls ++ [':'] := by
  induction ls with
  | nil => exact absurd rfl h
  | cons g ls ih =>
    cases ls with
    | nil => simp [v6Pre, joinColon]
    | cons p ps =>
      rw [v6Pre, ih (List.cons_ne_nil _ _), v6_join_cons_ne g _ (List.cons_ne_nil _ _)]
      simp

/-! ### pieces -/

theorem v6_nil_all : ∀ g ∈ ([] : List Str), HexGroup g := fun _ h => by cases h

theorem v6_pieces_nil : V6Pieces [] 0 := ⟨[], v6_nil_all, Or.inl ⟨rfl, rfl⟩⟩

theorem v6_pieces_cons (g : Str) (hg : HexGroup g) (ps : List Str) (n : Nat) (h : V6Pieces ps n) :
    V6Pieces (g :: ps) (n + 1) := by
  obtain ⟨gs, hgs, hc⟩ := h
  refine ⟨g :: gs, ?_, ?_⟩
  · intro x hx
    rcases List.mem_cons.mp hx with rfl | hx
    · exact hg
    · exact hgs x hx
  · rcases hc with ⟨rfl, rfl⟩ | ⟨q, hq, rfl, rfl⟩
    · exact Or.inl ⟨rfl, rfl⟩
    · exact Or.inr ⟨q, hq, rfl, by simp⟩

/-! ### from the loop's description `V6Tail` to pieces, and back -/

theorem v6_tail_nil_zero (n : Nat) (c : Bool) (h : V6Tail [] n c) : n = 0 := by
  generalize ht : ([] : Str) = t at h
  cases h with
  | nil => rfl
  | gap t n _ => cases ht
  | grp g hg => subst ht; exact absurd hg.1 (by simp)
  | v4 q hv =>
    subst ht
    obtain ⟨ch, r, h, _⟩ := v6_v4_head _ hv
    cases h
  | cons g t n c hg _ _ =>
    obtain ⟨ch, r, rfl, _⟩ := v6_hexGroup_head g hg
    cases ht

theorem v6_tail_lists (t : Str) (n : Nat) (c : Bool) (h : V6Tail t n c) :
    (c = false → ∃ ps, V6Pieces ps n ∧ t = joinColon ps) ∧
    (c = true → ∃ ls rs k, (∀ g ∈ ls, HexGroup g) ∧ V6Pieces rs k ∧ n = ls.length + k ∧
      t = v6Pre ls ++ ':' :: joinColon rs) := by
  induction h with
  | nil => exact ⟨fun _ => ⟨[], v6_pieces_nil, rfl⟩, fun h => by cases h⟩
  | gap t n _ ih =>
    refine ⟨(fun h => by cases h), fun _ => ?_⟩
    obtain ⟨ps, hps, rfl⟩ := ih.1 rfl
    exact ⟨[], ps, n, v6_nil_all, hps, by simp, rfl⟩
  | grp g hg =>
    refine ⟨fun _ => ⟨[g], ?_, rfl⟩, fun h => by cases h⟩
    exact v6_pieces_cons g hg [] 0 v6_pieces_nil
  | v4 q hv =>
    refine ⟨fun _ => ⟨[q], ?_, rfl⟩, fun h => by cases h⟩
    exact ⟨[], v6_nil_all, Or.inr ⟨q, hv, rfl, rfl⟩⟩
  | cons g t n c hg hne _ ih =>
    constructor
    · intro hc
      obtain ⟨ps, hps, rfl⟩ := ih.1 hc
      have hpne : ps ≠ [] := by
        rintro rfl
        exact hne rfl
      exact ⟨g :: ps, v6_pieces_cons g hg ps n hps, (v6_join_cons_ne g ps hpne).symm⟩
    · intro hc
      obtain ⟨ls, rs, k, hls, hrs, rfl, rfl⟩ := ih.2 hc
      refine ⟨g :: ls, rs, k, ?_, hrs, by simp; omega, by simp [v6Pre]⟩
      intro x hx
      rcases List.mem_cons.mp hx with rfl | hx
      · exact hg
      · exact hls x hx

theorem v6_groups_tail : ∀ (gs : List Str), (∀ g ∈ gs, HexGroup g) → V6Tail (joinColon gs) gs.length false := by
  intro gs
  induction gs with
  | nil => intro _; exact V6Tail.nil
  | cons g gs ih =>
    intro h
    have hg := h g (List.mem_cons_self ..)
    have ih := ih (fun x hx => h x (List.mem_cons_of_mem _ hx))
    cases gs with
    | nil => exact V6Tail.grp g hg
    | cons p ps =>
      rw [v6_join_cons_ne g _ (List.cons_ne_nil _ _)]
      refine V6Tail.cons g _ _ false hg ?_ ih
      intro he
      rw [he] at ih
      have := v6_tail_nil_zero _ _ ih
      simp at this

theorem v6_groups_v4_tail (q : Str) (hq : V4Text q) :
    ∀ (gs : List Str), (∀ g ∈ gs, HexGroup g) → V6Tail (joinColon (gs ++ [q])) (gs.length + 2) false := by
  intro gs
  induction gs with
  | nil => intro _; exact V6Tail.v4 q hq
  | cons g gs ih =>
    intro h
    have hg := h g (List.mem_cons_self ..)
    have ih := ih (fun x hx => h x (List.mem_cons_of_mem _ hx))
    rw [List.cons_append, v6_join_cons_ne g _ (by simp)]
    have hlen : (g :: gs).length + 2 = (gs.length + 2) + 1 := by simp
    rw [hlen]
    refine V6Tail.cons g _ _ false hg ?_ ih
    intro he
    rw [he] at ih
    have := v6_tail_nil_zero _ _ ih
    omega

theorem v6_pieces_tail (ps : List Str) (n : Nat) (h : V6Pieces ps n) : V6Tail (joinColon ps) n false := by
  obtain ⟨gs, hgs, ⟨h1, h2⟩ | ⟨q, hq, h1, h2⟩⟩ := h
  · rw [h1, h2]; exact v6_groups_tail gs hgs
  · rw [h1, h2]; exact v6_groups_v4_tail q hq gs hgs

theorem v6_lists_tail (rs : List Str) (k : Nat) (hrs : V6Pieces rs k) :
    ∀ (ls : List Str), (∀ g ∈ ls, HexGroup g) → V6Tail (v6Pre ls ++ ':' :: joinColon rs) (ls.length + k) true := by
  intro ls
  induction ls with
  | nil =>
    intro _
    rw [List.length_nil, Nat.zero_add]
    exact V6Tail.gap _ k (v6_pieces_tail rs k hrs)
  | cons g ls ih =>
    intro h
    have hlen : (g :: ls).length + k = (ls.length + k) + 1 := by simp; omega
    rw [hlen]
    have : v6Pre (g :: ls) ++ ':' :: joinColon rs = g ++ ':' :: (v6Pre ls ++ ':' :: joinColon rs) := by simp [v6Pre]
    rw [this]
    exact V6Tail.cons g _ _ true (h g (List.mem_cons_self ..)) (by simp)
      (ih (fun x hx => h x (List.mem_cons_of_mem _ hx)))

/-- a text that starts with a colon and is accepted by the loop: that colon is the second one of `::` -/
theorem v6_tail_colon' (t : Str) (n : Nat) (c : Bool) (h : V6Tail t n c) :
    ∀ r, t = ':' :: r → c = true ∧ V6Tail r n false := by
  cases h with
  | nil => intro r ht; cases ht
  | gap t n hT => intro r ht; injection ht with _ h2; subst h2; exact ⟨rfl, hT⟩
  | grp g hg =>
    intro r ht
    obtain ⟨ch, r', he, hc⟩ := v6_hexGroup_head _ hg
    rw [he] at ht
    injection ht with h1 _; exact absurd h1 hc
  | v4 q hv =>
    intro r ht
    obtain ⟨ch, r', he, hc⟩ := v6_v4_head _ hv
    rw [he] at ht
    injection ht with h1 _; exact absurd h1 hc
  | cons g t n c hg _ _ =>
    intro r ht
    obtain ⟨ch, r', he, hc⟩ := v6_hexGroup_head g hg
    rw [he] at ht
    injection ht with h1 _; exact absurd h1 hc

theorem v6_tail_colon (r : Str) (n : Nat) (c : Bool) (h : V6Tail (':' :: r) n c) : c = true ∧ V6Tail r n false :=
  v6_tail_colon' _ n c h r rfl

/-! ### the entry point -/

theorem v6_pton6_nil : pton6 [] = false := rfl
theorem v6_pton6_colon_colon (r : Str) : pton6 (':' :: ':' :: r) = pton6Loop (':' :: r) (':' :: r) 0 false 0 := rfl
theorem v6_pton6_colon_nil : pton6 [':'] = false := rfl
theorem v6_pton6_colon_other (c : Char) (r : Str) (h : c ≠ ':') : pton6 (':' :: c :: r) = false := by
  unfold pton6
  split
  · rename_i heq; cases heq
  · rename_i r0 heq
    injection heq with _ h2; subst h2
    split
    · rename_i heq2; injection heq2 with h3 _; exact absurd h3 h
    · rfl
  · rename_i hn; exact absurd rfl (hn _)
theorem v6_pton6_other (c : Char) (r : Str) (h : c ≠ ':') :
    pton6 (c :: r) = pton6Loop (c :: r) (c :: r) 0 false 0 := by
  unfold pton6
  split
  · rename_i heq; cases heq
  · rename_i r0 heq
    injection heq with h1 _; exact absurd h1 h
  · rfl

theorem v6_pton6_tail (s : Str) (h : pton6 s = true) :
    ∃ t n c, V6Tail t n c ∧ (if c = true then 2 * n < 16 else 2 * n = 16) ∧
      ((s = t ∧ t.head? ≠ some ':') ∨ ∃ r, t = ':' :: r ∧ s = ':' :: t) := by
  cases s with
  | nil => cases h
  | cons c r =>
    by_cases hc : c = ':'
    · subst hc
      cases r with
      | nil => cases h
      | cons d r' =>
        by_cases hd : d = ':'
        · subst hd
          obtain ⟨n, c, hT, _, ha⟩ := (v6_loop_iff _ 0 false (by omega)).mp h
          exact ⟨_, n, c, hT, by simpa using ha, .inr ⟨r', rfl, rfl⟩⟩
        · rw [v6_pton6_colon_other d r' hd] at h; cases h
    · rw [v6_pton6_other c r hc] at h
      obtain ⟨n, b, hT, _, ha⟩ := (v6_loop_iff _ 0 false (by omega)).mp h
      exact ⟨_, n, b, hT, by simpa using ha, .inl ⟨rfl, by simpa using hc⟩⟩

/-- glibc's `inet_pton(AF_INET6, ·)` accepts exactly the RFC 4291 §2.2 text forms -/
theorem v6_pton6_iff (s : Str) : pton6 s = true ↔ Inet6Text s := by
  constructor
  · intro h
    obtain ⟨t, n, cc, hT, ha, ⟨rfl, hh⟩ | ⟨r, rfl, rfl⟩⟩ := v6_pton6_tail s h
    · cases cc with
      | false =>
        obtain ⟨ps, hps, he⟩ := (v6_tail_lists _ n false hT).1 rfl
        simp only [Bool.false_eq_true, if_false] at ha
        have hn : n = 8 := by omega
        subst hn
        exact Or.inl ⟨ps, hps, he⟩
      | true =>
        obtain ⟨ls, rs, k, hls, hrs, rfl, he⟩ := (v6_tail_lists _ n true hT).2 rfl
        simp only [if_true] at ha
        have hlne : ls ≠ [] := by
          rintro rfl
          rw [v6Pre, List.nil_append] at he
          exact hh (by rw [he]; rfl)
        rw [v6_pre_eq ls hlne] at he
        refine Or.inr ⟨ls, rs, k, hls, hrs, by omega, ?_⟩
        rw [he]; simp
    · obtain ⟨rfl, hT'⟩ := v6_tail_colon r n cc hT
      obtain ⟨ps, hps, rfl⟩ := (v6_tail_lists r n false hT').1 rfl
      simp only [if_true] at ha
      exact Or.inr ⟨[], ps, n, v6_nil_all, hps, by simp; omega, rfl⟩
  · rintro (⟨ps, hps, rfl⟩ | ⟨ls, rs, k, hls, hrs, hk, rfl⟩)
    · have hne : ps ≠ [] := by
        rintro rfl
        obtain ⟨gs, _, ⟨h1, h2⟩ | ⟨q, _, h1, _⟩⟩ := hps
        · subst h1; simp at h2
        · simp at h1
      obtain ⟨ch, r, he, hc⟩ := v6_join_pieces_head ps 8 hps hne
      have hT := v6_pieces_tail ps 8 hps
      rw [he] at hT ⊢
      rw [v6_pton6_other ch r hc, v6_loop_iff _ 0 false (by omega)]
      exact ⟨8, false, hT, by simp, by simp⟩
    · by_cases hlne : ls = []
      · subst hlne
        have hT := v6_lists_tail rs k hrs [] v6_nil_all
        rw [v6Pre, List.nil_append] at hT
        show pton6 (':' :: ':' :: joinColon rs) = true
        rw [v6_pton6_colon_colon, v6_loop_iff _ 0 false (by omega)]
        exact ⟨_, true, hT, by simp, by simp at hk ⊢; omega⟩
      · have hT := v6_lists_tail rs k hrs ls hls
        rw [v6_pre_eq ls hlne] at hT
        have he : joinColon ls ++ ':' :: ':' :: joinColon rs = (joinColon ls ++ [':']) ++ ':' :: joinColon rs := by simp
        rw [he]
        obtain ⟨ch, r, hj, hc⟩ := v6_join_pieces_head ls ls.length ⟨ls, hls, Or.inl ⟨rfl, rfl⟩⟩ hlne
        rw [hj] at hT ⊢
        rw [List.cons_append, List.cons_append] at hT ⊢
        rw [v6_pton6_other ch _ hc, v6_loop_iff _ 0 false (by omega)]
        exact ⟨_, true, hT, by simp, by simp; omega⟩

theorem v6_not_inet6Text (s : Str) (h : pton6 s = false) : ¬ Inet6Text s := fun ht => by
  rw [(v6_pton6_iff s).mpr ht] at h
  cases h

end ZCV.DT
