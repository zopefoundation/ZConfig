import ZCV.Gen.CodeUrl
import ZCV.Model.Url
import ZCV.Model.UrlPath
import ZCV.Lemmas.PyPrims
/-!
# The generated code of `ZConfig/url.py` equals the hand-written models

`Gen.Code.urlnormalize`, `urldefrag`, `urljoin` (translated from the Python source by `harness/zcv/pytrans.py` on every
run) against `Url.urlnormalize` / `UrlPath.znormalize`, `UrlPath.zdefragUrl` / `UrlPath.defragFrag`, `UrlPath.zjoin`.  The two
urllib functions are PARAMETERS of the generated code; here they are the models `UrlPath.defrag` and `UrlPath.join`
(total: `urllib`'s `ValueError`s are outside the models' domain, `UrlPath.joinInDomain` / `defragInDomain`), and a raising
parameter is shown to pass through unchanged.  No re-tagging is needed: values are strings.
-/
-- one simp set serves several branches of a case analysis; the linter would flag it in each branch that needs less
set_option linter.unusedSimpArgs false
namespace ZCV.CodeEq
open ZCV ZCV.Py ZCV.Gen.Code

theorem slice_from_5 (u : Str) : Py.slice u (some (5 : Int)) none = u.drop 5 := Py.slice_from_nat' u _ 5 rfl

theorem code_urlnormalize_eq (u : Str) : Gen.Code.urlnormalize u = .ok (Url.urlnormalize u) := by
  unfold Gen.Code.urlnormalize Url.urlnormalize
  simp only [slice_from_5, show "file:/".toList = ['f', 'i', 'l', 'e', ':', '/'] from rfl,
    show "file:///".toList = ['f', 'i', 'l', 'e', ':', '/', '/', '/'] from rfl,
    show "file://".toList = ['f', 'i', 'l', 'e', ':', '/', '/'] from rfl]
  split <;> rfl

/-- `code_urlnormalize_eq` under the name `UrlPath.znormalize`, which is `Url.urlnormalize` by definition -/
theorem code_urlnormalize_eq_z (u : Str) : Gen.Code.urlnormalize u = .ok (UrlPath.znormalize u) := code_urlnormalize_eq u

/-- `urldefrag` with `urllib.parse.urldefrag` = the model `UrlPath.defrag` -/
theorem code_urldefrag_eq (u : Str) :
    Gen.Code.urldefrag (fun x => .ok (UrlPath.defrag x)) u = .ok (UrlPath.zdefragUrl u, UrlPath.defragFrag u) := by
  unfold Gen.Code.urldefrag
  simp only [code_urlnormalize_eq_z]
  rfl

/-- `urljoin` with `urllib.parse.urljoin` = the model `UrlPath.join` -/
theorem code_urljoin_eq (b r : Str) :
    Gen.Code.urljoin (fun x y => .ok (UrlPath.join x y)) b r = .ok (UrlPath.zjoin b r) := by
  unfold Gen.Code.urljoin UrlPath.zjoin
  simp only [slice_from_5, UrlPath.fileSlash1, UrlPath.fileSlash3, UrlPath.fileSlashes]
  split
  · next h => simp only [h, ↓reduceIte]
  · next h => simp only [h, ↓reduceIte, Bool.false_eq_true]

theorem code_url_wrappers_propagate (e : PyExc) (b r : Str) :
    Gen.Code.urljoin (fun _ _ => .error e) b r = .error e ∧ Gen.Code.urldefrag (fun _ => .error e) b = .error e :=
  ⟨rfl, rfl⟩

end ZCV.CodeEq
