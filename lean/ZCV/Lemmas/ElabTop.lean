import ZCV.Spec.Expand
import ZCV.Spec.SchemaRules
import ZCV.Lemmas.ElabRules
/-!
What every statement about the tree walk of the schema loader reads, stated once.  The container on top of the stack — the
top-level container of a schema, or the section type being read — is a lens into the schema state: `topOf` / `ktOf` / `dtOf`
read its children, key type and datatype, `setTopOf` writes its children (put-get `topOf_setTopOf`, put-put `setTopOf_setTopOf`, and what writing the children
leaves alone); the model's `topChildren`, `setTopChildren`, `topKeytype` are these functions.  In these terms: what a
successful step does to the state (`…_eff`), and that the type table only grows (`Grows`).  Then what the generated tables
allow: parents by the frame they push (`PK`, `pkOfB`), children by what their handler needs (`CK`, `ckTable`), one kernel
check of the nesting table against `compat` (`tableCheck_ok`) and its readings, also in the terms of the rules of
`ZCV/Spec/SchemaRules.lean` (`ChildrenAll`).
-/
namespace ZCV.Elab
open ZCV ZCV.Cfg

/-! ## the container on top of the stack -/

/-- `topChildren` as a function of the two fields it reads -/
def topOf (es : ES) (stack : List Frame) : EM (List (Option Str × EInfo)) :=
  match stack with
  | .schema :: _ => .ok es.top.children
  | .stype n :: _ =>
    match es.types.find? (·.1 == n) with
    | some (_, .concrete t) => .ok t.children
    | _ => .error (.internal "AttributeError")
  | [] => .error (.internal "IndexError")
  | _ => .error (.internal "AttributeError")

def setTopOf (es : ES) (stack : List Frame) (ch : List (Option Str × EInfo)) : ES :=
  match stack with
  | .schema :: _ => { es with top := { es.top with children := ch } }
  | .stype n :: _ => es.updType n fun t => { t with children := ch }
  | _ => es

theorem topChildren_eq (st : PSt) : topChildren st = topOf st.es st.stack := by
  unfold topChildren topOf; rfl

theorem setTopChildren_eq (st : PSt) (ch : List (Option Str × EInfo)) :
    setTopChildren st ch = { st with es := setTopOf st.es st.stack ch } := by
  obtain ⟨es, p, stack, bk, bd⟩ := st
  unfold setTopChildren setTopOf
  cases stack with
  | nil => rfl
  | cons f r => cases f <;> rfl

/-- key type of the container on top of the stack, as a function of the two fields it reads -/
def ktOf (es : ES) (stack : List Frame) : EM Str :=
  match stack with
  | .schema :: _ => .ok es.top.keytype
  | .stype n :: _ =>
    match es.types.find? (·.1 == n) with
    | some (_, .concrete t) => .ok t.keytype
    | _ => .error (.internal "AttributeError")
  | [] => .error (.internal "IndexError")
  | _ => .error (.internal "AttributeError")

theorem topKeytype_ktOf (st : PSt) : topKeytype st = ktOf st.es st.stack := by
  unfold topKeytype ktOf; rfl

/-- a field of the container on top of the stack; `topOf`, `ktOf` and `dtOf` are the three instances -/
def projTop {α} (g : EType → α) (es : ES) (stack : List Frame) : EM α :=
  match stack with
  | .schema :: _ => .ok (g es.top)
  | .stype n :: _ =>
    match es.types.find? (·.1 == n) with
    | some (_, .concrete t) => .ok (g t)
    | _ => .error (.internal "AttributeError")
  | [] => .error (.internal "IndexError")
  | _ => .error (.internal "AttributeError")

/-- datatype of the container on top of the stack -/
def dtOf (es : ES) (stack : List Frame) : EM Str :=
  match stack with
  | .schema :: _ => .ok es.top.datatype
  | .stype n :: _ =>
    match es.types.find? (·.1 == n) with
    | some (_, .concrete t) => .ok t.datatype
    | _ => .error (.internal "AttributeError")
  | [] => .error (.internal "IndexError")
  | _ => .error (.internal "AttributeError")

theorem topOf_eq_proj : topOf = projTop (·.children) := by funext es stack; unfold topOf projTop; rfl
theorem ktOf_eq_proj : ktOf = projTop (·.keytype) := by funext es stack; unfold ktOf projTop; rfl
theorem dtOf_eq_proj : dtOf = projTop (·.datatype) := by funext es stack; unfold dtOf projTop; rfl

theorem projTop_ok {α} {g : EType → α} {es : ES} {stack : List Frame} {x : α} (h : projTop g es stack = .ok x) :
    (∃ r, stack = .schema :: r ∧ x = g es.top) ∨
    ∃ n r t, stack = .stype n :: r ∧ es.types.find? (·.1 == n) = some (n, .concrete t) ∧ x = g t := by
  unfold projTop at h
  split at h
  · cases h; exact .inl ⟨_, rfl, rfl⟩
  · split at h
    · rename_i hf; cases h
      obtain ⟨e, _⟩ := find_fst_some _ _ _ hf
      cases (show _ = _ from e)
      exact .inr ⟨_, _, _, rfl, hf, rfl⟩
    · cases h
  · cases h
  · cases h

theorem topOf_ok_cases {es : ES} {stack : List Frame} {ch} (h : topOf es stack = .ok ch) :
    (∃ r, stack = .schema :: r ∧ ch = es.top.children) ∨
    ∃ n r t, stack = .stype n :: r ∧ es.types.find? (·.1 == n) = some (n, .concrete t) ∧ ch = t.children :=
  projTop_ok (g := (·.children)) (topOf_eq_proj ▸ h)

theorem projTop_updType {α} (g : EType → α) (es : ES) (n : Str) (f : EType → EType) (hf : ∀ t, g (f t) = g t)
    (stack : List Frame) : projTop g (es.updType n f) stack = projTop g es stack := by
  cases stack with
  | nil => rfl
  | cons fr rest =>
    cases fr with
    | schema => rfl
    | stype m =>
      unfold projTop
      simp only
      rw [updType_find]
      cases es.types.find? (·.1 == m) with
      | none => rfl
      | some q =>
        obtain ⟨k, e⟩ := q
        simp only [Option.map_some]
        by_cases hk : (k == n) = true
        · simp only [hk, ↓reduceIte]
          cases e with
          | concrete t => simp only [hf]
          | abstract_ a b c => rfl
        · simp only [hk, Bool.false_eq_true, ↓reduceIte]
    | atype m => rfl
    | key k => rfl
    | sect a b => rfl

theorem topOf_updType_flag (es : ES) (n : Str) (f : EType → EType) (hf : ∀ t, (f t).children = t.children)
    (stack : List Frame) : topOf (es.updType n f) stack = topOf es stack := by
  rw [topOf_eq_proj]; exact projTop_updType _ es n f hf stack

theorem ktOf_updType_flag (es : ES) (n : Str) (f : EType → EType) (hf : ∀ t, (f t).keytype = t.keytype)
    (stack : List Frame) : ktOf (es.updType n f) stack = ktOf es stack := by
  rw [ktOf_eq_proj]; exact projTop_updType _ es n f hf stack

theorem dtOf_updType_flag (es : ES) (n : Str) (f : EType → EType) (hf : ∀ t, (f t).datatype = t.datatype)
    (stack : List Frame) : dtOf (es.updType n f) stack = dtOf es stack := by
  rw [dtOf_eq_proj]; exact projTop_updType _ es n f hf stack

/-- setting the children leaves every field that does not depend on `children` as it was (instances `ktOf_setTopOf`,
    `dtOf_setTopOf`) -/
theorem projTop_setTopOf {α} (g : EType → α) (hg : ∀ t ch, g { t with children := ch } = g t) (es : ES)
    (stack : List Frame) (ch : List (Option Str × EInfo)) : projTop g (setTopOf es stack ch) stack = projTop g es stack := by
  cases stack with
  | nil => rfl
  | cons fr rest =>
    cases fr with
    | schema => exact congrArg Except.ok (hg _ _)
    | stype n => exact projTop_updType g es n _ (fun t => hg t ch) _
    | atype m => rfl
    | key k => rfl
    | sect a b => rfl

theorem ktOf_setTopOf (es : ES) (stack : List Frame) (ch : List (Option Str × EInfo)) :
    ktOf (setTopOf es stack ch) stack = ktOf es stack := by
  rw [ktOf_eq_proj]; exact projTop_setTopOf _ (fun _ _ => rfl) es stack ch

theorem dtOf_setTopOf (es : ES) (stack : List Frame) (ch : List (Option Str × EInfo)) :
    dtOf (setTopOf es stack ch) stack = dtOf es stack := by
  rw [dtOf_eq_proj]; exact projTop_setTopOf _ (fun _ _ => rfl) es stack ch

theorem setTopOf_setTopOf (es : ES) (stack : List Frame) (c1 c2 : List (Option Str × EInfo)) :
    setTopOf (setTopOf es stack c1) stack c2 = setTopOf es stack c2 := by
  cases stack with
  | nil => rfl
  | cons f rest =>
    cases f with
    | schema => rfl
    | stype n =>
      unfold setTopOf ES.updType
      simp only [List.map_map]
      congr 1
      apply List.map_congr_left
      intro ⟨k, e⟩ _
      simp only [Function.comp]
      by_cases hk : (k == n) = true
      · simp only [hk, ↓reduceIte]
        cases e <;> rfl
      · simp only [hk, Bool.false_eq_true, ↓reduceIte]
    | atype n => rfl
    | key k => rfl
    | sect a b => rfl

theorem names_setTopOf (es : ES) (stack : List Frame) (ch : List (Option Str × EInfo)) :
    (setTopOf es stack ch).types.map (·.1) = es.types.map (·.1) := by
  cases stack with
  | nil => rfl
  | cons f rest =>
    cases f with
    | schema => rfl
    | stype n => exact updType_typeNames es n _
    | atype n => rfl
    | key k => rfl
    | sect a b => rfl

theorem replaceLastChild_eq_top {st' : PSt} {k : EKey} {ch : List (Option Str × EInfo)} {key : Option Str} {k0 : EKey}
    (h2 : topOf st'.es st'.stack = .ok (ch ++ [(key, EInfo.key k0)])) :
    replaceLastChild st' k = .ok { st' with es := setTopOf st'.es st'.stack (ch ++ [(key, EInfo.key k)]) } := by
  unfold replaceLastChild
  rw [topChildren_eq, h2]
  simp only [bind, Except.bind, List.reverse_append, List.reverse_cons, List.reverse_nil, List.nil_append,
    List.singleton_append, pure, Except.pure, List.reverse_reverse, setTopChildren_eq]

theorem topOf_setTopOf {es : ES} {stack : List Frame} {ch ch' : List (Option Str × EInfo)} (h : topOf es stack = .ok ch) :
    topOf (setTopOf es stack ch') stack = .ok ch' := by
  rcases topOf_ok_cases h with ⟨_, rfl, _⟩ | ⟨n, _, t, rfl, hf, _⟩
  · rfl
  · unfold setTopOf ES.updType topOf
    simp only
    rw [find_fst_map _ _ _ (by intro ⟨k, e⟩; dsimp only; split <;> rfl), hf]
    simp

theorem ktOf_of_topOf {es : ES} {stack : List Frame} {ch : List (Option Str × EInfo)} (h : topOf es stack = .ok ch) :
    ∃ kt, ktOf es stack = .ok kt := by
  rcases topOf_ok_cases h with ⟨_, rfl, _⟩ | ⟨n, _, t, rfl, hf, _⟩
  · exact ⟨_, rfl⟩
  · exact ⟨t.keytype, by simp only [ktOf, hf]⟩

/-! ## what a successful step does to the state -/

theorem addChild_eff {st st' : PSt} {key : Option Str} {info : EInfo} (h : addChild st key info = .ok st') :
    ∃ ch, topOf st.es st.stack = .ok ch ∧ st' = { st with es := setTopOf st.es st.stack (ch ++ [(key, info)]) } := by
  obtain ⟨ch, h1, _, _, rfl⟩ := addChild_ok h
  exact ⟨ch, topChildren_eq st ▸ h1, setTopChildren_eq _ _⟩

theorem addType_eff {es es' : ES} {n : Str} {e : EEntry} (h : addType es n e = .ok es') :
    es.types.any (·.1 == n) = false ∧ es' = { es with types := es.types ++ [(n, e)] } :=
  ⟨Bool.eq_false_iff.2 fun hc => (addType_ok h).1 ((any_fst_beq _ _).1 hc), (addType_ok h).2⟩

/-! ## the type table only grows -/

/-- the keys of the type table of `a` are an initial segment of those of `b`: types are never removed or renamed -/
def Grows (a b : ES) : Prop := a.types.map (·.1) <+: b.types.map (·.1)

theorem Grows.refl (a : ES) : Grows a a := List.prefix_refl _
theorem Grows.trans {a b c : ES} (h1 : Grows a b) (h2 : Grows b c) : Grows a c := List.IsPrefix.trans h1 h2
theorem Grows.of_keys_eq {a b : ES} (h : b.types.map (·.1) = a.types.map (·.1)) : Grows a b := by
  unfold Grows; rw [h]; exact List.prefix_refl _
theorem Grows.of_types_eq {a b : ES} (h : b.types = a.types) : Grows a b := Grows.of_keys_eq (by rw [h])

theorem Grows.map (es : ES) (g : Str × EEntry → Str × EEntry) (hk : ∀ p, (g p).1 = p.1) :
    Grows es { es with types := es.types.map g } :=
  Grows.of_keys_eq (SameTable.map es g hk).1

theorem Grows.updType (es : ES) (n : Str) (f : EType → EType) : Grows es (es.updType n f) :=
  Grows.of_keys_eq (updType_typeNames es n f)

theorem setTopOf_grows (es : ES) (stack : List Frame) (ch : List (Option Str × EInfo)) : Grows es (setTopOf es stack ch) :=
  Grows.of_keys_eq (names_setTopOf es stack ch)

theorem addChild_grows {st st' : PSt} {key : Option Str} {info : EInfo} (h : addChild st key info = .ok st') :
    Grows st.es st'.es := Grows.of_keys_eq (addChild_sameTable h).1

theorem addType_grows {es es' : ES} {n : Str} {e : EEntry} (h : addType es n e = .ok es') : Grows es es' := by
  obtain ⟨_, rfl⟩ := addType_ok h
  exact ⟨[n], by simp⟩

theorem gettype_grows {a b : ES} (hg : Grows a b) {x : Str} {p : Str × EEntry} (h : a.gettype x = some p) :
    ∃ q, b.gettype x = some q ∧ q.1 = p.1 := by
  cases hq : b.gettype x with
  | none => exact absurd (hg.subset (gettype_some_mem h)) ((gettype_none_iff b x).1 hq)
  | some q => exact ⟨q, rfl, (gettype_some hq).1.trans (gettype_some h).1.symm⟩

theorem getSectiontype_grows {st st' : PSt} (hg : Grows st.es st'.es) {a : Attrs} {n : Str}
    (h : getSectiontype st a = .ok n) : getSectiontype st' a = .ok n := by
  unfold getSectiontype at h ⊢
  split at h
  · split at h
    · rename_i n' e hgt
      injection h with h
      subst h
      obtain ⟨q, hq, hq1⟩ := gettype_grows hg hgt
      obtain ⟨q1, q2⟩ := q
      simp only [hq]
      simp only at hq1
      rw [hq1]
    · cases h
  · cases h

/-! ## what the generated tables allow -/

/-- the kinds of element whose children are being read: `topS` / `topC` the root of a schema / component document, `imp`
an `<import>` (admits no child) -/
inductive PK where
  | topS | topC | stype | atype | key | sect | imp
deriving DecidableEq, Repr

/-- the kinds of element by what their handler needs -/
inductive CK where
  | cKey | cMultikey | cSection | cMultisection | cSectiontype | cAbstracttype | cImport | cDesc | cEx | cMeta | cDflt
deriving DecidableEq, Repr

def pkOfB (comp : Bool) (p : Str) : Option PK :=
  if p == Gen.schemaTopLevel then (if comp then none else some .topS)
  else if p == Gen.componentTopLevel then (if comp then some .topC else none)
  else if p == "sectiontype".toList then some .stype
  else if p == "abstracttype".toList then some .atype
  else if p == "key".toList || p == "multikey".toList then some .key
  else if p == "section".toList || p == "multisection".toList then some .sect
  else if p == "import".toList then some .imp
  else none

def ckTable : List (Str × CK) :=
  [("key".toList, .cKey), ("multikey".toList, .cMultikey), ("section".toList, .cSection), ("multisection".toList, .cMultisection),
   ("sectiontype".toList, .cSectiontype), ("abstracttype".toList, .cAbstracttype), ("import".toList, .cImport),
   ("description".toList, .cDesc), ("example".toList, .cEx), ("metadefault".toList, .cMeta), ("default".toList, .cDflt)]

def ckOf (t : Str) : Option CK := (ckTable.find? (·.1 == t)).map (·.2)

def CK.container : CK → Bool
  | .cKey | .cMultikey | .cSection | .cMultisection => true
  | _ => false
def CK.decl : CK → Bool
  | .cSectiontype | .cAbstracttype | .cImport => true
  | _ => false

/-- which child may stand below which parent, as far as the handlers are concerned -/
def compat : PK → CK → Bool
  | .topS, ck => ck.container || ck.decl || ck == .cDesc || ck == .cEx
  | .topC, ck => ck.decl || ck == .cDesc
  | .stype, ck => ck.container || ck == .cDesc || ck == .cEx
  | .atype, ck => ck == .cDesc
  | .key, ck => ck == .cDesc || ck == .cEx || ck == .cMeta || ck == .cDflt
  | .sect, ck => ck == .cDesc || ck == .cEx || ck == .cMeta
  | .imp, _ => false

/-- for every pair (child, parent) of the generated nesting table: is the child compatible with the parent? -/
def tableCheck : Bool :=
  Gen.allowedParents.all fun e => e.2.all fun p => [true, false].all fun comp =>
    match pkOfB comp p with
    | none => true
    | some pk => match ckOf e.1 with
      | some ck => compat pk ck
      | none => false

theorem tableCheck_ok : tableCheck = true := by decide +kernel

theorem nesting_compat {comp : Bool} {p t : Str} {pk : PK} (h : nestingCheck p t = .ok ()) (hpk : pkOfB comp p = some pk) :
    ∃ ck, ckOf t = some ck ∧ compat pk ck = true := by
  obtain ⟨ps, hmem, hin⟩ := (nestingCheck_ok_iff p t).1 h
  have h1 := List.all_eq_true.mp tableCheck_ok _ hmem
  have h2 := List.all_eq_true.mp h1 p hin
  have h3 := List.all_eq_true.mp h2 comp (by cases comp <;> simp)
  simp only [hpk] at h3
  cases hck : ckOf t with
  | none => simp [hck] at h3
  | some ck => exact ⟨ck, rfl, by simpa [hck] using h3⟩

theorem ckOf_tag {t : Str} {ck : CK} (h : ckOf t = some ck) : (t, ck) ∈ ckTable := by
  unfold ckOf at h
  cases hf : ckTable.find? (·.1 == t) with
  | none => simp [hf] at h
  | some q =>
    simp only [hf, Option.map_some, Option.some.injEq] at h
    have hm := List.mem_of_find?_eq_some hf
    have hq : q.1 = t := by simpa using List.find?_some hf
    rw [← hq, ← h]
    exact hm

theorem ckTable_kinds : ∀ e ∈ ckTable,
    (e.2.container = true → inheritedTags.contains e.1 = true) ∧
    (e.2.decl = true → e.1 = "sectiontype".toList ∨ e.1 = "abstracttype".toList ∨ e.1 = "import".toList) ∧
    (e.2.container = false → e.2.decl = false → Gen.cdataTags.contains e.1 = true ∧
      (e.1 ≠ Gen.schemaTopLevel ∧ Gen.schemaHandledTags.contains e.1 = false) ∧
      (e.1 ≠ Gen.componentTopLevel ∧ Gen.componentHandledTags.contains e.1 = false)) := by
  unfold ckTable inheritedTags
  char_lits
  decide +kernel

theorem compat_kinds : ∀ pk ck, compat pk ck = true →
    (ck.container = true → pk = .topS ∨ pk = .stype) ∧ (ck.decl = true → pk = .topS ∨ pk = .topC) := by
  intro pk ck h
  cases pk <;> cases ck <;> first | (cases h; done) | decide

theorem pkOfB_key (comp : Bool) : pkOfB comp "key".toList = some .key := by
  unfold pkOfB; char_lits; cases comp <;> decide +kernel
theorem pkOfB_multikey (comp : Bool) : pkOfB comp "multikey".toList = some .key := by
  unfold pkOfB; char_lits; cases comp <;> decide +kernel
theorem pkOfB_section (comp : Bool) : pkOfB comp "section".toList = some .sect := by
  unfold pkOfB; char_lits; cases comp <;> decide +kernel
theorem pkOfB_multisection (comp : Bool) : pkOfB comp "multisection".toList = some .sect := by
  unfold pkOfB; char_lits; cases comp <;> decide +kernel
theorem pkOfB_sectiontype (comp : Bool) : pkOfB comp "sectiontype".toList = some .stype := by
  unfold pkOfB; char_lits; cases comp <;> decide +kernel
theorem pkOfB_abstracttype (comp : Bool) : pkOfB comp "abstracttype".toList = some .atype := by
  unfold pkOfB; char_lits; cases comp <;> decide +kernel
theorem pkOfB_import (comp : Bool) : pkOfB comp "import".toList = some .imp := by
  unfold pkOfB; char_lits; cases comp <;> decide +kernel

theorem cdataTags_cases {t : Str} (h : Gen.cdataTags.contains t = true) :
    t = "description".toList ∨ t = "metadefault".toList ∨ t = "example".toList ∨ t = "default".toList := by
  have : ∀ t ∈ Gen.cdataTags,
      t = "description".toList ∨ t = "metadefault".toList ∨ t = "example".toList ∨ t = "default".toList := by
    decide +kernel
  exact this t (List.contains_iff_mem.1 h)

theorem ckTable_cdata : ∀ q ∈ ckTable,
    (q.2 ∈ [CK.cDesc, .cEx, .cMeta, .cDflt] → Gen.cdataTags.contains q.1 = true) ∧ (q.1 = "default".toList → q.2 = .cDflt) ∧
      (q.1 = "description".toList → q.2 = .cDesc) ∧ (q.1 = "example".toList → q.2 = .cEx) := by
  unfold ckTable; char_lits
  decide +kernel

/-- the tags of `ckTable`: none is a document element; those with handlers are the member and declaration elements -/
theorem ckTable_tags (d : DocKind) :
    ∀ q ∈ ckTable, q.1 ≠ d.topLevel ∧ d.handled.contains q.1 = (q.2.container || q.2.decl) := by
  cases d with
  | schema ext =>
    show ∀ q ∈ ckTable, q.1 ≠ Gen.schemaTopLevel ∧ Gen.schemaHandledTags.contains q.1 = (q.2.container || q.2.decl)
    unfold ckTable; char_lits
    decide +kernel
  | component =>
    show ∀ q ∈ ckTable, q.1 ≠ Gen.componentTopLevel ∧ Gen.componentHandledTags.contains q.1 = (q.2.container || q.2.decl)
    unfold ckTable; char_lits
    decide +kernel

/-- fact about the generated nesting table: nothing may stand inside a character-data element -/
theorem cdataNestingTable :
    Gen.allowedParents.all (fun e => Gen.cdataTags.all (fun c => !e.2.contains c)) = true := by decide

theorem nesting_cdata {p t : Str} (hp : Gen.cdataTags.contains p = true) : nestingCheck p t ≠ .ok () := by
  intro h
  obtain ⟨ps, hmem, hin⟩ := (nestingCheck_ok_iff p t).1 h
  have h1 := List.all_eq_true.mp cdataNestingTable _ hmem
  have h2 := List.all_eq_true.mp h1 p (List.contains_iff_mem.mp hp)
  rw [List.contains_iff_mem.2 hin] at h2
  cases h2

/-- below `<key>` / `<multikey>` the nesting table only allows the four character-data elements -/
theorem keyChild_cdata {comp : Bool} {p t : Str} (hn : nestingCheck p t = .ok ()) (hp : pkOfB comp p = some .key) :
    Gen.cdataTags.contains t = true := by
  obtain ⟨ck, hck, hc⟩ := nesting_compat hn hp
  refine (ckTable_cdata _ (ckOf_tag hck)).1 ?_
  show ck ∈ [CK.cDesc, .cEx, .cMeta, .cDflt]
  cases ck <;> first | (cases hc; done) | decide

end ZCV.Elab

/-! ## the nesting table in the terms of the rules (`ZCV/Spec/SchemaRules.lean`) -/

namespace ZCV.SchemaRules
open ZCV ZCV.Elab

theorem nestingOK_check {parent t : Str} (h : nestingOK parent t = true) : nestingCheck parent t = .ok () := by
  unfold nestingOK at h
  rw [List.any_eq_true] at h
  obtain ⟨e, he, hc⟩ := h
  simp only [Bool.and_eq_true, beq_iff_eq] at hc
  obtain ⟨h1, h2⟩ := hc
  obtain ⟨n, ps⟩ := e
  simp only at h1 h2
  subst h1
  exact (nestingCheck_ok_iff parent n).2 ⟨ps, he, List.contains_iff_mem.mp h2⟩

theorem check_nestingOK {parent t : Str} (h : nestingCheck parent t = .ok ()) : nestingOK parent t = true := by
  obtain ⟨ps, h1, h2⟩ := (nestingCheck_ok_iff parent t).1 h
  unfold nestingOK
  rw [List.any_eq_true]
  exact ⟨(t, ps), h1, by simp [h2]⟩

theorem isKeyTag_cases {t : Str} (h : isKeyTag t = true) : t = "key".toList ∨ t = "multikey".toList := by
  simpa only [isKeyTag, Bool.or_eq_true, beq_iff_eq] using h
theorem isSectTag_cases {t : Str} (h : isSectTag t = true) : t = "section".toList ∨ t = "multisection".toList := by
  simpa only [isSectTag, Bool.or_eq_true, beq_iff_eq] using h
theorem isNoteTag_cases {t : Str} (h : isNoteTag t = true) : t = "description".toList ∨ t = "example".toList := by
  simpa only [isNoteTag, Bool.or_eq_true, beq_iff_eq] using h

/-- the nesting table allows below `parent` only elements whose tag satisfies `P` -/
def ChildrenAll (P : Str → Prop) (parent : Str) : Prop := ∀ t, nestingOK parent t = true → P t

/-- the tags of `<description>` and `<example>` in the table of kinds -/
theorem ckTable_notes : ∀ e ∈ ckTable,
    (e.2 = .cDesc → e.1 = "description".toList) ∧ (e.2 = .cEx → e.1 = "example".toList) := by
  unfold ckTable
  char_lits
  decide +kernel

theorem inheritedTags_cases {t : Str} (h : inheritedTags.contains t = true) : isKeyTag t = true ∨ isSectTag t = true := by
  simp only [inheritedTags, List.contains_cons, List.contains_nil, Bool.or_false, Bool.or_eq_true, beq_iff_eq] at h
  unfold isKeyTag isSectTag
  simp only [Bool.or_eq_true, beq_iff_eq]
  rcases h with h | h | h | h
  · exact .inl (.inl h)
  · exact .inl (.inr h)
  · exact .inr (.inl h)
  · exact .inr (.inr h)

/-- what the nesting table allows below a parent of kind `pk`: read off the kinds of the children compatible with it -/
theorem childrenAll_of_pk {P : Str → Prop} {comp : Bool} {p : Str} {pk : PK} (hpk : pkOfB comp p = some pk)
    (h : ∀ t ck, (t, ck) ∈ ckTable → compat pk ck = true → P t) : ChildrenAll P p := by
  intro t hn
  obtain ⟨ck, h1, h2⟩ := nesting_compat (nestingOK_check hn) hpk
  exact h t ck (ckOf_tag h1) h2

/-- an element whose kind is "member element" or "note" -/
theorem memberOrNote {t : Str} {ck : CK} (hmem : (t, ck) ∈ ckTable)
    (hc : (ck.container || ck == .cDesc || ck == .cEx) = true) :
    isKeyTag t = true ∨ isSectTag t = true ∨ isNoteTag t = true := by
  by_cases h1 : ck.container = true
  · exact (inheritedTags_cases ((ckTable_kinds _ hmem).1 h1)).imp_right .inl
  · have hn := ckTable_notes _ hmem
    refine .inr (.inr ?_)
    unfold isNoteTag
    cases ck <;> first | exact absurd rfl h1 | cases hc | skip
    · rw [show t = "description".toList from hn.1 rfl, beq_self_eq_true]; rfl
    · rw [show t = "example".toList from hn.2 rfl, beq_self_eq_true, Bool.or_true]

/-- an element whose kind is "declaration", "member element" or "note" -/
theorem declOrMember {t : Str} {ck : CK} (hmem : (t, ck) ∈ ckTable)
    (hc : (ck.decl = true) ∨ (ck.container || ck == .cDesc || ck == .cEx) = true) :
    t = "abstracttype".toList ∨ t = "sectiontype".toList ∨ t = "import".toList ∨
      isKeyTag t = true ∨ isSectTag t = true ∨ isNoteTag t = true := by
  rcases hc with hd | hm
  · rcases (ckTable_kinds _ hmem).2.1 hd with h | h | h
    · exact .inr (.inl h)
    · exact .inl h
    · exact .inr (.inr (.inl h))
  · exact .inr (.inr (.inr (memberOrNote hmem hm)))

end ZCV.SchemaRules
