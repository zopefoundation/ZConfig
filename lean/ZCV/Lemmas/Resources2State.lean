import ZCV.Lemmas.Resources2
import ZCV.Lemmas.Lists
/-!
Lemmas about `ZCV/Model/Resources2.lean`: loads that leave the whole state as it was; loads in which nothing can fail.
-/
namespace ZCV.Res2
open ZCV.Res (Pt)

/-! ## the whole state is as before (configuration loads without a new `%import`) -/

/-- started with component list `C`, the block leaves the state exactly as it found it -/
def Fix (C : List Nat) (g : LState → Out) : Prop := Sat (fun a _ b => a.comps = C → b = a) g

theorem restore_active (st : LState) (r : Nat) :
    ({ ({ st with active := st.active ++ [r] } : LState) with active := (st.active ++ [r]).dropLast } : LState) = st := by
  cases st; simp

theorem fixInv (C : List Nat) : Inv (fun a _ b => a.comps = C → b = a) where
  refl _ _ _ := rfl
  trans h1 h2 hc := by
    have hb := h1 hc
    subst hb
    exact h2 hc
  pop st r _ st' h hc := by
    rw [h hc]
    exact restore_active st r

theorem cfgLine_fix (C : List Nat) (rec : Rec) (hr : ∀ c, Fix C (rec .incl c)) (s : CStep) (hs : ∀ c, s = .imp c → c ∈ C) :
    Fix C (cfgLine rec s) := by
  intro st hc
  cases s with
  | work => rfl
  | incl c => exact hr c st hc
  | imp c =>
    rcases cfgLine_imp_view rec c st with ⟨_, hv⟩ | ⟨hn, _⟩
    · rw [hv]
    · rw [hc, List.contains_iff_mem.mpr (hs c rfl)] at hn
      cases hn

theorem runRes_cfg_fix (f : Pt → Bool) (docs : List (Nat × Doc)) (C : List Nat) (hk : ImportsKnown docs C) :
    ∀ (fuel : Nat) (r : Nat), Fix C (runRes f docs fuel .incl r) ∧ ∀ file, Fix C (runRes f docs fuel (.top file) r)
  | 0, _ => ⟨fun _ _ => rfl, fun _ _ _ => rfl⟩
  | fuel + 1, r => runRes_cfg_sat (fixInv C) f docs fuel r fun lines hl s hs =>
      cfgLine_fix C _ (fun c => (runRes_cfg_fix f docs C hk fuel c).1) s fun c hsc => hk r lines c hl (hsc ▸ hs)

/-! ## nothing fails -/

theorem withResource_ok (f : Pt → Bool) (hf : ∀ p, f p = false) (o : Opener) (r : Nat) (body : LState → Out) (st : LState) :
    (withResource f o r true body st).ok = (body st).ok := by
  unfold withResource
  cases o <;> simp [hf]

theorem stepLoop_ok {α : Type} (f : Pt → Bool) (hf : ∀ p, f p = false) (r : Nat) (act : α → LState → Out) (hk : ∀ s, Keeps (act s)) :
    ∀ (steps : List α) (k : Nat) (st : LState),
      (∀ s ∈ steps, ∀ st', st'.active = st.active → (act s st').ok = true) → (stepLoop f r act k steps st).ok = true
  | [], k, st, _ => by simp [stepLoop, hf]
  | s :: rest, k, st, ha => by
    have ih := stepLoop_ok f hf r act hk rest (k + 1) (act s st).st fun s' h' st' e =>
      ha s' (List.mem_cons_of_mem _ h') st' (e.trans (hk s st).active)
    simp [stepLoop, hf, ha s List.mem_cons_self st rfl, ih]

theorem cfgLine_ok (rec : Rec) (s : CStep) (st : LState)
    (h : ∀ m c, cref s = some (m, c) → ∀ st', st'.active = st.active → (rec m c st').ok = true) : (cfgLine rec s st).ok = true := by
  cases s with
  | work => rfl
  | incl c => exact h _ c rfl st rfl
  | imp c =>
    rcases cfgLine_imp_view rec c st with ⟨_, hv⟩ | ⟨_, o, rfl, ⟨hok, hv⟩ | ⟨hok, _⟩⟩
    · rw [hv]
    · rw [hv, hok]
    · rw [h .comp c rfl { st with comps := dictSet st.comps c } rfl] at hok
      cases hok

theorem schLine_ok (rec : Rec) (s : SStep) (st : LState)
    (h : ∀ m c, sref s = some (m, c) → ∀ st', st'.active = st.active → (rec m c st').ok = true) : (schLine rec s st).ok = true := by
  cases s with
  | work => rfl
  | ext c => exact h _ c rfl st rfl
  | importSrc c => exact h _ c rfl st rfl
  | importPkg c =>
    simp only [schLine]
    split
    · rfl
    · exact h _ c rfl _ rfl

/-- what the induction over the nesting depth provides about the recursive call -/
def RecOK (docs : List (Nat × Doc)) (rank : Nat → Nat) (fuel : Nat) (rec : Rec) : Prop :=
  (∀ m c, Keeps (rec m c)) ∧
  ∀ m c st d, lookup docs c = some d → kindOK m d = true → rank c < fuel → (∀ a ∈ st.active, rank c < rank a) → (rec m c st).ok = true

theorem runRes_ok (f : Pt → Bool) (hf : ∀ p, f p = false) (docs : List (Nat × Doc)) (rank : Nat → Nat)
    (hrefs : ∀ r d, lookup docs r = some d → ∀ m c, (m, c) ∈ d.refs →
      rank c < rank r ∧ ∃ d', lookup docs c = some d' ∧ kindOK m d' = true) :
    ∀ (fuel : Nat), RecOK docs rank fuel (runRes f docs fuel)
  | 0 => ⟨runRes_keeps f docs 0, fun _ _ _ _ _ _ h _ => absurd h (Nat.not_lt_zero _)⟩
  | fuel + 1 => by
    have ih := runRes_ok f hf docs rank hrefs fuel
    refine ⟨runRes_keeps f docs (fuel + 1), ?_⟩
    intro m r st d hd hk hfuel hact
    -- the block a step of `r` opens returns while `r` ranks at most as everything active: the resource referred to exists, is
    -- of the right kind and ranks below `r`
    have hstep : ∀ m c, (m, c) ∈ d.refs → ∀ st' : LState, (∀ a ∈ st'.active, rank r ≤ rank a) →
        (runRes f docs fuel m c st').ok = true := by
      intro m c hm st' hA
      obtain ⟨hlt, d', hd', hk'⟩ := hrefs r d hd m c hm
      exact ih.2 m c st' d' hd' hk' (by omega) (fun a ha => by have := hA a ha; omega)
    have hsch : ∀ (steps : List SStep) (st0 : LState), steps.filterMap sref = d.refs → st0.active = st.active →
        (stepLoop f r (schLine (runRes f docs fuel)) 0 steps st0).ok = true := by
      intro steps st0 hsub h0
      refine stepLoop_ok f hf r _ (schLine_keeps _ ih.1) steps 0 st0 fun s hs st' e => schLine_ok _ s st' fun m c hc st'' e' => ?_
      exact hstep m c (hsub ▸ List.mem_filterMap.mpr ⟨s, hs, hc⟩) st'' fun a ha =>
        Nat.le_of_lt (hact a (by rwa [e', e, h0] at ha))
    have hcfg : ∀ lines : List CStep, lines.filterMap cref = d.refs →
        (parseCfg f (runRes f docs fuel) r (some (.cfg lines)) st).ok = true := by
      intro lines hsub
      have hnot : st.active.contains r = false := by
        cases h : st.active.contains r with
        | false => rfl
        | true => have := hact r (List.contains_iff_mem.mp h); omega
      simp only [parseCfg, hnot, Bool.false_eq_true, if_false]
      refine stepLoop_ok f hf r _ (cfgLine_keeps _ ih.1) lines 0 _ fun s hs st' e => cfgLine_ok _ s st' fun m c hc st'' e' => ?_
      -- inside the parser `r` itself is active, on top of what was active before
      refine hstep m c (hsub ▸ List.mem_filterMap.mpr ⟨s, hs, hc⟩) st'' fun a ha => ?_
      rw [e', e] at ha
      rcases List.mem_append.mp ha with h | h
      · exact Nat.le_of_lt (hact a h)
      · rw [List.mem_singleton.1 h]; exact Nat.le_refl _
    simp only [runRes, hd, Option.isSome_some]
    cases m <;> cases d <;> simp only [kindOK, Bool.false_eq_true] at hk <;> simp only [] <;> rw [withResource_ok f hf]
    case top.cfg file lines => simp only [loadCfg, hcfg lines rfl, if_true, hf, Bool.not_false]
    case incl.cfg lines => exact hcfg lines rfl
    case load.schema file bases body =>
      rcases loadSchemaRes_view f (runRes f docs fuel) r (some (.schema bases body)) st with
        ⟨_, hv⟩ | ⟨_, b, rfl, ⟨_, hv⟩ | ⟨hok, _⟩⟩
      · rw [hv]
      · rw [hv]
      · exact absurd (hsch _ { st with comps := [] } rfl rfl) (Bool.eq_false_iff.mp hok)
    case extend.schema bases body => exact hsch _ st rfl rfl
    case comp.comp body => exact hsch _ st rfl rfl

theorem mem_of_lookup {docs : List (Nat × Doc)} {r : Nat} {d : Doc} (h : lookup docs r = some d) : (r, d) ∈ docs := by
  obtain ⟨p, hp, rfl⟩ := Option.map_eq_some_iff.1 h
  obtain ⟨h1, h2⟩ := find_fst_some docs r p hp
  exact h1 ▸ h2

theorem sound_of_soundB {sc : Scenario} {rank : Nat → Nat} (h : soundB sc rank = true) : Sound sc rank := by
  simp only [soundB, Bool.and_eq_true, List.all_eq_true, decide_eq_true_eq] at h
  constructor
  · cases hl : lookup sc.docs sc.entry.res with
    | none => simp [hl] at h
    | some d =>
      have h1 := h.1
      simp only [hl, Bool.and_eq_true, decide_eq_true_eq] at h1
      exact ⟨d, rfl, h1.1, h1.2⟩
  · intro r d hd m c hm
    have h2 := h.2 (r, d) (mem_of_lookup hd) (m, c) hm
    simp only at h2
    refine ⟨h2.1, ?_⟩
    cases hl : lookup sc.docs c with
    | none => simp [hl] at h2
    | some d' => exact ⟨d', rfl, by simpa [hl] using h2.2⟩

end ZCV.Res2
