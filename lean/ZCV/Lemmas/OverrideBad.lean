import ZCV.Lemmas.OverrideCor
/-!
An override with a section component (any component but the last) that the `basic-key` datatype refuses makes the load
fail, at whatever depth the component stands: the override travels down the sections its earlier components select, or
stays pending — a bag holding it keeps it or hands it to a child (`bagStep_badD`, `evalItemB_badD`) — and a matcher whose bag
holds it cannot be finished (`finishMatcher_badD`).  (The `D` in `BadBagD`, `…_badD` stands for "at any depth".)
-/
namespace ZCV.Conf
open ZCV ZCV.Cfg

def BadOv (o : OptItem) : Prop := ∃ c ∈ o.path.dropLast, ∃ e, DT.basicKey c = .error e

def BadBagD (b : Bag) : Prop := ∃ o ∈ b.sectitems, BadOv o

theorem badOv_dropHead (o : OptItem) (p0 : Str) (more : List Str) (r0 : Str) (hp : o.path = p0 :: more)
    (hbk : DT.basicKey p0 = .ok r0) (hbad : BadOv o) : BadOv (dropHead o) ∧ 2 ≤ (dropHead o).path.length := by
  obtain ⟨c, hc, e, he⟩ := hbad
  have hd : (dropHead o).path = more := by unfold dropHead; rw [hp]; rfl
  rw [hp] at hc
  cases more with
  | nil => simp at hc
  | cons p1 more =>
    rw [List.dropLast_cons_cons, List.mem_cons] at hc
    rcases hc with rfl | hc
    · rw [hbk] at he; cases he
    · refine ⟨⟨c, by rw [hd]; exact hc, e, he⟩, ?_⟩
      rw [hd]
      cases more with
      | nil => simp at hc
      | cons p2 more => simp

theorem finishMatcher_badD (conv : Conv) (s : Schema) (m : Matcher) (b : Bag) (hb : m.bag = some b) (hbad : BadBagD b) :
    ∃ e, finishMatcher conv s m = .error e := by
  rw [finishMatcher_eq_bag, finishBag_some conv m b hb]
  cases List.foldlM (bagOuter conv) m b.keypairs with
  | error e => exact ⟨e, rfl⟩
  | ok m3 =>
    obtain ⟨o, ho, _⟩ := hbad
    cases hss : b.sectitems with
    | nil => rw [hss] at ho; cases ho
    | cons x ss => exact ⟨_, rfl⟩

theorem mkBag_keeps (conv : Conv) (t : SType) (l : List OptItem) (child : Bag) (o : OptItem) (ho : o ∈ l)
    (ho2 : 2 ≤ o.path.length) (h : mkBag conv t l = .ok child) : o ∈ child.sectitems := by
  have hmk := mkBag_spec conv t l
  cases hs : splitOvs (conv.key t.keytype) l with
  | error r =>
    rw [hs] at hmk
    obtain ⟨e, he⟩ := hmk
    rw [he] at h
    cases h
  | ok p =>
    obtain ⟨ks, ss⟩ := p
    rw [hs] at hmk
    simp only at hmk
    rw [hmk] at h
    cases h
    exact splitOvs_mem_ss (conv.key t.keytype) o ho2 l ks ss ho hs

theorem bagStep_badD (conv : Conv) (s : Schema) (m : Matcher) (b : Bag) (hb : m.bag = some b) (hbad : BadBagD b)
    (ty : Str) (nm : Option Str) (m1 : Matcher) (cb : Option Bag) (h : bagStep conv s m ty nm = .ok (m1, cb)) :
    (∃ b', m1 = withBag m (some b') ∧ BadBagD b') ∨ (∃ child, cb = some child ∧ BadBagD child) := by
  unfold bagStep at h
  rw [hb] at h
  dsimp only at h
  cases hbs : bagSectionInfo conv s b ty nm with
  | error e => rw [hbs] at h; cases h
  | ok bc =>
    rw [hbs] at h
    cases h
    have hheads : HeadsOK b.sectitems := by
      rw [bagSectionInfo_eq] at hbs
      obtain ⟨lr, hf, _⟩ := bind_ok_inv hbs
      exact bsi_ok_heads ty nm _ _ lr hf
    rw [bagSectionInfo_spec conv s b ty nm hheads] at hbs
    obtain ⟨o, ho, hob⟩ := hbad
    obtain ⟨p0, more, r0, hp, hbk⟩ := hheads o ho
    by_cases hadd : addresses o ty nm = true
    · -- the override goes to the child
      have hne : ¬ (b.sectitems.filter (addresses · ty nm)).isEmpty = true := by
        rw [List.isEmpty_iff]
        exact List.ne_nil_of_mem (List.mem_filter.mpr ⟨ho, hadd⟩)
      rw [if_neg hne] at hbs
      split at hbs
      · rename_i t hg
        split at hbs
        · cases hbs
        · rename_i child hmk
          cases hbs
          obtain ⟨hbd, hlen⟩ := badOv_dropHead o p0 more r0 hp hbk hob
          exact .inr ⟨child, rfl, dropHead o,
            mkBag_keeps conv t _ child _ (List.mem_map_of_mem (List.mem_filter.mpr ⟨ho, hadd⟩)) hlen hmk, hbd⟩
      · cases hbs
      · cases hbs
    · -- it stays with the parent
      have hstay : o ∈ b.sectitems.filter (fun o => !addresses o ty nm) :=
        List.mem_filter.mpr ⟨ho, by simpa using hadd⟩
      split at hbs
      · cases hbs
        exact .inl ⟨b, rfl, o, ho, hob⟩
      · split at hbs
        · split at hbs
          · cases hbs
          · cases hbs
            exact .inl ⟨_, rfl, o, hstay, hob⟩
        · cases hbs
        · cases hbs

mutual
theorem evalItemB_badD (conv : Conv) (s : Schema) :
    ∀ (i : Item) (m m' : Matcher) (b : Bag), m.bag = some b → BadBagD b → evalItemB conv s m i = .ok m' →
      ∃ b', m'.bag = some b' ∧ BadBagD b'
  | .kv k v p, m, m', b, hb, hbad, h => by
    rw [evalItemB] at h
    unfold addValue at h
    split at h
    · cases h
    · rw [hb] at h
      simp only at h
      split at h
      · cases h; exact ⟨b, hb, hbad⟩
      · exact ⟨b, by rw [addValueCore_bag _ _ _ _ _ _ h, hb], hbad⟩
  | .sect ty nm sub, m, m', b, hb, hbad, h => by
    rw [evalItemB] at h
    split at h
    · cases h
    · rename_i t hsc
      split at h
      · cases h
      · rename_i m1 cb hbs
        split at h
        · cases h
        · rename_i child hev
          split at h
          · cases h
          · rename_i v hs hfin
            rcases bagStep_badD conv s m b hb hbad _ nm m1 cb hbs with ⟨b', rfl, hb'⟩ | ⟨cbag, rfl, hcb⟩
            · rw [addSection_withBag] at h
              cases ha : addSection s m ty nm v with
              | error e => rw [ha] at h; cases h
              | ok m2 =>
                rw [ha] at h
                cases h
                exact ⟨b', rfl, hb'⟩
            · obtain ⟨cb', hcb1, hcb2⟩ := evalItemsB_badD conv s sub (newMatcher t nm (some cbag)) child cbag rfl hcb hev
              obtain ⟨e, he⟩ := finishMatcher_badD conv s child cb' hcb1 hcb2
              rw [he] at hfin
              cases hfin
theorem evalItemsB_badD (conv : Conv) (s : Schema) :
    ∀ (l : List Item) (m m' : Matcher) (b : Bag), m.bag = some b → BadBagD b → evalItemsB conv s m l = .ok m' →
      ∃ b', m'.bag = some b' ∧ BadBagD b'
  | [], m, m', b, hb, hbad, h => by
    rw [evalItemsB] at h
    cases h
    exact ⟨b, hb, hbad⟩
  | i :: r, m, m', b, hb, hbad, h => by
    rw [evalItemsB] at h
    split at h
    · cases h
    · rename_i m1 h1
      obtain ⟨b1, hb1, hbad1⟩ := evalItemB_badD conv s i m m1 b hb hbad h1
      exact evalItemsB_badD conv s r m1 m' b1 hb1 hbad1 h
end

theorem loadTreeOv_badOv (conv : Conv) (s : Schema) (items : List Item) (ovs : List OptItem) (o : OptItem)
    (ho : o ∈ ovs) (hbad : BadOv o) : ∃ e, loadTreeOv conv s items ovs = .error e := by
  cases ovs with
  | nil => cases ho
  | cons o1 ovs =>
    rw [loadTreeOv_eq]
    show ∃ e, ((mkBag conv s.top (o1 :: ovs)).map some >>= fun bag =>
      evalItemsB conv s (newMatcher s.top none bag) items >>= topFin conv s) = .error e
    cases hmk : mkBag conv s.top (o1 :: ovs) with
    | error e => exact ⟨e, rfl⟩
    | ok b =>
      have ho2 : 2 ≤ o.path.length := by
        obtain ⟨c, hc, _⟩ := hbad
        cases hp : o.path with
        | nil => rw [hp] at hc; simp at hc
        | cons p0 more =>
          cases more with
          | nil => rw [hp] at hc; simp at hc
          | cons p1 more => simp
      have hbb : BadBagD b := ⟨o, mkBag_keeps conv s.top (o1 :: ovs) b o ho ho2 hmk, hbad⟩
      show ∃ e, (evalItemsB conv s (newMatcher s.top none (some b)) items >>= topFin conv s) = .error e
      cases hev : evalItemsB conv s (newMatcher s.top none (some b)) items with
      | error e => exact ⟨e, rfl⟩
      | ok m2 =>
        obtain ⟨b2, hb2, hbad2⟩ := evalItemsB_badD conv s items _ m2 b rfl hbb hev
        obtain ⟨e, he⟩ := finishMatcher_badD conv s m2 b2 hb2 hbad2
        exact ⟨e, by show (finishMatcher conv s m2 >>= _) = _; rw [he]; rfl⟩

end ZCV.Conf
