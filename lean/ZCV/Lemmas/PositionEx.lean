import ZCV.Lemmas.Position
import ZCV.Lemmas.Grammar
import ZCV.Lemmas.Lits
/-!
A small concrete instance for the C08 theorems (non-vacuity): a resource that `%include`s another one whose second line is a
key line the context refuses with a position-less error.
-/
namespace ZCV.Cfg.PosEx
open ZCV ZCV.Cfg

/-- refuses key `k` with a plain error that names no position; accepts everything else -/
def ctx : PCtx Unit :=
  { start := fun s _ _ => .ok s, stop := fun s _ _ => .ok s,
    value := fun s k _ _ => if k == ['k'] then .error (.cfg { kind := .plain, tag := "not a known key name" }) else .ok s,
    imp := fun s _ => .ok s, canInclude := true, canDefine := true }

def incl : List Str := ["# included".toList, "k v".toList]
def main : List Str := ["# main".toList, "%include x".toList]

def env : Env :=
  { res := fun u => if u == ['x'] then some incl else none, resolve := fun _ a => .url a, getenv := fun _ => none }

def st0 : PS Unit := { ctx := (), stack := [], defs := [] }

/-- the error the parser delivers: the context's error with the position of line 2 of resource `x` -/
def err : Err := { kind := .plain, line := some 2, url := some ['x'], tag := "not a known key name" }

theorem shape_comment_main : lineShape (strip "# main".toList) = .skip := by char_lits; decide +kernel
theorem shape_comment_incl : lineShape (strip "# included".toList) = .skip := by char_lits; decide +kernel
theorem shape_include : lineShape (strip "%include x".toList) = .include_ ['x'] :=
  lineShape_of_classify _ (by char_lits; decide +kernel) _ (by char_lits; decide +kernel) (by decide)
theorem shape_kv : lineShape (strip "k v".toList) = .kv ['k'] ['v'] :=
  lineShape_of_classify _ (by char_lits; decide +kernel) _ (by char_lits; decide +kernel) nofun

theorem enters : Enters 1 env ctx [['m']] (some ['m']) 2 (strip "%include x".toList) st0 0 ['x'] incl :=
  ⟨['x'], ['x'], shape_include, replace_nodollar _ _ _ _ _ (by decide), rfl, rfl, rfl, by decide, rfl⟩

theorem step_kv : stepLine 0 env ctx [['x'], ['m']] (some ['x']) 2 (strip "k v".toList) (subState st0) = .error (.cfg err) := by
  rw [stepLine_of_kv shape_kv, replace_nodollar _ _ _ _ _ (by decide)]
  rfl

/-- the failing parse of `main`: the culprit is line 2 of the included resource `x` -/
theorem culprit : Culprit env ctx 1 [['m']] (some ['m']) main 0 st0 (.cfg err) (some ['x']) 2 (subState st0) := by
  refine .next _ _ _ _ _ _ _ st0 _ _ _ _ ?_ ?_
  · exact stepLine_of_skip shape_comment_main
  · refine .inner _ _ _ _ _ _ _ _ _ _ _ _ _ _ enters ?_
    refine .next _ _ _ _ _ _ _ (subState st0) _ _ _ _ ?_ ?_
    · exact stepLine_of_skip shape_comment_incl
    · refine .here _ _ _ _ _ _ _ _ ?_ step_kv
      intro f' u sub ⟨arg, _, hs, _⟩
      rw [shape_kv] at hs
      cases hs

theorem parse_fails : parseLines 1 env ctx [['m']] (some ['m']) main 0 st0 = .error (.cfg err) := culprit_sound culprit

end ZCV.Cfg.PosEx
