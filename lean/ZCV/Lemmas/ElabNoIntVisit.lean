import ZCV.Lemmas.ElabNoIntKey
/-!
No internal errors: the character-data elements (`description`, `example`, `metadefault`, `default`) and the stack
discipline of the tree walk.  `CtxOK` says which frame is on top of the stack while the children of an element are read;
from the check of the generated nesting table (`tableCheck_ok`, `nesting_compat`) every element that passes the nesting
check finds the frame its handler expects.  `Post` is what reading children below such a parent does to the state.
-/
namespace ZCV.Elab
open ZCV ZCV.Cfg

variable {P : String → Prop}

/-- `characters_description` finds an object it can mark -/
def DescOK (isC : Bool) (st : PSt) : Prop :=
  match st.stack with
  | [] => isC = true
  | .stype n :: _ => kindAt st.es n = some true
  | .atype n :: _ => kindAt st.es n = some false
  | _ => True

/-- `characters_example` finds an object it can mark -/
def ExOK (st : PSt) : Prop :=
  match st.stack with
  | .schema :: _ => True
  | .stype n :: _ => kindAt st.es n = some true
  | .key _ :: _ => True
  | .sect _ _ :: _ => True
  | _ => False

theorem markDesc_ni {c : Bool} {st : PSt} (h : DescOK c st) : NIx P (markDesc c st) := by
  unfold DescOK at h
  unfold markDesc
  split
  · rename_i hs
    simp only [hs] at h
    simp only [h, ↓reduceIte]
    exact NIx.ok _
  · rename_i f rest hs
    dsimp only
    cases f with
    | schema => dsimp only; exact NIx.ite (fun _ => NIx.serr _) fun _ => NIx.ok _
    | stype n =>
      simp only [hs] at h
      obtain ⟨p, t, hf⟩ := kindAt_concrete h
      simp only [hf]
      exact NIx.ite (fun _ => NIx.serr _) fun _ => NIx.ok _
    | atype n =>
      simp only [hs] at h
      obtain ⟨p, a, s, d, hf⟩ := kindAt_abstract h
      simp only [hf]
      exact NIx.ite (fun _ => NIx.serr _) fun _ => NIx.ok _
    | key k => dsimp only; exact NIx.ite (fun _ => NIx.serr _) fun _ => NIx.ok _
    | sect a b => dsimp only; exact NIx.ite (fun _ => NIx.serr _) fun _ => NIx.ok _

theorem markExample_ni {st : PSt} (h : ExOK st) : NIx P (markExample st) := by
  unfold ExOK at h
  unfold markExample
  split
  · rename_i hs
    simp only [hs] at h
  · rename_i f rest hs
    dsimp only
    cases f with
    | schema => dsimp only; exact NIx.ite (fun _ => NIx.serr _) fun _ => NIx.ok _
    | stype n =>
      simp only [hs] at h
      obtain ⟨p, t, hf⟩ := kindAt_concrete h
      simp only [hf]
      exact NIx.ite (fun _ => NIx.serr _) fun _ => NIx.ok _
    | atype n => simp only [hs] at h
    | key k => dsimp only; exact NIx.ite (fun _ => NIx.serr _) fun _ => NIx.ok _
    | sect a b => dsimp only; exact NIx.ite (fun _ => NIx.serr _) fun _ => NIx.ok _

/-- what a character-data element may do to the parser state: set flags on the frame on top of the stack or on the
    object it stands for, add a default to the key being read -/
structure CdataStep (st st' : PSt) : Prop where
  prefixes : st'.prefixes = st.prefixes
  kinds : kinds st'.es = kinds st.es
  keys : KeysOK st.es → KeysOK st'.es
  top : (st'.stack = st.stack ∧ ((∃ k rest, st.stack = .key k :: rest) → st'.es = st.es)) ∨
        (∃ k k' rest, st.stack = .key k :: rest ∧ st'.stack = .key k' :: rest ∧ st'.es = st.es ∧ KeyShape k' ∧
          k'.name = k.name ∧ k'.attr = k.attr) ∨
        (∃ a b a' b' rest, st.stack = .sect a b :: rest ∧ st'.stack = .sect a' b' :: rest)

theorem CdataStep.refl (st : PSt) : CdataStep st st := ⟨rfl, rfl, id, Or.inl ⟨rfl, fun _ => rfl⟩⟩

theorem FlagSet.step {st st' : PSt} (hkey : ∀ k rest, st.stack = .key k :: rest → KeyShape k) (h : FlagSet st st') :
    CdataStep st st' := by
  -- a frame that is not a key frame: the stack stays, and there is no key frame to speak of
  have other : ∀ {f : Frame} {rest : List Frame}, st.stack = f :: rest → (∀ k, f ≠ .key k) →
      st'.stack = st.stack → st'.stack = st.stack ∧ ((∃ k rest, st.stack = .key k :: rest) → st'.es = st.es) :=
    fun hs hf he => ⟨he, fun ⟨k, r, hk⟩ => by rw [hs] at hk; cases hk; exact absurd rfl (hf k)⟩
  cases h with
  | same => exact CdataStep.refl _
  | top t rest hs _ hc =>
    exact ⟨rfl, rfl, fun h => h.top_congr t hc, .inl (other hs (fun _ h => nomatch h) rfl)⟩
  | stype n rest f hs hf =>
    exact ⟨rfl, kinds_updType _ _ _, fun h => h.updType n f fun t ht => (hf t).2.1 ▸ ht,
      .inl (other hs (fun _ h => nomatch h) rfl)⟩
  | atype n rest hs =>
    exact ⟨rfl, kinds_absOnly _ (descEntry_absOnly n), fun h => h.absOnly (descEntry_absOnly n),
      .inl (other hs (fun _ h => nomatch h) rfl)⟩
  | key k d e rest hs =>
    exact ⟨rfl, rfl, id, .inr (.inl ⟨k, _, rest, hs, rfl, rfl, (hkey k rest hs).congr rfl rfl rfl rfl rfl, rfl, rfl⟩)⟩
  | sect a b a' b' rest hs => exact ⟨rfl, rfl, id, .inr (.inr ⟨a, b, a', b', rest, hs, rfl⟩)⟩

theorem charactersTag_step {c : Bool} {tag : Str} {attrs : Attrs} {data : Str} {st st' : PSt}
    (hkey : ∀ k rest, st.stack = .key k :: rest → KeyShape k)
    (h : charactersTag c tag attrs data st = .ok st') : CdataStep st st' := by
  rcases charactersTag_ok h with ⟨k, rest, k', hs, hmin, hd, rfl⟩ | hf
  · obtain ⟨hs', hsame, _⟩ := (addDefault_ends (hkey k rest hs) hmin data _).of_ok hd
    exact ⟨rfl, rfl, id, .inr (.inl ⟨k, k', rest, hs, rfl, rfl, hs', hsame.name, hsame.attr⟩)⟩
  · exact hf.step hkey

theorem charactersTag_ni {c : Bool} {tag : Str} {attrs : Attrs} {data : Str} {st : PSt}
    (hcd : Gen.cdataTags.contains tag = true)
    (hdef : tag = "default".toList → ∃ k rest, st.stack = .key k :: rest ∧ KeyShape k)
    (hdesc : tag = "description".toList → DescOK c st)
    (hex : tag = "example".toList → ExOK st) : NIx P (charactersTag c tag attrs data st) := by
  unfold charactersTag
  refine NIx.ite (fun ht => ?_) (fun ht1 => ?_)
  · obtain ⟨k, rest, hs, hk⟩ := hdef (by simpa using ht)
    rw [hs]
    dsimp only
    exact NIx.ite (fun _ => NIx.serr _) fun hm => NIx.bind (addDefault_ni hk (by simpa using hm) _ _) fun _ _ => NIx.pure _
  refine NIx.ite (fun ht => markDesc_ni (hdesc (by simpa using ht))) (fun ht2 => ?_)
  refine NIx.ite (fun ht => markExample_ni (hex (by simpa using ht))) (fun ht3 => ?_)
  refine NIx.ite (fun _ => NIx.ok _) (fun ht4 => ?_)
  exfalso
  rcases cdataTags_cases hcd with h | h | h | h
  · exact ht2 (by simp [h])
  · exact ht4 (by simp [h])
  · exact ht3 (by simp [h])
  · exact ht1 (by simp [h])

/-- `collectText` raises no internal error when no element passes the nesting check below `parent` (`nesting_cdata`) -/
theorem collectText_ni {parent : Str} (hp : ∀ t, nestingCheck parent t ≠ .ok ()) :
    ∀ l : List Node, NIx P (collectText parent l)
  | [] => by unfold collectText; exact NIx.ok _
  | .text s :: r => by unfold collectText; exact NIx.map (collectText_ni hp r)
  | .elem t a c :: r => by
    unfold collectText
    split
    · rename_i e he
      refine ⟨fun e' h => ?_⟩
      injection h with h
      subst h
      exact (nestingCheck_error he).elim
    · rename_i u he
      exact absurd he (hp t)

/-! ## the stack discipline -/

theorem nestingCheck_ni (p t : Str) : NIx P (nestingCheck p t) := by
  refine ⟨fun s h => ?_⟩
  exact (nestingCheck_error h).elim

/-! ### the frame on top of the stack -/

def FrameOK (st : PSt) : PK → Prop
  | .topS => st.stack = [.schema]
  | .topC => st.stack = []
  | .stype => ∃ n rest, st.stack = .stype n :: rest ∧ kindAt st.es n = some true
  | .atype => ∃ n rest, st.stack = .atype n :: rest ∧ kindAt st.es n = some false
  | .key => ∃ k rest, st.stack = .key k :: rest ∧ KeyShape k ∧ LastKey st.es rest k
  | .sect => ∃ a b rest, st.stack = .sect a b :: rest
  | .imp => st.stack = [.schema] ∨ st.stack = []

/-- the parser state while the children of a `parent` element are read -/
def CtxOK (d : DocKind) (parent : Str) (st : PSt) : Prop :=
  st.prefixes ≠ [] ∧ ∃ pk, pkOfB (isComp d) parent = some pk ∧ FrameOK st pk

theorem frame_container {st : PSt} {pk : PK} {ck : CK} (hf : FrameOK st pk) (hc : compat pk ck = true)
    (hck : ck.container = true) : ContainerOK st.es st.stack ∧ (pk = .topS ∨ pk = .stype) := by
  have hpk : pk = .topS ∨ pk = .stype := (compat_kinds pk ck hc).1 hck
  refine ⟨?_, hpk⟩
  rcases hpk with rfl | rfl
  · rw [(hf : st.stack = [.schema])]; trivial
  · obtain ⟨n, rest, hs, hk⟩ := hf
    rw [hs]; exact hk

theorem ite_some {α} {c : Prop} [Decidable c] {a b : Option α} {x : α} (h : (if c then a else b) = some x) :
    a = some x ∨ b = some x := by
  split at h
  · exact .inl h
  · exact .inr h

theorem pkOfB_topC {comp : Bool} {p : Str} (h : pkOfB comp p = some .topC) : comp = true := by
  unfold pkOfB at h
  rcases ite_some h with h | h
  · cases comp <;> cases h
  rcases ite_some h with h | h
  · cases comp
    · cases h
    · rfl
  iterate 5 (rcases ite_some h with h | h; cases h)
  cases h

theorem frame_desc {comp : Bool} {p : Str} {st : PSt} {pk : PK} (hpk : pkOfB comp p = some pk) (hf : FrameOK st pk)
    (hc : compat pk .cDesc = true) : DescOK comp st := by
  unfold DescOK
  cases pk <;> simp [compat, CK.container, CK.decl] at hc <;> simp only [FrameOK] at hf
  · rw [hf]; trivial
  · rw [hf]; exact pkOfB_topC hpk
  · obtain ⟨n, rest, hs, hk⟩ := hf; rw [hs]; exact hk
  · obtain ⟨n, rest, hs, hk⟩ := hf; rw [hs]; exact hk
  · obtain ⟨k, rest, hs, _⟩ := hf; rw [hs]; trivial
  · obtain ⟨a, b, rest, hs⟩ := hf; rw [hs]; trivial

theorem frame_ex {st : PSt} {pk : PK} (hf : FrameOK st pk) (hc : compat pk .cEx = true) : ExOK st := by
  unfold ExOK
  cases pk <;> simp [compat, CK.container, CK.decl] at hc <;> simp only [FrameOK] at hf
  · rw [hf]; trivial
  · obtain ⟨n, rest, hs, hk⟩ := hf; rw [hs]; exact hk
  · obtain ⟨k, rest, hs, _⟩ := hf; rw [hs]; trivial
  · obtain ⟨a, b, rest, hs⟩ := hf; rw [hs]; trivial

theorem frame_dflt {st : PSt} {pk : PK} (hf : FrameOK st pk) (hc : compat pk .cDflt = true) :
    ∃ k rest, st.stack = .key k :: rest ∧ KeyShape k := by
  cases pk <;> simp [compat, CK.container, CK.decl] at hc
  obtain ⟨k, rest, hs, hk, _⟩ := hf
  exact ⟨k, rest, hs, hk⟩

theorem frame_keyShape {st : PSt} {pk : PK} (hf : FrameOK st pk) : ∀ k rest, st.stack = .key k :: rest → KeyShape k := by
  intro k rest hs
  cases pk <;> simp only [FrameOK] at hf
  · rw [hf] at hs; cases hs
  · rw [hf] at hs; cases hs
  · obtain ⟨n, r, h1, _⟩ := hf; rw [h1] at hs; cases hs
  · obtain ⟨n, r, h1, _⟩ := hf; rw [h1] at hs; cases hs
  · obtain ⟨k', r, h1, hk, _⟩ := hf; rw [h1] at hs; cases hs; exact hk
  · obtain ⟨a, b, r, h1⟩ := hf; rw [h1] at hs; cases hs
  · rcases hf with hf | hf <;> (rw [hf] at hs; cases hs)

/-! ## what reading children does to the state -/

structure Post (d : DocKind) (p : Str) (st st' : PSt) : Prop where
  ctx : CtxOK d p st'
  keys : KeysOK st'.es
  prefixes : st'.prefixes = st.prefixes
  tail : st'.stack.tail = st.stack.tail
  kinds : ∀ pk, pkOfB (isComp d) p = some pk → pk ≠ .topS → pk ≠ .topC → kinds st'.es = kinds st.es
  same : pkOfB (isComp d) p = some .imp → st' = st

theorem Post.refl {d : DocKind} {p : Str} {st : PSt} (hctx : CtxOK d p st) (hks : KeysOK st.es) : Post d p st st :=
  ⟨hctx, hks, rfl, rfl, fun _ _ _ _ => rfl, fun _ => rfl⟩

theorem Post.trans {d : DocKind} {p : Str} {a b c : PSt} (h1 : Post d p a b) (h2 : Post d p b c) : Post d p a c :=
  ⟨h2.ctx, h2.keys, h2.prefixes.trans h1.prefixes, h2.tail.trans h1.tail,
   fun pk hpk n1 n2 => (h2.kinds pk hpk n1 n2).trans (h1.kinds pk hpk n1 n2),
   fun hp => (h2.same hp).trans (h1.same hp)⟩

theorem post_of_cdata {d : DocKind} {p : Str} {st st' : PSt} {pk : PK} (hpre : st.prefixes ≠ [])
    (hpk : pkOfB (isComp d) p = some pk) (hf : FrameOK st pk) (hni : pk ≠ .imp) (hks : KeysOK st.es)
    (hstep : CdataStep st st') : Post d p st st' := by
  have hk := hstep.kinds
  refine ⟨⟨by rw [hstep.prefixes]; exact hpre, pk, hpk, ?_⟩, hstep.keys hks, hstep.prefixes, ?_, fun _ _ _ _ => hk,
    fun hp => by rw [hpk] at hp; injection hp with hp; exact absurd hp hni⟩
  · rcases hstep.top with ⟨hs, hes⟩ | ⟨k, k', rest, hs, hs', hes, hk', hn, ha⟩ | ⟨a, b, a', b', rest, hs, hs'⟩
    · cases pk <;> simp only [FrameOK] at hf ⊢
      · rw [hs]; exact hf
      · rw [hs]; exact hf
      · obtain ⟨n, rest, h1, h2⟩ := hf
        exact ⟨n, rest, by rw [hs]; exact h1, by rw [kindAt_congr hk]; exact h2⟩
      · obtain ⟨n, rest, h1, h2⟩ := hf
        exact ⟨n, rest, by rw [hs]; exact h1, by rw [kindAt_congr hk]; exact h2⟩
      · obtain ⟨k, rest, h1, h2, h3⟩ := hf
        have := hes ⟨k, rest, h1⟩
        exact ⟨k, rest, by rw [hs]; exact h1, h2, by rw [this]; exact h3⟩
      · obtain ⟨a, b, rest, h1⟩ := hf
        exact ⟨a, b, rest, by rw [hs]; exact h1⟩
      · exact absurd rfl hni
    · cases pk <;> simp only [FrameOK] at hf ⊢
      · rw [hf] at hs; cases hs
      · rw [hf] at hs; cases hs
      · obtain ⟨n, r, h1, _⟩ := hf; rw [h1] at hs; cases hs
      · obtain ⟨n, r, h1, _⟩ := hf; rw [h1] at hs; cases hs
      · obtain ⟨k0, r, h1, h2, ch, key, kk, h3, h4, h5⟩ := hf
        rw [h1] at hs
        injection hs with hs1 hs2
        injection hs1 with hs1
        subst hs1 hs2
        exact ⟨k', r, hs', hk', ch, key, kk, by rw [hes]; exact h3, h4.trans hn.symm, h5.trans ha.symm⟩
      · obtain ⟨a, b, r, h1⟩ := hf; rw [h1] at hs; cases hs
      · exact absurd rfl hni
    · cases pk <;> simp only [FrameOK] at hf ⊢
      · rw [hf] at hs; cases hs
      · rw [hf] at hs; cases hs
      · obtain ⟨n, r, h1, _⟩ := hf; rw [h1] at hs; cases hs
      · obtain ⟨n, r, h1, _⟩ := hf; rw [h1] at hs; cases hs
      · obtain ⟨k0, r, h1, _⟩ := hf; rw [h1] at hs; cases hs
      · exact ⟨a', b', rest, hs'⟩
      · exact absurd rfl hni
  · rcases hstep.top with ⟨hs, _⟩ | ⟨k, k', rest, hs, hs', _⟩ | ⟨a, b, a', b', rest, hs, hs'⟩
    · rw [hs]
    · rw [hs, hs']; rfl
    · rw [hs, hs']; rfl

/-- after a child element with start and end handlers: the stack and the prefixes are as before -/
theorem post_of_handled {d : DocKind} {p : Str} {st st' : PSt} {pk : PK} (hpre : st.prefixes ≠ [])
    (hpk : pkOfB (isComp d) p = some pk) (hf : FrameOK st pk) (hs : st'.stack = st.stack) (hp : st'.prefixes = st.prefixes)
    (hks : KeysOK st'.es) (hcase : (pk = .topS ∨ pk = .topC) ∨ (pk = .stype ∧ kinds st'.es = kinds st.es)) :
    Post d p st st' := by
  refine ⟨⟨by rw [hp]; exact hpre, pk, hpk, ?_⟩, hks, hp, by rw [hs], ?_, ?_⟩
  · rcases hcase with (rfl | rfl) | ⟨rfl, hk⟩ <;> simp only [FrameOK] at hf ⊢
    · rw [hs]; exact hf
    · rw [hs]; exact hf
    · obtain ⟨n, rest, h1, h2⟩ := hf
      exact ⟨n, rest, by rw [hs]; exact h1, by rw [kindAt_congr hk]; exact h2⟩
  · intro pk' hpk' n1 n2
    rw [hpk] at hpk'
    injection hpk' with hpk'
    subst hpk'
    rcases hcase with (rfl | rfl) | ⟨_, hk⟩
    · exact absurd rfl n1
    · exact absurd rfl n2
    · exact hk
  · intro himp
    rw [hpk] at himp
    injection himp with himp
    subst himp
    rcases hcase with (h | h) | ⟨h, _⟩ <;> cases h

/-! ### a handled element: start handler – children – end handler -/

theorem handledElem_ni_post {env : Env} {h : Hooks} {d : DocKind} {p : Str} {st : PSt} {t : Str} {a : Attrs} {c : List Node}
    {R Q : PSt → Prop}
    (ht : t ≠ d.topLevel) (hh : d.handled.contains t = true) (hn : nestingCheck p t = .ok ())
    (hs : NIq P (startHandled env h t a st) fun st1 => Q st1 ∧ CtxOK d t st1 ∧ KeysOK st1.es)
    (ih : ∀ st1, CtxOK d t st1 → KeysOK st1.es → NIq P (visitChildren env h d t st1 c) (Post d t st1))
    (he : ∀ st1 st2, Q st1 → Post d t st1 st2 → NIq P (endHandled env t st2) R) :
    NIq P (visitElem env h d (some p) st (.elem t a c)) R := by
  rw [visitElem_handled_eq hn ht hh]
  exact Ends.bind hs fun st1 hq => Ends.bind (ih st1 hq.2.1 hq.2.2) fun st2 hp => he st1 st2 hq.1 hp

theorem popFrame_niq {st : PSt} {f : Frame} {r : List Frame} (hs : st.stack = f :: r) :
    NIq P (popFrame st) fun st' => st' = { st with stack := st.stack.tail } := by
  unfold popFrame
  rw [hs]
  exact Ends.ok rfl

end ZCV.Elab
