import ZCV.Lemmas.ElabNoIntVisit
import ZCV.Lemmas.ElabNoIntDoc
import ZCV.Lemmas.ElabRulesDoc
/-!
C10, "every violation is reported as a SchemaError when the schema is loaded": the schema-loader model never answers
`internal …` (a Python exception outside the ZConfig family), under explicit hypotheses on the environment.  The only
internal outcome left is running out of fuel, Python's RecursionError (`elab_internal_only_recursion`); hence none when
the fuel is not exhausted (`elab_no_internal`), and every outcome is `ok`, `schema`, `schemaResource` or `conversion`
(`elab_errors_are_schema_errors`).  The proof goes element by element: one element of each kind is read without internal
error and leaves the frame of its parent in place (`NIq P (visitElem …) (Post d p st)`), given the same for its children.
Each hypothesis is shown necessary by a closed counterexample in `ElabNoIntEx.lean`.
-/
namespace ZCV.Elab
open ZCV ZCV.Cfg

variable {P : String → Prop}

-- `Ends` is a `match` on the computation: left reducible, the unifier unfolds it and evaluates the loader on the literal tags
attribute [local irreducible] Ends

/-- the induction hypothesis for the children of a `t` element (`handledElem_ni_post` in `ElabNoIntVisit.lean` takes it
written out, as its hypothesis `ih`) -/
def ChildrenIH (P : String → Prop) (env : Env) (h : Hooks) (d : DocKind) (t : Str) (c : List Node) : Prop :=
  ∀ st1, CtxOK d t st1 → KeysOK st1.es → NIq P (visitChildren env h d t st1 c) (Post d t st1)

theorem ctx_pk {d : DocKind} {t : Str} {st : PSt} {pk : PK} (hctx : CtxOK d t st) (hpk : ∀ comp, pkOfB comp t = some pk) :
    FrameOK st pk := by
  obtain ⟨_, pk', hpk', hf⟩ := hctx
  rw [hpk] at hpk'
  injection hpk' with hpk'
  subst hpk'
  exact hf

/-! ### a whole `<key>` / `<multikey>` element -/

open ZCV.SchemaRules (keyTag endObj)

theorem leafBodyE_key_niq {isC : Bool} {parent : Str} (hp : pkOfB isC parent = some .key) (c : List Node) {k : EKey}
    (hk : KeyShape k) : NIq P (leafBodyE isC parent c (.key k)) fun f' => ∃ k', f' = .key k' ∧ KeyShape k' ∧ SameKey k k' :=
  leafBodyE_ends (fun e he _ hs => by subst hs; exact he.elim)
    (fun t c hn => NIq.of_ni (collectText_ni (fun _ => nesting_cdata (keyChild_cdata hn hp)) c) fun _ _ => trivial)
    (fun t a data f hn ⟨k1, e1, hk1, s1⟩ => e1 ▸ (localStep_key_ends hk1).mono
      (fun _ ⟨k2, e2, hk2, s2⟩ => ⟨k2, e2, hk2, s1.trans s2⟩)
      fun e he _ hs => by subst hs; exact (he (keyChild_cdata hn hp)).elim)
    c _ ⟨k, rfl, hk, .refl k⟩

/-- the child a `<key>` / `<multikey>` element adds is computed without internal error, when `get_key_info` is -/
theorem keyElemE_ni {env : Env} (he : EnvNI env) {isC multi : Bool} {gi : EM (Str × Str × Option Str × Str)} {kt : Str}
    {ch : List (Option Str × EInfo)} {a : Attrs} {c : List Node} (hgi : NIx P gi) (hname : ∀ r, gi = .ok r → r.1 ≠ []) :
    NIx P (keyElemE env isC multi gi kt ch a c) := by
  unfold keyElemE
  refine NIx.bind ⟨fun s h => ?_⟩ fun q hq => ?_
  · rcases startKeyObjM_error h with h | h
    · exact hgi.out s h
    · exact h.elim
  obtain ⟨r, req, hr, _, hA, rfl⟩ := startKeyObjM_ok_iff.1 hq
  have hk := keyShape_keyObjOf (hname r hr) hA
  refine NIx.bind ⟨fun s h => (dupCheck_error h).elim⟩ fun _ _ => ?_
  have hbody := leafBodyE_key_niq (P := P) (pkOfB_keyTag isC multi) c hk
  refine NIx.bind hbody.ni fun f hf => ?_
  obtain ⟨k1, rfl, hk1, _⟩ := hbody.of_ok hf
  exact NIx.bind (endObj_ni he hk1) fun _ _ => NIx.pure _

theorem keyElem_ni_post {env : Env} {h : Hooks} {d : DocKind} {p : Str} {st : PSt} {multi : Bool} {a : Attrs} {c : List Node}
    {pk : PK} (he : EnvNI env) (hpre : st.prefixes ≠ []) (hpk : pkOfB (isComp d) p = some pk) (hf : FrameOK st pk)
    (hpkc : pk = .topS ∨ pk = .stype) (hcont : ContainerOK st.es st.stack) (hks : KeysOK st.es)
    (hn : nestingCheck p (keyTag multi) = .ok ()) :
    NIq P (visitElem env h d (some p) st (.elem (keyTag multi) a c)) (Post d p st) := by
  obtain ⟨ch, hch⟩ := topOf_ok hcont
  obtain ⟨kt, hkt⟩ := ktOf_of_topOf hch
  have hspec : ∀ r, getKeyInfo env st a = .ok r → r.1 ≠ [] ∧ r.2.2.2 ≠ [] :=
    fun r hr => let ⟨_, _, h1, h2, _⟩ := getKeyInfo_ok hr; ⟨h1, h2⟩
  rw [keyElem_eq hn hch hkt]
  refine Ends.map (NIq.of_ni (keyElemE_ni he (getKeyInfo_ni he hpre hcont a) fun r hr => (hspec r hr).1) fun x hx => ?_)
  obtain ⟨k, rfl, hk, _⟩ := keyElemE_ok hspec hx
  -- the state differs from `st` in the children of the container only: one more well-shaped key
  refine post_of_handled hpre hpk hf rfl rfl (hks.setTopOf _ ((hks.topOf hch).append (ChKeys.single_key hk))) ?_
  rcases hpkc with rfl | rfl
  · exact .inl (.inl rfl)
  · exact .inr ⟨rfl, kinds_setTopOf _ _ _⟩

theorem elem_sectlike {env : Env} {h : Hooks} {d : DocKind} {p : Str} {st : PSt} {t : Str} {a : Attrs} {c : List Node} {pk : PK}
    (hpkt : ∀ comp, pkOfB comp t = some .sect) (ht : t ≠ d.topLevel) (hh : d.handled.contains t = true)
    (hs_ni : NIx P (startHandled env h t a st))
    (hs_eff : ∀ st1, startHandled env h t a st = .ok st1 → ∃ key si ch, topOf st.es st.stack = .ok ch ∧
      st1 = { st with es := setTopOf st.es st.stack (ch ++ [(key, EInfo.sect si)]), stack := .sect false false :: st.stack })
    (hend : ∀ st2, endHandled env t st2 = popFrame st2)
    (hpre : st.prefixes ≠ []) (hpk : pkOfB (isComp d) p = some pk) (hf : FrameOK st pk)
    (hpkc : pk = .topS ∨ pk = .stype) (hks : KeysOK st.es) (hn : nestingCheck p t = .ok ())
    (ih : ChildrenIH P env h d t c) :
    NIq P (visitElem env h d (some p) st (.elem t a c)) (Post d p st) := by
  refine handledElem_ni_post
    (Q := fun st1 => st1.stack.tail = st.stack ∧ st1.prefixes = st.prefixes ∧ kinds st1.es = kinds st.es)
    ht hh hn (NIq.of_ni hs_ni fun st1 hs1 => ?_) ih fun st1 st2 hq hpost => ?_
  · obtain ⟨key, si, ch, hch, heq⟩ := hs_eff st1 hs1
    obtain ⟨h1, h2, h3, h4⟩ := sectStart_post hch hks heq
    exact ⟨⟨by rw [h1]; rfl, h2, h3⟩, ⟨by rw [h2]; exact hpre, .sect, hpkt _, false, false, st.stack, h1⟩, h4⟩
  · obtain ⟨a', b', rest, hs2⟩ := ctx_pk hpost.ctx hpkt
    rw [hend]
    refine (popFrame_niq hs2).weaken fun st' heq => ?_
    subst heq
    refine post_of_handled hpre hpk hf (hpost.tail.trans hq.1) (hpost.prefixes.trans hq.2.1) hpost.keys ?_
    have hkk : kinds st2.es = kinds st.es := (hpost.kinds .sect (hpkt _) (by decide) (by decide)).trans hq.2.2
    rcases hpkc with rfl | rfl
    · exact Or.inl (Or.inl rfl)
    · exact Or.inr ⟨rfl, hkk⟩

theorem elem_sectiontype {env : Env} {h : Hooks} {d : DocKind} {p : Str} {st : PSt} {a : Attrs} {c : List Node} {pk : PK}
    (he : EnvNI env) (hpre : st.prefixes ≠ []) (hpk : pkOfB (isComp d) p = some pk) (hf : FrameOK st pk)
    (hpkc : pk = .topS ∨ pk = .topC) (hks : KeysOK st.es)
    (hn : nestingCheck p "sectiontype".toList = .ok ())
    (ih : ChildrenIH P env h d "sectiontype".toList c) :
    NIq P (visitElem env h d (some p) st (.elem "sectiontype".toList a c)) (Post d p st) := by
  refine handledElem_ni_post
    (Q := fun st1 => st1.stack.tail = st.stack ∧ st1.prefixes.drop 1 = st.prefixes)
    (handledTag d _ (by char_lits; decide)).1 (handledTag d _ (by char_lits; decide)).2 hn ?_ ih fun st1 st2 hq hpost => ?_
  · rw [startHandled_sectiontype]
    refine NIq.of_ni (startSectiontype_ni he hks a) fun st1 hs1 => ?_
    obtain ⟨name, x, h1, h2, h3, h4⟩ := startSectiontype_post hks hs1
    exact ⟨⟨by rw [h1]; rfl, by rw [h2]; rfl⟩, ⟨by rw [h2]; simp, .stype, pkOfB_sectiontype _, name, st.stack, h1, h3⟩, h4⟩
  · obtain ⟨n, rest, hs2, _⟩ := ctx_pk hpost.ctx pkOfB_sectiontype
    rw [endHandled_sectiontype]
    refine (popFrame_niq (st := popPrefix st2) hs2).weaken fun st' heq => ?_
    subst heq
    refine post_of_handled hpre hpk hf (hpost.tail.trans hq.1) ?_ hpost.keys (Or.inl hpkc)
    show st2.prefixes.drop 1 = st.prefixes
    rw [hpost.prefixes]; exact hq.2

theorem elem_abstracttype {env : Env} {h : Hooks} {d : DocKind} {p : Str} {st : PSt} {a : Attrs} {c : List Node} {pk : PK}
    (hpre : st.prefixes ≠ []) (hpk : pkOfB (isComp d) p = some pk) (hf : FrameOK st pk)
    (hpkc : pk = .topS ∨ pk = .topC) (hks : KeysOK st.es)
    (hn : nestingCheck p "abstracttype".toList = .ok ())
    (ih : ChildrenIH P env h d "abstracttype".toList c) :
    NIq P (visitElem env h d (some p) st (.elem "abstracttype".toList a c)) (Post d p st) := by
  refine handledElem_ni_post
    (Q := fun st1 => st1.stack.tail = st.stack ∧ st1.prefixes = st.prefixes)
    (handledTag d _ (by char_lits; decide)).1 (handledTag d _ (by char_lits; decide)).2 hn ?_ ih fun st1 st2 hq hpost => ?_
  · rw [startHandled_abstracttype]
    refine NIq.of_ni (startAbstracttype_ni st a) fun st1 hs1 => ?_
    obtain ⟨n, h1, h2, h3, h4⟩ := startAbstracttype_post hks hs1
    exact ⟨⟨by rw [h1]; rfl, h2⟩, ⟨by rw [h2]; exact hpre, .atype, pkOfB_abstracttype _, n, st.stack, h1, h3⟩, h4⟩
  · obtain ⟨n, rest, hs2, _⟩ := ctx_pk hpost.ctx pkOfB_abstracttype
    rw [endHandled_abstracttype]
    refine (popFrame_niq hs2).weaken fun st' heq => ?_
    subst heq
    exact post_of_handled hpre hpk hf (hpost.tail.trans hq.1) (hpost.prefixes.trans hq.2) hpost.keys (Or.inl hpkc)

theorem elem_import {env : Env} {h : Hooks} {T : Node → Prop} {d : DocKind} {p : Str} {st : PSt} {a : Attrs} {c : List Node}
    {pk : PK} (hh : HooksNI P T h) (ht : EnvTrees T env) (hsrc : (attrStrip a "src").isEmpty = true)
    (hpre : st.prefixes ≠ []) (hpk : pkOfB (isComp d) p = some pk) (hf : FrameOK st pk)
    (hpkc : pk = .topS ∨ pk = .topC) (hks : KeysOK st.es)
    (hn : nestingCheck p "import".toList = .ok ())
    (ih : ChildrenIH P env h d "import".toList c) :
    NIq P (visitElem env h d (some p) st (.elem "import".toList a c)) (Post d p st) := by
  refine handledElem_ni_post
    (Q := fun st1 => st1.stack = st.stack ∧ st1.prefixes = st.prefixes)
    (handledTag d _ (by char_lits; decide)).1 (handledTag d _ (by char_lits; decide)).2 hn ?_ ih fun st1 st2 hq hpost => ?_
  · rw [startHandled_import]
    refine NIq.of_ni (startImport_ni hh ht hks hpre hsrc) fun st1 hs1 => ?_
    obtain ⟨h1, h2, h3⟩ := startImport_post hh ht hks hs1
    refine ⟨⟨h1, h2⟩, ⟨by rw [h2]; exact hpre, .imp, pkOfB_import _, ?_⟩, h3⟩
    simp only [FrameOK]
    rw [h1]
    rcases hpkc with rfl | rfl
    · exact Or.inl hf
    · exact Or.inr hf
  · rw [endHandled_import]
    have h12 := hpost.same (pkOfB_import _)
    subst h12
    exact Ends.ok (post_of_handled hpre hpk hf hq.1 hq.2 hpost.keys (Or.inl hpkc))

theorem elem_cdata {env : Env} {h : Hooks} {d : DocKind} {p : Str} {st : PSt} {t : Str} {a : Attrs} {c : List Node} {pk : PK}
    (hcd : Gen.cdataTags.contains t = true) (ht : t ≠ d.topLevel) (hh : d.handled.contains t = false)
    (hdef : t = "default".toList → ∃ k rest, st.stack = .key k :: rest ∧ KeyShape k)
    (hdesc : t = "description".toList → DescOK (isComp d) st)
    (hex : t = "example".toList → ExOK st)
    (hpre : st.prefixes ≠ []) (hpk : pkOfB (isComp d) p = some pk) (hf : FrameOK st pk) (hni : pk ≠ .imp)
    (hks : KeysOK st.es) (hn : nestingCheck p t = .ok ()) :
    NIq P (visitElem env h d (some p) st (.elem t a c)) (Post d p st) := by
  rw [visitElem_cdata_eq hn ht hh hcd]
  refine Ends.bind (NIq.of_ni (Q := fun _ => True) (collectText_ni (fun t' => nesting_cdata hcd) c) fun _ _ => trivial) fun data _ => ?_
  exact NIq.of_ni (charactersTag_ni hcd hdef hdesc hex) fun st' hv =>
    post_of_cdata hpre hpk hf hni hks (charactersTag_step (frame_keyShape hf) hv)

/-! ### trees without `<import src=…>` (which the model does not cover) -/

mutual
def noImportSrc : Node → Bool
  | .text _ => true
  | .elem t a c => (t != "import".toList || (attrStrip a "src").isEmpty) && noImportSrcL c
def noImportSrcL : List Node → Bool
  | [] => true
  | n :: r => noImportSrc n && noImportSrcL r
end

def NoSrc (n : Node) : Prop := noImportSrc n = true

theorem noImportSrc_elem {t : Str} {a : Attrs} {c : List Node} (h : noImportSrc (.elem t a c) = true) :
    (t = "import".toList → (attrStrip a "src").isEmpty = true) ∧ noImportSrcL c = true := by
  rw [noImportSrc] at h
  simp only [Bool.and_eq_true, Bool.or_eq_true, bne_iff_ne, ne_eq] at h
  refine ⟨fun ht => ?_, h.2⟩
  rcases h.1 with h1 | h1
  · exact absurd ht h1
  · exact h1

theorem noImportSrcL_cons {n : Node} {r : List Node} (h : noImportSrcL (n :: r) = true) :
    noImportSrc n = true ∧ noImportSrcL r = true := by
  rw [noImportSrcL] at h
  simpa using h

/-! ### one element, by kind -/

/-- by the kind of element the nesting table allows below `p` -/
theorem elem_ni_post {env : Env} {h : Hooks} {T : Node → Prop} {d : DocKind} {p : Str} {st : PSt} {t : Str} {a : Attrs}
    {c : List Node} (he : EnvNI env) (hhk : HooksNI P T h) (htr : EnvTrees T env)
    (hctx : CtxOK d p st) (hks : KeysOK st.es) (hsrc : t = "import".toList → (attrStrip a "src").isEmpty = true)
    (ih : ChildrenIH P env h d t c) :
    NIq P (visitElem env h d (some p) st (.elem t a c)) (Post d p st) := by
  cases hn : nestingCheck p t with
  | error e =>
    rw [visitElem_nest_err hn]
    obtain ⟨s, rfl⟩ := (EFail.isSchema_iff e).1 (nestingCheck_error hn)
    exact Ends.error fun _ hs => nomatch hs
  | ok u =>
    obtain ⟨hpre, pk, hpk, hf⟩ := hctx
    obtain ⟨ck, hck, hcomp⟩ := nesting_compat hn hpk
    have hmem := ckOf_tag hck
    simp only [ckTable, List.mem_cons, Prod.mk.injEq, List.not_mem_nil, or_false] at hmem
    obtain ⟨hnt, hh⟩ := ckTable_tags d _ (ckOf_tag hck)
    obtain ⟨hcd, hdflt, hdesc, hex⟩ := ckTable_cdata _ (ckOf_tag hck)
    rcases hmem with ⟨rfl, rfl⟩ | ⟨rfl, rfl⟩ | ⟨rfl, rfl⟩ | ⟨rfl, rfl⟩ | ⟨rfl, rfl⟩ | ⟨rfl, rfl⟩ | ⟨rfl, rfl⟩ | ⟨rfl, rfl⟩ |
      ⟨rfl, rfl⟩ | ⟨rfl, rfl⟩ | ⟨rfl, rfl⟩
    · -- key
      obtain ⟨hcont, hpkc⟩ := frame_container hf hcomp rfl
      exact keyElem_ni_post (multi := false) he hpre hpk hf hpkc hcont hks hn
    · -- multikey
      obtain ⟨hcont, hpkc⟩ := frame_container hf hcomp rfl
      exact keyElem_ni_post (multi := true) he hpre hpk hf hpkc hcont hks hn
    · -- section
      obtain ⟨hcont, hpkc⟩ := frame_container hf hcomp rfl
      exact elem_sectlike pkOfB_section hnt hh
        (startHandled_section .. ▸ startSection_ni he hcont a) (fun st1 h1 => startSection_eff (startHandled_section .. ▸ h1))
        (endHandled_section env)
        hpre hpk hf hpkc hks hn ih
    · -- multisection
      obtain ⟨hcont, hpkc⟩ := frame_container hf hcomp rfl
      exact elem_sectlike pkOfB_multisection hnt hh
        (startHandled_multisection .. ▸ startMultisection_ni he hcont a)
        (fun st1 h1 => startMultisection_eff (startHandled_multisection .. ▸ h1)) (endHandled_multisection env)
        hpre hpk hf hpkc hks hn ih
    · exact elem_sectiontype he hpre hpk hf ((compat_kinds _ _ hcomp).2 rfl) hks hn ih
    · exact elem_abstracttype hpre hpk hf ((compat_kinds _ _ hcomp).2 rfl) hks hn ih
    · exact elem_import hhk htr (hsrc rfl) hpre hpk hf ((compat_kinds _ _ hcomp).2 rfl) hks hn ih
    all_goals
      -- the four character-data elements
      have hni : pk ≠ .imp := by intro h; subst h; cases hcomp
      exact elem_cdata (hcd (by decide)) hnt hh
        (fun h => frame_dflt hf (hdflt h ▸ hcomp)) (fun h => frame_desc hpk hf (hdesc h ▸ hcomp))
        (fun h => frame_ex hf (hex h ▸ hcomp)) hpre hpk hf hni hks hn

mutual
theorem visitElem_niq {env : Env} {h : Hooks} {T : Node → Prop} {d : DocKind}
    (he : EnvNI env) (hh : HooksNI P T h) (htr : EnvTrees T env) :
    ∀ (n : Node) (p : Str) (st : PSt), CtxOK d p st → KeysOK st.es → noImportSrc n = true →
      NIq P (visitElem env h d (some p) st n) (Post d p st)
  | .text _, p, st, hctx, hks, _ => by
    rw [visitElem_text]
    exact Ends.ok (Post.refl hctx hks)
  | .elem t a c, p, st, hctx, hks, hsrc => by
    obtain ⟨h1, h2⟩ := noImportSrc_elem hsrc
    exact elem_ni_post he hh htr hctx hks h1 fun st1 hc1 hk1 => visitChildren_niq he hh htr c t st1 hc1 hk1 h2

theorem visitChildren_niq {env : Env} {h : Hooks} {T : Node → Prop} {d : DocKind}
    (he : EnvNI env) (hh : HooksNI P T h) (htr : EnvTrees T env) :
    ∀ (l : List Node) (p : Str) (st : PSt), CtxOK d p st → KeysOK st.es → noImportSrcL l = true →
      NIq P (visitChildren env h d p st l) (Post d p st)
  | [], p, st, hctx, hks, _ => by
    rw [visitChildren_nil]
    exact Ends.ok (Post.refl hctx hks)
  | .text s :: r, p, st, hctx, hks, hsrc => by
    rw [visitChildren_text]
    exact Ends.ite (fun _ => visitChildren_niq he hh htr r p st hctx hks (noImportSrcL_cons hsrc).2)
      fun _ => Ends.error fun _ hs => nomatch hs
  | .elem t a c :: r, p, st, hctx, hks, hsrc => by
    rw [visitChildren_elem]
    obtain ⟨h1, h2⟩ := noImportSrcL_cons hsrc
    exact Ends.bind (visitElem_niq he hh htr (.elem t a c) p st hctx hks h1) fun st1 hp1 =>
      (visitChildren_niq he hh htr r p st1 hp1.ctx hp1.keys h2).weaken fun _ => hp1.trans
end

/-- one node below a parent whose frame is in place (`CtxOK`) is read without internal error and leaves the frame in
place (`Post`) -/
theorem visitElem_ni_post {env : Env} {h : Hooks} {T : Node → Prop} {d : DocKind}
    (he : EnvNI env) (hh : HooksNI P T h) (htr : EnvTrees T env) :
    ∀ (n : Node) (p : Str) (st : PSt), CtxOK d p st → KeysOK st.es → noImportSrc n = true →
      NIx P (visitElem env h d (some p) st n) ∧ ∀ st', visitElem env h d (some p) st n = .ok st' → Post d p st st' :=
  fun n p st hctx hks hsrc =>
    ⟨(visitElem_niq he hh htr n p st hctx hks hsrc).ni, fun _ hv => (visitElem_niq he hh htr n p st hctx hks hsrc).of_ok hv⟩

/-! ### a whole document -/

theorem endSchema_keys {b : Bool} {st st' : PSt} (hks : KeysOK st.es) (h : endSchema b st = .ok st') : KeysOK st'.es := by
  rcases endSchema_es h with e | e <;> rw [e]
  · exact hks
  · exact hks.top_congr _ rfl

theorem visitRoot_ni_keys {env : Env} {h : Hooks} {T : Node → Prop} {d : DocKind}
    (he : EnvNI env) (hh : HooksNI P T h) (htr : EnvTrees T env) (hd : ∀ es, d = .schema (some es) → KeysOK es)
    {st : PSt} (hp : st.prefixes = []) (hks : KeysOK st.es) :
    ∀ n : Node, noImportSrc n = true → NIq P (visitElem env h d none st n) fun st' => KeysOK st'.es
  | .text _, _ => by
    rw [visitElem_text]
    exact Ends.ok hks
  | .elem t a c, hsrc => by
    obtain ⟨_, hc⟩ := noImportSrc_elem hsrc
    by_cases ht : t = d.topLevel
    · rw [visitElem_root_eq ht]
      cases d with
      | schema ext =>
        dsimp only
        have hext : ∀ es, ext = some es → KeysOK es := fun es hes => hd es (by rw [hes])
        refine Ends.bind (NIq.of_ni (startSchema_ni he hh htr hext) fun _ hs => startSchema_post hh htr hext hs) fun st1 hs => ?_
        obtain ⟨h1, ⟨x, h2⟩, h3⟩ := hs
        rw [hp] at h2
        have hc1 : CtxOK (.schema ext) t st1 := ⟨by rw [h2]; simp, .topS, by rw [ht]; rfl, h1⟩
        refine Ends.bind (visitChildren_niq he hh htr c t st1 hc1 h3 hc) fun st2 hpost => ?_
        have hf : st2.stack = [.schema] := by
          obtain ⟨_, pk, hpk, hf⟩ := hpost.ctx
          rw [ht] at hpk
          cases (show pkOfB false Gen.schemaTopLevel = some pk from hpk).symm.trans
            (show pkOfB false Gen.schemaTopLevel = some PK.topS from by decide)
          exact hf
        exact NIq.of_ni (endSchema_ni hf (hpost.prefixes.trans h2)) fun _ hv => endSchema_keys hpost.keys hv
      | component =>
        dsimp only
        refine Ends.bind (NIq.of_ni (pushPrefix_ni _ _) fun _ hs => pushPrefix_ok hs) fun st1 hs => ?_
        obtain ⟨x, rfl⟩ := hs
        have hc1 : CtxOK .component t { st with stack := [], prefixes := x :: st.prefixes } :=
          ⟨by simp, .topC, by rw [ht]; rfl, rfl⟩
        exact Ends.bind (visitChildren_niq he hh htr c t _ hc1 hks hc) fun st2 hpost => Ends.ok hpost.keys
    · rw [visitElem_root_other ht]
      exact Ends.error fun _ hs => nomatch hs

/-! ### nested documents -/

/-- the internal outcome that stands for Python's RecursionError: running out of fuel -/
def IsRecursion (e : String) : Prop := e = "RecursionError"

theorem hooks_ni {env : Env} (he : EnvNI env) (htr : EnvTrees NoSrc env) : ∀ fuel, HooksNI IsRecursion NoSrc (hooks env fuel)
  | 0 =>
    have out : ∀ e, (Except.error (.internal "RecursionError") : EM ES) = .error (.internal e) → IsRecursion e :=
      fun e h => by injection h with h; injection h with h; exact h.symm
    ⟨fun _ _ _ _ => ⟨out⟩, fun _ _ _ _ _ h => (nomatch h), fun _ _ _ _ => ⟨out⟩, fun _ _ _ _ _ h => (nomatch h)⟩
  | n + 1 => by
    have ih := hooks_ni he htr n
    have comp := fun es (hes : KeysOK es) tree (ht : NoSrc tree) =>
      visitRoot_ni_keys (d := .component) he ih htr (fun _ h => nomatch h) (st := { es := es }) rfl hes tree ht
    have base := fun es (hes : KeysOK es) tree (ht : NoSrc tree) =>
      visitRoot_ni_keys (d := .schema (some es)) he ih htr (fun _ h => by cases h; exact hes) (st := { es := es }) rfl hes
        tree ht
    refine ⟨fun es tree hes ht => NIx.map (comp es hes tree ht).ni, ?_, fun es tree hes ht => NIx.map (base es hes tree ht).ni, ?_⟩
    · intro es tree es' hes ht h
      obtain ⟨m, st', hm, hv, rfl⟩ := hooks_load_ok h
      cases hm
      exact (comp es hes tree ht).of_ok hv
    · intro es tree es' hes ht h
      obtain ⟨m, st', hm, hv, rfl⟩ := hooks_extend_ok h
      cases hm
      exact (base es hes tree ht).of_ok hv

theorem elabES_ni {env : Env} (he : EnvNI env) (htr : EnvTrees NoSrc env) (fuel : Nat) {t : Node} (hsrc : NoSrc t) :
    NIx IsRecursion (elabES env fuel t) :=
  NIx.map (visitRoot_ni_keys (d := .schema none) he (hooks_ni he htr fuel) htr (by intro es h; cases h)
    (st := { es := emptyES }) rfl KeysOK.emptyES t hsrc).ni

/-- **The only internal failure left is fuel exhaustion.**  If the datatype registry never raises for dotted names, key
    types reject with ValueError only and never turn a fixed name into `*` / `+`, and no document in reach uses
    `<import src=…>` (which the model does not cover), then whatever schema document is loaded, with base schemas and
    components nested to any depth, the only `internal` outcome the model can produce is `RecursionError`: a nested
    document reached with no fuel left.  (Hence every other failure is a `SchemaError`, `SchemaResourceError` or
    `DataConversionError`: `elab_errors_are_schema_errors`.) -/
theorem elab_internal_only_recursion (env : Env) (fuel : Nat) (t : Node) (e : String)
    (he : EnvNI env) (htr : EnvTrees NoSrc env) (hsrc : NoSrc t)
    (h : elabSchema env fuel t = .error (.internal e)) : e = "RecursionError" :=
  (NIx.map (f := ES.toSchema) (elabES_ni he htr fuel hsrc)).out e h

/-- **No internal errors**: under the hypotheses of `elab_internal_only_recursion`, when the fuel is not exhausted
    (no nested document is reached at fuel 0 — in Python: the chain of imports / extends does not exceed the recursion
    limit, in particular is not cyclic), loading a schema never fails with an exception outside the ZConfig family. -/
theorem elab_no_internal (env : Env) (fuel : Nat) (t : Node) (e : String)
    (he : EnvNI env) (htr : EnvTrees NoSrc env) (hsrc : NoSrc t)
    (hfuel : elabSchema env fuel t ≠ .error (.internal "RecursionError")) :
    elabSchema env fuel t ≠ .error (.internal e) := by
  intro h
  have := elab_internal_only_recursion env fuel t e he htr hsrc h
  subst this
  exact hfuel h

/-- **Every failure of the schema loader is an error of the ZConfig family**: the outcome is a schema, a `SchemaError`
    (`schema`), a `SchemaResourceError` (`schemaResource`), or a `DataConversionError` (`conversion`; it only arises from
    `computedefault`, for a `<default key=…>` of a `name="+"` key whose key the key type of the enclosing type rejects —
    see `convDefaultKey`, the only place of the model that produces it). -/
theorem elab_errors_are_schema_errors (env : Env) (fuel : Nat) (t : Node)
    (he : EnvNI env) (htr : EnvTrees NoSrc env) (hsrc : NoSrc t)
    (hfuel : elabSchema env fuel t ≠ .error (.internal "RecursionError")) :
    (∃ S, elabSchema env fuel t = .ok S) ∨ (∃ m, elabSchema env fuel t = .error (.schema m)) ∨
    (∃ m, elabSchema env fuel t = .error (.schemaResource m)) ∨ (∃ m, elabSchema env fuel t = .error (.conversion m)) := by
  cases h : elabSchema env fuel t with
  | ok S => exact Or.inl ⟨S, rfl⟩
  | error e =>
    cases e with
    | schema m => exact Or.inr (Or.inl ⟨m, rfl⟩)
    | schemaResource m => exact Or.inr (Or.inr (Or.inl ⟨m, rfl⟩))
    | conversion m => exact Or.inr (Or.inr (Or.inr ⟨m, rfl⟩))
    | internal m => exact absurd h (elab_no_internal env fuel t m he htr hsrc hfuel)

end ZCV.Elab
