import ZCV.Lemmas.LayoutLoad
import ZCV.Lemmas.IncludeGen
/-!
C06 at the level of the loader.  The value `Cfg.load` returns for a text (no `%import`, no overrides) is a FUNCTION OF THE EVENT
STREAM the parser delivers to the position-free recording context `rec0`: `evStack` replays a list of events on the tree builder's
stack (every position replaced by `pos0`); the tree-building context `treeCtx` is simulated by `rec0` (`evSim`: after the same
lines the tree builder's stack, positions erased, is `evStack` of the events recorded, and the tree builder accepts exactly when
`rec0` does); hence `treeOf`, positions erased, and the value of `load` factor through the outcome of the `rec0` parse
(`treeOf_events`, `load_value_events`; the schema's value ignores positions: `denote_erase`).  Every statement of the form "these
two texts give `rec0` the same events" therefore transfers to `load` with no new induction over the texts.
-/
namespace ZCV.Conf
open ZCV ZCV.Cfg

/-- one level of the tree builder's stack: type, name, items so far (most recent first) -/
abbrev Lvl := Str × Option Str × List Item

/-- what one event does to the tree builder's stack (positions are `pos0`) -/
def evStep (stk : List Lvl) : Ev0 → List Lvl
  | .start ty nm => (ty, nm, []) :: stk
  | .stop _ _ =>
    match stk with
    | (ty, nm, items) :: (pty, pnm, pitems) :: rest => (pty, pnm, Item.sect ty nm items.reverse :: pitems) :: rest
    | _ => stk
  | .value k v =>
    match stk with
    | (ty, nm, items) :: rest => (ty, nm, Item.kv k v pos0 :: items) :: rest
    | [] => []
  | .imp _ => stk

/-- the tree builder's stack after the events, starting from the empty document -/
def evStack (evs : List Ev0) : List Lvl := evs.foldl evStep [([], none, [])]

theorem evStack_snoc (evs : List Ev0) (e : Ev0) : evStack (evs ++ [e]) = evStep (evStack evs) e := by
  unfold evStack
  rw [List.foldl_append]
  rfl

/-- the tree (positions erased) a complete event stream describes -/
def itemsOfEvents (evs : List Ev0) : Option (List Item) :=
  match evStack evs with
  | [(_, _, items)] => some items.reverse
  | _ => none

/-- the configuration the schema defines for an event stream -/
def valueOfEvents (conv : Conv) (s : Schema) (evs : List Ev0) : Option Val :=
  (itemsOfEvents evs).bind (denote conv s)

/-- the tree builder's stack, positions erased, is what the events say; its height is that of the open sections + 1 -/
def EvR (F : List (Str × Option Str)) (evs : List Ev0) (tb : TB) : Prop :=
  tb.stack.map eraseLevel = evStack evs ∧ tb.stack.length = F.length + 1

theorem eraseItems_nil : eraseItems [] = [] := by rw [eraseItems]

theorem evSim : LineRel rec0 treeCtx NoImportLine EvR (fun _ => False) False True where
  canInc := rfl
  canDef := rfl
  dead := .of_false _ _
  deadX _ h := h.elim
  imp hl hs _ := absurd hs (hl _)
  start := by
    rintro l ty nm e F evs tb _ _ ⟨h1, h2⟩
    show EvR _ (evs ++ [Ev0.start ty nm]) ({ stack := (ty, nm, []) :: tb.stack } : TB)
    refine ⟨?_, ?_⟩
    · rw [evStack_snoc, ← h1]
      simp only [List.map_cons, eraseLevel, evStep, eraseItems_nil]
    · simp only [List.length_cons, h2]
  stop := by
    rintro l ty nm F evs tb _ _ ⟨h1, h2⟩
    show RelM _ _ _ (.ok (evs ++ [Ev0.stop ty nm])) (tbStop tb ty nm)
    unfold tbStop
    cases hst : tb.stack with
    | nil => rw [hst] at h2; simp at h2
    | cons x r =>
      cases r with
      | nil => rw [hst] at h2; simp at h2
      | cons y rest =>
        obtain ⟨ty1, nm1, its⟩ := x
        obtain ⟨pty, pnm, pits⟩ := y
        rw [hst] at h1 h2
        refine ⟨?_, ?_⟩
        · rw [evStack_snoc, ← h1]
          simp only [List.map_cons, eraseLevel, evStep, eraseItems_cons, eraseItem, eraseItems_reverse]
        · simp only [List.length_cons] at h2 ⊢
          omega
  value := by
    rintro l k raw v p p₂ F evs tb _ _ _ ⟨h1, h2⟩
    show RelM _ _ _ (.ok (evs ++ [Ev0.value k v])) (tbValue tb k v p₂)
    unfold tbValue
    cases hst : tb.stack with
    | nil => rw [hst] at h2; simp at h2
    | cons x rest =>
      obtain ⟨ty1, nm1, its⟩ := x
      rw [hst] at h1 h2
      refine ⟨?_, ?_⟩
      · rw [evStack_snoc, ← h1]
        simp only [List.map_cons, eraseLevel, evStep, eraseItems_cons, eraseItem]
      · simpa using h2

/-- the state in which the recording parse of a whole text starts -/
def recSt0 : PS (List Ev0) := { ctx := [], stack := [], defs := [] }

/-- the outcome of the recording parse of a whole text, as `load` would read it (fuel, active resources, line 0) -/
def recOutcome (env : Env) (url : Option Str) (lines : List Str) :
    Option (List Ev0 × List (Str × Str) × List (Str × Option Str)) :=
  outcome (parseLines 64 env rec0 (activeOf url) url lines 0 recSt0)

theorem itemsOfEvents_eq (evs : List Ev0) : itemsOfEvents evs = (tbFin ⟨evStack evs⟩).toOption := by
  unfold itemsOfEvents tbFin
  rcases evStack evs with _ | ⟨⟨_, _, _⟩, _ | _⟩ <;> rfl

/-- **the tree of a text, positions erased, is a function of the events**; and the tree builder rejects exactly the
    texts the recording parser rejects (texts without `%import`) -/
theorem treeOf_events (env : Env) (url : Option Str) (lines : List Str)
    (hni : ∀ l ∈ lines, NoImportLine l)
    (hres : ∀ u ls, env.res u = some ls → ∀ l ∈ ls, NoImportLine l) :
    (treeOf env url lines).toOption.map eraseItems = (recOutcome env url lines).bind (fun o => itemsOfEvents o.1) := by
  have hsim := parse_lineRel evSim env (fun _ _ _ _ _ _ => hres _ _) 64 (activeOf url) url url lines 0 0
    recSt0 { ctx := { stack := [([], none, [])] }, stack := [], defs := [] } [] (fun _ => rfl) .rfl' hni
    ⟨rfl, rfl, rfl, rfl⟩
  rw [treeOf_eq, toOption_bind, recOutcome, outcome_eq, Option.map_bind, Option.bind_map]
  refine (hsim.toOption_bind ?_).symm
  rintro psR psT _ _ ⟨⟨_, _, hstk, _⟩, _⟩
  show itemsOfEvents psR.ctx = ((tbFin psT.ctx).toOption).map eraseItems
  rw [itemsOfEvents_eq, ← hstk, ← toOption_map, tbFin_erase]
  rfl

/-- **the configuration `load` returns is a function of the events** the parser delivers (and of nothing else in the
    text): `load` accepts iff the recording parse does and the schema gives the event stream a value, and then returns that
    value.  Texts without `%import` (here and in everything that can be included), no overrides, any `schemaOK` schema. -/
theorem load_value_events (conv : Conv) (env : Env) (pkgs : Str → Pkg) (s : Schema) (url : Option Str) (lines : List Str)
    (hs : schemaOK s = true)
    (hni : ∀ l ∈ lines, NoImportLine l)
    (hres : ∀ u ls, env.res u = some ls → ∀ l ∈ ls, NoImportLine l) :
    (load conv env pkgs s url lines []).toOption.map (·.value) =
      (recOutcome env url lines).bind (fun o => valueOfEvents conv s o.1) := by
  rw [load_eq_denote conv env pkgs s url lines hs hni hres]
  unfold valueOfEvents
  rw [← Option.bind_assoc, ← treeOf_events env url lines hni hres]
  cases treeOf env url lines with
  | error e => rfl
  | ok items => exact (denote_erase conv s items).symm

theorem load_value_congr (conv : Conv) (env : Env) (pkgs : Str → Pkg) (s : Schema) (url : Option Str) (L L' : List Str)
    (hs : schemaOK s = true)
    (hni : ∀ l ∈ L, NoImportLine l) (hni' : ∀ l ∈ L', NoImportLine l)
    (hres : ∀ u ls, env.res u = some ls → ∀ l ∈ ls, NoImportLine l)
    (h : recOutcome env url L = recOutcome env url L') :
    (load conv env pkgs s url L []).toOption.map (·.value) = (load conv env pkgs s url L' []).toOption.map (·.value) := by
  rw [load_value_events conv env pkgs s url L hs hni hres, load_value_events conv env pkgs s url L' hs hni' hres, h]

theorem load_rejected_iff_of_value_eq {x y : M LoadResult}
    (h : x.toOption.map (·.value) = y.toOption.map (·.value)) : (∃ e, x = .error e) ↔ (∃ e, y = .error e) :=
  (error_iff_none h).trans (error_iff_none rfl).symm

theorem recOutcome_of_load_ok (conv : Conv) (env : Env) (pkgs : Str → Pkg) (s : Schema) (url : Option Str) (lines : List Str)
    (r : LoadResult) (hs : schemaOK s = true)
    (hni : ∀ l ∈ lines, NoImportLine l)
    (hres : ∀ u ls, env.res u = some ls → ∀ l ∈ ls, NoImportLine l)
    (h : load conv env pkgs s url lines [] = .ok r) :
    ∃ ps, parseLines 64 env rec0 (activeOf url) url lines 0 recSt0 = .ok ps := by
  have := load_value_events conv env pkgs s url lines hs hni hres
  rw [h] at this
  unfold recOutcome at this
  cases hp : parseLines 64 env rec0 (activeOf url) url lines 0 recSt0 with
  | ok ps => exact ⟨ps, rfl⟩
  | error e => rw [hp] at this; cases this

/-! ### the two texts of C06 contain no `%import` when their parts do not -/

theorem noImport_of_include (inc arg : Str) (h : lineShape (strip inc) = .include_ arg) : NoImportLine inc := by
  intro a ha
  rw [h] at ha
  cases ha

theorem noImport_include_text (A B : List Str) (inc arg : Str) (h : lineShape (strip inc) = .include_ arg)
    (hA : ∀ l ∈ A, NoImportLine l) (hB : ∀ l ∈ B, NoImportLine l) : ∀ l ∈ A ++ [inc] ++ B, NoImportLine l := by
  intro l hl
  simp only [List.mem_append, List.mem_singleton] at hl
  rcases hl with (hl | hl) | hl
  · exact hA l hl
  · subst hl; exact noImport_of_include l arg h
  · exact hB l hl

theorem noImport_inline_text (A F B : List Str)
    (hA : ∀ l ∈ A, NoImportLine l) (hF : ∀ l ∈ F, NoImportLine l) (hB : ∀ l ∈ B, NoImportLine l) :
    ∀ l ∈ A ++ F ++ B, NoImportLine l := by
  intro l hl
  simp only [List.mem_append] at hl
  rcases hl with (hl | hl) | hl
  · exact hA l hl
  · exact hF l hl
  · exact hB l hl

/-! ### `%include` = textual inclusion, for `load` -/

section inline
variable (conv : Conv) (env : Env) (pkgs : Str → Pkg) (s : Schema) (url : Option Str) (A F B : List Str) (inc arg u : Str)
  (hs : schemaOK s = true)
  (hniA : ∀ l ∈ A, NoImportLine l) (hniB : ∀ l ∈ B, NoImportLine l)
  (hresNI : ∀ u ls, env.res u = some ls → ∀ l ∈ ls, NoImportLine l)
  (hshape : lineShape (strip inc) = .include_ arg)
  (hfile : env.res u = some F)
include hs hniA hniB hresNI hshape hfile

theorem load_include_of_outcome
    (h : recOutcome env url (A ++ [inc] ++ B) = recOutcome env url (A ++ F ++ B)) :
    (load conv env pkgs s url (A ++ [inc] ++ B) []).toOption.map (·.value) =
      (load conv env pkgs s url (A ++ F ++ B) []).toOption.map (·.value) :=
  load_value_congr conv env pkgs s url _ _ hs (noImport_include_text A B inc arg hshape hniA hniB)
    (noImport_inline_text A F B hniA (hresNI u F hfile) hniB) hresNI h

theorem load_include_eq_inline_subst
    (hprep : ∀ sA, runLines 64 env rec0 (activeOf url) url A 0 recSt0 = .ok sA →
      ∃ a, replace env sA.defs url (A.length + 1) (strip arg) = .ok a ∧ env.resolve url a = .url u)
    (hact : u ∉ activeOf url)
    (hbal : Balanced F) (hni : NoInclude F) :
    (load conv env pkgs s url (A ++ [inc] ++ B) []).toOption.map (·.value) =
      (load conv env pkgs s url (A ++ F ++ B) []).toOption.map (·.value) := by
  apply load_include_of_outcome conv env pkgs s url A F B inc arg u hs hniA hniB hresNI hshape hfile
  exact incgen_inline_subst 63 env (activeOf url) url A F B inc arg u 0 recSt0 hshape
    (fun sA h => by rw [Nat.zero_add]; exact hprep sA h) hfile hact hbal hni

theorem load_include_eq_inline
    (hnodollar : '$' ∉ strip arg)
    (hres : env.resolve url (strip arg) = .url u)
    (hact : u ∉ activeOf url)
    (hbal : Balanced F) (hni : NoInclude F) :
    (load conv env pkgs s url (A ++ [inc] ++ B) []).toOption.map (·.value) =
      (load conv env pkgs s url (A ++ F ++ B) []).toOption.map (·.value) :=
  load_include_eq_inline_subst conv env pkgs s url A F B inc arg u hs hniA hniB hresNI hshape hfile
    (fun _ _ => ⟨strip arg, replace_nodollar _ _ _ _ _ hnodollar, hres⟩) hact hbal hni

theorem load_include_eq_inline_nested
    (hprep : ∀ sA, runLines 64 env rec0 (activeOf url) url A 0 recSt0 = .ok sA →
      ∃ a, replace env sA.defs url (A.length + 1) (strip arg) = .ok a ∧ env.resolve url a = .url u)
    (hact : u ∉ activeOf url)
    (hbal : Balanced F)
    (hrel : ∀ l ∈ F, ∀ arg', lineShape (strip l) = .include_ arg' → ∀ a, env.resolve (some u) a = env.resolve url a)
    (hnl : incgenNoLimit (parseLines 64 env rec0 (activeOf url) url (A ++ [inc] ++ B) 0 recSt0)) :
    (load conv env pkgs s url (A ++ [inc] ++ B) []).toOption.map (·.value) =
      (load conv env pkgs s url (A ++ F ++ B) []).toOption.map (·.value) := by
  apply load_include_of_outcome conv env pkgs s url A F B inc arg u hs hniA hniB hresNI hshape hfile
  exact incgen_inline_nested 63 env (activeOf url) url A F B inc arg u 0 recSt0 hshape
    (fun sA h => by rw [Nat.zero_add]; exact hprep sA h) hfile hact hbal hrel hnl

/-- if the text with the `%include` line is accepted by `load`, the inlined text is accepted with the same configuration -/
theorem load_include_eq_inline_nested_ok (r : LoadResult)
    (hprep : ∀ sA, runLines 64 env rec0 (activeOf url) url A 0 recSt0 = .ok sA →
      ∃ a, replace env sA.defs url (A.length + 1) (strip arg) = .ok a ∧ env.resolve url a = .url u)
    (hact : u ∉ activeOf url)
    (hbal : Balanced F)
    (hrel : ∀ l ∈ F, ∀ arg', lineShape (strip l) = .include_ arg' → ∀ a, env.resolve (some u) a = env.resolve url a)
    (hok : load conv env pkgs s url (A ++ [inc] ++ B) [] = .ok r) :
    (load conv env pkgs s url (A ++ F ++ B) []).toOption.map (·.value) = some r.value := by
  obtain ⟨ps, hps⟩ := recOutcome_of_load_ok conv env pkgs s url _ r hs
    (noImport_include_text A B inc arg hshape hniA hniB) hresNI hok
  rw [← load_include_eq_inline_nested conv env pkgs s url A F B inc arg u hs hniA hniB hresNI hshape hfile hprep hact hbal hrel
    (by rw [hps]; exact incgenNoLimit_ok _), hok]
  rfl

/-- from the inlined text: if, read with `u` counted among the resources being read and one unit of fuel less, the inlined
    text meets neither the recursion limit nor an include cycle, the two texts are loaded alike -/
theorem load_include_eq_inline_nested_rev
    (hprep : ∀ sA, runLines 63 env rec0 (u :: activeOf url) url A 0 recSt0 = .ok sA →
      ∃ a, replace env sA.defs url (A.length + 1) (strip arg) = .ok a ∧ env.resolve url a = .url u)
    (hact : u ∉ activeOf url)
    (hbal : Balanced F)
    (hrel : ∀ l ∈ F, ∀ arg', lineShape (strip l) = .include_ arg' → ∀ a, env.resolve (some u) a = env.resolve url a)
    (hnl : incgenNoLimit (parseLines 63 env rec0 (u :: activeOf url) url (A ++ F ++ B) 0 recSt0)) :
    (load conv env pkgs s url (A ++ [inc] ++ B) []).toOption.map (·.value) =
      (load conv env pkgs s url (A ++ F ++ B) []).toOption.map (·.value) := by
  apply load_include_of_outcome conv env pkgs s url A F B inc arg u hs hniA hniB hresNI hshape hfile
  have hsub : ∀ w, w ∈ activeOf url → w ∈ u :: activeOf url := fun w hw => List.mem_cons.2 (.inr hw)
  have h1 := incgen_inline_nested_rev 62 env (activeOf url) url A F B inc arg u 0 recSt0 hshape
    (fun sA h => by rw [Nat.zero_add]; exact hprep sA h) hfile hact hbal hrel hnl
  have h64 := incgen_mono env rec0 63 64 (u :: activeOf url) (activeOf url) url (A ++ F ++ B) 0 recSt0 (by omega) hsub hnl
  have h63 := incgen_mono env rec0 63 63 (u :: activeOf url) (activeOf url) url (A ++ F ++ B) 0 recSt0 (by omega) hsub hnl
  unfold recOutcome
  rw [h64, ← h63]
  exact h1

end inline

end ZCV.Conf
