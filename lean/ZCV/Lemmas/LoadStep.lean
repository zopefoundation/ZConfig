import ZCV.Lemmas.LoadInv
import ZCV.Lemmas.Ends
/-!
Step 2 of `loadTree_eq_denote`, continued: a step of the loader keeps the invariant of `LoadInv.lean` — the matcher is
`mk kl secs` and the history `kl`, `secs` is `Good` — or refuses, and then the longer history is not `Good`.  Each step
lemma is an `Ends` statement saying exactly that.  A key line (`kv_step`) and a closed section (`sect_step`) are the two
cases of `child_step`: one child takes one more entry, the others see what they saw.  What happens in the slot is
`keySlot_step` / `sectSlot_step`; what the loader checks before it reaches the slot (`chk1` for a key, the section names
for a section) is the rest of the two proofs.
-/
namespace ZCV.Conf
open ZCV ZCV.Cfg

/-! ### reading and writing a slot of `mk` -/

theorem find_attr (f : Option Str × Info → Slot) (c0 : Option Str × Info) : ∀ (l : List (Option Str × Info)),
    (l.map (·.2.attr)).Nodup → c0 ∈ l →
    (l.map (fun c => (c.2.attr, f c))).find? (·.1 == c0.2.attr) = some (c0.2.attr, f c0) := by
  intro l
  induction l with
  | nil => intro _ h; cases h
  | cons x l ih =>
    intro hn hm
    simp only [List.map_cons, List.nodup_cons] at hn
    simp only [List.map_cons, List.find?_cons]
    by_cases he : (x.2.attr == c0.2.attr) = true
    · simp only [he]
      have : x = c0 := by
        rcases List.mem_cons.mp hm with h | hm'
        · exact h.symm
        · exfalso
          apply hn.1
          rw [beq_iff_eq.mp he]
          exact List.mem_map_of_mem hm'
      rw [this]
    · simp only [he]
      apply ih hn.2
      rcases List.mem_cons.mp hm with h | hm'
      · exfalso; apply he; rw [h]; exact beq_self_eq_true _
      · exact hm'

theorem getSlot_mk (s : Schema) (t : SType) (nm : Option Str) (kl : List (Option Str × VI)) (secs : List SecR)
    (hT : STypeOK t) (c0 : Option Str × Info) (hc : c0 ∈ t.children) :
    getSlot (mk s t nm kl secs) c0.2.attr = some (slotFn s t c0 kl secs) := by
  unfold getSlot mk
  simp only
  rw [find_attr _ c0 _ hT.attrs hc]
  rfl

theorem attr_inj (s : Schema) (t : SType) (hT : STypeOK t) (c c0 : Option Str × Info) (hc : c ∈ t.children)
    (hc0 : c0 ∈ t.children) (h : c.2.attr = c0.2.attr) : c = c0 :=
  nodup_map_inj (fun c : Option Str × Info => c.2.attr) _ hT.attrs c hc c0 hc0 h

theorem setSlot_mk (s : Schema) (t : SType) (nm : Option Str) (kl kl' : List (Option Str × VI)) (secs secs' : List SecR)
    (hT : STypeOK t) (c0 : Option Str × Info) (hc0 : c0 ∈ t.children) (new : Slot) (used : List Str)
    (h0 : slotFn s t c0 kl' secs' = new)
    (hother : ∀ c ∈ t.children, c.2.attr ≠ c0.2.attr → slotFn s t c kl' secs' = slotFn s t c kl secs)
    (hu : secNames secs' = used) :
    setSlot { mk s t nm kl secs with used := used } c0.2.attr new = mk s t nm kl' secs' := by
  unfold setSlot mk
  simp only [List.map_map, hu, Matcher.mk.injEq, true_and, and_true]
  apply List.map_congr_left
  intro c hc
  simp only [Function.comp]
  by_cases h : c.2.attr = c0.2.attr
  · have := attr_inj s t hT c c0 hc hc0 h
    subst this
    simp [h0]
  · simp [h, hother c hc h]

/-- **one child takes one more entry.**  A step on the slot of child `c0` that yields its slot under the longer history
    `kl'`, `secs'`, or finds `c0` overfilled by it, and is written back, yields the matcher of the longer history, provided the
    other children see in the longer history what they saw before.  A key line and a closed section are its two cases. -/
theorem child_step (s : Schema) (t : SType) (nm : Option Str) {kl kl' : List (Option Str × VI)} {secs secs' : List SecR}
    {subs subs' : List Sub} (hT : STypeOK t) (c0 : Option Str × Info) (hc0 : c0 ∈ t.children)
    (hover : ∀ c ∈ t.children, noOver s t c kl subs = true)
    (hother : ∀ c ∈ t.children, c.2.attr ≠ c0.2.attr →
      slotFn s t c kl' secs' = slotFn s t c kl secs ∧ noOver s t c kl' subs' = noOver s t c kl subs)
    {x : M Slot}
    (hx : Ends x (fun sl => sl = slotFn s t c0 kl' secs' ∧ noOver s t c0 kl' subs' = true)
      (fun _ => noOver s t c0 kl' subs' = false)) :
    Ends (x.map (setSlot { mk s t nm kl secs with used := secNames secs' } c0.2.attr))
      (fun m' => m' = mk s t nm kl' secs' ∧ ∀ c ∈ t.children, noOver s t c kl' subs' = true)
      (fun _ => noOver s t c0 kl' subs' = false) := by
  refine (hx.weaken fun sl ⟨hsl, hov⟩ => ⟨?_, fun c hc => ?_⟩).map
  · exact setSlot_mk s t nm kl kl' secs secs' hT c0 hc0 sl _ hsl.symm (fun c hc hne => (hother c hc hne).1) rfl
  · by_cases hne : c.2.attr = c0.2.attr
    · rw [attr_inj s t hT c c0 hc hc0 hne]
      exact hov
    · rw [(hother c hc hne).2]
      exact hover c hc

theorem not_good_of_over {s : Schema} {t : SType} {kl : List (Option Str × VI)} {subs : List Sub} {c : Option Str × Info}
    (hc : c ∈ t.children) (h : noOver s t c kl subs = false) : ¬ Good s t kl subs :=
  fun hg => Bool.false_ne_true (h ▸ hg.over c hc)

/-! ### a key line -/

theorem any_fst_eq {β} (rs : List (Str × β)) (rk : Str) : rs.any (·.1 == rk) = (rs.map (·.1)).contains rk := by
  induction rs with
  | nil => rfl
  | cons a l ih =>
    have : (a.1 == rk) = (rk == a.1) := by
      rw [Bool.eq_iff_iff]; simp only [beq_iff_eq]; exact eq_comm
    simp only [List.any_cons, List.map_cons, List.contains_cons, ih, this]

theorem nodupB_snoc_iff (l : List Str) (x : Str) : nodupB (l ++ [x]) = true ↔ nodupB l = true ∧ x ∉ l := by
  rw [nodupB_iff, nodupB_iff, List.nodup_append]
  constructor
  · intro ⟨h1, _, h3⟩
    exact ⟨h1, fun hx => h3 x hx x (List.mem_singleton.mpr rfl) rfl⟩
  · intro ⟨h1, h2⟩
    refine ⟨h1, by simp, ?_⟩
    intro a ha b hb hab
    rw [List.mem_singleton.mp hb] at hab
    exact h2 (hab ▸ ha)

theorem nodupB_snoc (l : List Str) (x : Str) : nodupB (l ++ [x]) = (nodupB l && !l.contains x) := by
  rw [Bool.eq_iff_iff, nodupB_snoc_iff]
  simp

theorem groupKeys_snoc (rs : List (Str × VI)) (rk : Str) (vi : VI) :
    groupKeys (rs ++ [(rk, vi)]) =
      if (groupKeys rs).any (·.1 == rk) then (groupKeys rs).map (fun p => if p.1 == rk then (p.1, p.2 ++ [vi]) else p)
      else groupKeys rs ++ [(rk, [vi])] := by
  unfold groupKeys
  rw [List.foldl_append]
  rfl

/-- the heart for keys: the slot update is the slot of the extended list, or the extended list overfills the child -/
theorem keySlot_step (ki : KeyInfo) (rs : List (Str × VI)) (rk : Str) (vi : VI) (hov : keyOver ki rs = true) :
    Ends (slotStep ki (ki.name == ['+']) rk vi (keySlot ki rs))
      (fun sl => sl = keySlot ki (rs ++ [(rk, vi)]) ∧ keyOver ki (rs ++ [(rk, vi)]) = true)
      (fun _ => keyOver ki (rs ++ [(rk, vi)]) = false) := by
  unfold keySlot keyOver at *
  by_cases hp : (ki.name == ['+']) = true
  · by_cases hm : ki.multi = true
    · simp only [hp, hm, if_true, slotStep, groupKeys_snoc]
      exact .ite (fun ha => .ok ⟨by rw [if_pos ha], trivial⟩) fun ha => .ok ⟨by rw [if_neg ha], trivial⟩
    · simp only [hp, hm, if_true, if_false, Bool.false_eq_true, slotStep, any_fst_eq, List.map_append,
        List.map_cons, List.map_nil, nodupB_snoc] at hov ⊢
      refine .ite (fun ha => .error (by rw [ha]; simp)) fun ha => .ok ⟨rfl, ?_⟩
      simpa [hov] using ha
  · by_cases hm : ki.multi = true
    · simp only [hp, hm, if_true, if_false, Bool.false_eq_true, slotStep, List.map_append, List.map_cons, List.map_nil]
      exact .ok ⟨rfl, trivial⟩
    · simp only [hp, hm, if_false, Bool.false_eq_true, decide_eq_true_eq] at hov ⊢
      match rs, hov with
      | [], _ => simp only [slotStep, hm, Bool.false_eq_true, if_false]; exact .ok ⟨rfl, by simp⟩
      | [x], _ =>
        simp only [slotStep, hm, Bool.not_false, if_true]
        exact .error (by simp)
      | x :: y :: l, h => simp at h

theorem route_mem (ch : List (Option Str × Info)) (rk : Str) (c : Option Str × Info) (h : route ch rk = some c) :
    c ∈ ch := by
  unfold route at h
  split at h
  · rename_i c' hf
    cases h
    exact List.mem_of_find?_eq_some hf
  · exact (List.mem_filter.mp (List.mem_of_getLast? h)).1

theorem routed_snoc_some (ch : List (Option Str × Info)) (c : Option Str × Info) (kl : List (Option Str × VI))
    (rk : Str) (vi : VI) (c0 : Option Str × Info) (hr : route ch rk = some c0) :
    routed ch c (kl ++ [(some rk, vi)]) = routed ch c kl ++ (if c0.2.attr == c.2.attr then [(rk, vi)] else []) := by
  rw [routed_append]
  congr 1
  simp only [routed, List.filterMap_cons, List.filterMap_nil, hr]
  by_cases h : (c0.2.attr == c.2.attr) = true
  · simp only [h, if_true]
  · simp only [h, if_false, Bool.false_eq_true]

theorem routed_snoc_none (ch : List (Option Str × Info)) (c : Option Str × Info) (kl : List (Option Str × VI))
    (vi : VI) : routed ch c (kl ++ [(none, vi)]) = routed ch c kl := by
  rw [routed_append]
  simp [routed]

theorem routed_snoc_self (ch : List (Option Str × Info)) (kl : List (Option Str × VI)) (rk : Str) (vi : VI)
    (c0 : Option Str × Info) (hr : route ch rk = some c0) :
    routed ch c0 (kl ++ [(some rk, vi)]) = routed ch c0 kl ++ [(rk, vi)] := by
  rw [routed_snoc_some ch c0 kl rk vi c0 hr, if_pos (beq_iff_eq.mpr rfl)]

theorem routed_snoc_other (ch : List (Option Str × Info)) (c : Option Str × Info) (kl : List (Option Str × VI)) (rk : Str)
    (vi : VI) (c0 : Option Str × Info) (hr : route ch rk = some c0) (hne : c.2.attr ≠ c0.2.attr) :
    routed ch c (kl ++ [(some rk, vi)]) = routed ch c kl := by
  rw [routed_snoc_some ch c kl rk vi c0 hr, if_neg (fun h => hne (beq_iff_eq.mp h).symm), List.append_nil]

/-- key lines that child `c` does not receive leave what `c` sees as it was -/
theorem kv_other (s : Schema) (t : SType) (c : Option Str × Info) (kl kl' : List (Option Str × VI)) (secs : List SecR)
    (subs : List Sub) (h : routed t.children c kl' = routed t.children c kl) :
    slotFn s t c kl' secs = slotFn s t c kl secs ∧ noOver s t c kl' subs = noOver s t c kl subs := by
  unfold slotFn noOver
  cases c.2 <;> simp only [h, and_self]

theorem chk1_snoc (t : SType) (kl : List (Option Str × VI)) (e : Option Str × VI) :
    chk1 t (kl ++ [e]) = (chk1 t kl && chk1 t [e]) := by
  unfold chk1
  rw [List.all_append]

theorem Good.last_key {s : Schema} {t : SType} {kl : List (Option Str × VI)} {e : Option Str × VI} {subs : List Sub}
    (h : Good s t (kl ++ [e]) subs) : chk1 t [e] = true := by
  have := h.c1
  rw [chk1_snoc, Bool.and_eq_true] at this
  exact this.2

/-- **one key line** against the invariant: refused where `chk1` fails on it, else `child_step` for the child it routes to -/
theorem kv_step (conv : Conv) (s : Schema) (t : SType) (nm : Option Str) (kl : List (Option Str × VI))
    (secs : List SecR) (hT : STypeOK t) (subs : List Sub) (hg : Good s t kl subs) (k v : Str) (p : Pos) :
    Ends (addValue conv (mk s t nm kl secs) k v p)
      (fun m' => m' = mk s t nm (kl ++ [((conv.key t.keytype k).toOption, { value := v, pos := p })]) secs ∧
        Good s t (kl ++ [((conv.key t.keytype k).toOption, { value := v, pos := p })]) subs)
      (fun _ => ¬ Good s t (kl ++ [((conv.key t.keytype k).toOption, { value := v, pos := p })]) subs) := by
  unfold addValue
  rw [show (mk s t nm kl secs).ty = t from rfl, show (mk s t nm kl secs).bag = none from rfl]
  cases hk : conv.key t.keytype k with
  | error e => exact fun h => by simpa [chk1] using h.last_key
  | ok rk =>
    simp only [toOption_ok]
    rw [addValueCore_eq, show (mk s t nm kl secs).ty = t from rfl]
    cases hr : route t.children rk with
    | none => exact fun h => by simpa [chk1, hr] using h.last_key
    | some c0 =>
      have hc0 := route_mem _ _ _ hr
      obtain ⟨k0, ci⟩ := c0
      cases ci with
      | sect si => exact fun h => by simpa [chk1, hr, Info.isSection] using h.last_key
      | key ki =>
        simp only
        generalize ({ value := v, pos := p } : VI) = vi
        have hk0 : k0 = some ki.name := (hT.shape _ hc0).2.2 ki rfl
        rw [show ki.attr = (k0, Info.key ki).2.attr from rfl, getSlot_mk s t nm kl secs hT _ hc0,
          show (k0 == some ['+']) = (ki.name == ['+']) by rw [hk0]; simp]
        have hslot := keySlot_step ki (routed t.children (k0, .key ki) kl) rk vi (hg.over _ hc0)
        rw [← routed_snoc_self t.children kl rk vi _ hr] at hslot
        refine (child_step s t nm (subs := subs) (subs' := subs) hT (k0, .key ki) hc0 hg.over
          (fun c _ hne => kv_other s t c kl _ secs subs (routed_snoc_other t.children c kl rk vi _ hr hne)) hslot).mono
          (fun m' ⟨hm, hov⟩ => ⟨hm, ?_, hg.c2, hg.c3, hov⟩) fun _ => not_good_of_over hc0
        rw [chk1_snoc, hg.c1]
        simp [chk1, hr, Info.isSection]

/-! ### a closed section -/

theorem subNames_map (conv : Conv) (s : Schema) (secs : List SecR) :
    subNames (secs.map (toSub conv s)) = secNames secs := by
  induction secs with
  | nil => rfl
  | cons r l ih =>
    unfold subNames secNames at *
    rw [List.map_cons, List.filterMap_cons, List.flatMap_cons, ih]
    simp only [toSub, newName]
    cases r.nm with
    | none => rfl
    | some n => cases n <;> rfl

theorem secNames_snoc (secs : List SecR) (r : SecR) : secNames (secs ++ [r]) = secNames secs ++ newName r.nm := by
  simp [secNames, List.flatMap_append]

theorem filter_toSub (conv : Conv) (s : Schema) (t : SType) (a : Str) (secs : List SecR) :
    (secs.map (toSub conv s)).filter (fun sb => owned s t a sb.ty sb.nm) =
      (secs.filter (fun r => owned s t a r.ty r.nm)).map (toSub conv s) := by
  rw [List.filter_map]
  rfl

theorem filter_snoc {α} (p : α → Bool) (l : List α) (x : α) :
    (l ++ [x]).filter p = l.filter p ++ (if p x then [x] else []) := by
  rw [List.filter_append]
  congr 1
  by_cases h : p x = true <;> simp [h]

theorem chk3'_snoc (s : Schema) (t : SType) (subs : List Sub) (sb : Sub) :
    chk3' s t (subs ++ [sb]) = (chk3' s t subs && chk3' s t [sb]) := by
  unfold chk3'
  rw [List.all_append]

theorem nodupB_append_newName (l : List Str) (nm : Option Str) :
    nodupB (l ++ newName nm) = (nodupB l && !(newName nm).any (fun n => l.contains n)) := by
  unfold newName
  cases nm with
  | none => simp
  | some n =>
    by_cases hn : (n != []) = true
    · simp only [hn, if_true, nodupB_snoc, List.any_cons, List.any_nil, Bool.or_false]
    · simp [hn]

/-- the heart for sections: the slot update is the slot of the extended list, or the extended list overfills the child -/
theorem sectSlot_step (si : SectInfo) (mine : List SecR) (r : SecR) :
    Ends (sectStep si r.raw (sectSlot si mine))
      (fun sl => sl = sectSlot si (mine ++ [r]) ∧ sectOver si (mine.length + 1) = true)
      (fun _ => sectOver si (mine.length + 1) = false) := by
  unfold sectSlot sectOver
  by_cases hm : si.multi = true
  · simp only [hm, if_true, sectStep, List.map_append, List.map_cons, List.map_nil, Bool.true_or]
    exact .ok ⟨rfl, trivial⟩
  · match mine with
    | [] => simp only [hm, if_false, Bool.false_eq_true, sectStep]; exact .ok ⟨rfl, by simp⟩
    | r0 :: rest => simp only [hm, if_false, Bool.false_eq_true, sectStep]; exact .error (by simp)

/-- a section that child `c` does not own leaves what `c` sees as it was -/
theorem sect_other (conv : Conv) (s : Schema) (t : SType) (c : Option Str × Info) (kl : List (Option Str × VI))
    (secs : List SecR) (r : SecR) (h : ∀ si, c.2 = .sect si → owned s t si.attr r.ty r.nm = false) :
    slotFn s t c kl (secs ++ [r]) = slotFn s t c kl secs ∧
      noOver s t c kl ((secs ++ [r]).map (toSub conv s)) = noOver s t c kl (secs.map (toSub conv s)) := by
  unfold slotFn noOver
  cases hc : c.2 with
  | key ki => exact ⟨rfl, rfl⟩
  | sect si => simp only [filter_toSub, filter_snoc, h si hc, Bool.false_eq_true, if_false, List.append_nil, and_self]

/-- **one closed section** against the invariant: refused where its name is taken, else `child_step` for the child that
    owns it -/
theorem sect_step (conv : Conv) (s : Schema) (t : SType) (nm : Option Str) (kl : List (Option Str × VI))
    (secs : List SecR) (hT : STypeOK t) (hg : Good s t kl (secs.map (toSub conv s))) (r : SecR) (ci : SectInfo)
    (hgi : getsectioninfo s t r.ty r.nm = .ok ci)
    (hc3 : (nameOK ci r.nm && (r.nm.isSome || ci.name == ['*']) && !isAbs s r.ty) = true) :
    Ends (addSection s (mk s t nm kl secs) r.ty r.nm r.raw)
      (fun m' => m' = mk s t nm kl (secs ++ [r]) ∧ Good s t kl ((secs ++ [r]).map (toSub conv s)))
      (fun _ => ¬ Good s t kl ((secs ++ [r]).map (toSub conv s))) := by
  have hslot : slotOf s t r.ty r.nm = some ci := by
    rw [← getsectioninfo_eq_slotOf s t r.ty r.nm hT, hgi]; rfl
  obtain ⟨k, hc0⟩ := slotOf_mem _ _ _ _ _ hslot
  have hc2 : nodupB (subNames ((secs ++ [r]).map (toSub conv s))) =
      (nodupB (secNames secs) && !(newName r.nm).any (fun n => (secNames secs).contains n)) := by
    rw [subNames_map, secNames_snoc, nodupB_append_newName]
  rw [addSection_split, addSectionName_eq, show (mk s t nm kl secs).used = secNames secs from rfl]
  by_cases hclash : (newName r.nm).any (fun n => (secNames secs).contains n) = true
  · rw [if_pos hclash]
    intro h
    have := h.c2
    rw [hc2, hclash] at this
    simp at this
  · rw [if_neg hclash, ok_bind]
    unfold addSectionPlace
    -- the name bookkeeping has touched `used` only: the slot is read from the matcher as it was
    simp only [getSlot_used]
    rw [show ({ mk s t nm kl secs with used := secNames secs ++ newName r.nm } : Matcher).ty = t from rfl, hgi, ok_bind,
      show ci.attr = (k, Info.sect ci).2.attr from rfl, getSlot_mk s t nm kl secs hT _ hc0, ← secNames_snoc]
    have hown : owned s t ci.attr r.ty r.nm = true := by simp [owned, hslot]
    refine (child_step s t nm (subs := secs.map (toSub conv s)) (subs' := (secs ++ [r]).map (toSub conv s)) hT
      (k, .sect ci) hc0 hg.over (fun c _ hne => sect_other conv s t c kl secs r fun si hsi => ?_) ?_).mono
      (fun m' ⟨hm, hov⟩ => ⟨hm, hg.c1, ?_, ?_, hov⟩) fun _ => not_good_of_over hc0
    · simp only [owned, hslot, beq_eq_false_iff_ne]
      exact fun h => hne (by rw [hsi]; exact h.symm)
    · simp only [slotFn, noOver, filter_toSub, List.length_map, filter_snoc, hown, if_true, List.length_append,
        List.length_singleton]
      exact sectSlot_step ci _ r
    · have h2 := hg.c2
      rw [subNames_map] at h2
      rw [hc2, h2, Bool.eq_false_iff.mpr hclash]
      rfl
    · rw [List.map_append, List.map_singleton, chk3'_snoc, hg.c3]
      simp only [chk3', List.all_cons, List.all_nil, toSub, hslot, Bool.and_true, Bool.true_and]
      exact hc3

end ZCV.Conf
