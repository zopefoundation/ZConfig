import ZCV.Model.Regex
/-! The backtracking semantics `Rx.m`.  What holds of every pattern (no result lengthens the text; the remainders do not depend on the
    captures); the first match of the greedy star over a class and of `[k1][k2]*`; ALL results of such a repetition (`runs`), needed
    where a pattern has to fail after backtracking through every shorter repetition; and the matcher without captures (`dt2mr`): whether
    `rx.match(v)` consumed all of `v` does not depend on the captures, so a pattern whose groups are never read (`ipaddr-or-hostname`)
    is analysed there. -/
namespace ZCV.Rx

theorem head_flatMap {α β} {l : List α} {f : α → List β} {x : α} {y : β}
    (hl : l.head? = some x) (hf : (f x).head? = some y) : (l.flatMap f).head? = some y := by
  cases l with
  | nil => simp at hl
  | cons a as =>
    simp at hl; subst hl
    cases hfa : f a with
    | nil => simp [hfa] at hf
    | cons b bs => simp [hfa] at hf; subst hf; simp [List.flatMap_cons, hfa]

theorem head_append {α} {l l' : List α} {y : α} (h : l.head? = some y) : (l ++ l').head? = some y := by
  cases l with
  | nil => simp at h
  | cons a as => simpa using h

theorem len_take_drop {α} (p : α → Bool) (t : List α) :
    (t.takeWhile p).length + (t.dropWhile p).length = t.length := by
  rw [← List.length_append, List.takeWhile_append_dropWhile]

theorem take_len_takeWhile {α} (p : α → Bool) (t : List α) :
    t.take (t.takeWhile p).length = t.takeWhile p := by
  induction t with
  | nil => simp
  | cons a l ih => simp only [List.takeWhile_cons]; split <;> simp [ih]

theorem dropWhile_congr {α} {p q : α → Bool} (h : ∀ c, p c = q c) (s : List α) :
    s.dropWhile p = s.dropWhile q := by
  have : p = q := funext h
  rw [this]

theorem takeWhile_congr {α} {p q : α → Bool} (h : ∀ c, p c = q c) (s : List α) :
    s.takeWhile p = s.takeWhile q := by
  have : p = q := funext h
  rw [this]

/-! ### every pattern -/

theorem m_seq (w : Nat) (a b : RE) (f : Nat) (st : St) :
    m w (.seq a b) f st = (m w a f st).flatMap (m w b f) := by rw [m]
theorem m_opt (w : Nat) (a : RE) (f : Nat) (st : St) : m w (.opt a) f st = m w a f st ++ [st] := by rw [m]

theorem m_length_le (w : Nat) (r : RE) (f : Nat) (st : St) : ∀ st' ∈ m w r f st, st'.1.length ≤ st.1.length := by
  induction r, f, st using m.induct w with
  | case8 a b f s ihb iha =>
    intro st' h
    rw [m, List.mem_flatMap] at h
    obtain ⟨mid, h1, h2⟩ := h
    exact Nat.le_trans (ihb mid st' h2) (iha mid h1)
  | case9 a b f s iha ihb =>
    intro st' h
    rw [m, List.mem_append] at h
    exact h.elim (iha st') (ihb st')
  | case10 a f s iha =>
    intro st' h
    rw [m, List.mem_append, List.mem_singleton] at h
    exact h.elim (iha st') (fun e => e ▸ Nat.le_refl _)
  | case12 a f s ihs iha =>
    intro st' h
    rw [m, List.mem_append, List.mem_flatMap, List.mem_singleton] at h
    rcases h with ⟨mid, h1, h2⟩ | e
    · exact Nat.le_trans (ihs mid st' h2) (iha mid (List.mem_filter.mp h1).1)
    · exact e ▸ Nat.le_refl _
  | case17 i a f s iha =>
    intro st' h
    rw [m, List.mem_map] at h
    obtain ⟨x, h1, rfl⟩ := h
    exact iha x h1
  -- the remaining cases (constructs without a sub-pattern, `star` out of fuel) leave the input, its tail, or nothing
  | _ => intro st' h; simp_all [m]

theorem map_fst_flatMap (l : List St) (g : St → List St) (g' : Str → List Str)
    (h : ∀ st, (g st).map Prod.fst = g' st.1) :
    (l.flatMap g).map Prod.fst = (l.map Prod.fst).flatMap g' := by
  simp only [List.map_flatMap, List.flatMap_map, h]

theorem map_fst_filter (l : List St) (n : Nat) :
    (l.filter (fun s' => s'.1.length < n)).map Prod.fst = (l.map Prod.fst).filter (fun s' => s'.length < n) := by
  rw [List.filter_map]; rfl

theorem m_fst (w : Nat) (r : RE) (f : Nat) (st : St) :
    ∀ cs, (m w r f (st.1, cs)).map Prod.fst = (m w r f (st.1, [])).map Prod.fst := by
  induction r, f, st using m.induct (whole := w) with
  | case8 a b f s ihb iha =>
    intro cs
    have hb := fun l => map_fst_flatMap l (m w b f) (fun x => (m w b f (x, [])).map Prod.fst) (fun st => ihb st st.2)
    rw [m, m, hb, hb, iha cs]
  | case9 a b f s iha ihb => intro cs; rw [m, m, List.map_append, List.map_append, iha cs, ihb cs]
  | case10 a f s iha => intro cs; rw [m, m, List.map_append, List.map_append, iha cs]; rfl
  | case12 a f s ihs iha =>
    intro cs
    have hs := fun l => map_fst_flatMap l (m w (.star a) f) (fun x => (m w (.star a) f (x, [])).map Prod.fst)
      (fun st => ihs st st.2)
    rw [m, m, List.map_append, List.map_append, hs, hs, map_fst_filter, map_fst_filter, iha cs]
    rfl
  | case17 i a f s iha => intro cs; rw [m, m, List.map_map, List.map_map]; exact iha cs
  -- the remaining cases (constructs without a sub-pattern, `star` out of fuel) do not look at the captures
  | _ => intro cs; simp_all [m]

/-! ### greedy repetition over a class -/

theorem star_cls_head (w : Nat) (k : Cls) (cs : Caps) : ∀ (f : Nat) (s : Str), s.length ≤ f →
    (m w (.star (.cls k)) f (s, cs)).head? = some (s.dropWhile k.test, cs) := by
  intro f
  induction f with
  | zero => intro s h; cases s <;> simp_all [m]
  | succ f ih =>
    intro s h
    cases s with
    | nil => simp [m]
    | cons c t =>
      simp only [m]
      by_cases hc : k.test c
      · simp only [hc, ↓reduceIte, List.filter_cons, List.length_cons, Nat.lt_add_one, decide_true,
          List.filter_nil, List.dropWhile_cons]
        apply head_append
        exact head_flatMap (x := (t, cs)) rfl (ih t (by simp at h; omega))
      · simp [hc]

theorem star_any_head (w : Nat) (cs : Caps) : ∀ (f : Nat) (s : Str), s.length ≤ f → '\n' ∉ s →
    (m w (.star .any) f (s, cs)).head? = some ([], cs) := by
  intro f
  induction f with
  | zero => intro s h _; cases s <;> simp_all [m]
  | succ f ih =>
    intro s h hn
    cases s with
    | nil => simp [m]
    | cons c t =>
      have hc : (c != '\n') = true := by
        simp only [List.mem_cons, not_or] at hn; simpa using fun h => hn.1 h.symm
      have ht : '\n' ∉ t := by simp only [List.mem_cons, not_or] at hn; exact hn.2
      simp only [m, hc, ↓reduceIte, List.filter_cons, List.length_cons, Nat.lt_add_one, decide_true,
          List.filter_nil]
      apply head_append
      exact head_flatMap (x := (t, cs)) rfl (ih t (by simp at h; omega) ht)

/-- `[k1][k2]*`, the shape of every name pattern -/
theorem cls_star_head (w : Nat) (k1 k2 : Cls) (cs : Caps) (f : Nat) (s : Str) (hf : s.length ≤ f) :
    (m w (.seq (.cls k1) (.star (.cls k2))) f (s, cs)).head? =
      match s with
      | c :: t => if k1.test c then some (t.dropWhile k2.test, cs) else none
      | [] => none := by
  cases s with
  | nil => simp [m]
  | cons c t =>
    by_cases hc : k1.test c
    · simp only [hc, ↓reduceIte]
      rw [m]
      refine head_flatMap (x := (t, cs)) (by simp [m, hc]) ?_
      exact star_cls_head w k2 cs f t (by simp at hf; omega)
    · simp [m, hc]

/-! ### all results of greedy repetition over a class -/

/-- every way `[k]*` can stop inside `s`, longest first: the suffix after the maximal run, then one character
    less, …, finally `s` itself -/
def runs (p : Char → Bool) : Str → List Str
  | [] => [[]]
  | c :: t => if p c then runs p t ++ [c :: t] else [c :: t]

theorem star_cls_all (w : Nat) (k : Cls) (cs : Caps) : ∀ (f : Nat) (s : Str), s.length ≤ f →
    m w (.star (.cls k)) f (s, cs) = (runs k.test s).map (fun r => (r, cs)) := by
  intro f
  induction f with
  | zero => intro s h; cases s <;> simp_all [m, runs]
  | succ f ih =>
    intro s h
    cases s with
    | nil => simp [m, runs]
    | cons c t =>
      simp only [m, runs]
      by_cases hc : k.test c
      · simp only [hc, ↓reduceIte, List.filter_cons, List.length_cons, Nat.lt_add_one, decide_true,
          List.filter_nil, List.flatMap_cons, List.flatMap_nil, List.append_nil, List.map_append,
          List.map_cons, List.map_nil]
        rw [ih t (by simp at h; omega)]
      · simp [hc]

theorem runs_spec (p : Char → Bool) (s : Str) :
    ∃ rest, runs p s = s.dropWhile p :: rest ∧ ∀ r ∈ rest, ∃ c t, r = c :: t ∧ p c = true := by
  induction s with
  | nil => exact ⟨[], by simp [runs]⟩
  | cons c t ih =>
    obtain ⟨rest, h1, h2⟩ := ih
    by_cases hc : p c
    · refine ⟨rest ++ [c :: t], by simp [runs, hc, h1], ?_⟩
      intro r hr
      simp only [List.mem_append, List.mem_singleton] at hr
      rcases hr with hr | hr
      · exact h2 r hr
      · exact ⟨c, t, hr, hc⟩
    · exact ⟨[], by simp [runs, hc], by simp⟩

theorem runs_length (p : Char → Bool) (s : Str) : ∀ r ∈ runs p s, r.length ≤ s.length := by
  induction s with
  | nil => simp [runs]
  | cons c t ih =>
    intro r hr
    simp only [runs] at hr
    split at hr
    · simp only [List.mem_append, List.mem_singleton] at hr
      rcases hr with hr | hr
      · have := ih r hr; simp; omega
      · subst hr; simp
    · simp only [List.mem_singleton] at hr; subst hr; simp

theorem flatMap_head_only {α β} {l : List α} {x : α} {rest : List α} (g : α → List β)
    (h : l = x :: rest) (h0 : ∀ y ∈ rest, g y = []) : l.flatMap g = g x := by
  subst h
  simp only [List.flatMap_cons]
  have : rest.flatMap g = [] := by
    simp only [List.flatMap_eq_nil_iff]; exact h0
  rw [this, List.append_nil]

/-- `[k]*` followed by anything that cannot start in front of a `k` character: only the maximal run counts -/
theorem star_flatMap {β} (w : Nat) (k : Cls) (cs : Caps) (f : Nat) (s : Str) (hf : s.length ≤ f)
    (g : St → List β) (hg : ∀ c t, k.test c = true → (c :: t).length ≤ s.length → g (c :: t, cs) = []) :
    (m w (.star (.cls k)) f (s, cs)).flatMap g = g (s.dropWhile k.test, cs) := by
  rw [star_cls_all w k cs f s hf]
  obtain ⟨rest, h1, h2⟩ := runs_spec k.test s
  have hlen := runs_length k.test s
  rw [h1] at hlen ⊢
  simp only [List.map_cons, List.flatMap_cons]
  have : (rest.map (fun r => (r, cs))).flatMap g = [] := by
    simp only [List.flatMap_eq_nil_iff, List.mem_map]
    rintro _ ⟨r, hr, rfl⟩
    obtain ⟨c, t, rfl, hc⟩ := h2 r hr
    exact hg c t hc (hlen _ (List.mem_cons_of_mem _ hr))
  rw [this, List.append_nil]

/-- the same for `[k]+` -/
theorem plus_flatMap {β} (w : Nat) (k : Cls) (cs : Caps) (f : Nat) (s : Str) (hf : s.length ≤ f)
    (g : St → List β) (hg : ∀ c t, k.test c = true → (c :: t).length ≤ s.length → g (c :: t, cs) = []) :
    (m w (.seq (.cls k) (.star (.cls k))) f (s, cs)).flatMap g =
      if s.takeWhile k.test = [] then [] else g (s.dropWhile k.test, cs) := by
  cases s with
  | nil => simp [m]
  | cons c t =>
    by_cases hc : k.test c
    · simp only [m, hc, ↓reduceIte, List.flatMap_cons, List.flatMap_nil, List.append_nil,
        List.takeWhile_cons, List.dropWhile_cons, reduceCtorEq]
      exact star_flatMap w k cs f t (by simp at hf; omega) g
        (fun c' t' h1 h2 => hg c' t' h1 (by simp at h2 ⊢; omega))
    · simp [m, hc]

theorem take_sub_dropWhile (p : Char → Bool) (s : Str) :
    s.take (s.length - (s.dropWhile p).length) = s.takeWhile p := by
  have := len_take_drop p s
  have e : s.length - (s.dropWhile p).length = (s.takeWhile p).length := by omega
  rw [e, take_len_takeWhile]

/-- the same for `(?P<i>[k]+)`, whatever was captured -/
theorem capplus_flatMap {β} (w i : Nat) (k : Cls) (cs : Caps) (f : Nat) (s : Str) (hf : s.length ≤ f)
    (g : St → List β)
    (hg : ∀ c t cs', k.test c = true → (c :: t).length ≤ s.length → g (c :: t, cs') = []) :
    (m w (.cap i (.seq (.cls k) (.star (.cls k)))) f (s, cs)).flatMap g =
      if s.takeWhile k.test = [] then [] else g (s.dropWhile k.test, (i, s.takeWhile k.test) :: cs) := by
  rw [m, List.flatMap_map]
  have := plus_flatMap w k cs f s hf
    (fun a : St => g (a.1, (i, s.take (s.length - a.1.length)) :: a.2))
    (fun c t h1 h2 => hg c t _ h1 h2)
  simp only [take_sub_dropWhile] at this
  exact this

/-- first match of `(?P<i>[k]+)` -/
theorem capplus_head (w i : Nat) (k : Cls) (cs : Caps) (f : Nat) (s : Str) (hf : s.length ≤ f) :
    (m w (.cap i (.seq (.cls k) (.star (.cls k)))) f (s, cs)).head? =
      if s.takeWhile k.test = [] then none
      else some (s.dropWhile k.test, (i, s.takeWhile k.test) :: cs) := by
  rw [m, List.head?_map, cls_star_head w k k cs f s hf]
  cases s with
  | nil => simp
  | cons c t =>
    by_cases hc : k.test c
    · have := take_sub_dropWhile k.test (c :: t)
      simp only [List.takeWhile_cons, List.dropWhile_cons, hc, ↓reduceIte] at this
      simp only [hc, ↓reduceIte, Option.map_some, List.takeWhile_cons, List.dropWhile_cons,
        reduceCtorEq, this]
    · simp [hc]

/-! ### the matcher without captures: the remaining suffixes, in the priority order of `m` -/

def dt2mr (whole : Nat) (r : RE) (f : Nat) (s : Str) : List Str := (m whole r f (s, [])).map Prod.fst

theorem dt2_m_fst (w : Nat) (r : RE) (f : Nat) (st : St) :
    ∀ cs, (m w r f (st.1, cs)).map Prod.fst = dt2mr w r f st.1 := m_fst w r f st

theorem dt2mr_cls (w f : Nat) (k : Cls) (s : Str) :
    dt2mr w (.cls k) f s = match s with | c :: t => if k.test c then [t] else [] | [] => [] := by
  cases s with
  | nil => simp [dt2mr, m]
  | cons c t => by_cases h : k.test c <;> simp [dt2mr, m, h]

theorem dt2mr_seq (w f : Nat) (a b : RE) (s : Str) :
    dt2mr w (.seq a b) f s = (dt2mr w a f s).flatMap (dt2mr w b f) := by
  unfold dt2mr
  rw [m, map_fst_flatMap _ _ _ (fun st => dt2_m_fst w b f st st.2)]
  rfl

theorem dt2mr_alt (w f : Nat) (a b : RE) (s : Str) : dt2mr w (.alt a b) f s = dt2mr w a f s ++ dt2mr w b f s := by
  unfold dt2mr; rw [m, List.map_append]

theorem dt2mr_opt (w f : Nat) (a : RE) (s : Str) : dt2mr w (.opt a) f s = dt2mr w a f s ++ [s] := by
  unfold dt2mr; rw [m, List.map_append]; rfl

theorem dt2mr_cap (w f i : Nat) (a : RE) (s : Str) : dt2mr w (.cap i a) f s = dt2mr w a f s := by
  unfold dt2mr; rw [m, List.map_map]; rfl

theorem dt2mr_bol (w f : Nat) (s : Str) : dt2mr w .bol f s = if s.length == w then [s] else [] := by
  unfold dt2mr; rw [m]; dsimp only; split <;> rfl

theorem dt2mr_eol (w f : Nat) (s : Str) : dt2mr w .eol f s = if s == [] || s == ['\n'] then [s] else [] := by
  unfold dt2mr; rw [m]; dsimp only; split <;> rfl

theorem dt2mr_seq_assoc (w f : Nat) (a b c : RE) (s : Str) :
    dt2mr w (.seq (.seq a b) c) f s = dt2mr w (.seq a (.seq b c)) f s := by
  rw [dt2mr_seq, dt2mr_seq, dt2mr_seq, List.flatMap_assoc]
  exact congrArg (fun g => (dt2mr w a f s).flatMap g) (funext fun x => (dt2mr_seq w f b c x).symm)

theorem dt2_mr_star_cls (w : Nat) (k : Cls) (f : Nat) (s : Str) (h : s.length ≤ f) :
    dt2mr w (.star (.cls k)) f s = runs k.test s := by
  have := dt2_m_fst w (.star (.cls k)) f (s, []) []
  rw [← this, star_cls_all w k [] f s h, List.map_map]
  exact List.map_id' _

/-- `[k1][k2]*` and then `tail`: a character of `k1`, then `tail` from every stop of the greedy `k2`-run, the longest run
    first -/
theorem dt2mr_cls_star (w f : Nat) (k1 k2 : Cls) (tail : RE) (s : Str) (hf : s.length ≤ f) :
    dt2mr w (.seq (.cls k1) (.seq (.star (.cls k2)) tail)) f s =
      match s with
      | c :: t => if k1.test c then (runs k2.test t).flatMap (dt2mr w tail f) else []
      | [] => [] := by
  rw [dt2mr_seq, dt2mr_cls]
  cases s with
  | nil => rfl
  | cons c t =>
    by_cases hc : k1.test c = true
    · simp only [hc, ↓reduceIte, List.flatMap_cons, List.flatMap_nil, List.append_nil]
      rw [dt2mr_seq, dt2_mr_star_cls w k2 f t (Nat.le_of_succ_le hf)]
    · simp only [hc, Bool.false_eq_true, ↓reduceIte, List.flatMap_nil]

theorem dt2_matchesWhole_mr (r : RE) (s : Str) :
    matchesWhole r s = (match (dt2mr s.length r s.length s).head? with | some x => x == [] | none => false) := by
  unfold matchesWhole pyMatch
  rw [← dt2_m_fst s.length r s.length (s, []) [], List.head?_map]
  cases (m s.length r s.length (s, [])).head? <;> rfl

end ZCV.Rx
