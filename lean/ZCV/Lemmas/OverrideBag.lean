import ZCV.Lemmas.OverrideEval
import ZCV.Lemmas.MatcherSpec
import ZCV.Lemmas.EditSpec
/-!
The option bag (`mkBag`, `bagSectionInfo`, `finishBag`) in the vocabulary of the edit specification
(`splitOvs` / `collect`, `addresses` / `dropHead`, `newLines`).
-/
namespace ZCV.Conf
open ZCV ZCV.Cfg

/-! ### operations of the matcher do not look at the bag -/

theorem addValueCore_withBag (m : Matcher) (b : Option Bag) (key rk v : Str) (pos : Pos) :
    addValueCore (withBag m b) key rk v pos = (addValueCore m key rk v pos).map (withBag · b) := by
  rw [addValueCore_eq, addValueCore_eq]
  show (match route m.ty.children rk with | none => _ | some (_, .sect _) => _ | some (k, .key ki) => _) = _
  cases route m.ty.children rk with
  | none => rfl
  | some c =>
    obtain ⟨k, ci⟩ := c
    cases ci with
    | sect si => rfl
    | key ki =>
      dsimp only
      rw [show getSlot (withBag m b) ki.attr = getSlot m ki.attr from rfl]
      cases getSlot m ki.attr with
      | none => rfl
      | some slot =>
        dsimp only
        cases slotStep ki (k == some ['+']) rk { value := v, pos := pos } slot <;> rfl

theorem addValueCore_key_irrel (m : Matcher) (k1 k2 rk v : Str) (pos : Pos) :
    addValueCore m k1 rk v pos = addValueCore m k2 rk v pos := rfl

theorem addSection_withBag (s : Schema) (m : Matcher) (b : Option Bag) (ty : Str) (nm : Option Str) (v : Val) :
    addSection s (withBag m b) ty nm v = (addSection s m ty nm v).map (withBag · b) := by
  rw [addSection_split, addSection_split, addSectionName_eq, addSectionName_eq]
  show (if (newName nm).any (fun n => m.used.contains n) then _ else _) >>= _ = _
  split
  · rfl
  · rw [ok_bind, ok_bind]
    unfold addSectionPlace withBag
    show (getsectioninfo s m.ty ty nm >>= _) = _
    cases getsectioninfo s m.ty ty nm with
    | error e => rfl
    | ok ci =>
      rw [ok_bind, ok_bind]
      show (match getSlot m ci.attr with | none => _ | some sl => _) = Except.map _ (match getSlot m ci.attr with | none => _ | some sl => _)
      cases getSlot m ci.attr with
      | none => rfl
      | some sl =>
        dsimp only
        cases sectStep ci v sl <;> rfl

theorem addValue_nobag (conv : Conv) (m : Matcher) (hb : m.bag = none) (k v : Str) (pos : Pos) :
    addValue conv m k v pos =
      match conv.key m.ty.keytype k with
      | .error e => .error (convFail e (some k) pos "key")
      | .ok rk => addValueCore m k rk v pos := by
  unfold addValue
  rw [hb]
  cases conv.key m.ty.keytype k <;> rfl

/-- `addValue` on a matcher with a bag: a line for an overridden key is ignored -/
theorem addValue_bag_eq (conv : Conv) (m : Matcher) (b : Bag) (k v : Str) (pos : Pos) :
    addValue conv (withBag m (some b)) k v pos =
      match conv.key m.ty.keytype k with
      | .error e => .error (convFail e (some k) pos "key")
      | .ok rk =>
        if b.keypairs.any (·.1 == rk) then .ok (withBag m (some b))
        else (addValueCore m k rk v pos).map (withBag · (some b)) := by
  unfold addValue
  show (match conv.key m.ty.keytype k with
    | .error e => _
    | .ok rk => _) = _
  cases conv.key m.ty.keytype k with
  | error e => rfl
  | ok rk =>
    show (if b.keypairs.any (·.1 == rk) then _ else addValueCore (withBag m (some b)) k rk v pos) = _
    rw [addValueCore_withBag]

/-! ### `mkBag` is `splitOvs` + `collect` -/

def cstep {α : Type} (acc : List (Str × List α)) (kv : Str × α) : List (Str × List α) :=
  if acc.any (·.1 == kv.1) then acc.map (fun p => if p.1 == kv.1 then (p.1, p.2 ++ [kv.2]) else p)
  else acc ++ [(kv.1, [kv.2])]

theorem collect_eq {α : Type} (l : List (Str × α)) : collect l = l.foldl cstep [] := rfl

/-- the bag keeps the values only (`Conf.strip`; nothing to do with `ZCV.strip`, the white-space stripping of the parser) -/
def strip (G : List (Str × List (Str × Str))) : List (Str × List Str) := G.map fun g => (g.1, g.2.map (·.2))

theorem strip_keys (G : List (Str × List (Str × Str))) : (strip G).map (·.1) = G.map (·.1) := by
  unfold strip
  rw [List.map_map]
  rfl

theorem strip_any (G : List (Str × List (Str × Str))) (n : Str) :
    (strip G).any (·.1 == n) = G.any (·.1 == n) := by
  unfold strip
  rw [List.any_map]
  rfl

theorem strip_cstep (G : List (Str × List (Str × Str))) (n k v : Str) :
    strip (cstep G (n, (k, v))) =
      if (strip G).any (·.1 == n) then (strip G).map (fun p => if p.1 == n then (p.1, p.2 ++ [v]) else p)
      else strip G ++ [(n, [v])] := by
  rw [strip_any]
  unfold cstep
  by_cases h : G.any (·.1 == n) = true
  · simp only [h, if_true]
    unfold strip
    rw [List.map_map, List.map_map]
    apply List.map_congr_left
    intro g _
    simp only [Function.comp]
    by_cases hg : (g.1 == n) = true
    · simp only [hg, if_true, List.map_append, List.map_cons, List.map_nil]
    · simp only [hg, Bool.false_eq_true, if_false]
  · simp only [h, Bool.false_eq_true, if_false]
    unfold strip
    rw [List.map_append]
    rfl

def kvOf (x : KeyOv) : Str × (Str × Str) := (x.norm, (x.key, x.val))

theorem groupsOf_eq (ks : List KeyOv) : groupsOf ks = (ks.map kvOf).foldl cstep [] := rfl

theorem mkBag_fold_spec (conv : Conv) (t : SType) : ∀ (items : List OptItem) (G : List (Str × List (Str × Str)))
    (ss0 : List OptItem),
    match splitOvs (conv.key t.keytype) items with
    | .error _ => ∃ e, items.foldlM (mkBagStep conv t) { keypairs := strip G, sectitems := ss0 } = .error e
    | .ok (ks, ss) =>
      items.foldlM (mkBagStep conv t) { keypairs := strip G, sectitems := ss0 } =
        .ok { keypairs := strip ((ks.map kvOf).foldl cstep G), sectitems := ss0 ++ ss }
  | [], G, ss0 => by
    rw [splitOvs]
    simp [pure, Except.pure]
  | o :: r, G, ss0 => by
    rw [splitOvs, List.foldlM_cons]
    obtain ⟨path, val⟩ := o
    cases path with
    | nil => exact ⟨_, rfl⟩
    | cons k more =>
      cases more with
      | nil =>
        simp only [mkBagStep]
        cases hk : conv.key t.keytype k with
        | error e => exact ⟨_, rfl⟩
        | ok n =>
          simp only
          have ih := mkBag_fold_spec conv t r (cstep G (n, (k, val))) ss0
          rw [strip_cstep] at ih
          cases hs : splitOvs (conv.key t.keytype) r with
          | error e =>
            rw [hs] at ih
            exact ih
          | ok p =>
            obtain ⟨ks, ss⟩ := p
            rw [hs] at ih
            simp only at ih ⊢
            exact ih
      | cons k2 more2 =>
        simp only [mkBagStep]
        have ih := mkBag_fold_spec conv t r G (ss0 ++ [{ path := k :: k2 :: more2, val := val }])
        cases hs : splitOvs (conv.key t.keytype) r with
        | error e =>
          rw [hs] at ih
          exact ih
        | ok p =>
          obtain ⟨ks, ss⟩ := p
          rw [hs] at ih
          simp only at ih ⊢
          rw [List.append_assoc] at ih
          exact ih

theorem mkBag_spec (conv : Conv) (t : SType) (ovs : List OptItem) :
    match splitOvs (conv.key t.keytype) ovs with
    | .error _ => ∃ e, mkBag conv t ovs = .error e
    | .ok (ks, ss) => mkBag conv t ovs = .ok { keypairs := strip (groupsOf ks), sectitems := ss } := by
  have h := mkBag_fold_spec conv t ovs [] []
  rw [mkBag_eq]
  cases hs : splitOvs (conv.key t.keytype) ovs with
  | error e => rw [hs] at h; exact h
  | ok p =>
    obtain ⟨ks, ss⟩ := p
    rw [hs] at h
    simp only [List.nil_append] at h
    exact h

theorem splitOvs_char (norm : Str → Except ConvErr Str) : ∀ (ovs : List OptItem) (ks : List KeyOv) (ss : List OptItem),
    splitOvs norm ovs = .ok (ks, ss) →
      ss = ovs.filter (fun o => decide (2 ≤ o.path.length)) ∧
      ∀ x, x ∈ ks ↔ ∃ o ∈ ovs, o.path = [x.key] ∧ norm x.key = .ok x.norm ∧ x.val = o.val
  | [], ks, ss, h => by
    rw [splitOvs] at h
    cases h
    exact ⟨rfl, by simp⟩
  | o :: r, ks, ss, h => by
    rcases splitOvs_cons_ok h with ⟨k, n, ks', hp, hn, hs, rfl⟩ | ⟨ss', hp, hs, rfl⟩
    · obtain ⟨ih1, ih2⟩ := splitOvs_char norm r ks' ss hs
      refine ⟨by rw [List.filter_cons_of_neg (by rw [hp]; simp), ih1], fun x => ?_⟩
      rw [List.mem_cons, ih2 x]; simp only [List.mem_cons, or_and_right, exists_or, exists_eq_left]
      refine or_congr_left ⟨fun hx => by subst hx; exact ⟨hp, hn, rfl⟩, fun ⟨h1, h2, h3⟩ => ?_⟩
      obtain ⟨xk, xn, xv⟩ := x
      cases hp.symm.trans h1
      cases hn.symm.trans h2
      cases h3
      rfl
    · obtain ⟨ih1, ih2⟩ := splitOvs_char norm r ks ss' hs
      refine ⟨by rw [List.filter_cons_of_pos (by simpa using hp), ih1], fun x => ?_⟩
      rw [ih2 x]; simp only [List.mem_cons, or_and_right, exists_or, exists_eq_left]
      refine ⟨.inr, fun h => h.resolve_left fun ⟨h1, _⟩ => ?_⟩
      rw [h1] at hp
      simp at hp

theorem splitOvs_inv (norm : Str → Except ConvErr Str) (ovs : List OptItem) (ks : List KeyOv) (ss : List OptItem)
    (h : splitOvs norm ovs = .ok (ks, ss)) :
    (∀ x ∈ ks, norm x.key = .ok x.norm) ∧ (∀ o ∈ ss, o ∈ ovs ∧ 2 ≤ o.path.length) := by
  obtain ⟨rfl, h2⟩ := splitOvs_char norm ovs ks ss h
  exact ⟨fun x hx => by obtain ⟨_, _, _, hn, _⟩ := (h2 x).mp hx; exact hn, fun o ho => by simpa using ho⟩

theorem cstep_mem_iff {α : Type} (G : List (Str × List α)) (kv : Str × α) (k : Str) (a : α) :
    (∃ g ∈ cstep G kv, g.1 = k ∧ a ∈ g.2) ↔ (k, a) = kv ∨ ∃ g0 ∈ G, g0.1 = k ∧ a ∈ g0.2 := by
  obtain ⟨k0, a0⟩ := kv
  unfold cstep
  split
  · rename_i h
    obtain ⟨g1, hg1, hk1⟩ := List.any_eq_true.mp h
    have hk2 : g1.1 = k0 := by simpa using hk1
    constructor
    · rintro ⟨g, hg, rfl, ha⟩
      obtain ⟨p, hp, rfl⟩ := List.mem_map.mp hg
      by_cases hpk : (p.1 == k0) = true
      · rw [if_pos hpk] at ha ⊢
        have : p.1 = k0 := by simpa using hpk
        rcases List.mem_append.mp ha with ha | ha
        · exact .inr ⟨p, hp, rfl, ha⟩
        · exact .inl (by rw [List.mem_singleton.mp ha, ← this])
      · rw [if_neg hpk] at ha ⊢
        exact .inr ⟨p, hp, rfl, ha⟩
    · rintro (h | ⟨g0, hg0, rfl, ha⟩)
      · cases h
        exact ⟨(g1.1, g1.2 ++ [a]), List.mem_map.mpr ⟨g1, hg1, by rw [if_pos hk1]⟩, hk2,
          List.mem_append_right _ List.mem_cons_self⟩
      · by_cases hpk : (g0.1 == k0) = true
        · exact ⟨(g0.1, g0.2 ++ [a0]), List.mem_map.mpr ⟨g0, hg0, by rw [if_pos hpk]⟩, rfl, List.mem_append_left _ ha⟩
        · exact ⟨g0, List.mem_map.mpr ⟨g0, hg0, by rw [if_neg hpk]⟩, rfl, ha⟩
  · constructor
    · rintro ⟨g, hg, rfl, ha⟩
      rcases List.mem_append.mp hg with hg | hg
      · exact .inr ⟨g, hg, rfl, ha⟩
      · cases List.mem_singleton.mp hg
        exact .inl (by rw [List.mem_singleton.mp ha])
    · rintro (h | ⟨g0, hg0, rfl, ha⟩)
      · cases h
        exact ⟨(k, [a]), List.mem_append_right _ List.mem_cons_self, rfl, List.mem_cons_self⟩
      · exact ⟨g0, List.mem_append_left _ hg0, rfl, ha⟩

theorem cstep_fold_iff {α : Type} (k : Str) (a : α) : ∀ (l : List (Str × α)) (G : List (Str × List α)),
    (∃ g ∈ l.foldl cstep G, g.1 = k ∧ a ∈ g.2) ↔ (k, a) ∈ l ∨ ∃ g0 ∈ G, g0.1 = k ∧ a ∈ g0.2
  | [], G => by simp
  | kv :: r, G => by
    rw [List.foldl_cons, cstep_fold_iff k a r (cstep G kv), cstep_mem_iff, List.mem_cons]
    constructor
    · rintro (h | h | h)
      · exact .inl (.inr h)
      · exact .inl (.inl h)
      · exact .inr h
    · rintro ((h | h) | h)
      · exact .inr (.inl h)
      · exact .inl h
      · exact .inr (.inr h)

theorem groupsOf_norm (norm : Str → Except ConvErr Str) (ks : List KeyOv) (hks : ∀ x ∈ ks, norm x.key = .ok x.norm) :
    ∀ g ∈ groupsOf ks, ∀ kv ∈ g.2, norm kv.1 = .ok g.1 := by
  intro g hg kv hkv
  rw [groupsOf_eq] at hg
  rcases (cstep_fold_iff g.1 kv (ks.map kvOf) []).mp ⟨g, hg, rfl, hkv⟩ with h | ⟨g0, hg0, _⟩
  · obtain ⟨x, hx, hxe⟩ := List.mem_map.mp h
    obtain ⟨h1, h2⟩ := Prod.mk.inj hxe
    rw [← h1, ← h2]
    exact hks x hx
  · cases hg0

/-! ### `bagSectionInfo` hands a child the overrides that address it -/

/-- overrides pending in a section: they go further down, through components that are basic keys -/
def PendOK (pend : List OptItem) : Prop :=
  ∀ o ∈ pend, 2 ≤ o.path.length ∧ ∀ c ∈ o.path.dropLast, ∃ r, DT.basicKey c = .ok r

theorem basicKey_ok (c r : Str) (h : DT.basicKey c = .ok r) : r = lower c := by
  unfold DT.basicKey DT.regexConv at h
  split at h
  · cases h; rfl
  · cases h

theorem selects_eq (p0 ty : Str) (nm : Option Str) :
    ((nm.isSome && some (lower p0) == nm) || lower p0 == ty) = selects p0 ty nm := by
  unfold selects
  have a : (lower p0 == ty) = (ty == lower p0) := by
    rw [Bool.eq_iff_iff, beq_iff_eq, beq_iff_eq]
    exact eq_comm
  have b : (nm.isSome && some (lower p0) == nm) = (nm == some (lower p0)) := by
    cases nm with
    | none => rfl
    | some n =>
      rw [Option.isSome_some, Bool.true_and, Bool.eq_iff_iff, beq_iff_eq, beq_iff_eq]
      exact eq_comm
  rw [a, b]

def HeadsOK (si : List OptItem) : Prop := ∀ o ∈ si, ∃ p0 more r, o.path = p0 :: more ∧ DT.basicKey p0 = .ok r

theorem PendOK.heads {pend : List OptItem} (h : PendOK pend) : HeadsOK pend := by
  intro o ho
  obtain ⟨h2, hk⟩ := h o ho
  match hp : o.path, h2, hk with
  | p0 :: p1 :: more, _, hk =>
    obtain ⟨r, hr⟩ := hk p0 (by simp [List.dropLast])
    exact ⟨p0, p1 :: more, r, rfl, hr⟩

theorem bsiStep_head (ty : Str) (nm : Option Str) (acc : List OptItem × List OptItem) (it : OptItem)
    (h : ∃ p0 more r, it.path = p0 :: more ∧ DT.basicKey p0 = .ok r) :
    bsiStep ty nm acc it =
      .ok (if addresses it ty nm then (acc.1 ++ [dropHead it], acc.2) else (acc.1, acc.2 ++ [it])) := by
  obtain ⟨path, val⟩ := it
  obtain ⟨p0, more, r, hp, hr⟩ := h
  simp only at hp
  subst hp
  cases basicKey_ok p0 r hr
  have hsel := selects_eq p0 ty nm
  unfold bsiStep
  simp only [hr]
  show _ = Except.ok (if selects p0 ty nm = true then _ else _)
  rw [← hsel]
  cases (nm.isSome && some (lower p0) == nm) <;> cases (lower p0 == ty) <;> rfl

theorem bsi_fold (ty : Str) (nm : Option Str) : ∀ (si l0 r0 : List OptItem), HeadsOK si →
    si.foldlM (bsiStep ty nm) (l0, r0) =
      .ok (l0 ++ (si.filter (addresses · ty nm)).map dropHead, r0 ++ si.filter (fun o => !addresses o ty nm))
  | [], l0, r0, _ => by simp [pure, Except.pure]
  | it :: si, l0, r0, h => by
    rw [List.foldlM_cons, bsiStep_head ty nm _ it (h it List.mem_cons_self)]
    show si.foldlM (bsiStep ty nm) (if addresses it ty nm then _ else _) = _
    rw [List.filter_cons, List.filter_cons]
    cases addresses it ty nm
    · simp only [Bool.false_eq_true, if_false, Bool.not_false, if_true]
      rw [bsi_fold ty nm si _ _ (fun o ho => h o (List.mem_cons_of_mem _ ho)), List.append_assoc]
      rfl
    · simp only [if_true, Bool.not_true, Bool.false_eq_true, if_false]
      rw [bsi_fold ty nm si _ _ (fun o ho => h o (List.mem_cons_of_mem _ ho)), List.map_cons, List.append_assoc]
      rfl

theorem bsi_ok_heads (ty : Str) (nm : Option Str) : ∀ (si : List OptItem) (acc lr : List OptItem × List OptItem),
    si.foldlM (bsiStep ty nm) acc = .ok lr → HeadsOK si
  | [], _, _, _ => fun _ h => nomatch h
  | it :: si, acc, lr, h => by
    rw [List.foldlM_cons] at h
    obtain ⟨acc', hstep, hrest⟩ := bind_ok_inv h
    intro o ho
    rcases List.mem_cons.mp ho with rfl | ho
    · unfold bsiStep at hstep
      split at hstep
      · cases hstep
      · rename_i p0 more hp
        split at hstep
        · cases hstep
        · rename_i bk hbk
          exact ⟨p0, more, bk, hp, hbk⟩
    · exact bsi_ok_heads ty nm si acc' lr hrest o ho

theorem bagSectionInfo_spec (conv : Conv) (s : Schema) (b : Bag) (ty : Str) (nm : Option Str) (h : HeadsOK b.sectitems) :
    bagSectionInfo conv s b ty nm =
      if (b.sectitems.filter (addresses · ty nm)).isEmpty then .ok (b, none)
      else
        match s.gettype ty with
        | some (.concrete t) =>
          match mkBag conv t ((b.sectitems.filter (addresses · ty nm)).map dropHead) with
          | .error e => .error e
          | .ok child => .ok ({ b with sectitems := b.sectitems.filter (fun o => !addresses o ty nm) }, some child)
        | none => .error (.cfg { kind := .schema, tag := "unknown type name" })
        | _ => .error (.internal "AttributeError") := by
  rw [bagSectionInfo_eq, bsi_fold ty nm b.sectitems [] [] h]
  simp only [bind, Except.bind, pure, Except.pure, throw, throwThe, MonadExceptOf.throw, List.nil_append, List.isEmpty_map]
  by_cases he : (b.sectitems.filter (addresses · ty nm)).isEmpty = true
  · rw [if_pos he, if_pos he]
  · rw [if_neg he, if_neg he]
    cases s.gettype ty with
    | none => rfl
    | some te =>
      cases te with
      | abstract_ n subs => rfl
      | concrete t =>
        simp only
        cases mkBag conv t ((b.sectitems.filter (addresses · ty nm)).map dropHead) <;> rfl

theorem pendOK_filter (pend : List OptItem) (p : OptItem → Bool) (h : PendOK pend) : PendOK (pend.filter p) :=
  fun o ho => h o (List.mem_filter.mp ho).1

/-! ### `finishBag` supplies the lines of the specification -/

def bagOuter (conv : Conv) (m : Matcher) (kv : Str × List Str) : M Matcher := kv.2.foldlM (Cfg.finishBagStep conv kv.1) m

theorem finishBag_some (conv : Conv) (m : Matcher) (b : Bag) (hb : m.bag = some b) :
    finishBag conv m =
      b.keypairs.foldlM (bagOuter conv) m >>= fun m' =>
        if b.sectitems.isEmpty then .ok { m' with bag := none }
        else .error (plainErr "not all command line options were consumed") := by
  rw [finishBag_eq, hb]
  show (_ >>= _) = (_ >>= _)
  congr 1
  funext m'
  cases b.sectitems.isEmpty <;> rfl

/-- one supplied line does to the plain matcher what the bag does at the end of the section -/
theorem bagInner_eq (conv : Conv) (asGiven : Bool) (n k v : Str) (m' : Matcher) (B : Option Bag) (hb : m'.bag = none)
    (H : asGiven = true → conv.key m'.ty.keytype k = .ok n ∧ conv.key m'.ty.keytype n = .ok n) :
    Cfg.finishBagStep conv n (withBag m' B) v =
      (addValue conv m' (if asGiven then k else n) v cmdPos).map (withBag · B) := by
  rw [addValue_nobag conv m' hb]
  unfold Cfg.finishBagStep
  show (match conv.key m'.ty.keytype n with
    | .error e => _
    | .ok rk => addValueCore (withBag m' B) n rk v cmdPos) = _
  cases asGiven with
  | false =>
    simp only [Bool.false_eq_true, if_false]
    cases conv.key m'.ty.keytype n with
    | error e => rfl
    | ok rk => exact addValueCore_withBag m' B n rk v cmdPos
  | true =>
    obtain ⟨h1, h2⟩ := H rfl
    simp only [if_true]
    rw [h1, h2]
    exact addValueCore_withBag m' B n n v cmdPos

theorem bagInner_fold (conv : Conv) (s : Schema) (asGiven : Bool) (kt n : Str) (B : Option Bag) :
    ∀ (entries : List (Str × Str)) (m' : Matcher), m'.bag = none → m'.ty.keytype = kt →
      (asGiven = true → ∀ kv ∈ entries, conv.key kt kv.1 = .ok n ∧ conv.key kt n = .ok n) →
      (entries.map (·.2)).foldlM (Cfg.finishBagStep conv n) (withBag m' B) =
        (evalItemsB conv s m' (entries.map fun kv => Item.kv (if asGiven then kv.1 else n) kv.2 cmdPos)).map (withBag · B)
  | [], m', _, _, _ => by
    rw [List.map_nil, List.map_nil, evalItemsB_nil]
    rfl
  | kv :: r, m', hb, hkt, H => by
    rw [List.map_cons, List.map_cons, List.foldlM_cons, evalItemsB_cons, evalItemB]
    rw [bagInner_eq conv asGiven n kv.1 kv.2 m' B hb (fun ha => by rw [hkt]; exact H ha kv List.mem_cons_self)]
    cases hav : addValue conv m' (if asGiven then kv.1 else n) kv.2 cmdPos with
    | error e => rfl
    | ok m2 =>
      have hp := evalItemB_pres conv s m' m2 (.kv (if asGiven then kv.1 else n) kv.2 cmdPos) (by rw [evalItemB]; exact hav)
      show (r.map (·.2)).foldlM (Cfg.finishBagStep conv n) (withBag m2 B) = _
      rw [bagInner_fold conv s asGiven kt n B r m2 (hp.2 hb) (by rw [hp.1, hkt])
        (fun ha kv' hkv' => H ha kv' (List.mem_cons_of_mem _ hkv'))]
      rfl

/-- the hypothesis under which the supplied lines may carry the key as given -/
def GroupsOK (conv : Conv) (asGiven : Bool) (kt : Str) (G : List (Str × List (Str × Str))) : Prop :=
  asGiven = true → ∀ g ∈ G, ∀ kv ∈ g.2, conv.key kt kv.1 = .ok g.1 ∧ conv.key kt g.1 = .ok g.1

theorem newLines_cons (asGiven : Bool) (g : Str × List (Str × Str)) (G : List (Str × List (Str × Str))) :
    newLines asGiven (g :: G) =
      (g.2.map fun kv => Item.kv (if asGiven then kv.1 else g.1) kv.2 cmdPos) ++ newLines asGiven G := by
  unfold newLines
  rw [List.flatMap_cons]

theorem bagOuter_fold (conv : Conv) (s : Schema) (asGiven : Bool) (kt : Str) (B : Option Bag) :
    ∀ (G : List (Str × List (Str × Str))) (m' : Matcher), m'.bag = none → m'.ty.keytype = kt →
      GroupsOK conv asGiven kt G →
      (strip G).foldlM (bagOuter conv) (withBag m' B) =
        (evalItemsB conv s m' (newLines asGiven G)).map (withBag · B)
  | [], m', _, _, _ => by
    show (pure (withBag m' B) : M Matcher) = _
    rw [show newLines asGiven [] = [] from rfl, evalItemsB_nil]
    rfl
  | g :: G, m', hb, hkt, H => by
    rw [newLines_cons, evalItemsB_append]
    show ((g.1, g.2.map (·.2)) :: strip G).foldlM (bagOuter conv) (withBag m' B) = _
    rw [List.foldlM_cons]
    show ((g.2.map (·.2)).foldlM (Cfg.finishBagStep conv g.1) (withBag m' B) >>= fun m2 => (strip G).foldlM (bagOuter conv) m2) = _
    rw [bagInner_fold conv s asGiven kt g.1 B g.2 m' hb hkt (fun ha kv hkv => H ha g List.mem_cons_self kv hkv)]
    cases hev : evalItemsB conv s m' (g.2.map fun kv => Item.kv (if asGiven then kv.1 else g.1) kv.2 cmdPos) with
    | error e => rfl
    | ok m2 =>
      have hp := evalItemsB_pres conv s _ m' m2 hev
      show (strip G).foldlM (bagOuter conv) (withBag m2 B) = _
      rw [bagOuter_fold conv s asGiven kt B G m2 (hp.2 hb) (by rw [hp.1, hkt])
        (fun ha g' hg' => H ha g' (List.mem_cons_of_mem _ hg'))]
      rfl

theorem withBag_none_of (m : Matcher) (B : Option Bag) (hb : m.bag = none) : { withBag m B with bag := none } = m := by
  obtain ⟨ty, name, values, used, bag⟩ := m
  simp only at hb
  subst hb
  rfl

/-- the lines for the grouped key overrides are supplied to the matcher; overrides still waiting for their section are
    refused -/
theorem finishBag_groups (conv : Conv) (s : Schema) (asGiven : Bool) (G : List (Str × List (Str × Str)))
    (ss : List OptItem) (m' : Matcher) (hb : m'.bag = none) (H : GroupsOK conv asGiven m'.ty.keytype G) :
    finishBag conv (withBag m' (some { keypairs := strip G, sectitems := ss })) =
      evalItemsB conv s m' (newLines asGiven G) >>= fun m2 =>
        if ss.isEmpty then .ok m2 else .error (plainErr "not all command line options were consumed") := by
  rw [finishBag_some conv _ { keypairs := strip G, sectitems := ss } rfl]
  simp only
  rw [bagOuter_fold conv s asGiven m'.ty.keytype _ G m' hb rfl H]
  cases hev : evalItemsB conv s m' (newLines asGiven G) with
  | error e => rfl
  | ok m2 =>
    have hp := evalItemsB_pres conv s _ m' m2 hev
    show (if ss.isEmpty then (.ok { withBag m2 _ with bag := none } : M Matcher) else _) = _
    rw [withBag_none_of m2 _ (hp.2 hb)]
    rfl

end ZCV.Conf
