import ZCV.Lemmas.Datatypes
import ZCV.Model.TreeLoad
/-!
A concrete instance for the non-vacuity examples of C16: a schema with handlers at every level (schema, key,
multisection, key of the section type), a conforming text instantiating them, and a small handler list (`demoList`) with
the `basic-key` facts about the names that the handler maps of the examples supply in mixed case.  (The loader model is
defined by well-founded recursion and does not evaluate in the kernel; the examples in `ZCV/Props/C16.lean` go through the
theorems and evaluate the SPEC side.)
-/
namespace ZCV.Demo16
open ZCV ZCV.Cfg ZCV.Conf

def demoConv : Conv := { key := fun _ k => .ok k, val := fun _ v => .ok (.str v), sect := fun _ v => .ok v }

def demoSrv : SType :=
  { name := some ['s', 'r', 'v'], keytype := [], datatype := [],
    children := [(some ['p'], .key { name := ['p'], attr := ['p'], multi := false, minOccurs := 0, dt := [],
                                     dflt := .none, handler := some ['h', 'p'] })] }

def demoSchema : Schema :=
  { types := [(['s', 'r', 'v'], .concrete demoSrv)],
    top := { name := none, keytype := [], datatype := [],
             children := [(some ['k'], .key { name := ['k'], attr := ['k'], multi := false, minOccurs := 0, dt := [],
                                              dflt := .none, handler := some ['h', 'k'] }),
                          (none, .sect { name := ['*'], attr := ['s', 's'], multi := true, minOccurs := 0,
                                         ty := ['s', 'r', 'v'], handler := some ['h', 's'] })] },
    handler := some ['h', 'a'], components := [] }

/-- `k v`, `<srv a> p 1 </srv>`, `<srv b/>` -/
def demoItems : List Item :=
  [.kv ['k'] ['v'] { line := 1, url := none },
   .sect ['s', 'r', 'v'] (some ['a']) [.kv ['p'] ['1'] { line := 3, url := none }],
   .sect ['s', 'r', 'v'] (some ['b']) []]

theorem demo_schemaOK : schemaOK demoSchema = true := by decide
theorem demo_gettype : demoSchema.gettype ['s', 'r', 'v'] = some (.concrete demoSrv) := by rfl
theorem demo_tyCanon : tyCanon demoSchema demoItems = true := by
  simp [tyCanon, demoItems, demo_gettype, demoSrv]


/-- a handler list with a repeated handler name -/
def demoList : List (Str × Val) := [(['h', 'p'], .int 1), (['h', 'k'], .int 2), (['h', 'p'], .int 3)]
theorem bk1 : DT.basicKey ['H', 'p'] = .ok ['h', 'p'] := by rw [DT.basicKey_eq_spec]; rfl
theorem bk2 : DT.basicKey ['h', 'K'] = .ok ['h', 'k'] := by rw [DT.basicKey_eq_spec]; rfl
theorem bk3 : DT.basicKey ['h', 'P'] = .ok ['h', 'p'] := by rw [DT.basicKey_eq_spec]; rfl


end ZCV.Demo16
