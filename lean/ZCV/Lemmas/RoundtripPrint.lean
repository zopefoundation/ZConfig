import ZCV.Lemmas.RoundtripLine
import ZCV.Lemmas.RoundtripSort
/-!
What `str(config)` prints (C17).  Its stripped non-blank lines: `essOf (slStr t imps) = essTop t imps`, by recursion
over the tree, through the blank-line policy, the indentation, `'\n'.join`, `rstrip` and the final newline.  Then `canon`
(keys in `sorted()` order) against the other notions: it is the same configuration to Python, it prints the same text, it
is well-formed when the tree is, and it changes nothing once keys are sorted.
-/
namespace ZCV.Roundtrip
open ZCV ZCV.Cfg

/-- the key lines `Section.__str__` writes at indentation `pre1` -/
def kvText (pre1 : Str) (kvs : List (Str × List Str)) : List Str :=
  (sortKeys kvs).flatMap (fun p => p.2.map (fun v => pre1 ++ p.1 ++ ' ' :: escDollar v))

theorem dropLastN_two (pre : Str) : dropLastN (pre ++ [' ', ' ']) 2 = pre := by
  simp [dropLastN]

theorem ite_snoc {α} (c : Bool) (a b : List α) : (if c = true then a ++ b else a) = a ++ (if c = true then b else []) := by
  cases c <;> simp

/-- `Section.__str__(pre)` of a section with a type, as one expression -/
theorem secStr_sub (pre ty : Str) (nm : Option Str) (kvs : List (Str × List Str)) (ss : List Sec) (hty : ty ≠ []) :
    secStr [] pre (.mk ty nm kvs ss) =
      rstrip (joinLines ([closeHeader (pre ++ '<' :: hdrBody ty nm)] ++ kvText (pre ++ [' ', ' ']) kvs ++
        (if !ss.isEmpty && !kvs.isEmpty then [[]] else []) ++ secStrs (pre ++ [' ', ' ']) ss ++
        [pre ++ '<' :: '/' :: ty ++ ['>'], []])) ++ (if pre.isEmpty then ['\n'] else []) := by
  have hE : ty.isEmpty = false := by
    cases ty with
    | nil => exact absurd rfl hty
    | cons _ _ => rfl
  unfold secStr kvText hdrBody
  simp only [List.isEmpty_nil, ↓reduceIte, hE, Bool.not_false, List.nil_append, dropLastN_two, ite_snoc]
  cases nm with
  | none => simp only [List.append_assoc]
  | some n =>
    by_cases hn : n.isEmpty = true <;>
      simp only [hn, ↓reduceIte, Bool.false_eq_true, List.append_assoc, List.cons_append]

theorem secStr_top (imps : List Str) (nm : Option Str) (kvs : List (Str × List Str)) (ss : List Sec) :
    secStr imps [] (.mk [] nm kvs ss) =
      rstrip (joinLines ((if imps.isEmpty then [] else imps.map (fun p => "%import ".toList ++ escDollar p) ++ [[]]) ++
        kvText [] kvs ++ (if !ss.isEmpty && !kvs.isEmpty then [[]] else []) ++ secStrs [] ss)) ++ ['\n'] := by
  unfold secStr kvText
  generalize "%import ".toList = imp
  simp only [List.isEmpty_nil, Bool.not_true, Bool.false_eq_true, ↓reduceIte, ite_snoc]


theorem flatMap_singleton_map {α β} (l : List α) (f : α → List β) (g : α → β) (h : ∀ x ∈ l, f x = [g x]) :
    l.flatMap f = l.map g := by
  induction l with
  | nil => rfl
  | cons a r ih =>
    rw [List.flatMap_cons, List.map_cons, h a List.mem_cons_self, ih (fun x hx => h x (List.mem_cons_of_mem _ hx))]
    rfl

theorem kvLine_ne {k : Str} (v : Str) (hk : wordTok k = true) : kvLine k v ≠ [] := by
  unfold kvLine
  split
  · exact wordTok_ne hk
  · simp [wordTok_ne hk]

theorem essOf_one {l x : Str} (hn : '\n' ∉ l) (hs : strip l = x) (hx : x ≠ []) : essOf l = [x] := by
  rw [essOf_line l hn, hs, if_neg hx]

theorem essOf_kv (pre k v : Str) (hpre : pre.all (· == ' ') = true) (hk : keyOK k = true) (hv : cleanVal v = true) :
    essOf (pre ++ k ++ ' ' :: escDollar v) = [kvLine k v] := by
  have hw := keyOK_word hk
  refine essOf_one ?_ (strip_kv pre k v hpre hk hv) (kvLine_ne v hw)
  simp only [List.mem_append, List.mem_cons, not_or]
  exact ⟨⟨blanks_nonl hpre, wordTok_nonl hw⟩, by decide, fun h => cleanVal_nonl hv (mem_esc h)⟩

theorem essOf_kvText (pre : Str) (kvs : List (Str × List Str)) (hpre : pre.all (· == ' ') = true)
    (h : kvsOK kvs = true) : (kvText pre kvs).flatMap essOf = kvLines kvs := by
  unfold kvText kvLines pairsOf
  rw [List.flatMap_assoc, List.map_flatMap]
  apply flatMap_congr
  intro p hp
  have hp' := kvsOK_all h p (mem_sortKeys.1 hp)
  rw [List.flatMap_map, List.map_map]
  apply flatMap_singleton_map
  intro v hv
  exact essOf_kv pre p.1 v hpre hp'.1 (hp'.2.2 v hv)

theorem essOf_hdr (pre ty : Str) (nm : Option Str) (hpre : pre.all (· == ' ') = true)
    (hty : tyOK ty = true) (hnm : nameOK nm = true) :
    essOf (closeHeader (pre ++ '<' :: hdrBody ty nm)) = [hdrLine ty nm] := by
  obtain ⟨hw, _, _⟩ := tyOK_parts hty
  refine essOf_one ?_ (strip_hdr pre ty nm hpre hty) (by unfold hdrLine; simp)
  rw [closeHeader_eq _ _ (hdrBody_ne nm (wordTok_ne hw))]
  simp only [List.mem_append, List.mem_cons, not_or]
  exact ⟨blanks_nonl hpre, ⟨by decide, hdrBody_nonl hw hnm⟩, by split <;> decide⟩

theorem essOf_close (pre ty : Str) (hpre : pre.all (· == ' ') = true) (hty : tyOK ty = true) :
    essOf (pre ++ '<' :: '/' :: ty ++ ['>']) = [closeLine ty] := by
  obtain ⟨hw, _, _⟩ := tyOK_parts hty
  refine essOf_one ?_ (strip_close pre ty hpre) (by unfold closeLine; simp)
  simp only [List.mem_append, List.mem_cons, not_or]
  exact ⟨⟨blanks_nonl hpre, by decide, by decide, wordTok_nonl hw⟩, by decide⟩

theorem essOf_blank_opt (c : Bool) : (if c = true then [([] : Str)] else []).flatMap essOf = [] := by
  cases c <;> rfl

theorem essOf_tail (x : Str) (c : Bool) : essOf (x ++ (if c = true then ['\n'] else [])) = essOf x := by
  cases c
  · simp
  · exact essOf_final_nl x

theorem blanks_two {pre : Str} (h : pre.all (· == ' ') = true) : (pre ++ [' ', ' ']).all (· == ' ') = true := by
  simp [h]

theorem wfSub_parts {ty : Str} {nm : Option Str} {kvs : List (Str × List Str)} {ss : List Sec}
    (h : wfSub (.mk ty nm kvs ss) = true) :
    tyOK ty = true ∧ nameOK nm = true ∧ kvsOK kvs = true ∧ wfSubs ss = true := by
  rw [wfSub] at h
  simp only [Bool.and_eq_true] at h
  exact ⟨h.1.1.1, h.1.1.2, h.1.2, h.2⟩

theorem wfSubs_cons {s : Sec} {r : List Sec} (h : wfSubs (s :: r) = true) : wfSub s = true ∧ wfSubs r = true := by
  rw [wfSubs] at h
  simpa using h

mutual
theorem essOf_secStr : ∀ (s : Sec) (pre : Str), wfSub s = true → pre.all (· == ' ') = true →
    essOf (secStr [] pre s) = essSec s
  | .mk ty nm kvs ss, pre, h, hpre => by
    obtain ⟨hty, hnm, hkv, hss⟩ := wfSub_parts h
    obtain ⟨hw, _, _⟩ := tyOK_parts hty
    have ih := essOf_secStrs ss (pre ++ [' ', ' ']) hss (blanks_two hpre)
    rw [secStr_sub pre ty nm kvs ss (wordTok_ne hw), essOf_tail, essOf_rstrip, essOf_joinLines]
    simp only [List.flatMap_append, List.flatMap_cons, List.flatMap_nil, List.append_nil]
    rw [essOf_hdr pre ty nm hpre hty hnm, essOf_kvText _ kvs (blanks_two hpre) hkv, essOf_blank_opt, ih,
      essOf_close pre ty hpre hty, essOf_nil, essSec]
    simp
theorem essOf_secStrs : ∀ (l : List Sec) (pre : Str), wfSubs l = true → pre.all (· == ' ') = true →
    (secStrs pre l).flatMap essOf = essSecs l
  | [], _, _, _ => by simp [secStrs, essSecs]
  | s :: r, pre, h, hpre => by
    obtain ⟨h1, h2⟩ := wfSubs_cons h
    rw [secStrs, List.flatMap_cons, essOf_secStr s pre h1 hpre, essOf_secStrs r pre h2 hpre, essSecs]
end

theorem essOf_imp (p : Str) (hne : p ≠ []) (hp : cleanVal p = true) :
    essOf ("%import ".toList ++ escDollar p) = [impLine p] := by
  refine essOf_one ?_ (strip_imp p hne hp) (by unfold impLine; simp)
  rw [List.mem_append, not_or]
  exact ⟨by char_lits; decide +kernel, fun h => cleanVal_nonl hp (mem_esc h)⟩

theorem essOf_slStr (t : Sec) (imps : List Str) (h : WF t imps) : essOf (slStr t imps) = essTop t imps := by
  obtain ⟨ty, nm, kvs, ss⟩ := t
  obtain ⟨hty, _, hkv, hss, himp⟩ := h
  simp only [Sec.type, Sec.kvs, Sec.sections] at hty hkv hss
  subst hty
  unfold slStr essTop
  rw [secStr_top, essOf_final_nl, essOf_rstrip, essOf_joinLines]
  simp only [List.flatMap_append, Sec.kvs, Sec.sections]
  rw [essOf_kvText [] kvs (by rfl) hkv, essOf_blank_opt, essOf_secStrs ss [] hss (by rfl)]
  have hI : (if imps.isEmpty = true then [] else imps.map (fun p => "%import ".toList ++ escDollar p) ++ [[]]).flatMap essOf
      = imps.map impLine := by
    cases imps with
    | nil => rfl
    | cons a r =>
      simp only [List.isEmpty_cons, Bool.false_eq_true, ↓reduceIte, List.flatMap_append, List.flatMap_cons,
        List.flatMap_nil, essOf_nil, List.append_nil]
      rw [List.flatMap_map]
      apply flatMap_singleton_map
      intro p hp
      exact essOf_imp p (impsOK_all himp p hp).1 (impsOK_all himp p hp).2
  rw [hI]
  simp

/-! ### `canon` -/

mutual
theorem same_canon : ∀ (s : Sec), Same s (canon s)
  | .mk ty nm kvs ss => by
    rw [canon, Same]
    exact ⟨rfl, rfl, (sortKeys_perm kvs).symm, sameL_canon ss⟩
theorem sameL_canon : ∀ (l : List Sec), SameL l (canonL l)
  | [] => by rw [canonL, SameL]; trivial
  | s :: r => by
    rw [canonL, SameL]
    exact ⟨same_canon s, sameL_canon r⟩
end

mutual
theorem canon_of_sorted : ∀ (s : Sec), sortedSec s → canon s = s
  | .mk ty nm kvs ss, h => by
    rw [sortedSec] at h
    rw [canon, h.1, canonL_of_sorted ss h.2]
theorem canonL_of_sorted : ∀ (l : List Sec), sortedSecs l → canonL l = l
  | [], _ => by rw [canonL]
  | s :: r, h => by
    rw [sortedSecs] at h
    rw [canonL, canon_of_sorted s h.1, canonL_of_sorted r h.2]
end

mutual
theorem sorted_canon : ∀ (s : Sec), wfSub s = true → sortedSec (canon s)
  | .mk ty nm kvs ss, h => by
    obtain ⟨_, _, hkv, hss⟩ := wfSub_parts h
    rw [canon, sortedSec]
    exact ⟨sortKeys_idem kvs (kvsOK_nodup hkv), sortedL_canon ss hss⟩
theorem sortedL_canon : ∀ (l : List Sec), wfSubs l = true → sortedSecs (canonL l)
  | [], _ => by rw [canonL, sortedSecs]; trivial
  | s :: r, h => by
    obtain ⟨h1, h2⟩ := wfSubs_cons h
    rw [canonL, sortedSecs]
    exact ⟨sorted_canon s h1, sortedL_canon r h2⟩
end

mutual
theorem wfSub_canon : ∀ (s : Sec), wfSub s = true → wfSub (canon s) = true
  | .mk ty nm kvs ss, h => by
    obtain ⟨hty, hnm, hkv, hss⟩ := wfSub_parts h
    rw [canon, wfSub, hty, hnm, kvsOK_sort hkv, wfSubs_canon ss hss]
    rfl
theorem wfSubs_canon : ∀ (l : List Sec), wfSubs l = true → wfSubs (canonL l) = true
  | [], _ => by rw [canonL, wfSubs]
  | s :: r, h => by
    obtain ⟨h1, h2⟩ := wfSubs_cons h
    rw [canonL, wfSubs, wfSub_canon s h1, wfSubs_canon r h2]
    rfl
end

theorem WF_canon (t : Sec) (imps : List Str) (h : WF t imps) : WF (canon t) imps := by
  obtain ⟨ty, nm, kvs, ss⟩ := t
  obtain ⟨hty, hnm, hkv, hss, himp⟩ := h
  simp only [Sec.type, Sec.name, Sec.kvs, Sec.sections] at hty hnm hkv hss
  rw [canon]
  exact ⟨hty, hnm, kvsOK_sort hkv, wfSubs_canon ss hss, himp⟩

theorem sorted_canon_top (t : Sec) (imps : List Str) (h : WF t imps) : sortedSec (canon t) := by
  obtain ⟨ty, nm, kvs, ss⟩ := t
  obtain ⟨_, _, hkv, hss, _⟩ := h
  simp only [Sec.kvs, Sec.sections] at hkv hss
  rw [canon, sortedSec]
  exact ⟨sortKeys_idem kvs (kvsOK_nodup hkv), sortedL_canon ss hss⟩

theorem canonL_isEmpty (l : List Sec) : (canonL l).isEmpty = l.isEmpty := by
  cases l <;> simp [canonL]

/-- what `Section.__str__` looks at: the sorted keys, whether there are keys, the printed sub-sections -/
theorem secStr_congr (pre ty : Str) (nm : Option Str) (kvs kvs' : List (Str × List Str)) (ss ss' : List Sec)
    (h1 : sortKeys kvs' = sortKeys kvs) (h2 : kvs'.isEmpty = kvs.isEmpty) (h3 : ss'.isEmpty = ss.isEmpty)
    (h4 : ∀ p, secStrs p ss' = secStrs p ss) (imports : List Str) :
    secStr imports pre (.mk ty nm kvs' ss') = secStr imports pre (.mk ty nm kvs ss) := by
  unfold secStr
  simp only [h1, h2, h3, h4]

mutual
theorem secStr_canon : ∀ (s : Sec) (imports : List Str) (pre : Str), wfSub s = true →
    secStr imports pre (canon s) = secStr imports pre s
  | .mk ty nm kvs ss, imports, pre, h => by
    obtain ⟨_, _, hkv, hss⟩ := wfSub_parts h
    rw [canon]
    exact secStr_congr pre ty nm kvs (sortKeys kvs) ss (canonL ss) (sortKeys_idem kvs (kvsOK_nodup hkv))
      (sortKeys_isEmpty kvs) (canonL_isEmpty ss) (fun p => secStrs_canon ss p hss) imports
theorem secStrs_canon : ∀ (l : List Sec) (pre : Str), wfSubs l = true → secStrs pre (canonL l) = secStrs pre l
  | [], _, _ => by rw [canonL]
  | s :: r, pre, h => by
    obtain ⟨h1, h2⟩ := wfSubs_cons h
    rw [canonL, secStrs, secStrs, secStr_canon s [] pre h1, secStrs_canon r pre h2]
end

theorem slStr_canon (t : Sec) (imps : List Str) (h : WF t imps) : slStr (canon t) imps = slStr t imps := by
  obtain ⟨ty, nm, kvs, ss⟩ := t
  obtain ⟨_, _, hkv, hss, _⟩ := h
  simp only [Sec.kvs, Sec.sections] at hkv hss
  unfold slStr
  rw [canon]
  exact secStr_congr [] ty nm kvs (sortKeys kvs) ss (canonL ss) (sortKeys_idem kvs (kvsOK_nodup hkv))
    (sortKeys_isEmpty kvs) (canonL_isEmpty ss) (fun p => secStrs_canon ss p hss) imps

end ZCV.Roundtrip
