import ZCV.Lemmas.ElabTop
import ZCV.Lemmas.ElabRulesDoc
/-!
The four member elements `<key>`, `<multikey>`, `<section>`, `<multisection>` as computations of WHAT THEY ADD to the
container on top of the stack, from what they read of the state — equations between outcomes, failures included.  Their
children are character-data elements, which only act on the frame the element has pushed (`localStep`): reading them is the
fold `leafBodyE` over that frame (`leafBody_eq`; `leafBodyE_ends` is the induction over it).  A whole `<key>` / `<multikey>`
element appends one finished key and does nothing else (`keyElem_eq`): `start_key` files the new object and pushes a copy,
the children act on the copy, `end_key` finishes the copy and writes it over the object filed — in Python both are one
object.  A whole `<section>` / `<multisection>` element appends one section slot (`sectElem_eq`).  Whoever reasons about a
key element — that it keeps an invariant, raises no internal error, obeys the rules exactly when accepted, does the same in
two states that agree on the container — reasons about `keyElemE`; `sectElemE` serves the two towers that compare outcomes
(`ElabExpand*`, `ElabComplete*`), the other two take a section by its start handler, its children and its end handler.
-/
namespace ZCV.Elab
open ZCV ZCV.Cfg

/-- What an accepted element `t` below a `pk` element is, for the handlers: one of the four inherited elements (`inheritedTags`; below
    `<schema>` or `<sectiontype>` only), a type or import (top level only), or a character-data element — and then
    `visitElem` is `charactersTag` on its text. -/
theorem child_cases {d : DocKind} {p t : Str} {pk : PK} (hn : nestingCheck p t = .ok ())
    (hp : pkOfB (isComp d) p = some pk) :
    (inheritedTags.contains t = true ∧ (pk = .topS ∨ pk = .stype)) ∨
    ((t = "sectiontype".toList ∨ t = "abstracttype".toList ∨ t = "import".toList) ∧ (pk = .topS ∨ pk = .topC)) ∨
    (∀ (env : Env) (h : Hooks) (st : PSt) (a : Attrs) (c : List Node),
      visitElem env h d (some p) st (.elem t a c) =
        (collectText t c >>= fun data => charactersTag (isComp d) t a (strip data) st)) := by
  obtain ⟨ck, hck, hc⟩ := nesting_compat hn hp
  obtain ⟨h1, h2, h3⟩ := ckTable_kinds _ (ckOf_tag hck)
  obtain ⟨g1, g2⟩ := compat_kinds pk ck hc
  cases hcont : ck.container with
  | true => exact Or.inl ⟨h1 hcont, g1 hcont⟩
  | false =>
    cases hdecl : ck.decl with
    | true => exact Or.inr (Or.inl ⟨h2 hdecl, g2 hdecl⟩)
    | false =>
      obtain ⟨k1, k2, k3⟩ := h3 hcont hdecl
      refine Or.inr (Or.inr fun env h st a c => ?_)
      cases d with
      | schema ext => exact visitElem_cdata_eq hn k2.1 k2.2 k1
      | component => exact visitElem_cdata_eq hn k3.1 k3.2 k1

/-- below `<key>`, `<multikey>`, `<section>`, `<multisection>`, `<abstracttype>`: character-data elements only -/
theorem cdata_child {d : DocKind} {p t : Str} {pk : PK} (hn : nestingCheck p t = .ok ())
    (hp : pkOfB (isComp d) p = some pk) (hpk : pk = .key ∨ pk = .sect ∨ pk = .atype) (env : Env) (h : Hooks) (st : PSt)
    (a : Attrs) (c : List Node) :
    visitElem env h d (some p) st (.elem t a c) =
      (collectText t c >>= fun data => charactersTag (isComp d) t a (strip data) st) := by
  rcases child_cases hn hp with ⟨_, hk⟩ | ⟨_, hk⟩ | hc
  · rcases hpk with rfl | rfl | rfl <;> rcases hk with hk | hk <;> cases hk
  · rcases hpk with rfl | rfl | rfl <;> rcases hk with hk | hk <;> cases hk
  · exact hc env h st a c

/-! ## character data on the frame of a member element -/

/-- frames that character data acts on without looking at the schema state -/
def Frame.isLocal : Frame → Bool
  | .key _ => true
  | .sect _ _ => true
  | _ => false

/-- what a character-data element does to a key / section frame -/
def localStep (isC : Bool) (tag : Str) (attrs : Attrs) (data : Str) : Frame → EM Frame
  | .key k =>
    if tag == "default".toList then
      if k.minOccurs != 0 then serr "required key cannot have default values"
      else (addDefault k data (attr attrs "key")).map Frame.key
    else if tag == "description".toList then
      if k.hasDesc && !isC then serr "at most one <description> may be used for each element"
      else .ok (.key { k with hasDesc := true })
    else if tag == "example".toList then
      if k.hasEx then serr "at most one <example> may be used for each element" else .ok (.key { k with hasEx := true })
    else if tag == "metadefault".toList then .ok (.key k)
    else .error (.internal "AttributeError")
  | .sect d e =>
    if tag == "default".toList then .error (.internal "AttributeError")
    else if tag == "description".toList then
      if d && !isC then serr "at most one <description> may be used for each element" else .ok (.sect true e)
    else if tag == "example".toList then
      if e then serr "at most one <example> may be used for each element" else .ok (.sect d true)
    else if tag == "metadefault".toList then .ok (.sect d e)
    else .error (.internal "AttributeError")
  | f => .ok f

theorem charactersTag_eq_local {isC : Bool} {tag : Str} {attrs : Attrs} {data : Str} {st : PSt} {f : Frame}
    {rest : List Frame} (hs : st.stack = f :: rest) (hf : f.isLocal = true) :
    charactersTag isC tag attrs data st =
      (localStep isC tag attrs data f).map (fun f' => { st with stack := f' :: rest }) := by
  unfold charactersTag localStep markDesc markExample
  rw [hs]
  cases f with
  | key k =>
    dsimp only
    by_cases h1 : (tag == "default".toList) = true
    · simp only [h1, ↓reduceIte]
      by_cases hm : (k.minOccurs != 0) = true
      · simp only [hm, ↓reduceIte]; rfl
      · simp only [hm, Bool.false_eq_true, ↓reduceIte]
        cases addDefault k data (attr attrs "key") <;> rfl
    · simp only [h1, Bool.false_eq_true, ↓reduceIte]
      by_cases h2 : (tag == "description".toList) = true
      · simp only [h2, ↓reduceIte]
        by_cases hd : (k.hasDesc && !isC) = true
        · simp only [hd, ↓reduceIte]; rfl
        · simp only [hd, Bool.false_eq_true, ↓reduceIte]; rfl
      · simp only [h2, Bool.false_eq_true, ↓reduceIte]
        by_cases h3 : (tag == "example".toList) = true
        · simp only [h3, ↓reduceIte]
          by_cases hd : k.hasEx = true
          · simp only [hd, ↓reduceIte]; rfl
          · simp only [hd, Bool.false_eq_true, ↓reduceIte]; rfl
        · simp only [h3, Bool.false_eq_true, ↓reduceIte]
          by_cases h4 : (tag == "metadefault".toList) = true
          · simp only [h4, ↓reduceIte]
            show Except.ok st = Except.ok { st with stack := Frame.key k :: rest }
            rw [← hs]
          · simp only [h4, Bool.false_eq_true, ↓reduceIte]; rfl
  | sect d e =>
    dsimp only
    by_cases h1 : (tag == "default".toList) = true
    · simp only [h1, ↓reduceIte]; rfl
    · simp only [h1, Bool.false_eq_true, ↓reduceIte]
      by_cases h2 : (tag == "description".toList) = true
      · simp only [h2, ↓reduceIte]
        by_cases hd : (d && !isC) = true
        · simp only [hd, ↓reduceIte]; rfl
        · simp only [hd, Bool.false_eq_true, ↓reduceIte]; rfl
      · simp only [h2, Bool.false_eq_true, ↓reduceIte]
        by_cases h3 : (tag == "example".toList) = true
        · simp only [h3, ↓reduceIte]
          by_cases hd : e = true
          · simp only [hd, ↓reduceIte]; rfl
          · simp only [hd, Bool.false_eq_true, ↓reduceIte]; rfl
        · simp only [h3, Bool.false_eq_true, ↓reduceIte]
          by_cases h4 : (tag == "metadefault".toList) = true
          · simp only [h4, ↓reduceIte]
            show Except.ok st = Except.ok { st with stack := Frame.sect d e :: rest }
            rw [← hs]
          · simp only [h4, Bool.false_eq_true, ↓reduceIte]; rfl
  | schema => cases hf
  | stype n => cases hf
  | atype n => cases hf

theorem ite_err_ok {α} {c : Prop} [Decidable c] {e : EFail} {x y : α}
    (h : (if c then .error e else .ok x : EM α) = .ok y) : x = y := by
  split at h
  · cases h
  · cases h; rfl

theorem localStep_isLocal {isC : Bool} {tag : Str} {attrs : Attrs} {data : Str} {f f' : Frame} (hf : f.isLocal = true)
    (h : localStep isC tag attrs data f = .ok f') : f'.isLocal = true ∧ ∀ k, f = .key k → ∃ k', f' = .key k' := by
  unfold localStep at h
  cases f with
  | key k =>
    dsimp only at h
    rcases ite_ok h with ⟨_, h⟩ | ⟨_, h⟩
    · rcases ite_ok h with ⟨_, h⟩ | ⟨_, h⟩
      · cases h
      · cases hd : addDefault k data (attr attrs "key") with
        | error e => rw [hd] at h; cases h
        | ok k1 => rw [hd] at h; cases h; exact ⟨rfl, fun _ _ => ⟨_, rfl⟩⟩
    rcases ite_ok h with ⟨_, h⟩ | ⟨_, h⟩
    · cases ite_err_ok h; exact ⟨rfl, fun _ _ => ⟨_, rfl⟩⟩
    rcases ite_ok h with ⟨_, h⟩ | ⟨_, h⟩
    · cases ite_err_ok h; exact ⟨rfl, fun _ _ => ⟨_, rfl⟩⟩
    rcases ite_ok h with ⟨_, h⟩ | ⟨_, h⟩
    · cases h; exact ⟨rfl, fun _ _ => ⟨_, rfl⟩⟩
    · cases h
  | sect d e =>
    dsimp only at h
    rcases ite_ok h with ⟨_, h⟩ | ⟨_, h⟩
    · cases h
    rcases ite_ok h with ⟨_, h⟩ | ⟨_, h⟩
    · cases ite_err_ok h; exact ⟨rfl, fun _ hk => nomatch hk⟩
    rcases ite_ok h with ⟨_, h⟩ | ⟨_, h⟩
    · cases ite_err_ok h; exact ⟨rfl, fun _ hk => nomatch hk⟩
    rcases ite_ok h with ⟨_, h⟩ | ⟨_, h⟩
    · cases h; exact ⟨rfl, fun _ hk => nomatch hk⟩
    · cases h
  | schema => cases hf
  | stype n => cases hf
  | atype n => cases hf

theorem finishKey_ok {k k' : EKey} (h : finishKey k = .ok k') : k' = { k with finished := true } := by
  unfold finishKey at h
  split at h
  · cases h
  · injection h with h; exact h.symm

end ZCV.Elab

namespace ZCV.SchemaRules
open ZCV ZCV.Elab
open ZCV.Cfg (VI SectInfo Default)

theorem isKeyTag_keyTag {t : Str} (h : isKeyTag t = true) :
    ∃ multi, t = keyTag multi ∧ (t == "multikey".toList) = multi := by
  rcases isKeyTag_cases h with rfl | rfl
  · exact ⟨false, rfl, by char_lits; decide +kernel⟩
  · exact ⟨true, rfl, by char_lits; decide +kernel⟩

theorem isSectTag_sectTag {t : Str} (h : isSectTag t = true) :
    ∃ multi, t = sectTag multi ∧ (t == "multisection".toList) = multi := by
  rcases isSectTag_cases h with rfl | rfl
  · exact ⟨false, rfl, by char_lits; decide +kernel⟩
  · exact ⟨true, rfl, by char_lits; decide +kernel⟩

end ZCV.SchemaRules

namespace ZCV.Elab
open ZCV ZCV.Cfg
open ZCV.SchemaRules (keyTag keyTag_handled endObj endHandled_keyTag sectTag sectTag_handled startSectObj startHandled_sectTag
  endHandled_sectTag startHandled_keyTag)

theorem bind_map_left {ε α β γ} (x : Except ε α) (g : α → β) (F : β → Except ε γ) :
    x.map g >>= F = x >>= fun a => F (g a) := by
  cases x <;> rfl

/-! ## the children of a member element: a fold over its frame -/

/-- the children of a `<key>` / `<multikey>` / `<section>` / `<multisection>` element, as a computation on the frame they
act on: blank text, or character-data elements the nesting table allows, holding text only -/
def leafBodyE (isC : Bool) (parent : Str) : List Node → Frame → EM Frame
  | [], f => .ok f
  | .text s :: r, f =>
    if (strip s).isEmpty then leafBodyE isC parent r f else .error (.schema "unexpected non-blank character data")
  | .elem t a c :: r, f =>
    nestingCheck parent t >>= fun _ => collectText t c >>= fun data =>
      localStep isC t a (strip data) f >>= fun f' => leafBodyE isC parent r f'

/-- the one induction over the children of a member element: what every step keeps (`I`) holds of the frame at the end,
and the element fails as its steps do (`Q`), or with a schema error -/
theorem leafBodyE_ends {isC : Bool} {parent : Str} {I : Frame → Prop} {Q : EFail → Prop} (hQ : ∀ e : EFail, e.isSchema → Q e)
    (htext : ∀ t c, nestingCheck parent t = .ok () → Ends (collectText t c) (fun _ => True) Q)
    (hstep : ∀ t a data f, nestingCheck parent t = .ok () → I f → Ends (localStep isC t a data f) I Q) :
    ∀ (c : List Node) (f : Frame), I f → Ends (leafBodyE isC parent c f) I Q
  | [], f, hf => hf
  | .text s :: r, f, hf => by
    rw [leafBodyE]
    exact Ends.ite (fun _ => leafBodyE_ends hQ htext hstep r f hf) fun _ => Ends.error (hQ _ trivial)
  | .elem t a c :: r, f, hf => by
    rw [leafBodyE]
    refine Ends.bind_eq (Ends.intro (fun _ _ => trivial) fun e he => hQ e (nestingCheck_error he)) fun u hn _ => ?_
    cases u
    exact (htext t c hn).bind fun data _ => (hstep t a _ f hn hf).bind fun f' hf' => leafBodyE_ends hQ htext hstep r f' hf'

theorem leafBodyE_isLocal {isC : Bool} {parent : Str} (c : List Node) {f f' : Frame} (hf : f.isLocal = true)
    (h : leafBodyE isC parent c f = .ok f') : f'.isLocal = true ∧ ∀ k, f = .key k → ∃ k', f' = .key k' :=
  (leafBodyE_ends (Q := fun _ => True) (I := fun g => g.isLocal = true ∧ ∀ k, f = .key k → ∃ k', g = .key k')
    (fun _ _ => trivial) (fun _ _ _ => Ends.intro (fun _ _ => trivial) fun _ _ => trivial)
    (fun t a data g _ hg => Ends.intro (fun g' hg' => ⟨(localStep_isLocal hg.1 hg').1, fun k hk =>
      let ⟨k1, e1⟩ := hg.2 k hk; (localStep_isLocal hg.1 hg').2 k1 e1⟩) fun _ _ => trivial)
    c f ⟨hf, fun k hk => ⟨k, hk⟩⟩).of_ok h

/-- **the children of a member element only act on its frame**, whatever the rest of the state -/
theorem leafBody_eq {env : Env} {h : Hooks} {d : DocKind} {parent : Str} {pk : PK}
    (hp : pkOfB (isComp d) parent = some pk) (hpk : pk = .key ∨ pk = .sect) :
    ∀ (c : List Node) (st : PSt) (f : Frame) (rest : List Frame), st.stack = f :: rest → f.isLocal = true →
      visitChildren env h d parent st c =
        (leafBodyE (isComp d) parent c f).map fun f' => { st with stack := f' :: rest }
  | [], st, f, rest, hs, _ => by
    rw [visitChildren, leafBodyE]
    show Except.ok st = Except.ok { st with stack := f :: rest }
    rw [← hs]
  | .text s :: r, st, f, rest, hs, hf => by
    rw [visitChildren_text, leafBodyE]
    by_cases hb : (strip s).isEmpty = true
    · rw [if_pos hb, if_pos hb]; exact leafBody_eq hp hpk r st f rest hs hf
    · rw [if_neg hb, if_neg hb]; rfl
  | .elem t a c :: r, st, f, rest, hs, hf => by
    rw [visitChildren_elem, leafBodyE, ← bind_map]
    cases hn : nestingCheck parent t with
    | error e => rw [visitElem_nest_err hn]; rfl
    | ok u =>
      rw [cdata_child hn hp (hpk.imp_right Or.inl) env h, bind_assoc]
      change _ = Except.map _ (collectText t c >>= _)
      rw [← bind_map]
      refine bind_congr fun data => ?_
      rw [charactersTag_eq_local hs hf, bind_map_left, ← bind_map]
      cases hl : localStep (isComp d) t a (strip data) f with
      | error e => rfl
      | ok f1 => exact leafBody_eq hp hpk r { st with stack := f1 :: rest } f1 rest rfl (localStep_isLocal hf hl).1

/-! ## a whole `<key>` / `<multikey>` element -/

/-- `pushChild` over a container with children `ch`, in terms of `topOf` / `setTopOf` -/
theorem pushChild_eq_top {st : PSt} {ch : List (Option Str × EInfo)} (hch : topOf st.es st.stack = .ok ch)
    (key : Option Str) (info : EInfo) (f : Frame) :
    pushChild st key info f = dupCheck ch key info.attr >>= fun _ =>
      pure { st with es := setTopOf st.es st.stack (ch ++ [(key, info)]), stack := f :: st.stack } := by
  rw [pushChild_eq ((topChildren_eq st).trans hch), setTopChildren_eq]

theorem pkOfB_keyTag (comp multi : Bool) : pkOfB comp (keyTag multi) = some .key := by
  cases multi
  · exact pkOfB_key comp
  · exact pkOfB_multikey comp

theorem pkOfB_sectTag (comp multi : Bool) : pkOfB comp (sectTag multi) = some .sect := by
  cases multi
  · exact pkOfB_section comp
  · exact pkOfB_multisection comp

/-- a whole `<key>` / `<multikey>` element, as a computation of the child it adds to a container with key type `kt` and
children `ch` (`gi`: what `get_key_info` gives there) -/
def keyElemE (env : Env) (isC multi : Bool) (gi : EM (Str × Str × Option Str × Str)) (kt : Str)
    (ch : List (Option Str × EInfo)) (a : Attrs) (c : List Node) : EM (Option Str × EInfo) :=
  startKeyObjM multi gi a >>= fun p => dupCheck ch (some p.1) p.2.attr >>= fun _ =>
    leafBodyE isC (keyTag multi) c (.key p.2) >>= fun f =>
      (match f with
        | .key k => endObj multi env (.ok kt) k
        | _ => .error (.internal "AttributeError")) >>= fun k' => pure (some p.1, EInfo.key k')

/-- start handler, children and end handler of a `<key>` / `<multikey>` element -/
theorem keyElem_run {env : Env} {h : Hooks} {d : DocKind} {st : PSt} {multi : Bool} {a : Attrs} {c : List Node}
    {ch : List (Option Str × EInfo)} {kt : Str} (hch : topOf st.es st.stack = .ok ch) (hkt : ktOf st.es st.stack = .ok kt) :
    (startHandled env h (keyTag multi) a st >>= fun st1 =>
        visitChildren env h d (keyTag multi) st1 c >>= fun st2 => endHandled env (keyTag multi) st2) =
      (keyElemE env (isComp d) multi (getKeyInfo env st a) kt ch a c).map fun x =>
        { st with es := setTopOf st.es st.stack (ch ++ [x]) } := by
  rw [startHandled_keyTag, keyElemE, bind_assoc, ← bind_map]
  refine bind_congr fun q => ?_
  rw [pushChild_eq_top hch, bind_assoc, ← bind_map]
  refine bind_congr fun u => ?_
  rw [pure_bind, leafBody_eq (pkOfB_keyTag _ multi) (.inl rfl) c _ (.key q.2) st.stack rfl rfl, bind_map_left, ← bind_map]
  cases hl : leafBodyE (isComp d) (keyTag multi) c (.key q.2) with
  | error e => rfl
  | ok f =>
    obtain ⟨k, rfl⟩ := (leafBodyE_isLocal c rfl hl).2 _ rfl
    change endHandled env (keyTag multi) _ = Except.map _ (endObj multi env (.ok kt) k >>= _)
    rw [endHandled_keyTag (k := k) (rest := st.stack) rfl, ← bind_map]
    dsimp only
    rw [topKeytype_ktOf]
    dsimp only
    rw [ktOf_setTopOf, hkt]
    refine bind_congr fun k' => ?_
    -- the object filed by the start handler is the last child: the end handler writes the finished copy over it
    rw [replaceLastChild_eq_top (ch := ch) (key := some q.1) (k0 := q.2) (topOf_setTopOf hch)]
    dsimp only
    rw [setTopOf_setTopOf]
    rfl

/-- **a `<key>` / `<multikey>` element appends one finished key to the container on top of the stack**, and that is all
it does -/
theorem keyElem_eq {env : Env} {h : Hooks} {d : DocKind} {p : Str} {st : PSt} {multi : Bool} {a : Attrs} {c : List Node}
    {ch : List (Option Str × EInfo)} {kt : Str} (hn : nestingCheck p (keyTag multi) = .ok ())
    (hch : topOf st.es st.stack = .ok ch) (hkt : ktOf st.es st.stack = .ok kt) :
    visitElem env h d (some p) st (.elem (keyTag multi) a c) =
      (keyElemE env (isComp d) multi (getKeyInfo env st a) kt ch a c).map fun x =>
        { st with es := setTopOf st.es st.stack (ch ++ [x]) } :=
  (visitElem_handled_eq hn (handledTag d _ (keyTag_handled multi)).1 (handledTag d _ (keyTag_handled multi)).2).trans
    (keyElem_run hch hkt)

/-! ## a whole `<section>` / `<multisection>` element -/

/-- a whole `<section>` / `<multisection>` element, as a computation of the slot it adds to a container with children
`ch` (`gs`, `gn`: what `get_sectiontype` and `get_name_info` give there) -/
def sectElemE (isC multi : Bool) (gs : EM Str) (gn : EM (Option Str × Option Str × Option Str))
    (ch : List (Option Str × EInfo)) (a : Attrs) (c : List Node) : EM (Option Str × EInfo) :=
  startSectObj multi gs gn a >>= fun p => dupCheck ch p.1 p.2.attr >>= fun _ =>
    leafBodyE isC (sectTag multi) c (.sect false false) >>= fun _ => pure (p.1, EInfo.sect p.2)

/-- **a `<section>` / `<multisection>` element appends one section slot to the container on top of the stack**, and
that is all it does -/
theorem sectElem_eq {env : Env} {h : Hooks} {d : DocKind} {p : Str} {st : PSt} {multi : Bool} {a : Attrs} {c : List Node}
    {ch : List (Option Str × EInfo)} (hn : nestingCheck p (sectTag multi) = .ok ())
    (hch : topOf st.es st.stack = .ok ch) :
    visitElem env h d (some p) st (.elem (sectTag multi) a c) =
      (sectElemE (isComp d) multi (getSectiontype st a) (getNameInfo env st a (some ['*'])) ch a c).map fun x =>
        { st with es := setTopOf st.es st.stack (ch ++ [x]) } := by
  rw [visitElem_handled_eq hn (handledTag d _ (sectTag_handled multi)).1 (handledTag d _ (sectTag_handled multi)).2,
    startHandled_sectTag, sectElemE, bind_assoc, ← bind_map]
  refine bind_congr fun q => ?_
  rw [pushChild_eq_top hch, bind_assoc, ← bind_map]
  refine bind_congr fun u => ?_
  rw [pure_bind, leafBody_eq (pkOfB_sectTag _ multi) (.inr rfl) c _ (.sect false false) st.stack rfl rfl, bind_map_left,
    ← bind_map, endHandled_sectTag]
  refine bind_congr fun f => ?_
  rfl

/-- the slot depends on the type table only through the lookup of the section's type: an element accepted under one
table is accepted, with the same slot, wherever that lookup gives the same -/
theorem sectElemE_mono {isC multi : Bool} {gs gs' : EM Str} {gn : EM (Option Str × Option Str × Option Str)}
    {ch : List (Option Str × EInfo)} {a : Attrs} {c : List Node} {x : Option Str × EInfo}
    (hgs : ∀ ty, gs = .ok ty → gs' = .ok ty) (h : sectElemE isC multi gs gn ch a c = .ok x) :
    sectElemE isC multi gs' gn ch a c = .ok x := by
  have : ∃ ty, gs = .ok ty := by
    unfold sectElemE at h
    obtain ⟨p, hp, _⟩ := bind_ok_inv h
    cases multi with
    | false =>
      change startSectionObj gs gn a = .ok p at hp
      unfold startSectionObj at hp
      obtain ⟨ty, hty, _⟩ := bind_ok_inv hp
      exact ⟨ty, hty⟩
    | true =>
      change startMultisectionObj gs gn a = .ok p at hp
      unfold startMultisectionObj at hp
      obtain ⟨ty, hty, _⟩ := bind_ok_inv hp
      exact ⟨ty, hty⟩
  obtain ⟨ty, hty⟩ := this
  rw [hgs ty hty, ← hty]
  exact h

end ZCV.Elab
