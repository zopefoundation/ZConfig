/-!
`"abc".toList` in the kernel.  A string literal is a UTF-8 byte array; evaluating `String.toList` on it decodes the bytes
in time quadratic in the length (some 40 000 heartbeats for four characters, two million for sixty-four).  The kernel also
unfolds a literal to `String.ofList ['a', 'b', 'c']`, so `String.toList_ofList` yields the character list by a rewrite that
costs nothing.  `char_lits` does that for every literal in the goal; use it in front of `decide +kernel` on a closed goal.

A table of names behind a constant (`def names := ["abc", …].map String.toList`) is out of `char_lits`' reach, and the kernel
decodes its literals again in every declaration that evaluates through it.  `Decoded names` is that table as character
lists, obtained once, by the same rewrite and without evaluation: `decode_names`.
-/

macro "char_lits" : tactic => `(tactic| repeat rewrite [String.toList_ofList])

namespace ZCV

abbrev Decoded (t : List (List Char)) : Type := { l : List (List Char) // t = l }

theorem toList_cons {cs : List Char} {l l' : List (List Char)} (h : l = l') :
    (String.ofList cs).toList :: l = cs :: l' := by
  rw [String.toList_ofList, h]

/-- Closes `Decoded [lit₁.toList, …]` (also written `[lit₁, …].map String.toList`), once the constant that names the table
    is unfolded (`delta`): the character lists are found by unification, one `toList_cons` per name.  The `let`s of a long
    list literal are reduced BEFORE the list to be found exists as a metavariable (afterwards `dsimp` would close the goal by
    `rfl`, with the table as it stands). -/
macro "decode_names" : tactic => `(tactic|
  (dsimp -failIfUnchanged only
   apply Subtype.mk
   repeat apply toList_cons
   exact rfl))

end ZCV
