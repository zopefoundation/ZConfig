import ZCV.Lemmas.Url
import ZCV.Lemmas.UrlPathJoin
/-! The URLs `normalizeURL` builds from paths.  What `up_join_text` says when base and reference are quoted paths (the joined URL
is the URL of the resolved path; the path-level statements of Props/C18 follow from it by `C18_quote_roundtrip`) and when the
reference is used as written (the result is decoded segment by segment); such a URL has no fragment, is in `file:///` normal form,
and is told apart from a path. -/
namespace ZCV.UrlPath
open ZCV
open ZCV.UrlPathSpec (step normalize resolve isName render segments absDir relFileRef urlNeutral neutralChar namesFile absFilePath normalFilePath)

/-! ## `step` commutes with a map that respects `..`, `.`, `""` -/

/-- `f` does not confuse a segment with `..`, `.` or the empty segment -/
def Respects (f : Str → Str) (x : Str) : Prop :=
  (f x = ['.', '.'] ↔ x = ['.', '.']) ∧ (f x = ['.'] ↔ x = ['.']) ∧ (f x = [] ↔ x = [])

theorem up_step_map (f : Str → Str) (st : List Str) (x : Str) (h : Respects f x) :
    step (st.map f) (f x) = (step st x).map f := by
  obtain ⟨h1, h2, h3⟩ := h
  unfold step
  by_cases e1 : x = ['.', '.']
  · rw [if_pos (h1.2 e1), if_pos e1, List.map_dropLast]
  · rw [if_neg (fun e => e1 (h1.1 e)), if_neg e1]
    by_cases e2 : x = ['.'] ∨ x = []
    · rw [if_pos e2, if_pos (by rcases e2 with e | e; exact Or.inl (h2.2 e); exact Or.inr (h3.2 e))]
    · rw [if_neg e2, if_neg (by intro hh; rcases hh with e | e; exact e2 (Or.inl (h2.1 e)); exact e2 (Or.inr (h3.1 e)))]
      simp

theorem up_foldl_step_map (f : Str → Str) (st xs : List Str) (h : ∀ x ∈ xs, Respects f x) :
    (xs.map f).foldl step (st.map f) = (xs.foldl step st).map f := by
  induction xs generalizing st with
  | nil => rfl
  | cons a t ih =>
    rw [List.map_cons, List.foldl_cons, List.foldl_cons, up_step_map f st a (h a (by simp)),
      ih _ (fun x hx => h x (by simp [hx]))]

theorem up_resolve_map (f : Str → Str) (a b : List Str) (h : ∀ x ∈ a ++ b, Respects f x) :
    resolve (a.map f) (b.map f) = (resolve a b).map f := by
  unfold resolve normalize
  rw [← List.map_append]
  exact up_foldl_step_map f [] (a ++ b) h

theorem up_isName_map (f : Str → Str) (x : Str) (h : Respects f x) : isName (f x) = isName x := by
  obtain ⟨h1, h2, h3⟩ := h
  unfold isName
  rw [Bool.eq_iff_iff]
  simp only [Bool.and_eq_true, bne_iff_ne, ne_eq, h1, h2, h3]

/-! ## what `quote` writes, as `urlsplit` and the segment walk see it -/

theorem up_quotedChar_clean (c : Char) (h : quotedChar c = true) :
    cleanChar c = true ∧ c0OrSpace c = false ∧ c ≠ ':' := by
  unfold quotedChar safeByte at h
  unfold cleanChar c0OrSpace tabCrLf
  have hcol : c ≠ ':' ↔ c.toNat ≠ 58 := by
    rw [ne_eq, ne_eq, ← Char.toNat_inj]; rfl
  rw [hcol]
  simp only [ceq, cne, Char.reduceToNat, Bool.or_eq_true, Bool.and_eq_true, decide_eq_true_eq, beq_iff_eq,
    bne_iff_ne, ne_eq, Bool.not_eq_true', Bool.or_eq_false_iff, beq_eq_false_iff_ne, decide_eq_false_iff_not] at h ⊢
  omega

theorem up_unquote_raw (u : Str) (h : '%' ∉ u) : unquote u = u := by
  unfold unquote
  rw [up_contains_false _ _ h]
  simp only [Bool.false_eq_true, ↓reduceIte]

theorem up_respects_quote (p : Str) : Respects quote p :=
  ⟨up_quote_eq_dotdot p, up_quote_eq_dot p, up_quote_eq_nil p⟩

theorem up_relFileRef (ref : Str) (h : relFileRef ref) : ref ≠ [] ∧ ref.head? ≠ some '/' ∧ namesFile ref = true := by
  obtain ⟨hrel, l, hl, hn⟩ := h
  refine ⟨?_, hrel, by rw [namesFile, hl]; exact hn⟩
  rintro rfl
  cases Option.some.inj hl
  exact absurd hn (by decide)

theorem up_map_unquote_quote (l : List Str) : (l.map quote).map unquote = l := by
  rw [List.map_map]
  have : unquote ∘ quote = id := by funext x; exact up_unquote_quote x
  rw [this, List.map_id]

theorem up_quote_head (ref : Str) (h : ref.head? ≠ some '/') :
    ∀ c, (quote ref).head? = some c → c0OrSpace c = false ∧ c ≠ '/' := by
  intro c hc
  obtain ⟨w, hw⟩ := List.head?_eq_some_iff.1 hc
  refine ⟨(up_quotedChar_clean c (up_quote_chars ref c (by rw [hw]; simp))).2.1, ?_⟩
  cases ref with
  | nil => exact nomatch hw
  | cons a t =>
    -- the head comes from the encoding of the first character, which is not a slash
    obtain ⟨x, v, hq⟩ := List.exists_cons_of_ne_nil (mt (up_quote_eq_nil [a]).1 (by simp))
    rw [up_quote_cons, hq] at hw
    cases (List.cons.inj hw).1
    rintro rfl
    exact up_quote_single_noslash a (fun e => h (by rw [e]; rfl)) (by rw [hq]; simp)

theorem up_quote_nocolon (ref : Str) : ∀ c ∈ (quote ref).takeWhile (· != '/'), c ≠ ':' := by
  intro c hc
  exact (up_quotedChar_clean c (up_quote_chars ref c ((List.takeWhile_sublist _).subset hc))).2.2

theorem up_isName_quote (l : Str) : isName (quote l) = isName l := up_isName_map quote l (up_respects_quote l)

theorem up_neutral_clean (c : Char) (h : neutralChar c = true) : cleanChar c = true ∧ c ≠ '%' := by
  unfold neutralChar at h
  unfold cleanChar tabCrLf
  simp only [Bool.and_eq_true, bne_iff_ne, ne_eq] at h
  simp only [Bool.and_eq_true, bne_iff_ne, ne_eq, Bool.not_eq_true', Bool.or_eq_false_iff, beq_eq_false_iff_ne]
  exact ⟨⟨⟨h.1.1.1.1.2, h.1.1.1.2⟩, ⟨h.1.1.2, h.1.2⟩, h.2⟩, h.1.1.1.1.1⟩

theorem up_normalize_map_quote (xs : List Str) : normalize (xs.map quote) = (normalize xs).map quote := by
  have := up_foldl_step_map quote [] xs (fun x _ => up_respects_quote x)
  simpa [normalize] using this

theorem up_pathToUrl_render (names : List Str) : pathToUrl (render names) = fileSlashes ++ render (names.map quote) := by
  unfold pathToUrl render
  rw [up_unsegments_eq, up_unsegments_eq, up_quote_cons, up_quote_single_slash, up_quote_joinWith]
  rfl

theorem up_quote_chars_clean (t : Str) : ∀ c ∈ quote t, cleanChar c = true :=
  fun c hc => (up_quotedChar_clean c (up_quote_chars t c hc)).1

theorem up_pathToUrl_abs (t : Str) : pathToUrl ('/' :: t) = fileSlashes ++ '/' :: quote t := by
  unfold pathToUrl
  rw [up_quote_cons, up_quote_single_slash]
  rfl

/-! ## quoted texts -/

theorem up_relText_quote (ref : Str) (hne : ref ≠ []) (hrel : ref.head? ≠ some '/') : RelText (quote ref) :=
  ⟨fun e => hne ((up_quote_eq_nil ref).1 e), up_quote_head ref hrel, up_quote_nocolon ref⟩

theorem up_segments_quote (p : Str) : segments (quote p) = (segments p).map quote := by
  rw [up_segments_eq, up_segments_eq, up_splitOn_quote]

theorem up_namesFile_quote (p : Str) : namesFile (quote p) = namesFile p := by
  unfold namesFile
  rw [up_segments_quote, List.getLast?_map]
  cases (segments p).getLast? with
  | none => rfl
  | some l => exact up_isName_quote l

theorem up_pathToUrl_base (dir file : Str) (hd : absDir dir) (hf : '/' ∉ file) :
    ∃ t, pathToUrl (dir ++ '/' :: file) = fileSlashes ++ '/' :: t ∧ (∀ c ∈ t, cleanChar c = true) ∧
      (segments ('/' :: t)).dropLast = (segments dir).map quote := by
  obtain ⟨t', ht'⟩ : ∃ t', dir ++ '/' :: file = '/' :: t' := by
    rcases hd with rfl | hd
    · exact ⟨file, rfl⟩
    · cases dir with
      | nil => exact nomatch hd
      | cons c d => cases Option.some.inj hd; exact ⟨_, rfl⟩
  refine ⟨quote t', by rw [ht', up_pathToUrl_abs], up_quote_chars_clean t', ?_⟩
  have e : '/' :: quote t' = quote (dir ++ '/' :: file) := by rw [ht', up_quote_cons, up_quote_single_slash]; rfl
  rw [e, up_segments_quote, up_segments_eq, up_splitOn_concat '/' dir file hf,
    List.map_append, List.map_cons, List.map_nil, List.dropLast_concat, up_segments_eq]

/-- **the joined URL is the URL of the resolved path**, every non-empty quoted relative reference -/
theorem up_join_quoted (dir file ref : Str) (hd : absDir dir) (hf : '/' ∉ file) (hne : ref ≠ []) (hrel : ref.head? ≠ some '/') :
    join (pathToUrl (dir ++ '/' :: file)) (quote ref) =
      pathToUrl (render (resolve (segments dir) (segments ref) ++ (if namesFile ref then [] else [[]]))) := by
  obtain ⟨t, hb, ht, hseg⟩ := up_pathToUrl_base dir file hd hf
  rw [hb, up_join_text t _ ht (up_quote_chars_clean ref) (up_relText_quote ref hne hrel), hseg, up_segments_quote,
    up_namesFile_quote, up_pathToUrl_render, List.map_append, up_resolve_map quote _ _ (fun x _ => up_respects_quote x)]
  split <;> rfl

theorem up_join_quoted_nested (dir file r1 r2 : Str) (hd : absDir dir) (hf : '/' ∉ file)
    (hne1 : r1 ≠ []) (hrel1 : r1.head? ≠ some '/') (hn1 : namesFile r1 = true) (hne2 : r2 ≠ []) (hrel2 : r2.head? ≠ some '/') :
    join (join (pathToUrl (dir ++ '/' :: file)) (quote r1)) (quote r2) =
      pathToUrl (render (resolve (segments dir ++ (segments r1).dropLast) (segments r2) ++ (if namesFile r2 then [] else [[]]))) := by
  obtain ⟨t, hb, ht, hseg⟩ := up_pathToUrl_base dir file hd hf
  rw [hb, up_join_text_nested t _ _ ht (up_quote_chars_clean r1) (up_relText_quote r1 hne1 hrel1)
      (by rw [up_namesFile_quote]; exact hn1) (up_quote_chars_clean r2) (up_relText_quote r2 hne2 hrel2),
    hseg, up_segments_quote, up_segments_quote, up_namesFile_quote, up_pathToUrl_render, List.map_append, ← List.map_dropLast,
    ← List.map_append, up_resolve_map quote _ _ (fun x _ => up_respects_quote x)]
  split <;> rfl

theorem up_absFilePath_quote (q : Str) (hq : absFilePath q) : absFilePath (quote q) := by
  obtain ⟨mid, l, hseg, hmne, hl⟩ := hq
  refine ⟨mid.map quote, quote l, by rw [up_segments_quote, hseg]; simp [up_quote_nil], ?_, by rw [up_isName_quote]; exact hl⟩
  intro m hm
  obtain ⟨p, hp, rfl⟩ := List.mem_map.1 hm
  exact fun e => hmne p hp ((up_quote_eq_nil p).1 e)

theorem up_join_absolute (b q : Str) (hb : b.head? = some '/') (hq : absFilePath q) :
    join (pathToUrl b) (quote q) = pathToUrl (render (normalize (segments q))) ∧
    join (pathToUrl b) (pathToUrl q) = pathToUrl (render (normalize (segments q))) := by
  have hres : pathToUrl (render (normalize (segments q))) = fileSlashes ++ render (normalize (segments (quote q))) := by
    rw [up_pathToUrl_render, up_segments_quote, up_normalize_map_quote]
  cases b with
  | nil => exact nomatch hb
  | cons c t =>
    cases Option.some.inj hb
    rw [hres, up_pathToUrl_abs]
    exact up_join_abs_text (quote t) (quote q) (up_quote_chars_clean t) (up_quote_chars_clean q) (up_absFilePath_quote q hq)

/-! ## texts used as written -/

/-- a URL path segment whose decoding does not depend on what follows and that is `..`, `.` or empty exactly when its decoding is -/
def Dec (u : Str) : Prop := Enc u (unquote u) ∧ Respects unquote u

theorem up_dec_quote (p : Str) : Dec (quote p) := by
  unfold Dec Respects
  rw [up_unquote_quote]
  exact ⟨up_enc_quote p, (up_quote_eq_dotdot p).symm, (up_quote_eq_dot p).symm, (up_quote_eq_nil p).symm⟩

theorem up_dec_raw (u : Str) (h : '%' ∉ u) : Dec u := by
  unfold Dec Respects
  rw [up_unquote_raw u h]
  exact ⟨up_enc_raw u h, Iff.rfl, Iff.rfl, Iff.rfl⟩

theorem up_enc_unsegments (l : List Str) (h : ∀ u ∈ l, Dec u) :
    Enc (UrlPathSpec.unsegments l) (UrlPathSpec.unsegments (l.map unquote)) := by
  induction l with
  | nil => exact up_enc_nil
  | cons a t ih =>
    cases t with
    | nil => exact (h a (by simp)).1
    | cons b t =>
      exact up_enc_append (h a (by simp)).1 (up_enc_append (u1 := ['/']) (p1 := ['/']) up_enc_slash (ih (fun u hu => h u (by simp [hu]))))

theorem up_urlToPath_file (x : Str) : urlToPath (fileSlashes ++ x) = unquote x := rfl

/-- what `urlopen` finds for a URL whose path is made of quoted segments and of segments without `%`, after lexical resolution -/
theorem up_urlToPath_resolved (A S mk : List Str) (hS : ∀ s ∈ S, '%' ∉ s) (hmk : ∀ s ∈ mk, s = []) :
    urlToPath (fileSlashes ++ render (resolve (A.map quote) S ++ mk)) = render (resolve A S ++ mk) := by
  have hdec : ∀ u ∈ A.map quote ++ S, Dec u := by
    intro u hu
    rcases List.mem_append.1 hu with hu | hu
    · obtain ⟨p, _, rfl⟩ := List.mem_map.1 hu; exact up_dec_quote p
    · exact up_dec_raw u (hS u hu)
  have hall : ∀ u ∈ resolve (A.map quote) S ++ mk, Dec u := by
    intro u hu
    rcases List.mem_append.1 hu with hu | hu
    · exact hdec u (up_normalize_names _ u hu).1
    · rw [hmk u hu]; exact up_dec_raw [] (by simp)
  have hSid : S.map unquote = S := by
    conv => rhs; rw [← List.map_id S]
    exact List.map_congr_left fun s hs => up_unquote_raw s (hS s hs)
  have hmkid : mk.map unquote = mk := by
    conv => rhs; rw [← List.map_id mk]
    exact List.map_congr_left fun s hs => by rw [hmk s hs]; rfl
  rw [up_urlToPath_file]
  show unquote (['/'] ++ UrlPathSpec.unsegments _) = _
  rw [up_unquote_of_enc (up_enc_append up_enc_slash (up_enc_unsegments _ hall)), List.map_append,
    ← up_resolve_map unquote _ _ (fun x hx => (hdec x hx).2), up_map_unquote_quote, hSid, hmkid]
  rfl

theorem up_neutral_text (ref : Str) (hne : ref ≠ []) (hrel : ref.head? ≠ some '/') (hn : urlNeutral ref) :
    (∀ c ∈ ref, cleanChar c = true) ∧ RelText ref ∧ ∀ s ∈ segments ref, '%' ∉ s := by
  obtain ⟨hn1, hn2, hn3⟩ := hn
  refine ⟨fun c hc => (up_neutral_clean c (hn1 c hc)).1, ⟨hne, fun c hc => ⟨?_, fun e => hrel (by rw [hc, e])⟩, hn3⟩, ?_⟩
  · have := hn2 c hc
    unfold c0OrSpace
    simp only [decide_eq_false_iff_not]
    omega
  · intro s hs hm
    rw [up_segments_eq] at hs
    exact (up_neutral_clean _ (hn1 _ (up_splitOn_mem '/' ref s hs _ hm))).2 rfl

theorem up_mark_nil (b : Bool) : ∀ s ∈ (if b then [] else [[]] : List Str), s = [] := by
  cases b <;> simp

/-- **joining = resolving** for a reference used as written -/
theorem up_join_raw (dir file ref : Str) (hd : absDir dir) (hf : '/' ∉ file) (hne : ref ≠ []) (hrel : ref.head? ≠ some '/')
    (hn : urlNeutral ref) :
    urlToPath (join (pathToUrl (dir ++ '/' :: file)) ref) =
      render (resolve (segments dir) (segments ref) ++ (if namesFile ref then [] else [[]])) := by
  obtain ⟨t, hb, ht, hseg⟩ := up_pathToUrl_base dir file hd hf
  obtain ⟨hc, hr, hp⟩ := up_neutral_text ref hne hrel hn
  rw [hb, up_join_text t ref ht hc hr, hseg, up_urlToPath_resolved _ _ _ hp (up_mark_nil _)]

theorem up_join_raw_nested (dir file r1 r2 : Str) (hd : absDir dir) (hf : '/' ∉ file)
    (hne1 : r1 ≠ []) (hrel1 : r1.head? ≠ some '/') (hu1 : urlNeutral r1) (hn1 : namesFile r1 = true)
    (hne2 : r2 ≠ []) (hrel2 : r2.head? ≠ some '/') (hu2 : urlNeutral r2) :
    urlToPath (join (join (pathToUrl (dir ++ '/' :: file)) r1) r2) =
      render (resolve (segments dir ++ (segments r1).dropLast) (segments r2) ++ (if namesFile r2 then [] else [[]])) := by
  obtain ⟨t, hb, ht, hseg⟩ := up_pathToUrl_base dir file hd hf
  obtain ⟨hc1, hr1, hp1⟩ := up_neutral_text r1 hne1 hrel1 hu1
  obtain ⟨hc2, hr2, hp2⟩ := up_neutral_text r2 hne2 hrel2 hu2
  have hassoc (a b c : List Str) : resolve (a ++ b) c = resolve a (b ++ c) := by unfold resolve; rw [List.append_assoc]
  rw [hb, up_join_text_nested t r1 r2 ht hc1 hr1 hn1 hc2 hr2, hseg, hassoc, hassoc,
    up_urlToPath_resolved _ _ _ (fun s hs => (List.mem_append.1 hs).elim (fun h => hp1 s (List.dropLast_subset _ h)) (hp2 s))
      (up_mark_nil _)]

/-! ## paths in normal form -/

theorem up_render_normal (q : Str) (hq : normalFilePath q) : render (normalize (segments q)) = q := by
  obtain ⟨names, hne, hseg, hnames⟩ := hq
  rw [hseg, up_normalize_nil_cons]
  have := up_foldl_step_names [] names hnames
  rw [List.nil_append] at this
  unfold normalize
  rw [this]
  unfold render
  rw [up_unsegments_eq]
  have e := up_joinWith_splitOn '/' q
  rw [← up_segments_eq, hseg, up_joinWith_cons '/' [] _ hne] at e
  exact e

/-! ## `urldefrag` -/

theorem up_pathToUrl_nohash (p : Str) : '#' ∉ pathToUrl p := by
  unfold pathToUrl
  intro hm
  simp only [List.mem_append] at hm
  rcases hm with hm | hm
  · exact absurd hm (by decide)
  · exact up_clean_ne_hash _ (up_quote_chars_clean p _ hm) rfl

theorem up_defrag_pathToUrl (p : Str) : defrag (pathToUrl p) = (pathToUrl p, []) := by
  unfold defrag
  rw [up_contains_false _ _ (up_pathToUrl_nohash p)]
  simp only [Bool.false_eq_true, ↓reduceIte]

/-! ## normal form, `isPath`, the `ZConfig.url` wrappers -/

theorem up_pathToUrl_shape (p : Str) (h : p.head? = some '/') : ∃ t, pathToUrl p = fileSlash3 ++ quote t := by
  cases p with
  | nil => simp at h
  | cons c t =>
    simp only [List.head?_cons, Option.some.injEq] at h
    subst h
    exact ⟨t, up_pathToUrl_abs t⟩

theorem up_lower_fileSlash3 : lower fileSlash3 = "file:///".toList := by decide

theorem up_pathToUrl_normalForm (p : Str) (h : p.head? = some '/') : UrlSpec.normalForm (pathToUrl p) = true := by
  obtain ⟨t, ht⟩ := up_pathToUrl_shape p h
  unfold UrlSpec.normalForm
  rw [ht, Url.lower_append, up_lower_fileSlash3, Url.startsWith_append, Bool.or_true]

theorem up_pathToUrl_urlnormalize (p : Str) (h : p.head? = some '/') : Url.urlnormalize (pathToUrl p) = pathToUrl p :=
  Url.urlnormalize_fixed _ (up_pathToUrl_normalForm p h)

theorem up_pathToUrl_not_isPath (p : Str) : Url.isPath (pathToUrl p) = false := by
  rw [Url.isPath_eq_spec]
  unfold UrlSpec.isPath UrlSpec.isUrl pathToUrl fileSlashes
  simp only [List.cons_append, List.nil_append]
  rw [List.dropWhile_cons_of_pos (by decide), List.dropWhile_cons_of_pos (by decide),
    List.dropWhile_cons_of_pos (by decide), List.dropWhile_cons_of_neg (by decide),
    List.takeWhile_cons_of_pos (by decide), List.takeWhile_cons_of_pos (by decide),
    List.takeWhile_cons_of_pos (by decide), List.takeWhile_cons_of_neg (by decide)]
  simp only [List.head?_cons, beq_self_eq_true, Bool.and_true, List.length_cons, List.length_nil]
  decide

theorem up_isPath_of_nocolon (p : Str) (h : ∀ c ∈ p.takeWhile (· != '/'), c ≠ ':') : Url.isPath p = true := by
  rw [Url.isPath_eq_spec]
  unfold UrlSpec.isPath
  rw [Bool.not_eq_true', Bool.eq_false_iff]
  intro hu
  unfold UrlSpec.isUrl at hu
  cases p with
  | nil => simp at hu
  | cons c t =>
    simp only [Bool.and_eq_true, beq_iff_eq, decide_eq_true_eq] at hu
    obtain ⟨⟨hc, hd⟩, _⟩ := hu
    have hcs : c ≠ '/' := by
      intro e; subst e; exact absurd hc (by decide)
    have hsplit := (List.takeWhile_append_dropWhile (p := UrlSpec.isSchemeChar) (l := t)).symm
    cases hdw : List.dropWhile UrlSpec.isSchemeChar t with
    | nil => rw [hdw] at hd; simp at hd
    | cons x r =>
      rw [hdw] at hd hsplit
      simp only [List.head?_cons, Option.some.injEq] at hd
      subst hd
      apply h ':' _ rfl
      rw [List.takeWhile_cons_of_pos (by simpa using hcs), hsplit,
        List.takeWhile_append_of_pos (by
          intro a ha
          have := List.all_eq_true.1 (List.all_takeWhile (p := UrlSpec.isSchemeChar) (l := t)) a ha
          simp only [bne_iff_ne, ne_eq]
          intro e; subst e; exact absurd this (by decide)),
        List.takeWhile_cons_of_pos (by decide)]
      simp

theorem up_isPath_abs (p : Str) (h : p.head? = some '/') : Url.isPath p = true := by
  apply up_isPath_of_nocolon
  cases p with
  | nil => simp at h
  | cons c t =>
    simp only [List.head?_cons, Option.some.injEq] at h
    subst h
    rw [List.takeWhile_cons_of_neg (by decide)]
    simp

/-- `ZConfig.url.urljoin` only repairs results that start with `file:/` but not `file:///` -/
theorem up_zjoin_of_slash3 (base rel x : Str) (h : join base rel = fileSlash3 ++ x) : zjoin base rel = join base rel := by
  unfold zjoin
  simp only
  rw [h, Url.startsWith_append]
  simp

theorem up_zjoin_pathToUrl (base rel p : Str) (hp : p.head? = some '/') (h : join base rel = pathToUrl p) :
    zjoin base rel = pathToUrl p := by
  obtain ⟨t, ht⟩ := up_pathToUrl_shape p hp
  rw [up_zjoin_of_slash3 base rel (quote t) (by rw [h, ht]), h]


end ZCV.UrlPath
