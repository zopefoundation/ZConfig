import ZCV.Lemmas.LoadSlot
/-!
Step 2 of `loadTree_eq_denote`: the matcher invariant, stated.  After the loader has taken a prefix of a container's
items, the matcher is `mk kl secs` — a function of the key lines `kl` seen and the sections `secs` closed so far — and the
prefix is `Good` (`chk1`: every key routes to a key child; `chk3'`: every header has a slot that admits its name; no name
used twice; no child overfilled).  `Good` is prefix-closed, and the spec's `containerVal` — `containerCore` on the key lines and
the sub-sections (`containerVal_eq`) — rejects what is not `GoodFull`.
-/
namespace ZCV.Conf
open ZCV ZCV.Cfg

/-! ### `mapM` in `Option`: `List.mapM` runs a loop with an accumulator; `omap` is the structural recursion that `cases` and `rfl`
see through (`mapM_toOption` relates the two) -/

def omap {α β} (f : α → Option β) : List α → Option (List β)
  | [] => some []
  | a :: l =>
    match f a with
    | none => none
    | some b =>
      match omap f l with
      | none => none
      | some bs => some (b :: bs)

theorem mapM_eq_omap {α β} (f : α → Option β) (l : List α) : l.mapM f = omap f l := by
  induction l with
  | nil => rfl
  | cons a l ih =>
    rw [List.mapM_cons, ih, omap]
    cases f a with
    | none => rfl
    | some b => cases omap f l <;> rfl

theorem mapM_toOption {ε α β} (f : α → Except ε β) (l : List α) :
    (l.mapM f).toOption = omap (fun a => (f a).toOption) l := by
  induction l with
  | nil => rfl
  | cons a l ih =>
    rw [List.mapM_cons, omap, ← ih]
    cases f a with
    | error e => rfl
    | ok b => cases l.mapM f <;> rfl

theorem omap_congr {α β} (f g : α → Option β) (l : List α) (h : ∀ a ∈ l, f a = g a) : omap f l = omap g l := by
  induction l with
  | nil => rfl
  | cons a l ih =>
    rw [omap, omap, h a List.mem_cons_self, ih (fun b hb => h b (List.mem_cons_of_mem _ hb))]

theorem omap_none_of_mem {α β} (f : α → Option β) (l : List α) (a : α) (ha : a ∈ l) (h : f a = none) :
    omap f l = none := by
  induction l with
  | nil => cases ha
  | cons x l ih =>
    rw [omap]
    rcases List.mem_cons.mp ha with rfl | hm
    · rw [h]
    · rw [ih hm]
      cases f x <;> rfl

theorem omap_map {α β γ} (f : α → Option β) (g : β → γ) (l : List α) :
    (omap f l).map (List.map g) = omap (fun a => (f a).map g) l := by
  induction l with
  | nil => rfl
  | cons a l ih =>
    rw [omap, omap, ← ih]
    cases f a with
    | none => rfl
    | some b => cases omap f l <;> rfl

theorem omap_map_list {α β γ} (f : β → Option γ) (g : α → β) (l : List α) :
    omap f (l.map g) = omap (fun a => f (g a)) l := by
  induction l with
  | nil => rfl
  | cons a l ih => rw [List.map_cons, omap, omap, ih]

/-- two passes in `Except`, seen through `toOption`, are one pass -/
theorem mapM_mapM_toOption {ε α β γ} (f : α → Except ε β) (g : β → Except ε γ) (l : List α) :
    (l.mapM f >>= fun r => r.mapM g).toOption = omap (fun a => (f a >>= g).toOption) l := by
  induction l with
  | nil => rfl
  | cons a l ih =>
    rw [List.mapM_cons, omap, ← ih]
    cases hfa : f a with
    | error e => rfl
    | ok b =>
      cases hl : l.mapM f with
      | error e =>
        simp only [bind, Except.bind, toOption_error]
        cases g b <;> rfl
      | ok bs =>
        simp only [bind, Except.bind, pure, Except.pure]
        rw [List.mapM_cons]
        cases g b with
        | error e => rfl
        | ok c => cases bs.mapM g <;> rfl

/-! ### the abstract state of a matcher -/

/-- a closed sub-section as the parent's slot holds it: type, name, raw attributes (before the section datatype) -/
structure SecR where
  ty : Str
  nm : Option Str
  attrs : List (Str × Val)

def SecR.raw (r : SecR) : Val := .sect r.ty r.nm r.attrs

/-- the spec value of a closed section: the raw value through its type's section datatype -/
def sectVal (conv : Conv) (s : Schema) (r : SecR) : Option Val :=
  match s.gettype r.ty with
  | some (.concrete tc) => (conv.sect tc.datatype r.raw).toOption
  | _ => none

def toSub (conv : Conv) (s : Schema) (r : SecR) : Sub := { ty := r.ty, nm := r.nm, val := sectVal conv s r }

/-- the header `<ty nm>` goes to the slot with attribute `a` -/
def owned (s : Schema) (t : SType) (a : Str) (ty : Str) (nm : Option Str) : Bool :=
  match slotOf s t ty nm with
  | some si' => si'.attr == a
  | none => false

/-- slot of a key child that has received `rs` -/
def keySlot (ki : KeyInfo) (rs : List (Str × VI)) : Slot :=
  if ki.name == ['+'] then (if ki.multi then .mmap (groupKeys rs) else .map rs)
  else if ki.multi then .many (rs.map (·.2))
  else
    match rs with
    | [] => .none
    | kv :: _ => .one kv.2

/-- slot of a section child that has received `mine` -/
def sectSlot (si : SectInfo) (mine : List SecR) : Slot :=
  if si.multi then .sects (mine.map (·.raw))
  else
    match mine with
    | [] => .none
    | r :: _ => .sect r.raw

/-- what the slot of child `c` holds after key lines `kl` and closed sections `secs` -/
def slotFn (s : Schema) (t : SType) (c : Option Str × Info) (kl : List (Option Str × VI)) (secs : List SecR) : Slot :=
  match c.2 with
  | .key ki => keySlot ki (routed t.children c kl)
  | .sect si => sectSlot si (secs.filter fun r => owned s t si.attr r.ty r.nm)

def secNames (secs : List SecR) : List Str := secs.flatMap fun r => newName r.nm

def mk (s : Schema) (t : SType) (nm : Option Str) (kl : List (Option Str × VI)) (secs : List SecR) : Matcher :=
  { ty := t, name := nm, values := t.children.map (fun c => (c.2.attr, slotFn s t c kl secs)),
    used := secNames secs, bag := none }

/-! ### the checks of `containerVal`, named -/

def chk1 (t : SType) (kl : List (Option Str × VI)) : Bool :=
  kl.all fun (rk?, _) => match rk? with
    | some rk => (match route t.children rk with | some c => !c.2.isSection | none => false)
    | none => false

def subNames (subs : List Sub) : List Str :=
  subs.filterMap fun sb => match sb.nm with | some n => if n.isEmpty then none else some n | none => none

def chk3 (s : Schema) (t : SType) (subs : List Sub) : Bool :=
  subs.all fun sb => match slotOf s t sb.ty sb.nm with
    | some si => nameOK si sb.nm && (sb.nm.isSome || si.name == ['*']) && sb.val.isSome && !isAbs s sb.ty
    | none => false

/-- `chk3` without "the content conforms" -/
def chk3' (s : Schema) (t : SType) (subs : List Sub) : Bool :=
  subs.all fun sb => match slotOf s t sb.ty sb.nm with
    | some si => nameOK si sb.nm && (sb.nm.isSome || si.name == ['*']) && !isAbs s sb.ty
    | none => false

def attrsVal (conv : Conv) (s : Schema) (t : SType) (kl : List (Option Str × VI)) (subs : List Sub) :
    Option (List (Str × Val)) :=
  t.children.mapM fun c => (childVal conv s t kl subs c).map fun v => (c.2.attr, v)

/-- the body of `containerVal`, as a function of the key lines and the sub-sections -/
def containerCore (conv : Conv) (s : Schema) (t : SType) (nm : Option Str) (kl : List (Option Str × VI)) (subs : List Sub) :
    Option Val :=
  if !chk1 t kl then none
  else if !nodupB (subNames subs) then none
  else if !chk3 s t subs then none
  else (attrsVal conv s t kl subs).map fun attrs => Val.sect (t.name.getD []) nm attrs

theorem containerVal_eq (conv : Conv) (s : Schema) (t : SType) (nm : Option Str) (items : List Item)
    (sv : List (Option Val)) :
    containerVal conv s t nm items sv = containerCore conv s t nm (keyLines conv t items) (subsOf items sv) := rfl

/-! ### `Good`: no check of `containerVal` has failed yet on the prefix, no child is overfilled; prefix-closed -/

def keyOver (ki : KeyInfo) (rs : List (Str × VI)) : Bool :=
  if ki.multi then true
  else if ki.name == ['+'] then nodupB (rs.map (·.1))
  else decide (rs.length ≤ 1)

def sectOver (si : SectInfo) (n : Nat) : Bool := si.multi || decide (n ≤ 1)

/-- child `c` has not received more than it can hold -/
def noOver (s : Schema) (t : SType) (c : Option Str × Info) (kl : List (Option Str × VI)) (subs : List Sub) : Bool :=
  match c.2 with
  | .key ki => keyOver ki (routed t.children c kl)
  | .sect si => sectOver si (subs.filter fun sb => owned s t si.attr sb.ty sb.nm).length

structure Good (s : Schema) (t : SType) (kl : List (Option Str × VI)) (subs : List Sub) : Prop where
  c1 : chk1 t kl = true
  c2 : nodupB (subNames subs) = true
  c3 : chk3' s t subs = true
  over : ∀ c ∈ t.children, noOver s t c kl subs = true

def GoodFull (s : Schema) (t : SType) (kl : List (Option Str × VI)) (subs : List Sub) : Prop :=
  Good s t kl subs ∧ subs.all (fun sb => sb.val.isSome) = true

theorem routed_append (ch : List (Option Str × Info)) (c : Option Str × Info) (a b : List (Option Str × VI)) :
    routed ch c (a ++ b) = routed ch c a ++ routed ch c b := by
  simp [routed, List.filterMap_append]

theorem nodupB_append_left (a b : List Str) (h : nodupB (a ++ b) = true) : nodupB a = true := by
  rw [nodupB_iff] at h ⊢
  exact (List.nodup_append.mp h).1

theorem noOver_prefix (s : Schema) (t : SType) (c : Option Str × Info) (kl kl2 : List (Option Str × VI))
    (subs subs2 : List Sub) (h : noOver s t c (kl ++ kl2) (subs ++ subs2) = true) : noOver s t c kl subs = true := by
  unfold noOver at h ⊢
  cases hc : c.2 with
  | key ki =>
    simp only [hc, keyOver, routed_append, List.map_append, List.length_append] at h ⊢
    split
    · rfl
    · rename_i hm
      simp only [hm, if_false, Bool.false_eq_true] at h
      split
      · rename_i hp
        simp only [hp, if_true] at h
        exact nodupB_append_left _ _ h
      · rename_i hp
        simp only [hp, if_false, Bool.false_eq_true, decide_eq_true_eq] at h
        simp only [decide_eq_true_eq]
        omega
  | sect si =>
    simp only [hc, sectOver, List.filter_append, List.length_append, Bool.or_eq_true, decide_eq_true_eq] at h ⊢
    rcases h with h | h
    · exact .inl h
    · exact .inr (by omega)

theorem Good.prefix {s : Schema} {t : SType} {kl kl2 : List (Option Str × VI)} {subs subs2 : List Sub}
    (h : Good s t (kl ++ kl2) (subs ++ subs2)) : Good s t kl subs := by
  obtain ⟨h1, h2, h3, h4⟩ := h
  refine ⟨?_, ?_, ?_, ?_⟩
  · unfold chk1 at h1 ⊢
    rw [List.all_append, Bool.and_eq_true] at h1
    exact h1.1
  · unfold subNames at h2 ⊢
    rw [List.filterMap_append] at h2
    exact nodupB_append_left _ _ h2
  · unfold chk3' at h3 ⊢
    rw [List.all_append, Bool.and_eq_true] at h3
    exact h3.1
  · intro c hc
    exact noOver_prefix _ _ _ _ _ _ _ (h4 c hc)

theorem GoodFull.prefix {s : Schema} {t : SType} {kl kl2 : List (Option Str × VI)} {subs subs2 : List Sub}
    (h : GoodFull s t (kl ++ kl2) (subs ++ subs2)) : GoodFull s t kl subs := by
  obtain ⟨h1, h2⟩ := h
  refine ⟨h1.prefix, ?_⟩
  rw [List.all_append, Bool.and_eq_true] at h2
  exact h2.1

theorem chk3_iff (s : Schema) (t : SType) (subs : List Sub) :
    chk3 s t subs = true ↔ chk3' s t subs = true ∧ subs.all (fun sb => sb.val.isSome) = true := by
  unfold chk3 chk3'
  simp only [List.all_eq_true]
  constructor
  · intro h
    constructor
    · intro sb hsb
      have := h sb hsb
      split at this
      · simp only [Bool.and_eq_true] at this ⊢
        exact ⟨⟨this.1.1.1, this.1.1.2⟩, this.2⟩
      · cases this
    · intro sb hsb
      have := h sb hsb
      split at this
      · simp only [Bool.and_eq_true] at this
        exact this.1.2
      · cases this
  · intro ⟨h1, h2⟩ sb hsb
    have a := h1 sb hsb
    have b := h2 sb hsb
    split at a
    · simp only [Bool.and_eq_true] at a ⊢
      exact ⟨⟨⟨a.1.1, a.1.2⟩, b⟩, a.2⟩
    · cases a

/-! ### `childVal` by kind of child -/

/-- value of a key child from the values routed to it -/
def keyVal (conv : Conv) (ki : KeyInfo) (rs : List (Str × VI)) : Option Val :=
  if ki.name == ['+'] then
    if ki.multi then
      let g := groupKeys rs
      if ki.minOccurs > g.length then none
      else
        let g' := if g.isEmpty then (match ki.dflt with | .keyedMany d => d | _ => []) else g
        if g'.length < ki.minOccurs then none
        else (g'.mapM fun (kv : Str × List VI) => (convAll conv ki.dt kv.2).map fun r => (kv.1, Val.list r)).map Val.map
    else
      if !nodupB (rs.map (·.1)) then none
      else if ki.minOccurs > rs.length then none
      else
        let src := if rs.isEmpty then (match ki.dflt with | .keyed d => d | _ => []) else rs
        (src.mapM fun (kv : Str × VI) => ((conv.val ki.dt kv.2.value).toOption).map fun r => (kv.1, r)).map Val.map
  else if ki.multi then
    let vs := rs.map (·.2)
    let vs' := if vs.isEmpty then (match ki.dflt with | .many d => d | _ => []) else vs
    if vs'.length < ki.minOccurs then none else (convAll conv ki.dt vs').map Val.list
  else
    match rs with
    | [] =>
      if ki.minOccurs > 0 then none
      else (match ki.dflt with
            | .one d => (conv.val ki.dt d.value).toOption
            | _ => some .none)
    | [(_, vi)] => (conv.val ki.dt vi.value).toOption
    | _ => none

/-- value of a section slot from the sections it receives -/
def slotVal (si : SectInfo) (mine : List Sub) : Option Val :=
  if si.multi then
    if mine.length < si.minOccurs then none
    else (mine.mapM fun (sb : Sub) => sb.val).map Val.list
  else
    match mine with
    | [] => if si.minOccurs > 0 then none else some .none
    | [sb] => sb.val
    | _ => none

theorem childVal_key (conv : Conv) (s : Schema) (t : SType) (kl : List (Option Str × VI)) (subs : List Sub)
    (c : Option Str × Info) (ki : KeyInfo) (hc : c.2 = .key ki) :
    childVal conv s t kl subs c = keyVal conv ki (routed t.children c kl) := by
  unfold childVal
  simp only [hc]
  rfl

theorem childVal_sect (conv : Conv) (s : Schema) (t : SType) (kl : List (Option Str × VI)) (subs : List Sub)
    (c : Option Str × Info) (si : SectInfo) (hc : c.2 = .sect si) :
    childVal conv s t kl subs c = slotVal si (subs.filter fun sb => owned s t si.attr sb.ty sb.nm) := by
  unfold childVal
  simp only [hc]
  rfl

/-! ### the spec rejects what is not `GoodFull` -/

theorem childVal_none_of_over (conv : Conv) (s : Schema) (t : SType) (kl : List (Option Str × VI)) (subs : List Sub)
    (c : Option Str × Info) (h : noOver s t c kl subs = false) : childVal conv s t kl subs c = none := by
  unfold noOver at h
  cases hc : c.2 with
  | key ki =>
    rw [childVal_key _ _ _ _ _ _ _ hc]
    unfold keyVal
    simp only [hc, keyOver] at h
    by_cases hm : ki.multi = true
    · simp [hm] at h
    · simp only [hm, if_false, Bool.false_eq_true] at h ⊢
      by_cases hp : (ki.name == ['+']) = true
      · simp only [hp, if_true] at h ⊢
        simp [h]
      · simp only [hp, if_false, Bool.false_eq_true, decide_eq_false_iff_not] at h ⊢
        match hr : routed t.children c kl with
        | [] => rw [hr] at h; simp at h
        | [x] => rw [hr] at h; simp at h
        | x :: y :: l => rfl
  | sect si =>
    rw [childVal_sect _ _ _ _ _ _ _ hc]
    unfold slotVal
    simp only [hc, sectOver, Bool.or_eq_false_iff, decide_eq_false_iff_not] at h
    obtain ⟨hm, hl⟩ := h
    simp only [hm, Bool.false_eq_true, if_false]
    match hr : subs.filter (fun sb => owned s t si.attr sb.ty sb.nm) with
    | [] => rw [hr] at hl; simp at hl
    | [x] => rw [hr] at hl; simp at hl
    | x :: y :: l => rw [hr]

theorem childVal_none_of_val_none (conv : Conv) (s : Schema) (t : SType) (kl : List (Option Str × VI)) (subs : List Sub)
    (sb : Sub) (hsb : sb ∈ subs) (si : SectInfo) (hsl : slotOf s t sb.ty sb.nm = some si) (k : Option Str)
    (hv : sb.val = none) : childVal conv s t kl subs (k, .sect si) = none := by
  rw [childVal_sect _ _ _ _ _ _ si rfl]
  have hmem : sb ∈ subs.filter (fun sb => owned s t si.attr sb.ty sb.nm) := by
    rw [List.mem_filter]
    exact ⟨hsb, by simp [owned, hsl]⟩
  unfold slotVal
  split
  · split
    · rfl
    · rw [mapM_eq_omap, omap_none_of_mem _ _ sb hmem hv]; rfl
  · match hr : subs.filter (fun sb => owned s t si.attr sb.ty sb.nm) with
    | [] => rw [hr] at hmem; cases hmem
    | [x] =>
      rw [hr] at hmem
      simp only [List.mem_singleton] at hmem
      rw [hr]
      simp only
      rw [← hmem]; exact hv
    | x :: y :: l => rw [hr]

theorem attrsVal_none_of_mem (conv : Conv) (s : Schema) (t : SType) (kl : List (Option Str × VI)) (subs : List Sub)
    (c : Option Str × Info) (hc : c ∈ t.children) (h : childVal conv s t kl subs c = none) :
    attrsVal conv s t kl subs = none := by
  unfold attrsVal
  rw [mapM_eq_omap]
  exact omap_none_of_mem _ _ c hc (by rw [h]; rfl)

theorem containerVal_good (conv : Conv) (s : Schema) (t : SType) (nm : Option Str) (items : List Item)
    (sv : List (Option Val)) (hg : Good s t (keyLines conv t items) (subsOf items sv)) :
    containerVal conv s t nm items sv =
      (attrsVal conv s t (keyLines conv t items) (subsOf items sv)).map fun attrs => Val.sect (t.name.getD []) nm attrs := by
  rw [containerVal_eq, containerCore]
  simp only [hg.c1, hg.c2, Bool.not_true, Bool.false_eq_true, if_false]
  by_cases h3 : chk3 s t (subsOf items sv) = true
  · simp only [h3, Bool.not_true, Bool.false_eq_true, if_false]
  · simp only [h3, Bool.not_false, if_true]
    have : ¬ (subsOf items sv).all (fun sb => sb.val.isSome) = true := fun h => h3 ((chk3_iff _ _ _).mpr ⟨hg.c3, h⟩)
    have : ∃ sb, sb ∈ subsOf items sv ∧ sb.val = none := by
      apply Classical.byContradiction
      intro hne
      apply this
      rw [List.all_eq_true]
      intro sb hsb
      cases h : sb.val with
      | none => exact absurd ⟨sb, hsb, h⟩ hne
      | some v => rfl
    obtain ⟨sb, hsb, hv'⟩ := this
    have h3' := hg.c3
    unfold chk3' at h3'
    rw [List.all_eq_true] at h3'
    have := h3' sb hsb
    split at this
    · rename_i si hsl
      obtain ⟨k, hk⟩ := slotOf_mem _ _ _ _ _ hsl
      rw [attrsVal_none_of_mem conv s t _ _ _ hk (childVal_none_of_val_none conv s t _ _ sb hsb si hsl k hv')]
      rfl
    · cases this

theorem containerVal_none (conv : Conv) (s : Schema) (t : SType) (nm : Option Str) (items : List Item)
    (sv : List (Option Val)) (hg : ¬ GoodFull s t (keyLines conv t items) (subsOf items sv)) :
    containerVal conv s t nm items sv = none := by
  rw [containerVal_eq, containerCore]
  by_cases h1 : chk1 t (keyLines conv t items) = true
  · by_cases h2 : nodupB (subNames (subsOf items sv)) = true
    · by_cases h3 : chk3 s t (subsOf items sv) = true
      · simp only [h1, h2, h3, Bool.not_true, Bool.false_eq_true, if_false]
        obtain ⟨h3a, h3b⟩ := (chk3_iff _ _ _).mp h3
        have : ¬ ∀ c ∈ t.children, noOver s t c (keyLines conv t items) (subsOf items sv) = true :=
          fun h => hg ⟨⟨h1, h2, h3a, h⟩, h3b⟩
        have : ∃ c, c ∈ t.children ∧ noOver s t c (keyLines conv t items) (subsOf items sv) = false := by
          apply Classical.byContradiction
          intro hne
          apply this
          intro c hc
          cases h : noOver s t c (keyLines conv t items) (subsOf items sv) with
          | false => exact absurd ⟨c, hc, h⟩ hne
          | true => rfl
        obtain ⟨c, hc, hno'⟩ := this
        rw [attrsVal_none_of_mem conv s t _ _ c hc (childVal_none_of_over conv s t _ _ c hno')]
        rfl
      · simp [h3]
    · simp [h2]
  · simp [h1]

end ZCV.Conf
