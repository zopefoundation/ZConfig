import ZCV.Lemmas.ParseRel
import ZCV.Lemmas.TextLoad
import ZCV.Spec.ConformsImport
/-!
From TEXT with `%import` lines to top-level items: the loader reading lines (`Cfg.load`) does what the tree-driven loader
does on the `TopItem`s that the same parser builds with the structure-recording context `treeCtxI` (`Conf.treeOfI`) — sections
and keys through `runItem`, `%import`s through `lsImport` — provided no `%import` is met inside a section.  Both sides are compared with the calls the parser makes (`parse_replay`): the
loader replays the calls a tree stands for as `runItems` does (`replay_callsOfTops`, by induction on the tree), and the recording
context holds exactly the calls recorded (`built_lineRel`).
-/
namespace ZCV.Conf
open ZCV ZCV.Cfg

/-! ### `runItems` over `++`, and a section item as start / items / stop -/

theorem runItems_append : ∀ (l r : List Item) (st : LS),
    runItems st (l ++ r) = runItems st l >>= fun s => runItems s r
  | [], r, st => by rw [List.nil_append, runItems]; rfl
  | i :: l, r, st => by
    rw [List.cons_append, runItems, runItems]
    cases runItem st i with
    | error e => rfl
    | ok s => exact runItems_append l r s

theorem runItems_single (st : LS) (i : Item) : runItems st [i] = runItem st i := by
  rw [runItems]
  cases runItem st i with
  | error e => rfl
  | ok s => simp only [runItems]

theorem runItem_sect (st : LS) (ty : Str) (nm : Option Str) (items : List Item) :
    runItem st (.sect ty nm items) =
      lsStart st ty nm >>= fun s1 => runItems s1 items >>= fun s2 => lsStop s2 ty nm := by
  rw [runItem]
  cases lsStart st ty nm with
  | error e => rfl
  | ok s1 =>
    show (match runItems s1 items with
      | .error e => .error e
      | .ok st2 => lsStop st2 ty nm) = (runItems s1 items >>= fun s2 => lsStop s2 ty nm)
    cases runItems s1 items <;> rfl

theorem runItems_snoc (st : LS) (l : List Item) (i : Item) :
    runItems st (l ++ [i]) = runItems st l >>= fun s => runItem s i := by
  rw [runItems_append]
  congr 1
  funext s
  exact runItems_single s i

/-! ### stack heights in the loader -/

theorem lsStart_len (st st' : LS) (ty : Str) (nm : Option Str) (h : lsStart st ty nm = .ok st') :
    st'.stack.length = st.stack.length + 1 := by
  obtain ⟨_, _, _, _, _, _, hst, _, _, _, _, rfl⟩ := lsStart_inv h
  simp [hst]

theorem lsStop_len (st st' : LS) (ty : Str) (nm : Option Str) (h : lsStop st ty nm = .ok st') :
    st'.stack.length + 1 = st.stack.length ∧ 1 ≤ st'.stack.length := by
  obtain ⟨_, _, _, _, _, _, hst, _, _, rfl⟩ := lsStop_inv h
  simp [hst]

theorem lsValue_len (st st' : LS) (k v : Str) (p : Pos) (h : lsValue st k v p = .ok st') :
    st'.stack.length = st.stack.length := by
  obtain ⟨_, _, _, hst, _, rfl⟩ := lsValue_inv h
  simp [hst]

/-! ### the loader driven by top-level items -/

def runTop (st : LS) : TopItem → M LS
  | .item i => runItem st i
  | .imp p => lsImport st p

def runTops (st : LS) : List TopItem → M LS
  | [] => .ok st
  | t :: r => runTop st t >>= fun s => runTops s r

theorem runTops_items : ∀ (its : List Item) (st : LS), runTops st (its.map .item) = runItems st its
  | [], st => by rw [List.map_nil, runTops, runItems]
  | i :: r, st => by
    rw [List.map_cons, runTops, runItems]
    show (runItem st i >>= fun s => runTops s (r.map .item)) = _
    cases runItem st i with
    | error e => rfl
    | ok st' => exact runTops_items r st'

/-! ### the calls a tree stands for, and the loader replaying them -/

mutual
def callsOf : Item → List Call
  | .kv k v p => [.value k v p]
  | .sect ty nm items => .start ty nm :: (callsOfs items ++ [.stop ty nm])
def callsOfs : List Item → List Call
  | [] => []
  | i :: r => callsOf i ++ callsOfs r
end

def callsOfTop : TopItem → List Call
  | .item i => callsOf i
  | .imp p => [.imp p]

def callsOfTops (tops : List TopItem) : List Call := tops.flatMap callsOfTop

theorem callsOfs_snoc (l : List Item) (i : Item) : callsOfs (l ++ [i]) = callsOfs l ++ callsOf i := by
  induction l with
  | nil => simp [callsOfs]
  | cons x r ih => rw [List.cons_append, callsOfs, callsOfs, ih, List.append_assoc]

mutual
theorem replay_callsOf : ∀ (i : Item) (st : LS), loaderCtx.replay st (callsOf i) = runItem st i
  | .kv k v p, st => by rw [callsOf, PCtx.replay_one, runItem]; rfl
  | .sect ty nm items, st => by
    rw [callsOf, PCtx.replay_cons, runItem_sect]
    show lsStart st ty nm >>= _ = _
    congr 1
    funext s1
    rw [PCtx.replay_append, replay_callsOfs items s1]
    congr 1
    funext s2
    exact PCtx.replay_one _ _ _
theorem replay_callsOfs : ∀ (l : List Item) (st : LS), loaderCtx.replay st (callsOfs l) = runItems st l
  | [], st => by rw [callsOfs, runItems]; rfl
  | i :: r, st => by
    rw [callsOfs, PCtx.replay_append, replay_callsOf i st, runItems]
    cases runItem st i with
    | error e => rfl
    | ok st' => exact replay_callsOfs r st'
end

theorem replay_callsOfTops : ∀ (tops : List TopItem) (st : LS), loaderCtx.replay st (callsOfTops tops) = runTops st tops
  | [], st => rfl
  | t :: r, st => by
    rw [callsOfTops, List.flatMap_cons, PCtx.replay_append, runTops]
    have : loaderCtx.replay st (callsOfTop t) = runTop st t := by
      cases t with
      | item i => exact replay_callsOf i st
      | imp p => exact PCtx.replay_one _ _ _
    rw [this]
    congr 1
    funext s
    exact replay_callsOfTops r s

/-! ### the structure-recording context undoes `callsOfTops` -/

def hdr (x : Str × Option Str × List Item) : Str × Option Str := (x.1, x.2.1)

/-- the calls that built the open sections (innermost first) -/
def flat : List (Str × Option Str × List Item) → List Call
  | [] => []
  | (ty, nm, its) :: rest => flat rest ++ .start ty nm :: callsOfs its.reverse

/-- the calls `tb` stands for -/
def callsOfTB (tb : TBI) : List Call := callsOfTops tb.tops.reverse ++ flat tb.stack

/-- `tb` has the open sections `F`; it holds only calls that were recorded, and all of them unless an `%import` was met inside
    a section -/
def Built (F : List (Str × Option Str)) (calls : List Call) (tb : TBI) : Prop :=
  tb.stack.map hdr = F ∧ (∀ x ∈ callsOfTB tb, x ∈ calls) ∧ (tb.nested = false → callsOfTB tb = calls)

theorem callsOfTops_snoc (l : List TopItem) (t : TopItem) : callsOfTops (l ++ [t]) = callsOfTops l ++ callsOfTop t := by
  simp [callsOfTops]

theorem Built.step {F F' : List (Str × Option Str)} {calls : List Call} {tb tb' : TBI} {x : Call} (h : Built F calls tb)
    (hF : tb'.stack.map hdr = F') (hb : callsOfTB tb' = callsOfTB tb ++ [x]) (hn : tb'.nested = tb.nested) :
    Built F' (calls ++ [x]) tb' := by
  refine ⟨hF, fun y hy => ?_, fun hn' => by rw [hb, h.2.2 (hn ▸ hn')]⟩
  rw [hb] at hy
  exact (List.mem_append.1 hy).elim (fun hy => List.mem_append_left _ (h.2.1 y hy)) (List.mem_append_right _)

/-- every operation appends its one call to `callsOfTB`: into the items of the innermost open section, or, for a stop, by moving
    that section's `start …` and items out of `flat` into the `callsOf` of a finished item -/
theorem built_lineRel : LineRel recP treeCtxI (fun _ => True) Built (fun _ => False) False True where
  canInc := rfl
  canDef := rfl
  dead := .of_false _ _
  deadX _ h := h.elim
  start := by
    rintro l ty nm e F calls tb _ _ h
    exact h.step (by simp [hdr, h.1]) (by simp [callsOfTB, flat, callsOfs]) rfl
  imp := by
    rintro l arg pkg F calls tb _ _ h
    show RelM _ _ _ (.ok _) (tbiImport tb pkg)
    unfold tbiImport
    cases hst : tb.stack with
    | nil => exact h.step (by rw [← h.1, hst]) (by simp [callsOfTB, hst, callsOfTops_snoc, callsOfTop, flat]) rfl
    | cons x r =>
      exact ⟨by rw [← h.1, hst], fun y hy => List.mem_append_left _ (h.2.1 y (by rw [callsOfTB, hst]; exact hy)), nofun⟩
  value := by
    rintro l k raw v p p₂ F calls tb _ _ hp h
    cases hp trivial
    show RelM _ _ _ (.ok _) (tbiValue tb k v p)
    unfold tbiValue
    cases hst : tb.stack with
    | nil => exact h.step (by rw [← h.1, hst]) (by simp [callsOfTB, hst, callsOfTops_snoc, callsOfTop, callsOf, flat]) rfl
    | cons x r =>
      obtain ⟨ty1, nm1, its⟩ := x
      exact h.step (by rw [← h.1, hst]; rfl) (by simp [callsOfTB, hst, flat, callsOfs_snoc, callsOf]) rfl
  stop := by
    rintro l ty nm F calls tb _ _ h
    show RelM _ _ _ (.ok _) (tbiStop tb ty nm)
    unfold tbiStop
    have h1 := h.1
    cases hst : tb.stack with
    | nil => rw [hst] at h1; simp at h1
    | cons x r =>
      obtain ⟨ty1, nm1, its⟩ := x
      rw [hst] at h1
      simp only [List.map_cons, hdr, List.cons.injEq, Prod.mk.injEq] at h1
      obtain ⟨⟨rfl, rfl⟩, hF⟩ := h1
      cases r with
      | nil => exact h.step hF (by simp [callsOfTB, hst, callsOfTops_snoc, callsOfTop, callsOf, flat]) rfl
      | cons y r2 =>
        obtain ⟨pty, pnm, pits⟩ := y
        exact h.step (by simpa [hdr] using hF) (by simp [callsOfTB, hst, flat, callsOfs_snoc, callsOf]) rfl

/-- the recorder and the structure-recording context on the lines of a text: both accept or both refuse, and then the calls
    the tree stands for are among the calls recorded — all of them unless an `%import` was met inside a section -/
theorem parseI_built (env : Env) (url : Option Str) (lines : List Str) :
    RelM (fun r ps => PRel Built [] r ps ∧ r.stack = []) (PDead fun _ => False) False
      (parseLines 64 env recP (activeOf url) url lines 0 { ctx := [], stack := [], defs := [] }) (parseI env url lines) :=
  parse_lineRel built_lineRel env (fun _ _ _ _ _ _ _ _ _ => trivial) 64 (activeOf url) url url lines 0 0 _ _ [] (fun _ => rfl)
    .rfl' (fun _ _ => trivial) ⟨rfl, rfl, rfl, nofun, fun _ => rfl⟩

/-! ### the whole load -/

def topsFin (conv : Conv) (schema : Schema) (st : LS) : M (Val × Schema) :=
  match st.stack with
  | [top] =>
    match finishMatcher conv st.schema top with
    | .error e => .error e
    | .ok (v, _) =>
      match conv.sect schema.top.datatype v with
      | .ok r => .ok (r, st.schema)
      | .error e => .error (convFail e none { line := -1, url := none } "schema datatype")
  | _ => .error (.internal "IndexError")

/-- `ConfigLoader.loadResource` on top-level items (no overrides) -/
def loadTops (conv : Conv) (pkgs : Str → Pkg) (schema : Schema) (tops : List TopItem) : M (Val × Schema) :=
  runTops (loadSt0 conv pkgs schema) tops >>= topsFin conv schema

theorem parseI_eq (env : Env) (url : Option Str) (lines : List Str) :
    parseI env url lines = parseLines 64 env treeCtxI (activeOf url) url lines 0
      { ctx := { tops := [], stack := [], nested := false }, stack := [], defs := [] } := rfl

/-- context genericity, from any initial loader state: the parser makes the same calls with every
    context, so the loader context does with the lines what it does with the items the recording context builds from them -/
theorem parse_eq_runTops (conv : Conv) (env : Env) (s : Schema) (url : Option Str) (lines : List Str) (st0 : LS)
    (htop : importsAtTop env url lines) :
    (parseLines 64 env loaderCtx (activeOf url) url lines 0 { ctx := st0, stack := [], defs := [] } >>=
        fun ps => loadFin conv s ps.ctx).toOption =
      (treeOfI env url lines).toOption.bind (fun tops => (runTops st0 tops >>= loadFin conv s).toOption) := by
  have hL := parse_replay loaderCtx st0 rfl rfl env 64 (activeOf url) url lines 0 [] []
  have hT := parseI_built env url lines
  have hfin : ∀ x : M (PS LS),
      (x.toOption.bind fun ps => (loadFin conv s ps.ctx).toOption) =
        (x.toOption.map fun p => (p.ctx, p.defs)).bind fun q => (loadFin conv s q.1).toOption := by
    intro x
    cases x <;> rfl
  unfold importsAtTop at htop
  unfold treeOfI
  rw [parseI_eq] at htop hT ⊢
  rw [toOption_bind, toOption_map, hfin, hL, Option.bind_assoc, Option.bind_map]
  refine hT.toOption_bind fun r psT _ hI ⟨⟨hstk, _, hsh, _, hflat⟩, hnil⟩ => ?_
  have hts : psT.ctx.stack = [] := by
    rw [hnil] at hsh
    simpa using hsh
  have hflat := hflat (htop psT hI)
  simp only [callsOfTB, hts, flat, List.append_nil] at hflat
  show (Option.map _ (loaderCtx.replay st0 r.ctx).toOption).bind _ =
    (runTops st0 psT.ctx.tops.reverse >>= loadFin conv s).toOption
  rw [← hflat, replay_callsOfTops]
  cases runTops st0 psT.ctx.tops.reverse <;> rfl

theorem loadFin_topsFin (conv : Conv) (s : Schema) (st : LS) :
    (loadFin conv s st).toOption.map (fun r => (r.value, r.schemaAfter)) = (topsFin conv s st).toOption := by
  unfold loadFin topsFin
  rcases st.stack with _ | ⟨top, _ | ⟨y, rest⟩⟩
  · rfl
  · simp only [bind, Except.bind, pure, Except.pure, throw, throwThe, MonadExceptOf.throw]
    cases finishMatcher conv st.schema top with
    | error e => rfl
    | ok vh =>
      obtain ⟨v, hs⟩ := vh
      dsimp only
      cases conv.sect s.top.datatype v <;> rfl
  · rfl

theorem topsFin_fst (conv : Conv) (s : Schema) (st : LS) : (topsFin conv s st).map (·.1) = treeFinB conv s st := by
  unfold topsFin treeFinB
  cases st.stack with
  | nil => rfl
  | cons m r =>
    cases r with
    | cons m2 r2 => rfl
    | nil =>
      dsimp only
      cases finishMatcher conv st.schema m with
      | error e => rfl
      | ok vh =>
        obtain ⟨v, hs⟩ := vh
        dsimp only
        cases conv.sect s.top.datatype v <;> rfl

theorem load_eq_loadTops (conv : Conv) (env : Env) (pkgs : Str → Pkg) (s : Schema) (url : Option Str) (lines : List Str)
    (htop : importsAtTop env url lines) :
    (load conv env pkgs s url lines []).toOption.map (fun r => (r.value, r.schemaAfter)) =
      (treeOfI env url lines).toOption.bind (fun tops => (loadTops conv pkgs s tops).toOption) := by
  rw [load_nil_eq]
  refine (congrArg (Option.map fun r : LoadResult => (r.value, r.schemaAfter))
    (parse_eq_runTops conv env s url lines (loadSt0 conv pkgs s) htop)).trans ?_
  cases (treeOfI env url lines).toOption with
  | none => rfl
  | some tops =>
    show ((runTops (loadSt0 conv pkgs s) tops >>= loadFin conv s).toOption.map fun r => (r.value, r.schemaAfter)) =
      (runTops (loadSt0 conv pkgs s) tops >>= topsFin conv s).toOption
    cases runTops (loadSt0 conv pkgs s) tops with
    | error e => rfl
    | ok st => exact loadFin_topsFin conv s st

end ZCV.Conf
