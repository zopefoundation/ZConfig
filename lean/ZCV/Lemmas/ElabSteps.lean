import ZCV.Model.Elab
import ZCV.Lemmas.Except
import ZCV.Lemmas.Ends
import ZCV.Lemmas.Lits
/-!
Taking the schema-loader model (`ZCV/Model/Elab.lean`) apart: how a `do` block that succeeds (or fails) decomposes;
`add_valueinfo` on the default alone and `computedefault` as `normDefault`, a function of the key type, the multiplicity and
the defaults as written; the handlers of the four member elements in normal form — an object in closed form (`keyObjOf`,
`startSectObj`) is filed and pushed by `pushChild`, a key is finished by `endKeyObj` and written back; which handler the
dispatchers `startHandled` / `endHandled` ran, tag by tag, and for the member elements by multiplicity (`keyTag`, `sectTag`,
`endObj`).
-/
namespace ZCV.Elab
open ZCV ZCV.Cfg

/-! ## `Except` -/

theorem bind_ok {ε α β} {x : Except ε α} {f : α → Except ε β} {r : β} :
    (x >>= f) = .ok r ↔ ∃ a, x = .ok a ∧ f a = .ok r := by
  cases x with
  | error e => exact ⟨fun h => (nomatch h), fun ⟨_, h, _⟩ => (nomatch h)⟩
  | ok a => exact ⟨fun h => ⟨a, rfl, h⟩, fun ⟨_, h, h'⟩ => by cases h; exact h'⟩

theorem ite_ok {α} {c : Prop} [Decidable c] {a b : EM α} {x : α} (h : (if c then a else b) = .ok x) :
    (c ∧ a = .ok x) ∨ (¬c ∧ b = .ok x) := by
  by_cases hc : c
  · rw [if_pos hc] at h; exact Or.inl ⟨hc, h⟩
  · rw [if_neg hc] at h; exact Or.inr ⟨hc, h⟩

/-- the `if c then serr …` statement of a do block, followed by the rest of the block -/
theorem guard_jp {α} {c : Prop} [Decidable c] {x : EFail} {jp : Unit → EM α} {r : α}
    (h : (if c then (Except.error x : EM Unit) >>= jp else jp ()) = .ok r) : ¬c ∧ jp () = .ok r := by
  rcases ite_ok h with ⟨_, h⟩ | ⟨hc, h⟩
  · cases h
  · exact ⟨hc, h⟩

theorem bind_error {ε α β} {x : Except ε α} {f : α → Except ε β} {e : ε} (h : x >>= f = .error e) :
    x = .error e ∨ ∃ a, x = .ok a ∧ f a = .error e := by
  cases x with
  | error e' => left; simpa [bind, Except.bind] using h
  | ok a => right; exact ⟨a, rfl, h⟩

/-! ## `add_valueinfo`, `computedefault` -/

/-- `add_valueinfo` of a `+` key, on the default alone -/
def addDflt (multi : Bool) (d : Default) (vi : VI) (key : Str) : EM Default :=
  if multi then
    match d with
    | .keyedMany m =>
      if m.any (·.1 == key) then .ok (.keyedMany (m.map fun (a, vs) => if a == key then (a, vs ++ [vi]) else (a, vs)))
      else .ok (.keyedMany (m ++ [(key, [vi])]))
    | _ => .error (.internal "AttributeError")
  else
    match d with
    | .keyed m => if m.any (·.1 == key) then serr "duplicate default value for key" else .ok (.keyed (m ++ [(key, vi)]))
    | _ => .error (.internal "AttributeError")

theorem addValueInfo_plus (k : EKey) (hn : k.name = ['+']) (vi : VI) (key : Str) :
    addValueInfo k vi (some key) = (addDflt k.multi k.dflt vi key).map fun d => { k with dflt := d } := by
  unfold addValueInfo addDflt
  rw [hn]
  cases k.multi with
  | false =>
    cases k.dflt with
    | keyed m =>
      show (if m.any (·.1 == key) = true then _ else _) = Except.map _ (if m.any (·.1 == key) = true then _ else _)
      cases m.any (·.1 == key) <;> rfl
    | _ => rfl
  | true =>
    cases k.dflt with
    | keyedMany m =>
      show (if m.any (·.1 == key) = true then _ else _) = Except.map _ (if m.any (·.1 == key) = true then _ else _)
      cases m.any (·.1 == key) <;> rfl
    | _ => rfl

/-- `add_valueinfo` of a key with a fixed name, on the default alone -/
def addDfltFixed (multi : Bool) (d : Default) (vi : VI) : EM Default :=
  if multi then
    match d with
    | .many l => .ok (.many (l ++ [vi]))
    | _ => .error (.internal "AttributeError")
  else
    match d with
    | .none => .ok (.one vi)
    | _ => serr "cannot set more than one default to key with maxOccurs == 1"

/-- **`add_valueinfo`** only touches the default: by `addDflt` for a `+` key (an absent key counts as the empty one), by
`addDfltFixed` otherwise -/
theorem addValueInfo_nf (k : EKey) (vi : VI) (key : Option Str) :
    addValueInfo k vi key =
      (if k.name = ['+'] then addDflt k.multi k.dflt vi (key.getD []) else addDfltFixed k.multi k.dflt vi).map
        fun d => { k with dflt := d } := by
  by_cases hn : k.name = ['+']
  · rw [if_pos hn, ← addValueInfo_plus k hn]
    cases key <;> rfl
  · rw [if_neg hn]
    unfold addValueInfo addDfltFixed
    rw [if_neg (fun h => hn (eq_of_beq h)), if_neg (fun h => hn (eq_of_beq h))]
    cases k.multi with
    | false => cases k.dflt <;> rfl
    | true => cases k.dflt <;> rfl

theorem addValueInfo_ok {k k' : EKey} {vi : VI} {key : Option Str} (h : addValueInfo k vi key = .ok k') :
    ∃ d, k' = { k with dflt := d } := by
  rw [addValueInfo_nf] at h
  cases hd : (if k.name = ['+'] then addDflt k.multi k.dflt vi (key.getD []) else addDfltFixed k.multi k.dflt vi) with
  | error e => rw [hd] at h; cases h
  | ok d => rw [hd] at h; exact ⟨d, (Except.ok.inj h).symm⟩

/-- the defaults of a `+` key as written (`_rawdefaults`), normalised under the key type `kt`: what `computedefault`
computes, as a function of the key type, the multiplicity and the defaults as written -/
def normDefault (env : Env) (kt : Str) (multi : Bool) : Default → EM Default
  | .keyed m => m.foldlM (fun d p => do
      let key ← convDefaultKey env kt p.1
      addDflt multi d p.2 key) (.keyed [])
  | .keyedMany m => m.foldlM (fun d p => do
      let key ← convDefaultKey env kt p.1
      p.2.foldlM (fun d vi => addDflt multi d vi key) d) (.keyedMany [])
  | _ => .error (.internal "AttributeError")

/-- a fold on `β` seen through `g : γ → β`: if every step commutes with `g`, so does the fold -/
theorem foldlM_through {ε α β γ} (g : γ → β) (f : β → α → Except ε β) (f' : γ → α → Except ε γ)
    (hf : ∀ c a, f (g c) a = (f' c a).map g) : ∀ (l : List α) (c : γ), l.foldlM f (g c) = (l.foldlM f' c).map g := by
  intro l
  induction l with
  | nil => intro c; rfl
  | cons a l ih =>
    intro c
    rw [List.foldlM_cons, List.foldlM_cons, hf]
    cases f' c a with
    | error e => rfl
    | ok c1 => exact ih c1

/-- `computedefault` keeps everything of the key object but `raw` (the defaults as written, from now on) and `dflt` (those
defaults normalised under the key type): the loop only ever touches `dflt` -/
theorem computeDefault_eq (env : Env) (kt : Str) (k : EKey) (hn : k.name = ['+']) :
    computeDefault env kt k =
      (normDefault env kt k.multi (k.raw.getD k.dflt)).map fun d => { k with raw := some (k.raw.getD k.dflt), dflt := d } := by
  unfold computeDefault normDefault
  rw [if_neg (by simp [hn])]
  generalize k.raw.getD k.dflt = raw
  have step : ∀ (d : Default) (vi : VI) (key : Str),
      addValueInfo { k with raw := some raw, dflt := d } vi (some key) =
        (addDflt k.multi d vi key).map fun d' => ({ k with raw := some raw, dflt := d' } : EKey) :=
    fun d vi key => addValueInfo_plus { k with raw := some raw, dflt := d } hn vi key
  cases raw with
  | keyed m =>
    refine foldlM_through (fun d => ({ k with raw := some (.keyed m), dflt := d } : EKey)) _ _ (fun d p => ?_) m _
    cases convDefaultKey env kt p.1 with
    | error e => rfl
    | ok key => exact step d p.2 key
  | keyedMany m =>
    refine foldlM_through (fun d => ({ k with raw := some (.keyedMany m), dflt := d } : EKey)) _ _ (fun d p => ?_) m _
    cases convDefaultKey env kt p.1 with
    | error e => rfl
    | ok key =>
      exact foldlM_through (fun d => ({ k with raw := some (.keyedMany m), dflt := d } : EKey)) _ _
        (fun d' vi => step d' vi key) p.2 d
  | none => rfl
  | one v => rfl
  | many vs => rfl

theorem computeDefault_ok {env : Env} {kt : Str} {k k' : EKey} (h : computeDefault env kt k = .ok k') :
    k.name = ['+'] ∧ ∃ d, k' = { k with raw := some (k.raw.getD k.dflt), dflt := d } := by
  have hn : k.name = ['+'] := by
    unfold computeDefault at h
    split at h
    · cases h
    · rename_i hn; simpa using hn
  rw [computeDefault_eq env kt k hn] at h
  cases hd : normDefault env kt k.multi (k.raw.getD k.dflt) with
  | error e => rw [hd] at h; cases h
  | ok d => rw [hd] at h; cases h; exact ⟨hn, d, rfl⟩

/-! ## the end of `<key>` and `<multikey>` as a sequence of steps -/

/-- the finished key object of `end_key`; `kt`: the key type of the container below -/
def endKeyObj (env : Env) (kt : EM Str) (k : EKey) : EM EKey :=
  if k.name == ['+'] then kt >>= fun kt => computeDefault env kt k >>= fun k1 => finishKey k1 else pure k

/-- **`end_key`**: the key on the frame is finished (`endKeyObj`) and written over the last child of the container below -/
theorem endKey_eq {env : Env} {st : PSt} {k : EKey} {rest : List Frame} (hs : st.stack = .key k :: rest) :
    endKey env st =
      endKeyObj env (topKeytype { st with stack := rest }) k >>= fun k' => replaceLastChild { st with stack := rest } k' := by
  unfold endKey endKeyObj
  rw [hs]
  dsimp only
  by_cases hp : (k.name == ['+']) = true
  · simp only [hp, ↓reduceIte, bind, Except.bind]
    cases topKeytype { st with stack := rest } with
    | error e => rfl
    | ok kt =>
      simp only
      cases computeDefault env kt k with
      | error e => rfl
      | ok k1 => rfl
  · simp only [hp, Bool.false_eq_true, ↓reduceIte]

def endMultikeyObj (env : Env) (kt : EM Str) (k : EKey) : EM EKey :=
  (if k.name == ['+'] then kt >>= fun kt => computeDefault env kt k else pure k) >>= fun k1 => finishKey k1

theorem endMultikey_eq {env : Env} {st : PSt} {k : EKey} {rest : List Frame} (hs : st.stack = .key k :: rest) :
    endMultikey env st =
      endMultikeyObj env (topKeytype { st with stack := rest }) k >>= fun k' =>
        replaceLastChild { st with stack := rest } k' := by
  unfold endMultikey endMultikeyObj
  rw [hs]
  dsimp only
  by_cases hp : (k.name == ['+']) = true
  · simp only [hp, ↓reduceIte, bind, Except.bind]
    cases topKeytype { st with stack := rest } with
    | error e => rfl
    | ok kt =>
      simp only
      cases computeDefault env kt k with
      | error e => rfl
      | ok k1 => rfl
  · simp only [hp, Bool.false_eq_true, ↓reduceIte, bind, Except.bind, pure, Except.pure]

/-! ## the start of `<key>` / `<multikey>` in normal form: a key object in closed form, filed and pushed -/

/-- the key object a `<key>` (`multi = false`) / `<multikey>` start tag builds from what `get_key_info` (`r`) and
`required` gave -/
def keyObjOf (r : Str × Str × Option Str × Str) (req multi : Bool) (a : Attrs) : EKey :=
  { name := r.1, attr := r.2.2.2, multi := multi, minOccurs := if req then 1 else 0, dt := r.2.1, handler := r.2.2.1,
    dflt := (match attr a "default" with
      | some d => .one { value := strip d, pos := defaultPos }
      | none => if r.1 == ['+'] then (if multi then .keyedMany [] else .keyed []) else (if multi then .many [] else .none)),
    finished := !multi && r.1 != ['+'] }

/-- where a `default` attribute may stand: on an optional `<key>` not named `+` -/
def DefaultAttrOK (a : Attrs) (name : Str) (req multi : Bool) : Prop :=
  ∀ d, attr a "default" = some d → req = false ∧ name ≠ ['+'] ∧ multi = false

/-- the two checks of `_add_child` against the children `ch` of the container -/
def dupCheck (ch : List (Option Str × EInfo)) (key : Option Str) (at_ : Str) : EM Unit :=
  if truthyKey key && ch.any (fun c => truthyKey c.1 && c.1 == key) then .error (.schema "child name … already used")
  else if !at_.isEmpty && ch.any (fun c => c.2.attr == at_) then .error (.schema "child attribute name … already used")
  else .ok ()

/-- file a new child in the container on top of the stack and push its frame: how the start handlers of the four member
elements end -/
def pushChild (st : PSt) (key : Option Str) (info : EInfo) (f : Frame) : EM PSt :=
  addChild st key info >>= fun st' => pure { st' with stack := f :: st'.stack }

/-- the object the start tag of a `<key>` (`multi = false`) / `<multikey>` builds, with the name it is filed under; `gi`:
what `get_key_info` gives -/
def startKeyObjM (multi : Bool) (gi : EM (Str × Str × Option Str × Str)) (a : Attrs) : EM (Str × EKey) :=
  if multi then
    if hasAttr a "default" then serr "default values for multikey must be given using 'default' elements"
    else do
      let r ← gi
      let req ← getRequired a
      pure (r.1, keyObjOf r req true a)
  else do
    let r ← gi
    let req ← getRequired a
    if (attr a "default").isSome ∧ req = true then serr "required key cannot have a default value"
    else if (attr a "default").isSome ∧ r.1 = ['+'] then serr "default values must be keyed for name='+'"
    else pure (r.1, keyObjOf r req false a)

/-- **`start_key`**: name, datatype, handler and attribute name (`get_key_info`) and `required` are read; a `default`
attribute is refused on a required key and on a `+` key; then the key object `keyObjOf` is filed under its name in the
container on top of the stack and its frame pushed -/
theorem startKey_nf (env : Env) (st : PSt) (a : Attrs) :
    startKey env st a =
      startKeyObjM false (getKeyInfo env st a) a >>= fun p => pushChild st (some p.1) (.key p.2) (.key p.2) := by
  unfold startKeyObjM
  rw [if_neg Bool.false_ne_true, bind_assoc]
  unfold startKey
  refine bind_congr fun r => ?_
  obtain ⟨name, dt, handler, attrName⟩ := r
  rw [bind_assoc]
  refine bind_congr fun req => ?_
  have push : ∀ (c1 c2 : Prop) [Decidable c1] [Decidable c2] (m1 m2 : String) (x : Str × EKey) (F : Str × EKey → EM PSt),
      ((if c1 then serr m1 else if c2 then serr m2 else pure x) >>= F) =
        if c1 then serr m1 else if c2 then serr m2 else F x := by
    intro c1 c2 _ _ m1 m2 x F
    split
    · rfl
    · split <;> rfl
  rw [push]
  unfold pushChild keyObjOf
  dsimp only
  cases hd : attr a "default" with
  | none =>
    simp only [Option.isSome_none, Bool.false_eq_true, false_and, ↓reduceIte, pure_bind]
    by_cases hp : name = ['+']
    · simp only [hp, bne_self_eq_false, Bool.false_eq_true, ↓reduceIte, Bool.not_false, Bool.and_false,
        beq_self_eq_true]
    · have h1 : (name != ['+']) = true := by simpa using hp
      have h2 : (name == ['+']) = false := by simpa using hp
      simp only [h1, h2, ↓reduceIte, finishKey, Bool.false_eq_true, Bool.not_false, Bool.and_self, bind, Except.bind]
  | some d =>
    simp only [Option.isSome_some, true_and]
    cases req with
    | true => rfl
    | false =>
      simp only [Bool.false_eq_true, ↓reduceIte]
      by_cases hp : name = ['+']
      · simp only [hp, ↓reduceIte, addDefault, Bool.false_eq_true, beq_self_eq_true, Option.isNone_none, Bool.and_self]
        rfl
      · have h1 : (name != ['+']) = true := by simpa using hp
        have h2 : (name == ['+']) = false := by simpa using hp
        simp only [hp, ↓reduceIte, addDefault, addValueInfo, finishKey, Bool.false_eq_true, h1, h2, Bool.false_and,
          Option.isSome_none, Bool.and_false, bind, Except.bind, Bool.not_false, Bool.and_self]

/-- **`start_multikey`**: a `default` attribute is refused outright; otherwise as `start_key`, with the key object left
unfinished -/
theorem startMultikey_nf (env : Env) (st : PSt) (a : Attrs) :
    startMultikey env st a =
      startKeyObjM true (getKeyInfo env st a) a >>= fun p => pushChild st (some p.1) (.key p.2) (.key p.2) := by
  unfold startKeyObjM
  rw [if_pos rfl]
  unfold startMultikey
  by_cases hd : hasAttr a "default" = true
  · rw [if_pos hd, if_pos hd]; rfl
  · rw [if_neg hd, if_neg hd]
    have hn : attr a "default" = none := by
      unfold hasAttr at hd
      cases h : attr a "default" with
      | none => rfl
      | some d => rw [h] at hd; exact absurd rfl hd
    rw [bind_assoc]
    dsimp only
    refine bind_congr fun r => ?_
    obtain ⟨name, dt, handler, attrName⟩ := r
    rw [bind_assoc]
    refine bind_congr fun req => ?_
    unfold pushChild keyObjOf
    rw [hn]
    rfl

theorem startKeyObjM_ok_iff {multi : Bool} {gi : EM (Str × Str × Option Str × Str)} {a : Attrs} {p : Str × EKey} :
    startKeyObjM multi gi a = .ok p ↔
      ∃ r req, gi = .ok r ∧ getRequired a = .ok req ∧ DefaultAttrOK a r.1 req multi ∧ p = (r.1, keyObjOf r req multi a) := by
  unfold startKeyObjM DefaultAttrOK
  cases multi with
  | true =>
    rw [if_pos rfl]
    unfold hasAttr
    cases hd : attr a "default" with
    | some d =>
      rw [Option.isSome_some, if_pos rfl]
      exact ⟨fun h => (nomatch h), fun ⟨_, _, _, _, hA, _⟩ => nomatch (hA d rfl).2.2⟩
    | none =>
      rw [Option.isSome_none, if_neg Bool.false_ne_true]
      simp only [bind_ok]
      constructor
      · rintro ⟨r, hr, req, hq, h⟩; exact ⟨r, req, hr, hq, fun _ h => (nomatch h), (Except.ok.inj h).symm⟩
      · rintro ⟨r, req, hr, hq, _, rfl⟩; exact ⟨r, hr, req, hq, rfl⟩
  | false =>
    rw [if_neg Bool.false_ne_true]
    simp only [bind_ok]
    constructor
    · rintro ⟨r, hr, req, hq, h⟩
      rcases ite_ok h with ⟨_, h⟩ | ⟨h1, h⟩
      · cases h
      rcases ite_ok h with ⟨_, h⟩ | ⟨h2, h⟩
      · cases h
      refine ⟨r, req, hr, hq, fun d hd => ⟨?_, ?_, trivial⟩, (Except.ok.inj h).symm⟩
      · cases req
        · rfl
        · exact absurd ⟨by rw [hd]; rfl, rfl⟩ h1
      · exact fun hp => h2 ⟨by rw [hd]; rfl, hp⟩
    · rintro ⟨r, req, hr, hq, hA, rfl⟩
      refine ⟨r, hr, req, hq, ?_⟩
      have n1 : ¬ ((attr a "default").isSome = true ∧ req = true) := by
        rintro ⟨h1, h2⟩
        obtain ⟨d, hd⟩ := Option.isSome_iff_exists.1 h1
        rw [(hA d hd).1] at h2; cases h2
      have n2 : ¬ ((attr a "default").isSome = true ∧ r.1 = ['+']) := by
        rintro ⟨h1, h2⟩
        obtain ⟨d, hd⟩ := Option.isSome_iff_exists.1 h1
        exact (hA d hd).2.1 h2
      rw [if_neg n1, if_neg n2]; rfl

/-! ## `<section>` / `<multisection>`: the section slot is built, filed and pushed -/

def startSectionObj (gs : EM Str) (gn : EM (Option Str × Option Str × Option Str)) (attrs : Attrs) :
    EM (Option Str × SectInfo) := do
  let ty ← gs
  let handler ← getHandler attrs
  let req ← getRequired attrs
  let (anyName, name, attrName) ← gn
  if name == some ['*'] || name == some ['+'] then .error (.internal "AssertionError")
  let si : SectInfo := { name := (match anyName with | some a => a | none => name.getD []), attr := attrName.getD [],
                         multi := false, minOccurs := if req then 1 else 0, ty := ty, handler := handler }
  pure (name, si)

theorem startSection_eq_obj (env : Env) (st : PSt) (attrs : Attrs) :
    startSection env st attrs =
      (startSectionObj (getSectiontype st attrs) (getNameInfo env st attrs (some ['*'])) attrs >>= fun p =>
        pushChild st p.1 (.sect p.2) (.sect false false)) := by
  unfold startSection startSectionObj pushChild
  simp only [bind_assoc]
  refine bind_congr fun ty => bind_congr fun handler => bind_congr fun req => bind_congr fun r => ?_
  split <;> rfl

def startMultisectionObj (gs : EM Str) (gn : EM (Option Str × Option Str × Option Str)) (attrs : Attrs) :
    EM (Option Str × SectInfo) := do
  let ty ← gs
  let req ← getRequired attrs
  let (anyName, name, attrName) ← gn
  match anyName with
  | some a =>
    if !Gen.multisectionNames.contains a then serr "multisection must specify '*' or '+' for the name"
    let handler ← getHandler attrs
    let si : SectInfo := { name := a, attr := attrName.getD [], multi := true, minOccurs := if req then 1 else 0,
                           ty := ty, handler := handler }
    pure (name, si)
  | none => serr "multisection must specify '*' or '+' for the name"

theorem startMultisection_eq_obj (env : Env) (st : PSt) (attrs : Attrs) :
    startMultisection env st attrs =
      (startMultisectionObj (getSectiontype st attrs) (getNameInfo env st attrs (some ['*'])) attrs >>= fun p =>
        pushChild st p.1 (.sect p.2) (.sect false false)) := by
  unfold startMultisection startMultisectionObj pushChild
  simp only [bind_assoc]
  refine bind_congr fun ty => bind_congr fun req => bind_congr fun r => ?_
  obtain ⟨an, name, attrName⟩ := r
  cases an with
  | none => rfl
  | some a =>
    dsimp only
    split
    · rfl
    · simp only [bind_assoc, pure_bind]

/-! ## the dispatchers -/

theorem startHandled_ok {env : Env} {h : Hooks} {t : Str} {a : Attrs} {st st' : PSt}
    (hs : startHandled env h t a st = .ok st') :
    (t = "import".toList ∧ startImport env h st a = .ok st') ∨
    (t = "abstracttype".toList ∧ startAbstracttype st a = .ok st') ∨
    (t = "sectiontype".toList ∧ startSectiontype env st a = .ok st') ∨
    (t = "key".toList ∧ startKey env st a = .ok st') ∨
    (t = "multikey".toList ∧ startMultikey env st a = .ok st') ∨
    (t = "section".toList ∧ startSection env st a = .ok st') ∨
    (t = "multisection".toList ∧ startMultisection env st a = .ok st') := by
  unfold startHandled at hs
  rcases ite_ok hs with ⟨ht, hs⟩ | ⟨_, hs⟩
  · exact .inl ⟨eq_of_beq ht, hs⟩
  rcases ite_ok hs with ⟨ht, hs⟩ | ⟨_, hs⟩
  · exact .inr (.inl ⟨eq_of_beq ht, hs⟩)
  rcases ite_ok hs with ⟨ht, hs⟩ | ⟨_, hs⟩
  · exact .inr (.inr (.inl ⟨eq_of_beq ht, hs⟩))
  rcases ite_ok hs with ⟨ht, hs⟩ | ⟨_, hs⟩
  · exact .inr (.inr (.inr (.inl ⟨eq_of_beq ht, hs⟩)))
  rcases ite_ok hs with ⟨ht, hs⟩ | ⟨_, hs⟩
  · exact .inr (.inr (.inr (.inr (.inl ⟨eq_of_beq ht, hs⟩))))
  rcases ite_ok hs with ⟨ht, hs⟩ | ⟨_, hs⟩
  · exact .inr (.inr (.inr (.inr (.inr (.inl ⟨eq_of_beq ht, hs⟩)))))
  rcases ite_ok hs with ⟨ht, hs⟩ | ⟨_, hs⟩
  · exact .inr (.inr (.inr (.inr (.inr (.inr ⟨eq_of_beq ht, hs⟩)))))
  · cases hs

theorem endHandled_ok {env : Env} {t : Str} {st st' : PSt} (he : endHandled env t st = .ok st') :
    (t = "import".toList ∧ st' = st) ∨
    (t = "abstracttype".toList ∧ popFrame st = .ok st') ∨
    (t = "sectiontype".toList ∧ endSectiontype st = .ok st') ∨
    (t = "key".toList ∧ endKey env st = .ok st') ∨
    (t = "multikey".toList ∧ endMultikey env st = .ok st') ∨
    (t = "section".toList ∧ popFrame st = .ok st') ∨
    (t = "multisection".toList ∧ popFrame st = .ok st') := by
  unfold endHandled at he
  rcases ite_ok he with ⟨ht, he⟩ | ⟨_, he⟩
  · cases he; exact .inl ⟨eq_of_beq ht, rfl⟩
  rcases ite_ok he with ⟨ht, he⟩ | ⟨_, he⟩
  · exact .inr (.inl ⟨eq_of_beq ht, he⟩)
  rcases ite_ok he with ⟨ht, he⟩ | ⟨_, he⟩
  · exact .inr (.inr (.inl ⟨eq_of_beq ht, he⟩))
  rcases ite_ok he with ⟨ht, he⟩ | ⟨_, he⟩
  · exact .inr (.inr (.inr (.inl ⟨eq_of_beq ht, he⟩)))
  rcases ite_ok he with ⟨ht, he⟩ | ⟨_, he⟩
  · exact .inr (.inr (.inr (.inr (.inl ⟨eq_of_beq ht, he⟩))))
  rcases ite_ok he with ⟨ht, he⟩ | ⟨_, he⟩
  · exact .inr (.inr (.inr (.inr (.inr (.inl ⟨eq_of_beq ht, he⟩)))))
  rcases ite_ok he with ⟨ht, he⟩ | ⟨_, he⟩
  · exact .inr (.inr (.inr (.inr (.inr (.inr ⟨eq_of_beq ht, he⟩)))))
  · cases he

theorem startHandled_key (env : Env) (h : Hooks) (a : Attrs) (st : PSt) :
    startHandled env h "key".toList a st = startKey env st a := by
  unfold startHandled; char_lits; rfl
theorem startHandled_multikey (env : Env) (h : Hooks) (a : Attrs) (st : PSt) :
    startHandled env h "multikey".toList a st = startMultikey env st a := by
  unfold startHandled; char_lits; rfl
theorem startHandled_section (env : Env) (h : Hooks) (a : Attrs) (st : PSt) :
    startHandled env h "section".toList a st = startSection env st a := by
  unfold startHandled; char_lits; rfl
theorem startHandled_multisection (env : Env) (h : Hooks) (a : Attrs) (st : PSt) :
    startHandled env h "multisection".toList a st = startMultisection env st a := by
  unfold startHandled; char_lits; rfl
theorem startHandled_sectiontype (env : Env) (h : Hooks) (a : Attrs) (st : PSt) :
    startHandled env h "sectiontype".toList a st = startSectiontype env st a := by
  unfold startHandled; char_lits; rfl
theorem startHandled_abstracttype (env : Env) (h : Hooks) (a : Attrs) (st : PSt) :
    startHandled env h "abstracttype".toList a st = startAbstracttype st a := by
  unfold startHandled; char_lits; rfl
theorem startHandled_import (env : Env) (h : Hooks) (a : Attrs) (st : PSt) :
    startHandled env h "import".toList a st = startImport env h st a := by
  unfold startHandled; char_lits; rfl

theorem endHandled_key (env : Env) (st : PSt) : endHandled env "key".toList st = endKey env st := by
  unfold endHandled; char_lits; rfl
theorem endHandled_multikey (env : Env) (st : PSt) : endHandled env "multikey".toList st = endMultikey env st := by
  unfold endHandled; char_lits; rfl
theorem endHandled_section (env : Env) (st : PSt) : endHandled env "section".toList st = popFrame st := by
  unfold endHandled; char_lits; rfl
theorem endHandled_multisection (env : Env) (st : PSt) : endHandled env "multisection".toList st = popFrame st := by
  unfold endHandled; char_lits; rfl
theorem endHandled_sectiontype (env : Env) (st : PSt) : endHandled env "sectiontype".toList st = endSectiontype st := by
  unfold endHandled; char_lits; rfl
theorem endHandled_abstracttype (env : Env) (st : PSt) : endHandled env "abstracttype".toList st = popFrame st := by
  unfold endHandled; char_lits; rfl
theorem endHandled_import (env : Env) (st : PSt) : endHandled env "import".toList st = .ok st := by
  unfold endHandled; char_lits; rfl

end ZCV.Elab

/-! ## the member elements by tag: `<key>` / `<multikey>` and `<section>` / `<multisection>` are one case each -/

namespace ZCV.SchemaRules
open ZCV ZCV.Elab
open ZCV.Cfg (VI SectInfo Default)

/-- the tag of a `<key>` (`multi = false`) / `<multikey>` element -/
def keyTag (multi : Bool) : Str := if multi then "multikey".toList else "key".toList

theorem keyTag_handled (multi : Bool) : keyTag multi ∈ Gen.handledTags := by
  cases multi <;> (unfold keyTag; char_lits; decide +kernel)

/-- `</key>` / `</multikey>`, on the key object -/
def endObj (multi : Bool) (env : Env) (kt : EM Str) (k : EKey) : EM EKey :=
  if multi then endMultikeyObj env kt k else endKeyObj env kt k

/-- a `<key>` with a fixed name was finished at its start tag -/
theorem endObj_eq (multi : Bool) (env : Env) (ktm : EM Str) (k : EKey) :
    endObj multi env ktm k =
      if k.name = ['+'] then ktm >>= fun kt => computeDefault env kt k >>= finishKey
      else if multi then finishKey k else .ok k := by
  by_cases hp : k.name = ['+']
  · have hb : (k.name == ['+']) = true := beq_iff_eq.2 hp
    rw [if_pos hp]
    cases multi
    · simp only [endObj, endKeyObj, hb, Bool.false_eq_true, ↓reduceIte]
    · simp only [endObj, endMultikeyObj, hb, ↓reduceIte, bind_assoc]
  · have hb : (k.name == ['+']) = false := beq_eq_false_iff_ne.2 hp
    rw [if_neg hp]
    cases multi
    · simp only [endObj, endKeyObj, hb, Bool.false_eq_true, ↓reduceIte]; rfl
    · simp only [endObj, endMultikeyObj, hb, Bool.false_eq_true, ↓reduceIte, pure_bind]

theorem startHandled_keyTag (env : Env) (h : Hooks) (multi : Bool) (a : Attrs) (st : PSt) :
    startHandled env h (keyTag multi) a st =
      startKeyObjM multi (getKeyInfo env st a) a >>= fun p => pushChild st (some p.1) (.key p.2) (.key p.2) := by
  cases multi
  · exact (startHandled_key env h a st).trans (startKey_nf env st a)
  · exact (startHandled_multikey env h a st).trans (startMultikey_nf env st a)

theorem endHandled_keyTag {multi : Bool} {env : Env} {st : PSt} {k : EKey} {rest : List Frame}
    (hs : st.stack = .key k :: rest) :
    endHandled env (keyTag multi) st =
      endObj multi env (topKeytype { st with stack := rest }) k >>= fun k' =>
        replaceLastChild { st with stack := rest } k' := by
  cases multi
  · exact (endHandled_key env st).trans (endKey_eq hs)
  · exact (endHandled_multikey env st).trans (endMultikey_eq hs)

/-- the tag of a `<section>` (`multi = false`) / `<multisection>` element -/
def sectTag (multi : Bool) : Str := if multi then "multisection".toList else "section".toList

/-- the section slot `<section>` / `<multisection>` appends to its container -/
def startSectObj (multi : Bool) (gs : EM Str) (gn : EM (Option Str × Option Str × Option Str)) (a : Attrs) :
    EM (Option Str × SectInfo) :=
  if multi then startMultisectionObj gs gn a else startSectionObj gs gn a

theorem startHandled_sectTag (multi : Bool) (env : Env) (h : Hooks) (a : Attrs) (st : PSt) :
    startHandled env h (sectTag multi) a st =
      (startSectObj multi (getSectiontype st a) (getNameInfo env st a (some ['*'])) a >>= fun p =>
        pushChild st p.1 (.sect p.2) (.sect false false)) := by
  cases multi with
  | false =>
    show startHandled env h "section".toList a st = _
    rw [startHandled_section, startSection_eq_obj]; rfl
  | true =>
    show startHandled env h "multisection".toList a st = _
    rw [startHandled_multisection, startMultisection_eq_obj]; rfl

theorem sectTag_handled (multi : Bool) : sectTag multi ∈ Gen.handledTags := by
  cases multi <;> (unfold sectTag; char_lits; decide +kernel)

theorem endHandled_sectTag (multi : Bool) (env : Env) : endHandled env (sectTag multi) = popFrame := by
  cases multi
  · exact funext (endHandled_section env)
  · exact funext (endHandled_multisection env)

end ZCV.SchemaRules
