import ZCV.Lemmas.RoundtripRun
/-!
Closed instances for C17, each a load and the reload of its print: a text whose keys are not in sorted order (the
reload lists them sorted); an environment whose `$(NAME)` value is empty, as an `%import` argument (the printed
text is refused) and next to a blank in a value (the reload has another value).
-/
namespace ZCV.Roundtrip
open ZCV ZCV.Cfg ZCV.SubstSpec

/-! ### keys out of order -/

def linesBA : List Str := ["b 1".toList, "a 2".toList]
def treeBA : Sec := .mk [] none [("b".toList, ["1".toList]), ("a".toList, ["2".toList])] []

theorem load_BA (getenv : Str → Option Str) (url : Option Str) : slLoad getenv url linesBA = .ok (treeBA, []) := by
  refine (slLoad_of_runs getenv url linesBA _ _ _ (by unfold linesBA; char_lits; decide +kernel)
    (runs_pairs [(['b'], ['1']), (['a'], ['2'])] st0 [] none [] [] [] (by decide +kernel) rfl) rfl rfl).trans ?_
  unfold treeBA; char_lits; rfl

theorem treeBA_wf : WF treeBA [] := by unfold treeBA; char_lits; decide +kernel

theorem treeBA_not_sorted : canon treeBA ≠ treeBA := by
  intro h
  have := congrArg Sec.kvs h
  revert this
  decide +kernel

/-! ### an empty environment value -/

def envEmpty : Str → Option Str := fun _ => some []
def linesImp : List Str := ["%import $(E)".toList]

theorem lineShape_importE : lineShape (strip "%import $(E)".toList) = .import_ "$(E)".toList :=
  lineShape_of_classify _ (by char_lits; decide +kernel) _ (by char_lits; decide +kernel) nofun

theorem replace_E (url : Option Str) (n : Nat) : replace (envOf envEmpty) [] url n "$(E)".toList = .ok [] :=
  replace_of_subst (by rw [Subst.substcor_eval_eq]; char_lits; decide +kernel)

theorem load_importE (url : Option Str) : slLoad envEmpty url linesImp = .ok (.mk [] none [] [], [[]]) := by
  exact slLoad_of_runs envEmpty url linesImp _ _ _ (by unfold linesImp; char_lits; decide +kernel)
    (runs_one _ _ _ fun n => stepS_import n [] st0 lineShape_importE
      (by rw [show strip "$(E)".toList = "$(E)".toList by char_lits; decide +kernel]; exact replace_E url n)) rfl rfl

theorem lineShape_import_bare : lineShape "%import".toList = .bad "missing argument" := by
  char_lits
  exact lineShape_import ['i', 'm', 'p', 'o', 'r', 't'] none (by decide +kernel) (by char_lits; decide +kernel)

theorem reload_importE (getenv : Str → Option Str) (url : Option Str) :
    slLoad getenv url (linesOf (slStr (.mk [] none [] []) [[]])) = .error (synErr url 1 "missing argument") := by
  have e : linesOf (slStr (.mk [] none [] []) [[]]) = ["%import".toList] := by char_lits; decide +kernel
  rw [e]
  unfold slLoad
  rw [parseLines, show strip "%import".toList = "%import".toList by char_lits; decide +kernel,
    stepLine_of_bad lineShape_import_bare]
  rfl

/-! ### an empty environment value next to a blank -/

def linesVal : List Str := ["k $(E) x".toList]
def treeVal : Sec := .mk [] none [("k".toList, [" x".toList])] []
def treeVal' : Sec := .mk [] none [("k".toList, ["x".toList])] []

theorem replace_E_x (url : Option Str) (n : Nat) : replace (envOf envEmpty) [] url n "$(E) x".toList = .ok " x".toList :=
  replace_of_subst (by rw [Subst.substcor_eval_eq]; char_lits; decide +kernel)

theorem load_valE (url : Option Str) : slLoad envEmpty url linesVal = .ok (treeVal, []) := by
  exact slLoad_of_runs envEmpty url linesVal _ _ treeVal (by unfold linesVal; char_lits; decide +kernel)
    (runs_one _ _ _ fun n => stepS_kv n (l := strip "k $(E) x".toList) (k := "k".toList) (raw := "$(E) x".toList)
      " x".toList st0 [] none [] [] []
      (lineShape_of_classify _ (by char_lits; decide +kernel) _ (by char_lits; decide +kernel) nofun)
      (replace_E_x url n) rfl) rfl rfl

theorem reload_valE (getenv : Str → Option Str) (url : Option Str) :
    slLoad getenv url (linesOf (slStr treeVal [])) = .ok (treeVal', []) := by
  exact slLoad_of_runs getenv url _ _ _ treeVal' (by unfold treeVal; char_lits; decide +kernel)
    (runs_one _ _ _ fun n => stepS_kv n (l := strip "k  x".toList) (k := "k".toList) (raw := "x".toList) "x".toList
      st0 [] none [] [] []
      (lineShape_of_classify _ (by char_lits; decide +kernel) _ (by char_lits; decide +kernel) nofun)
      (replace_esc _ _ _ _ "x".toList) rfl) rfl rfl

theorem treeVal_ne : treeVal' ≠ treeVal := by
  intro h
  have := congrArg Sec.kvs h
  revert this
  decide +kernel

end ZCV.Roundtrip
