import ZCV.Lemmas.Grammar
import ZCV.Lemmas.RoundtripText
/-!
C15: how a section header line is read depends on the spelling of its type and name only through `lower`.
Closed formulas for the classification of `<type name>`, `<type name/>`, `<type>`, `<type/>`, `</type>`.
-/
namespace ZCV.Grammar
open ZCV

def Word (w : Str) : Prop := w ≠ [] ∧ w.all isWord = true
instance (w : Str) : Decidable (Word w) := by unfold Word; infer_instance

/-- `<type ws name>` or `<type ws name/>` -/
def hdrLine (ty ws nm : Str) (e : Bool) : Str := '<' :: (ty ++ ws ++ nm ++ (if e then ['/', '>'] else ['>']))
/-- `<type>` or `<type/>` -/
def hdrLine1 (ty : Str) (e : Bool) : Str := '<' :: (ty ++ (if e then ['/', '>'] else ['>']))
/-- `</type>` -/
def closeLine (ty : Str) : Str := '<' :: '/' :: (ty ++ ['>'])

theorem dropLast_snoc (x : Str) (c : Char) : dropLast (x ++ [c]) = x := by
  unfold dropLast; simp

theorem strip_angle (x : Str) : strip ('<' :: (x ++ ['>'])) = '<' :: (x ++ ['>']) := by
  apply Roundtrip.strip_clean
  · intro c hc; cases hc; decide
  · intro c hc
    rw [← List.cons_append, List.getLast?_append] at hc
    cases hc
    decide

theorem word_head {w : Str} (h : Word w) : ∃ c t, w = c :: t ∧ isWord c = true ∧ t.all isWord = true := by
  obtain ⟨hne, ha⟩ := h
  cases w with
  | nil => exact absurd rfl hne
  | cons c t =>
    simp only [List.all_cons, Bool.and_eq_true] at ha
    exact ⟨c, t, rfl, ha.1, ha.2⟩

theorem word_last_not_space {w : Str} (h : Word w) : ∀ c ∈ w.getLast?, pySpace c = false := by
  intro c hc
  have hm : c ∈ w := List.mem_of_getLast? hc
  have := (List.all_eq_true.mp h.2) c hm
  exact Cfg.isWord_not_space this

theorem isWord_space {c : Char} (h : pySpace c = true) : isWord c = false := by
  simp [isWord, h]

theorem header_one (ty : Str) (hty : Word ty) : header ty = some (ty, none) := by
  have h := takeWhile_dropWhile_stop isWord ty [] hty.2 (by simp)
  simp only [List.append_nil] at h
  unfold header
  simp only [h.1, h.2, hty.1, ↓reduceIte]

theorem header_two (ty ws nm : Str) (hty : Word ty) (hnm : Word nm) (hws : ws ≠ []) (hsp : ws.all pySpace = true) :
    header (ty ++ ws ++ nm) = some (ty, some nm) := by
  obtain ⟨c, t, rfl, hc, ht⟩ := word_head hnm
  obtain ⟨s, ws', rfl⟩ := List.exists_cons_of_ne_nil hws
  simp only [List.all_cons, Bool.and_eq_true] at hsp
  have h1 := takeWhile_dropWhile_stop isWord ty ((s :: ws') ++ c :: t) hty.2
    (by intro x hx; simp at hx; subst hx; exact isWord_space hsp.1)
  have h2 := takeWhile_dropWhile_stop pySpace (s :: ws') (c :: t) (by simp [hsp.1, hsp.2])
    (by intro x hx; simp at hx; subst hx; exact Cfg.isWord_not_space hc)
  have h3 := takeWhile_dropWhile_stop isWord (c :: t) [] (by simp [hc, ht]) (by simp)
  simp only [List.append_nil] at h3
  unfold header
  rw [List.append_assoc]
  simp only [h1.1, h1.2, h2.2, h3.1, h3.2, hty.1, ↓reduceIte]
  simp
  omega

theorem classify_open (x : Str) (hx : x.head? ≠ some '/') :
    classify ('<' :: (x ++ ['>'])) =
      match header (rstrip (if x.getLast? = some '/' then dropLast x else x)) with
      | none => .bad
      | some (ty, nm) => .open_ (lower ty) (nm.map lower) (decide (x.getLast? = some '/')) := by
  unfold classify
  simp only [strip_angle]
  have hlast : (x ++ ['>']).getLast? = some '>' := by rw [List.getLast?_append]; rfl
  have hdl : dropLast (x ++ ['>']) = x := dropLast_snoc _ _
  cases x with
  | nil => simp [dropLast]; rfl
  | cons c t =>
    have hc : c ≠ '/' := by intro h; apply hx; simp [h]
    rw [List.cons_append]
    split
    next h => simp at h
    next h => simp at h
    next rest h =>
      injection h with _ h
      injection h with h _
      exact absurd h hc
    next rest hne h =>
      injection h with _ h
      subst h
      rw [← List.cons_append, hlast, hdl]
      simp only [ne_eq, not_true_eq_false, ↓reduceIte]
      rfl
    next h => simp at h
    next h1 h2 h3 h4 h5 => exact absurd rfl (h4 _)

theorem classify_hdrLine (ty ws nm : Str) (e : Bool) (hty : Word ty) (hnm : Word nm)
    (hws : ws ≠ []) (hsp : ws.all pySpace = true) (hslash : ty.head? ≠ some '/') (hlast : nm.getLast? ≠ some '/') :
    classify (hdrLine ty ws nm e) = .open_ (lower ty) (some (lower nm)) e := by
  obtain ⟨c, t, hty', _, _⟩ := word_head hty
  have hkeep : rstrip (ty ++ ws ++ nm) = ty ++ ws ++ nm :=
    Roundtrip.rstrip_clean _ (by rw [getLast?_append_ne _ _ hnm.1]; exact word_last_not_space hnm)
  unfold hdrLine
  cases e with
  | false =>
    simp only [Bool.false_eq_true, ↓reduceIte]
    rw [classify_open _ (by rw [hty']; simpa [hty'] using hslash)]
    have hl : (ty ++ ws ++ nm).getLast? ≠ some '/' := by rw [getLast?_append_ne _ _ hnm.1]; exact hlast
    simp only [hl, ↓reduceIte, hkeep, header_two ty ws nm hty hnm hws hsp, Option.map_some, decide_false]
  | true =>
    simp only [↓reduceIte]
    rw [show ty ++ ws ++ nm ++ ['/', '>'] = (ty ++ ws ++ nm ++ ['/']) ++ ['>'] by simp]
    rw [classify_open _ (by rw [hty']; simpa [hty'] using hslash)]
    have hl : (ty ++ ws ++ nm ++ ['/']).getLast? = some '/' := by rw [List.getLast?_append]; rfl
    have hd : dropLast (ty ++ ws ++ nm ++ ['/']) = ty ++ ws ++ nm := dropLast_snoc _ _
    simp only [hl, ↓reduceIte, hd, hkeep, header_two ty ws nm hty hnm hws hsp, Option.map_some, decide_true]

theorem classify_hdrLine1 (ty : Str) (e : Bool) (hty : Word ty)
    (hslash : ty.head? ≠ some '/') (hlast : ty.getLast? ≠ some '/') :
    classify (hdrLine1 ty e) = .open_ (lower ty) none e := by
  obtain ⟨c, t, hty', _, _⟩ := word_head hty
  have hkeep : rstrip ty = ty := Roundtrip.rstrip_clean _ (word_last_not_space hty)
  unfold hdrLine1
  cases e with
  | false =>
    simp only [Bool.false_eq_true, ↓reduceIte]
    rw [classify_open _ hslash]
    simp only [hlast, ↓reduceIte, hkeep, header_one ty hty, Option.map_none, decide_false]
  | true =>
    simp only [↓reduceIte]
    rw [show ty ++ ['/', '>'] = (ty ++ ['/']) ++ ['>'] by simp]
    rw [classify_open _ (by rw [hty']; simpa [hty'] using hslash)]
    have hl : (ty ++ ['/']).getLast? = some '/' := by rw [List.getLast?_append]; rfl
    have hd : dropLast (ty ++ ['/']) = ty := dropLast_snoc _ _
    simp only [hl, ↓reduceIte, hd, hkeep, header_one ty hty, Option.map_none, decide_true]

theorem classify_closeLine (ty : Str) : classify (closeLine ty) = .close (lower (rstrip ty)) := by
  unfold closeLine classify
  have := strip_angle ('/' :: ty)
  rw [List.cons_append] at this
  simp only [this]
  have hlast : (ty ++ ['>']).getLast? = some '>' := by rw [List.getLast?_append]; rfl
  have hdl : dropLast (ty ++ ['>']) = ty := dropLast_snoc _ _
  simp only [hlast, hdl, ne_eq, not_true_eq_false, ↓reduceIte]

end ZCV.Grammar

namespace ZCV.Cfg
open ZCV ZCV.Grammar

theorem word_no_nl {w : Str} (h : Word w) : '\n' ∉ w := by
  intro hm
  have h1 := (List.all_eq_true.mp h.2) _ hm
  have h2 := isWord_not_space h1
  rw [pySpace_nl] at h2
  cases h2

theorem lineShape_hdrLine (ty ws nm : Str) (e : Bool) (hty : Word ty) (hnm : Word nm)
    (hws : ws ≠ []) (hsp : ws.all pySpace = true) (hnl : '\n' ∉ ws)
    (hslash : ty.head? ≠ some '/') (hlast : nm.getLast? ≠ some '/') :
    lineShape (strip (hdrLine ty ws nm e)) = .open_ (lower ty) (some (lower nm)) e := by
  apply lineShape_of_classify
  · unfold hdrLine
    have h1 := word_no_nl hty
    have h2 := word_no_nl hnm
    cases e <;> simp [h1, h2, hnl]
  · exact classify_hdrLine ty ws nm e hty hnm hws hsp hslash hlast
  · nofun

theorem lineShape_hdrLine1 (ty : Str) (e : Bool) (hty : Word ty)
    (hslash : ty.head? ≠ some '/') (hlast : ty.getLast? ≠ some '/') :
    lineShape (strip (hdrLine1 ty e)) = .open_ (lower ty) none e := by
  apply lineShape_of_classify
  · unfold hdrLine1
    have h1 := word_no_nl hty
    cases e <;> simp [h1]
  · exact classify_hdrLine1 ty e hty hslash hlast
  · nofun

theorem lineShape_closeLine (ty : Str) (hty : Word ty) :
    lineShape (strip (closeLine ty)) = .close (lower ty) := by
  apply lineShape_of_classify
  · unfold closeLine
    have h1 := word_no_nl hty
    simp [h1]
  · rw [classify_closeLine, Roundtrip.rstrip_clean ty (word_last_not_space hty)]
    rfl
  · nofun

end ZCV.Cfg
