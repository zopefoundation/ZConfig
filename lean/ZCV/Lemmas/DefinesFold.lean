import ZCV.Lemmas.DefinesSpec
import ZCV.Props.C04
import ZCV.Lemmas.Include
import ZCV.Lemmas.Grammar
/-!
The `%define` mapping of the parser model: `lookupDef` after `setDef`; `define` / `replace` against the `%define` spec
(`ZCV.DefSpec`); and whole texts: a text of `%define`, key and blank lines read by the recording context does what the spec's
`run` says (`Reads`, `run_rec0_spec`); for any context the mapping after a text is the spec's fold over its `%define` lines
(`run_defs_fold`) and a key line is expanded with the mapping its prefix leaves (`use_after_prefix`); a reference to a name not
defined is a replacement error (`expand_ref_missing`).
-/
namespace ZCV.Cfg
open ZCV

theorem lookupDef_setDef_same (defs : List (Str × Str)) (k v : Str) :
    lookupDef (setDef defs k v) k = some v := by
  induction defs with
  | nil => simp [setDef, lookupDef]
  | cons p t ih =>
    unfold setDef
    by_cases hp : p.1 == k
    · simp [hp, lookupDef]
    · simp only [hp, Bool.false_eq_true, ↓reduceIte]
      unfold lookupDef at ih ⊢
      simp only [List.find?_cons, hp]
      exact ih

theorem lookupDef_setDef_other (defs : List (Str × Str)) (k k' v : Str) (hk : (k == k') = false) :
    lookupDef (setDef defs k v) k' = lookupDef defs k' := by
  induction defs with
  | nil => simp [setDef, lookupDef, hk]
  | cons p t ih =>
    unfold setDef
    by_cases hp : p.1 == k
    · have hpk : p.1 = k := beq_iff_eq.mp hp
      have : (p.1 == k') = false := by rw [hpk]; exact hk
      simp [hp, lookupDef, List.find?_cons, hk, this]
    · simp only [hp, Bool.false_eq_true, ↓reduceIte]
      unfold lookupDef at ih ⊢
      simp only [List.find?_cons]
      split
      · rfl
      · exact ih

end ZCV.Cfg

namespace ZCV.Cfg
open ZCV ZCV.SubstSpec

/-- the exception the parser raises for a spec-level rejection at `line` of `url` -/
def failOf (url : Option Str) (line : Nat) : DefSpec.Err → Fail
  | .illegalName _ => synErr url line "not a substitution legal name"
  | .redefined _ => synErr url line "cannot redefine"
  | .subst (.missing _ _) => .cfg { kind := .replacement, line := some line, url := url, tag := "replacement" }
  | .subst (.syntax _) => .cfg { kind := .substSyntax, line := some line, url := url, tag := "subst-syntax" }

def liftE {α} (url : Option Str) (line : Nat) : Except DefSpec.Err α → M α
  | .ok a => .ok a
  | .error e => .error (failOf url line e)

theorem lookupDef_eq_get : lookupDef = DefSpec.get := rfl

theorem replace_eq_expand (env : Env) (defs : List (Str × Str)) (url : Option Str) (line : Nat) (text : Str) :
    replace env defs url line text = liftE url line (DefSpec.expand env.getenv defs text) := by
  have h := ZCV.Props.C04.C04_substitute_eq_spec (lookupDef defs) env.getenv text
  unfold replace DefSpec.expand
  rw [← lookupDef_eq_get, ← h]
  cases Subst.substitute (lookupDef defs) env.getenv text with
  | ok v => rfl
  | error e => cases e <;> rfl

/-- the parser's `replace` reads the letter case of `$name` / `${name}` references only through `lower` -/
theorem replace_refCase (env : Env) (defs : List (Str × Str)) (url : Option Str) (line : Nat) {s s' : Str}
    (h : DefSpec.RefCase s s') : (replace env defs url line s').toOption = (replace env defs url line s).toOption := by
  rw [replace_eq_expand, replace_eq_expand]
  unfold DefSpec.expand SubstSpec.substituteSpec
  have := SubstSpec.spec_refCase (DefSpec.get defs) env.getenv h s s'
  cases h1 : SubstSpec.spec (DefSpec.get defs) env.getenv s s <;>
    cases h2 : SubstSpec.spec (DefSpec.get defs) env.getenv s' s' <;> simp_all [liftE]

/-- `%define` reads the name through `lower` -/
theorem define_lower_congr (env : Env) (url : Option Str) (line : Nat) {rest rest' n n' : Str} {more : List Str}
    (defs : List (Str × Str)) (hs : splitWS1 rest = n :: more) (hs' : splitWS1 rest' = n' :: more) (hc : lower n' = lower n) :
    define env url line rest' defs = define env url line rest defs := by
  unfold define
  rw [hs, hs']
  simp only [hc]

theorem setDef_new (defs : List (Str × Str)) (k v : Str) (h : lookupDef defs k = none) :
    setDef defs k v = defs ++ [(k, v)] := by
  induction defs with
  | nil => rfl
  | cons p t ih =>
    unfold lookupDef at h ih
    simp only [List.find?_cons] at h
    unfold setDef
    split at h
    · simp at h
    · rename_i hp
      simp only [hp, Bool.false_eq_true, ↓reduceIte, List.cons_append]
      rw [ih h]

theorem setDef_same (defs : List (Str × Str)) (k v : Str) (h : lookupDef defs k = some v) :
    setDef defs k v = defs := by
  induction defs with
  | nil => simp [lookupDef] at h
  | cons p t ih =>
    unfold lookupDef at h ih
    simp only [List.find?_cons] at h
    unfold setDef
    split at h
    · rename_i hp
      simp only [Option.map_some, Option.some.injEq] at h
      have : p.1 = k := beq_iff_eq.mp hp
      simp only [hp, ↓reduceIte]
      rw [← this, ← h]
    · rename_i hp
      simp only [hp, Bool.false_eq_true, ↓reduceIte]
      rw [ih h]

theorem legal_of_get {d : DefSpec.Defs} (hl : DefSpec.Legal d) {k cur : Str} (h : DefSpec.get d k = some cur) :
    isnameSpec k = true := by
  unfold DefSpec.get at h
  cases hf : d.find? (·.1 == k) with
  | none => simp [hf] at h
  | some p =>
    have hm := List.mem_of_find?_eq_some hf
    have hk := List.find?_some hf
    have : p.1 = k := beq_iff_eq.mp hk
    rw [← this]
    exact hl p hm

theorem legal_nil : DefSpec.Legal [] := fun _ h => by cases h

theorem defineStep_legal (env : Str → Option Str) (d d' : DefSpec.Defs) (n raw : Str) (hl : DefSpec.Legal d)
    (h : DefSpec.defineStep env d n raw = .ok d') : DefSpec.Legal d' := by
  unfold DefSpec.defineStep at h
  simp only at h
  split at h
  · cases h
  · rename_i hn
    split at h
    · cases h
    · split at h
      · cases h
        intro p hp
        rcases List.mem_append.mp hp with hp | hp
        · exact hl p hp
        · simp only [List.mem_singleton] at hp
          subst hp
          simpa using hn
      · split at h
        · cases h; exact hl
        · cases h

/-- `handle_define` is the spec's `defineStep` (the mapping's recorded names being legal, which `defineStep` keeps) -/
theorem define_eq_spec (env : Env) (url : Option Str) (line : Nat) (rest p0 : Str) (more : List Str)
    (defs : List (Str × Str)) (hs : splitWS1 rest = p0 :: more) (hl : DefSpec.Legal defs) :
    define env url line rest defs = liftE url line (DefSpec.defineStep env.getenv defs p0 (defValue more)) := by
  unfold define
  rw [hs]
  simp only
  rw [replace_eq_expand, ZCV.Props.C04.C04_isname_spec]
  unfold DefSpec.defineStep
  simp only
  rw [lookupDef_eq_get]
  cases hg : DefSpec.get defs (lower p0) with
  | none =>
    by_cases hn : isnameSpec (lower p0) = true
    · simp only [hn, Bool.not_true, Bool.false_eq_true, ↓reduceIte]
      cases hx : DefSpec.expand env.getenv defs (defValue more) with
      | error e => rfl
      | ok v =>
        simp only [liftE, bind, Except.bind, pure, Except.pure]
        rw [setDef_new _ _ _ (by rw [lookupDef_eq_get]; exact hg)]
    · simp only [hn, Bool.not_false, ↓reduceIte]
      rfl
  | some cur =>
    have hn := legal_of_get hl hg
    simp only [hn, Bool.not_true, Bool.false_eq_true, ↓reduceIte]
    cases hx : DefSpec.expand env.getenv defs (defValue more) with
    | error e => rfl
    | ok v =>
      simp only [liftE, bind, Except.bind, pure, Except.pure]
      by_cases hc : cur = v
      · subst hc
        simp only [bne_self_eq_false, Bool.false_eq_true, ↓reduceIte]
        rw [setDef_same _ _ _ (by rw [lookupDef_eq_get]; exact hg)]
      · have : (cur != v) = true := by simpa using hc
        simp only [this, ↓reduceIte, hc]
        rfl


/-! ### whole texts, recording context: `%define` lines, key lines, blank/comment lines -/

/-- how the parser reads one physical line, as far as the `%define` namespace is concerned -/
def stepOf (l : Str) : Option DefSpec.Step :=
  match lineShape (strip l) with
  | .skip => some .blank
  | .kv k raw => some (.use k raw)
  | .define arg =>
    match splitWS1 arg with
    | p0 :: more => some (.define p0 (defValue more))
    | [] => none
  | _ => none

/-- the `%define name value` lines of a text, in reading order (all other lines dropped) -/
def defLinesOf (lines : List Str) : List (Str × Str) :=
  lines.filterMap fun l =>
    match lineShape (strip l) with
    | .define arg => (match splitWS1 arg with | p0 :: more => some (p0, defValue more) | [] => none)
    | _ => none

/-- what the spec says one line does to the recording parser state -/
def stepSem (env : Env) (url : Option Str) (n : Nat) (st : PS (List Ev0)) : DefSpec.Step → M (PS (List Ev0))
  | .blank => .ok st
  | .define name raw =>
    liftE url (n + 1) ((DefSpec.defineStep env.getenv st.defs name raw).map fun d => { st with defs := d })
  | .use k raw =>
    liftE url (n + 1) ((DefSpec.expand env.getenv st.defs raw).map fun v => { st with ctx := st.ctx ++ [.value k v] })

theorem step_rec0_spec (fuel : Nat) (env : Env) (active : List Str) (url : Option Str) (n : Nat) (l : Str)
    (s : DefSpec.Step) (st : PS (List Ev0)) (hs : stepOf l = some s) (hl : DefSpec.Legal st.defs) :
    stepLine fuel env rec0 active url (n + 1) (strip l) st = stepSem env url n st s := by
  unfold stepOf at hs
  split at hs
  · rename_i h
    cases hs
    exact stepLine_of_skip h
  · rename_i k raw h
    cases hs
    rw [stepLine_of_kv h, replace_eq_expand]
    simp only [stepSem]
    cases DefSpec.expand env.getenv st.defs raw <;> rfl
  · rename_i arg h
    split at hs
    · rename_i p0 more hsp
      cases hs
      rw [stepLine_define _ _ _ _ _ _ _ _ _ h]
      unfold defStep
      rw [define_eq_spec env url (n + 1) arg p0 more st.defs hsp hl]
      simp only [stepSem]
      cases DefSpec.defineStep env.getenv st.defs p0 (defValue more) <;> rfl
    · cases hs
  · cases hs

/-- `Reads lines steps`: every line is a `%define`, a key line or a blank/comment line, and `steps` is how they read -/
inductive Reads : List Str → List DefSpec.Step → Prop
  | nil : Reads [] []
  | cons {l s lines steps} : stepOf l = some s → Reads lines steps → Reads (l :: lines) (s :: steps)

/-- a whole run of such lines: the parser does exactly what the spec's `run` says — same definitions, same values
    delivered, same kind of error at the same line -/
theorem run_rec0_spec (fuel : Nat) (env : Env) (active : List Str) (url : Option Str) :
    ∀ (lines : List Str) (steps : List DefSpec.Step) (n : Nat) (st : PS (List Ev0)),
      Reads lines steps → DefSpec.Legal st.defs →
      runLines fuel env rec0 active url lines n st =
        match DefSpec.run env.getenv n steps st.defs with
        | .ok (d, vs) => .ok { st with ctx := st.ctx ++ vs.map (fun kv => Ev0.value kv.1 kv.2), defs := d }
        | .error (i, e) => .error (failOf url i e) := by
  intro lines steps n st hf
  induction hf generalizing n st with
  | nil => intro _; simp [runLines, DefSpec.run]
  | @cons l s lines steps hs _ ih =>
    intro hl
    simp only [runLines]
    rw [step_rec0_spec fuel env active url n l s st hs hl]
    cases s with
    | blank =>
      simp only [DefSpec.run, stepSem]
      exact ih (n + 1) st hl
    | define name raw =>
      simp only [DefSpec.run, stepSem]
      cases hd : DefSpec.defineStep env.getenv st.defs name raw with
      | error e => rfl
      | ok d =>
        have hl' := defineStep_legal _ _ _ _ _ hl hd
        simp only [liftE, SubstSpec.map_ok]
        show runLines fuel env rec0 active url lines (n + 1) { st with defs := d } = _
        rw [ih (n + 1) { st with defs := d } hl']
    | use k raw =>
      simp only [DefSpec.run, stepSem]
      cases hx : DefSpec.expand env.getenv st.defs raw with
      | error e => rfl
      | ok v =>
        simp only [liftE, SubstSpec.map_ok]
        show runLines fuel env rec0 active url lines (n + 1) { st with ctx := st.ctx ++ [.value k v] } = _
        rw [ih (n + 1) { st with ctx := st.ctx ++ [.value k v] } hl]
        cases DefSpec.run env.getenv (n + 1) steps st.defs with
        | error e => rfl
        | ok r =>
          obtain ⟨d, vs⟩ := r
          simp

theorem parse_rec0_spec (fuel : Nat) (env : Env) (active : List Str) (url : Option Str)
    (lines : List Str) (steps : List DefSpec.Step) (n : Nat) (st : PS (List Ev0))
    (hf : Reads lines steps) (hl : DefSpec.Legal st.defs)
    (hstack : st.stack = []) :
    parseLines fuel env rec0 active url lines n st =
      match DefSpec.run env.getenv n steps st.defs with
      | .ok (d, vs) => .ok { st with ctx := st.ctx ++ vs.map (fun kv => Ev0.value kv.1 kv.2), defs := d }
      | .error (i, e) => .error (failOf url i e) := by
  rw [parseLines_eq_run, run_rec0_spec fuel env active url lines steps n st hf hl]
  cases DefSpec.run env.getenv n steps st.defs with
  | error e => rfl
  | ok r =>
    obtain ⟨d, vs⟩ := r
    show finish url _ _ = _
    simp [finish, hstack]

/-! ### any context: only `%define` (and `%include`) lines touch the mapping -/

theorem stepLine_defs_other {σ} {fuel : Nat} {env : Env} {c : PCtx σ} {active : List Str} {url : Option Str} {line : Nat}
    {l : Str} {st st' : PS σ} (hnd : ∀ a, lineShape l ≠ .define a) (hni : ∀ a, lineShape l ≠ .include_ a)
    (h : stepLine fuel env c active url line l st = .ok st') : st'.defs = st.defs := by
  cases stepLine_ok h with
  | define hs => exact absurd hs (hnd _)
  | include_ hs => exact absurd hs (hni _)
  | _ => rfl

theorem stepLine_defs_define {σ} {fuel : Nat} {env : Env} {c : PCtx σ} {active : List Str} {url : Option Str} {line : Nat}
    {l arg : Str} {st st' : PS σ} (hs : lineShape l = .define arg) (hl : DefSpec.Legal st.defs)
    (h : stepLine fuel env c active url line l st = .ok st') :
    ∃ p0 more, splitWS1 arg = p0 :: more ∧ DefSpec.defineStep env.getenv st.defs p0 (defValue more) = .ok st'.defs := by
  cases stepLine_ok h with
  | define hs' _ hd =>
    cases hs.symm.trans hs'
    cases hsp : splitWS1 arg with
    | nil => unfold define at hd; rw [hsp] at hd; cases hd
    | cons p0 more =>
      rw [define_eq_spec env url line arg p0 more st.defs hsp hl] at hd
      refine ⟨p0, more, rfl, ?_⟩
      cases hx : DefSpec.defineStep env.getenv st.defs p0 (defValue more) with
      | error e => rw [hx] at hd; cases hd
      | ok d' => rw [hx] at hd; cases hd; rfl
  | _ hs' => cases hs.symm.trans hs'

/-- **the mapping after a text = the spec's fold over its `%define` lines** (any context, any mix of sections, keys,
    `%import`s, blank lines in between; no `%include` in this text) -/
theorem run_defs_fold {σ} (fuel : Nat) (env : Env) (c : PCtx σ) (active : List Str) (url : Option Str) :
    ∀ (lines : List Str) (n : Nat) (st st' : PS σ), NoInclude lines → DefSpec.Legal st.defs →
      runLines fuel env c active url lines n st = .ok st' →
      DefSpec.defineFold env.getenv (defLinesOf lines) st.defs = .ok st'.defs ∧ DefSpec.Legal st'.defs := by
  intro lines
  induction lines with
  | nil =>
    intro n st st' _ hl h
    cases h
    exact ⟨rfl, hl⟩
  | cons l rest ih =>
    intro n st st' hni hl h
    simp only [runLines] at h
    obtain ⟨s1, h1, h2⟩ := bind_ok_inv h
    have hni_l : ∀ a, lineShape (strip l) ≠ .include_ a := hni l (by simp)
    have hni_r : NoInclude rest := fun x hx => hni x (by simp [hx])
    cases hs : lineShape (strip l) with
    | define arg =>
      obtain ⟨p0, more, hsp, hd⟩ := stepLine_defs_define hs hl h1
      have hl1 := defineStep_legal _ _ _ _ _ hl hd
      have := ih (n + 1) s1 st' hni_r hl1 h2
      refine ⟨?_, this.2⟩
      simp only [defLinesOf, List.filterMap_cons, hs, hsp, DefSpec.defineFold, hd]
      exact this.1
    | _ =>
      have e1 : s1.defs = st.defs :=
        stepLine_defs_other (by simp [hs]) hni_l h1
      have := ih (n + 1) s1 st' hni_r (e1 ▸ hl) h2
      refine ⟨?_, this.2⟩
      simp only [defLinesOf, List.filterMap_cons, hs]
      rw [← e1]
      exact this.1

/-- the key line after a prefix `A`: its value is expanded with the mapping `A` leaves, whatever follows -/
theorem use_after_prefix {σ} (fuel : Nat) (env : Env) (c : PCtx σ) (active : List Str) (url : Option Str)
    (A B : List Str) (l key raw : Str) (n : Nat) (st stA : PS σ)
    (hA : runLines fuel env c active url A n st = .ok stA)
    (hshape : lineShape (strip l) = .kv key raw) :
    parseLines fuel env c active url (A ++ l :: B) n st =
      (liftE url (n + A.length + 1) (DefSpec.expand env.getenv stA.defs raw) >>= fun v =>
        kvCore c url (n + A.length + 1) key v stA >>= fun s =>
          parseLines fuel env c active url B (n + A.length + 1) s) := by
  rw [parse_at hA, stepLine_of_kv hshape, replace_eq_expand, bind_assoc]

/-! ### a reference to a name that is not (yet) defined -/

/-- `$name` with `name` not in the mapping: a replacement error naming the reference -/
theorem expand_ref_missing (env : Str → Option Str) (d : DefSpec.Defs) (x : Str) (hx : isnameSpec x = true)
    (hd : DefSpec.get d (lower x) = none) :
    DefSpec.expand env d ('$' :: x) = .error (.subst (.missing ('$' :: x) x)) := by
  unfold DefSpec.expand substituteSpec
  have := Subst.spec_ref (DefSpec.get d) env ('$' :: x) (.bare x [] hx fun _ h => nomatch h)
  rw [List.append_nil] at this
  rw [this, show Subst.lookupRef (DefSpec.get d) env .define x = none from hd]

end ZCV.Cfg

namespace ZCV.Cfg
theorem defineFold_append (env : Str → Option Str) :
    ∀ (xs ys : List (Str × Str)) (d d1 : DefSpec.Defs), DefSpec.defineFold env xs d = .ok d1 →
      DefSpec.defineFold env (xs ++ ys) d = DefSpec.defineFold env ys d1 := by
  intro xs
  induction xs with
  | nil => intro ys d d1 h; cases h; rfl
  | cons x r ih =>
    intro ys d d1 h
    obtain ⟨name, raw⟩ := x
    simp only [List.cons_append, DefSpec.defineFold] at h ⊢
    cases hd : DefSpec.defineStep env d name raw with
    | error e => rw [hd] at h; cases h
    | ok d' => rw [hd] at h; simp only; exact ih ys d' d1 h

/-! ### reading concrete lines through the grammar spec (for examples) -/

theorem stepOf_define {line a p0 : Str} {more : List Str} (hn : '\n' ∉ line) (h : Grammar.classify line = .define a)
    (hs : splitWS1 a = p0 :: more) : stepOf line = some (.define p0 (defValue more)) := by
  unfold stepOf
  rw [lineShape_of_classify line hn (.define a) h nofun]
  simp only [hs]

theorem stepOf_kv {line k v : Str} (hn : '\n' ∉ line) (h : Grammar.classify line = .kv k v) :
    stepOf line = some (.use k v) := by
  unfold stepOf
  rw [lineShape_of_classify line hn (.kv k v) h nofun]

theorem stepOf_skip {line : Str} (hn : '\n' ∉ line) (h : Grammar.classify line = .skip) :
    stepOf line = some .blank := by
  unfold stepOf
  rw [lineShape_of_classify line hn .skip h nofun]

end ZCV.Cfg
