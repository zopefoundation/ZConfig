import ZCV.Lemmas.PositionEx
import ZCV.Lemmas.SlotsInfo
/-!
A concrete instance for the loader part of C08 (non-vacuity): a schema with one section type `s` holding one key `k`, and the
text `<s>` / `k v` / `</s>` where the datatype of `k` refuses `v`: the parse fails on line 3 (the closing line) with a conversion
error that names line 2 and carries the text `v`.
-/
namespace ZCV.Cfg.PosEx
open ZCV ZCV.Cfg

def kInfo : KeyInfo := { name := ['k'], attr := ['k'], multi := false, minOccurs := 0, dt := ['d'], dflt := .none, handler := none }
def sType : SType := { name := some ['s'], keytype := ['b'], datatype := ['n'], children := [(some ['k'], .key kInfo)] }
def sInfo : SectInfo := { name := ['*'], attr := ['s'], multi := false, minOccurs := 0, ty := ['s'], handler := none }
def topType : SType := { name := none, keytype := ['b'], datatype := ['n'], children := [(none, .sect sInfo)] }
def schema : Schema := { types := [(['s'], .concrete sType)], top := topType, handler := none, components := [] }
/-- keys pass unchanged, every value is refused with `ValueError`, sections pass unchanged -/
def conv : Conv := { key := fun _ k => .ok k, val := fun _ _ => .error .valueError, sect := fun _ v => .ok v }
def ls0 : LS := { schema := schema, privateSchema := false, handlers := [], stack := [newMatcher topType none none],
                  pkgs := fun _ => .noComponent, conv := conv }
def ps0 : PS LS := { ctx := ls0, stack := [], defs := [] }
def text : List Str := ["<s>".toList, "k v".toList, "</s>".toList]
def convErr : Err := { kind := .conversion, line := some 2, url := some ['m'], tag := "value", value := some ['v'] }

theorem shape_open : lineShape (strip "<s>".toList) = .open_ ['s'] none false :=
  lineShape_of_classify _ (by char_lits; decide +kernel) _ (by char_lits; decide +kernel) nofun
theorem shape_close : lineShape (strip "</s>".toList) = .close ['s'] := by char_lits; decide +kernel

def ls1 : LS := { ls0 with stack := [newMatcher sType none none, newMatcher topType none none] }
theorem lower_s : lower ['s'] = ['s'] := rfl
theorem gsi : getsectioninfo schema topType ['s'] none = .ok sInfo :=
  (getsectioninfo_eq_answerAt _ _ _ _).trans rfl
theorem start_ok : lsStart ls0 ['s'] none = .ok ls1 :=
  lsStart_of_slot ls0 ['s'] none _ [] sType sInfo rfl rfl rfl rfl gsi (by decide) (by decide)
def pos2 : Pos := { line := 2, url := some ['m'] }
def m2 : Matcher := setSlot (newMatcher sType none none) ['k'] (.one { value := ['v'], pos := pos2 })
def ls2 : LS := { ls0 with stack := [m2, newMatcher topType none none] }
theorem value_ok : lsValue ls1 ['k'] ['v'] pos2 = .ok ls2 := by rfl
theorem stop_err : lsStop ls2 ['s'] none = .error (.cfg convErr) := by rfl
def ps1 : PS LS := { ctx := ls1, stack := [(['s'], none)], defs := [] }
def ps2 : PS LS := { ctx := ls2, stack := [(['s'], none)], defs := [] }

theorem step1 : stepLine 0 env loaderCtx [] (some ['m']) 1 (strip "<s>".toList) ps0 = .ok ps1 :=
  (StepOk.open_ shape_open start_ok).step

theorem step2 : stepLine 0 env loaderCtx [] (some ['m']) 2 (strip "k v".toList) ps1 = .ok ps2 :=
  (StepOk.kv shape_kv (replace_nodollar _ _ _ _ _ (by decide)) value_ok).step

theorem step3 : stepLine 0 env loaderCtx [] (some ['m']) 3 (strip "</s>".toList) ps2 = .error (.cfg convErr) := by
  rw [stepLine_of_close shape_close, closeSection_eq]
  simp only [ps2, bne_self_eq_false, Bool.false_eq_true, if_false]
  rw [show loaderCtx.stop ls2 ['s'] none = .error (.cfg convErr) from stop_err]
  rfl

/-- the loader's parse of `<s>` / `k v` / `</s>`, the value of `k` being refused by its datatype when `</s>` is read: the culprit
    is line 3, the error names line 2 (where the value stands) and carries the text `v` -/
theorem culprit_conv : Culprit env loaderCtx 0 [] (some ['m']) text 0 ps0 (.cfg convErr) (some ['m']) 3 ps2 := by
  refine .next _ _ _ _ _ _ _ ps1 _ _ _ _ step1 ?_
  refine .next _ _ _ _ _ _ _ ps2 _ _ _ _ step2 ?_
  refine .here _ _ _ _ _ _ _ _ ?_ step3
  intro f' u sub ⟨arg, _, hs, _⟩
  rw [shape_close] at hs
  cases hs

theorem parse_conv_fails : parseLines 0 env loaderCtx [] (some ['m']) text 0 ps0 = .error (.cfg convErr) :=
  culprit_sound culprit_conv

/-- the value was handed over on line 2 -/
theorem handed_conv : Handed env loaderCtx 0 [] (some ['m']) text 0 ps0 ['k'] ['v'] pos2 := by
  refine .next _ _ _ _ _ _ _ ps1 _ _ _ step1 ?_
  have hv : (if (['v'] == ([] : Str)) = true then pure [] else replace env ps1.defs (some ['m']) (0 + 1 + 1) ['v']) =
      (.ok ['v'] : M Str) := by
    have hne : (['v'] == ([] : Str)) = false := by decide
    simp only [hne, Bool.false_eq_true, if_false]
    exact replace_nodollar _ _ _ _ _ (by decide)
  exact .here _ _ _ _ _ _ _ ['k'] ['v'] ['v'] shape_kv hv

end ZCV.Cfg.PosEx
