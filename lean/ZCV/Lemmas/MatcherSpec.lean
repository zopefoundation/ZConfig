import ZCV.Lemmas.LoadFinish
import ZCV.Lemmas.FailKinds
/-!
What the operations on the slots of a matcher do (`slotStep`, `sectStep`, `finishChild`, `constructChild`, `getsectioninfo`), stated
once for the two properties that walk over them, for an arbitrary schema argument `s`: C07 (no internal exception: under the typing invariant `slotFits` the internal alternative of `PlainOr` is excluded) and C08 (which text and
position an error carries: of the `(text, position)` pairs `slotVIs` a slot holds, none appears from nowhere).  The last section
names the bodies of the loader's loops over the command-line options (`mkBagStep`, `bsiStep`, `finishBagStep`), which C14 uses as well.
In the proofs by `Ends.ite`, the two arguments are the `then` and the `else` branch, in the order of the function's text.
-/
namespace ZCV.Cfg
open ZCV ZCV.Conf

/-! ### what a slot holds, and which slot goes with which child -/

def slotVIs : Slot → List VI
  | .one v => [v]
  | .many vs => vs
  | .map m => m.map (·.2)
  | .mmap m => m.flatMap (·.2)
  | _ => []

def dfltVIs : Default → List VI
  | .none => []
  | .one v => [v]
  | .many vs => vs
  | .keyed m => m.map (·.2)
  | .keyedMany m => m.flatMap (·.2)

def Info.dflts : Info → List VI
  | .key ki => dfltVIs ki.dflt
  | .sect _ => []

/-- a raw section value names a concrete type of the schema (so that its section datatype can be found) -/
def sectValOK (s : Schema) : Val → Prop
  | .sect ty _ _ => ∃ t, s.gettype ty = some (.concrete t)
  | _ => True

/-- the slot has the shape that goes with the kind of child -/
def slotFits (s : Schema) : Info → Slot → Prop
  | .key ki, .mmap _ => ki.name = ['+'] ∧ ki.multi = true
  | .key ki, .map _ => ki.name = ['+'] ∧ ki.multi = false
  | .key ki, .many _ => ki.name ≠ ['+'] ∧ ki.multi = true
  | .key ki, .one _ => ki.name ≠ ['+'] ∧ ki.multi = false
  | .key ki, .none => ki.name ≠ ['+'] ∧ ki.multi = false
  | .sect si, .sects vs => si.multi = true ∧ ∀ v ∈ vs, sectValOK s v
  | .sect si, .sect v => si.multi = false ∧ sectValOK s v
  | .sect si, .none => si.multi = false
  | _, _ => False

/-! ### `getsectioninfo` -/

def KeysNamed (l : List (Option Str × Info)) : Prop :=
  ∀ c ∈ l, ∀ ki, c.2 = .key ki → c.1 = some ki.name ∧ ki.name ≠ []

/-- the answer is a section child of the type; the `AttributeError` (`info.sectiontype` on a `KeyInfo`) needs a key child
    stored under no name -/
theorem gsi_go_ends (s : Schema) (ty : Str) (nm : Option Str) (l : List (Option Str × Info)) :
    Ends (getsectioninfo.go s ty nm l) (fun si => ∃ k, (k, Info.sect si) ∈ l) (PlainOr (KeysNamed l)) := by
  rw [go_eq_answerAt]
  cases hf : l.find? (stopsAt s ty nm) with
  | none => exact .plain _
  | some c =>
    have hc := List.mem_of_find?_eq_some hf
    obtain ⟨key, info⟩ := c
    have here : ∀ si, info = .sect si → ∃ k, (k, Info.sect si) ∈ l := fun si h => ⟨key, h ▸ hc⟩
    dsimp only
    unfold answerAt
    cases he : effKey (key, info) <;> cases info <;> dsimp only
    · refine .internal fun h => ?_
      obtain ⟨h1, h2⟩ := h _ hc _ rfl
      simp only at h1
      subst h1
      simp only [effKey] at he
      split at he
      · cases he
      · rename_i hk; exact h2 (by simpa using hk)
    · exact .ite (fun _ => .ite (fun _ => here _ rfl) fun _ => .plain _) fun _ => here _ rfl
    · exact .plain _
    · exact .ite (fun _ => .ite (fun _ => here _ rfl) fun _ => .plain _)
        fun _ => .ite (fun _ => .plain _) fun _ => here _ rfl

theorem getsectioninfo_ends (s : Schema) (t : SType) (ty : Str) (nm : Option Str) :
    Ends (getsectioninfo s t ty nm) (fun si => ∃ k, (k, Info.sect si) ∈ t.children) (PlainOr (KeysNamed t.children)) :=
  gsi_go_ends s ty nm t.children

/-! ### `addValue`: what happens to the slot found -/

/-- `isArb` is what `addValueCore` computes it to be when the key child is stored under its own name -/
theorem slotStep_ends (s : Schema) (ki : KeyInfo) (isArb : Bool) (rk : Str) (vi : VI) (sl : Slot) :
    Ends (slotStep ki isArb rk vi sl)
      (fun r => (slotFits s (.key ki) sl → (isArb = true ↔ ki.name = ['+']) → slotFits s (.key ki) r) ∧
        ∀ w ∈ slotVIs r, w ∈ slotVIs sl ∨ w = vi)
      (PlainOr (slotFits s (.key ki) sl ∧ (isArb = true ↔ ki.name = ['+']))) := by
  have one : ∀ w ∈ [vi], w ∈ slotVIs sl ∨ w = vi := fun w hw => .inr (List.mem_singleton.mp hw)
  cases sl with
  | none =>
    exact .ite (fun ha => .ok ⟨fun hf hi => absurd (hi.mp ha) hf.1, one⟩) fun _ =>
      .ite (fun hm => .ok ⟨fun hf _ => (nomatch hf.2.symm.trans hm), one⟩) fun _ => .ok ⟨fun hf _ => hf, one⟩
  | one v =>
    refine .ite (fun _ => .ite (fun _ => .plain _) fun ha => .internal fun h => ?_) fun hm => .internal fun h => ?_
    · exact h.1.1 (h.2.mp (by simpa using ha))
    · rw [h.1.2] at hm
      exact hm rfl
  | many vs => exact .ok ⟨fun hf _ => hf, fun w hw => (List.mem_append.mp hw).imp_right List.mem_singleton.mp⟩
  | map mp =>
    refine .ite (fun _ => .plain _) fun _ => .ok ⟨fun hf _ => hf, fun w hw => ?_⟩
    simp only [slotVIs, List.map_append, List.mem_append, List.map_cons, List.map_nil, List.mem_singleton] at hw ⊢
    exact hw
  | mmap mp =>
    refine .ite (fun _ => .ok ⟨fun hf _ => hf, fun w hw => ?_⟩) fun _ => .ok ⟨fun hf _ => hf, fun w hw => ?_⟩
    · obtain ⟨q, hq, hw⟩ := List.mem_flatMap.mp hw
      obtain ⟨p, hp, rfl⟩ := List.mem_map.mp hq
      split at hw
      · exact (List.mem_append.mp hw).imp (fun h => List.mem_flatMap.mpr ⟨p, hp, h⟩) List.mem_singleton.mp
      · exact .inl (List.mem_flatMap.mpr ⟨p, hp, hw⟩)
    · simp only [slotVIs, List.flatMap_append, List.mem_append, List.flatMap_cons, List.flatMap_nil, List.append_nil,
        List.mem_singleton] at hw ⊢
      exact hw
  | sect _ | sects _ | done _ => exact .internal fun h => h.1

/-- `addValueCore` is `slotStep` on the slot of the key child the key is routed to -/
theorem addValueCore_ends {P : Matcher → Prop} {Q : Fail → Prop} (m : Matcher) (key rk v : Str) (pos : Pos)
    (hplain : ∀ tag, Q (plainErr tag))
    (hkey : ∀ k ki, (k, Info.key ki) ∈ m.ty.children → getSlot m ki.attr = none → Q (.internal "KeyError"))
    (hstep : ∀ k ki sl, (k, Info.key ki) ∈ m.ty.children → getSlot m ki.attr = some sl →
      Ends (slotStep ki (k == some ['+']) rk { value := v, pos := pos } sl) (fun r => P (setSlot m ki.attr r)) Q) :
    Ends (addValueCore m key rk v pos) P Q := by
  rw [addValueCore_eq]
  cases hr : Conf.route m.ty.children rk with
  | none => exact .error (hplain _)
  | some c =>
    obtain ⟨k, ci⟩ := c
    have hmem := route_mem _ _ _ hr
    cases ci with
    | sect si => exact .error (hplain _)
    | key ki =>
      dsimp only
      cases hsl : getSlot m ki.attr with
      | none => exact .error (hkey k ki hmem hsl)
      | some sl => exact (hstep k ki sl hmem hsl).map

/-- `addValue`: the key type first, then the override bag, then `addValueCore` -/
theorem addValue_ends {P : Matcher → Prop} {Q : Fail → Prop} (conv : Conv) (m : Matcher) (key value : Str) (pos : Pos)
    (hconv : ∀ f, ConvFail (some key) pos f → Q f) (hsame : m.bag ≠ none → P m)
    (hcore : ∀ rk, Ends (addValueCore m key rk value pos) P Q) : Ends (addValue conv m key value pos) P Q := by
  unfold addValue
  cases conv.key m.ty.keytype key with
  | error e => exact .error (hconv _ ⟨e, _, rfl⟩)
  | ok rk =>
    dsimp only
    cases hb : m.bag with
    | none => exact hcore rk
    | some b => exact .ite (fun _ => hsame (by rw [hb]; exact nofun)) fun _ => hcore rk

/-! ### `addSection` -/

theorem addSectionName_ends (m : Matcher) (name : Option Str) :
    Ends (addSectionName m name) (fun m1 => ∃ used, m1 = { m with used := used }) Plain := by
  unfold addSectionName
  cases name with
  | none => exact .ok ⟨_, rfl⟩
  | some n => exact .ite (fun _ => .ite (fun _ => .error ⟨_, rfl⟩) fun _ => .ok ⟨_, rfl⟩) fun _ => .ok ⟨_, rfl⟩

/-- a section value is put into an empty slot or appended to a list of sections: no text is stored -/
theorem sectStep_ends (s : Schema) (si : SectInfo) (v : Val) (sl : Slot) :
    Ends (sectStep si v sl)
      (fun r => (slotFits s (.sect si) sl → sectValOK s v → slotFits s (.sect si) r) ∧ slotVIs r = [])
      (PlainOr (slotFits s (.sect si) sl)) := by
  cases sl with
  | sects vs =>
    refine .ite (fun _ => .ok ⟨fun hf hv => ⟨hf.1, fun x hx => ?_⟩, rfl⟩) fun hm => .internal fun h => hm h.1
    rcases List.mem_append.mp hx with hx | hx
    · exact hf.2 x hx
    · exact List.mem_singleton.mp hx ▸ hv
  | none =>
    exact .ite (fun hm => .internal fun h => (nomatch (show si.multi = false from h).symm.trans hm))
      fun _ => .ok ⟨fun hf hv => ⟨hf, hv⟩, rfl⟩
  | sect x => exact .ite (fun hm => .internal fun h => (nomatch h.1.symm.trans hm)) fun _ => .plain _
  | one _ | many _ | map _ | mmap _ | done _ => exact .ite (fun _ => .internal id) fun _ => .plain _

/-! ### `finish`: the occurrence pass for one child -/

theorem mem_default_many {w : VI} {vs : List VI} {dflt : Default}
    (h : w ∈ (if vs == [] then (match dflt with | .many d => d | _ => []) else vs)) : w ∈ vs ∨ w ∈ dfltVIs dflt := by
  split at h
  · cases dflt <;> first | exact .inr h | cases h
  · exact .inl h

theorem mem_default_mmap {w : VI} {mp : List (Str × List VI)} {dflt : Default}
    (h : w ∈ (if mp == [] then (match dflt with | .keyedMany d => d | _ => []) else mp).flatMap (·.2)) :
    w ∈ mp.flatMap (·.2) ∨ w ∈ dfltVIs dflt := by
  split at h
  · cases dflt <;> first | exact .inr h | cases h
  · exact .inl h

/-- the slot afterwards fits if it did before, and holds what it held or what the schema gives as default; the `TypeError`s
    need a slot of the wrong shape, or a required single key with a default (`default[:]` on a `ValueInfo`) -/
theorem finishChild_ends (s : Schema) (ci : Info) (sl : Slot) :
    Ends (finishChild ci sl)
      (fun r => (slotFits s ci sl → slotFits s ci r) ∧
        ∀ w ∈ slotVIs r, w ∈ slotVIs sl ∨ w ∈ ci.dflts)
      (PlainOr (slotFits s ci sl ∧
        ∀ ki d, ci = .key ki → ki.name ≠ ['+'] → ki.multi = false → ki.dflt = .one d → ki.minOccurs = 0)) := by
  have same : ∀ r : Slot, (slotFits s ci r → slotFits s ci r) ∧
      ∀ w ∈ slotVIs r, w ∈ slotVIs r ∨ w ∈ ci.dflts := fun _ => ⟨id, fun _ hw => .inl hw⟩
  cases ci with
  | key ki =>
    have plus : ∀ {c : Bool}, c = true → ki.name = ['+'] → ¬ (ki.name ≠ ['+'] ∧ ki.multi = c) := fun _ hp h => h.1 hp
    cases sl with
    | mmap mp =>
      refine .ite (fun hp => .ite (fun _ => .plain _) fun _ => .ite (fun _ => .plain _) fun _ => .ok ⟨id, fun w hw => ?_⟩)
        fun hp => .ite (fun _ => .internal fun h => hp (by rw [h.1.1]; rfl)) fun _ => same _
      exact mem_default_mmap hw
    | map mp =>
      exact .ite (fun _ => .ite (fun _ => .plain _) fun _ => same _)
        fun hp => .ite (fun _ => .internal fun h => hp (by rw [h.1.1]; rfl)) fun _ => same _
    | many vs =>
      refine .ite (fun hp => .internal fun h => h.1.1 (by simpa using hp))
        fun _ => .ite (fun _ => .ite (fun _ => .plain _) fun _ => .ok ⟨id, fun w hw => ?_⟩) fun _ => same _
      exact mem_default_many hw
    | one v =>
      exact .ite (fun hp => .internal fun h => h.1.1 (by simpa using hp))
        fun _ => .ite (fun hm => .internal fun h => nomatch h.1.2.symm.trans hm) fun _ => same _
    | none =>
      refine .ite (fun hp => .internal fun h => h.1.1 (by simpa using hp))
        fun hp => .ite (fun hm => .internal fun h => nomatch h.1.2.symm.trans hm) fun hm => ?_
      cases hd : ki.dflt with
      | one d =>
        refine .ite (fun hmin => .internal fun h => ?_) fun _ => .ok ⟨id, fun w hw => .inr (show w ∈ dfltVIs ki.dflt by rw [hd]; exact hw)⟩
        have := h.2 ki d rfl (by simpa using hp) (by simpa using hm) hd
        omega
      | none | many _ | keyed _ | keyedMany _ => exact .ite (fun _ => .plain _) fun _ => same _
    | sect _ | sects _ | done _ =>
      exact .ite (fun _ => .internal fun h => h.1) fun _ => .ite (fun _ => .internal fun h => h.1) fun _ => same _
  | sect si =>
    cases sl with
    | sects vs =>
      exact .ite (fun _ => .ite (fun _ => .plain _) fun _ => same _) fun _ => same _
    | sect v =>
      exact .ite (fun hm => .internal fun h => nomatch h.1.1.symm.trans hm) fun _ => same _
    | none =>
      exact .ite (fun hm => .internal fun h => nomatch (show si.multi = false from h.1).symm.trans hm)
        fun _ => .ite (fun _ => .plain _) fun _ => same _
    | one _ | many _ | map _ | mmap _ | done _ => exact .ite (fun _ => .internal fun h => h.1) fun _ => same _

/-! ### `finish`: the conversion pass for one child -/

theorem convVI_ends (conv : Conv) (dt : Str) (vi : VI) :
    Ends (convVI conv dt vi) (fun _ => True) (ConvFail (some vi.value) vi.pos) := by
  unfold convVI
  cases conv.val dt vi.value with
  | ok v => trivial
  | error e => exact .error ⟨e, _, rfl⟩

/-- the `AttributeError` needs a section value whose type the schema does not know as a concrete one -/
theorem sectConvF_ends (conv : Conv) (s : Schema) (v : Val) :
    Ends (sectConvF conv s v) (fun _ => True)
      (fun f => ConvFail none { line := -1, url := none } f ∨ (Internal f ∧ ¬ sectValOK s v)) := by
  unfold sectConvF
  split
  · rename_i ty nm attrs
    split
    · rename_i t ht
      cases conv.sect t.datatype (.sect ty nm attrs) with
      | ok r => trivial
      | error e => exact .error (.inl ⟨e, _, rfl⟩)
    · rename_i hne
      exact .error (.inr ⟨⟨_, rfl⟩, fun ⟨t, ht⟩ => hne t ht⟩)
  · trivial

/-- what a failure of the conversion pass is about: a value held or a default (text and position of that value), or the
    section datatype (no text, no position); a `TypeError` / `AttributeError` needs a slot that does not fit -/
def ConvOf (held dflts : List VI) (fits : Prop) (f : Fail) : Prop :=
  (∃ w, (w ∈ held ∨ w ∈ dflts) ∧ ConvFail (some w.value) w.pos f) ∨
    ConvFail none { line := -1, url := none } f ∨ (Internal f ∧ ¬ fits)

theorem constructChild_ends (conv : Conv) (s : Schema) (ci : Info) (sl : Slot) :
    Ends (constructChild conv s ci sl) (fun _ => True) (ConvOf (slotVIs sl) ci.dflts (slotFits s ci sl)) := by
  have misfit : ∀ e, slotFits s ci sl = False → ConvOf (slotVIs sl) ci.dflts (slotFits s ci sl) (.internal e) :=
    fun e h => .inr (.inr ⟨⟨e, rfl⟩, fun hf => h ▸ hf⟩)
  cases ci with
  | sect si =>
    have sc : ∀ v, (slotFits s (.sect si) sl → sectValOK s v) → Ends (sectConvF conv s v) (fun _ => True)
        (ConvOf (slotVIs sl) [] (slotFits s (.sect si) sl)) :=
      fun v hv => (sectConvF_ends conv s v).mono (fun _ _ => trivial)
        fun f hf => .inr (hf.imp_right fun h => ⟨h.1, fun hfit => h.2 (hv hfit)⟩)
    cases sl with
    | sects vs =>
      rw [constructChild_sects]
      exact .map (.mapM_fails fun v hv => sc v fun hf => hf.2 v hv)
    | sect v =>
      rw [constructChild_sect]
      exact sc v fun hf => hf.2
    | none => trivial
    | one _ | many _ | map _ | mmap _ | done _ => exact .error (misfit _ rfl)
  | key ki =>
    have cv : ∀ w, (w ∈ slotVIs sl ∨ w ∈ dfltVIs ki.dflt) → Ends (convVI conv ki.dt w) (fun _ => True)
        (ConvOf (slotVIs sl) (dfltVIs ki.dflt) (slotFits s (.key ki) sl)) :=
      fun w hw => (convVI_ends conv ki.dt w).fails fun f hf => .inl ⟨w, hw, hf⟩
    cases sl with
    | mmap mp =>
      exact .map (.mapM_fails fun kv hkv => .map
        (.mapM_fails fun w hw => cv w (.inl (List.mem_flatMap.mpr ⟨kv, hkv, hw⟩))))
    | many vs =>
      exact .map (.mapM_fails fun w hw => cv w (.inl hw))
    | map mp =>
      refine .map (.mapM_fails fun kv hkv => .map (cv kv.2 ?_))
      split at hkv
      · cases hd : ki.dflt <;> rw [hd] at hkv <;> first | exact .inr (List.mem_map.mpr ⟨kv, hkv, rfl⟩) | cases hkv
      · exact .inl (List.mem_map.mpr ⟨kv, hkv, rfl⟩)
    | one vi => exact cv vi (.inl List.mem_cons_self)
    | none => trivial
    | sect _ | sects _ | done _ => exact .error (misfit _ rfl)

/-! ### the loops of the loader, with their bodies named -/

/-- one item of `OptionBag.__init__` -/
def mkBagStep (conv : Conv) (t : SType) (b : Bag) (it : OptItem) : M Bag :=
  match it.path with
  | [] => .error (.internal "IndexError")
  | [k] =>
    match conv.key t.keytype k with
    | .ok name =>
      let kp := if b.keypairs.any (·.1 == name)
        then b.keypairs.map (fun p => if p.1 == name then (p.1, p.2 ++ [it.val]) else p)
        else b.keypairs ++ [(name, [it.val])]
      .ok { b with keypairs := kp }
    | .error e => .error (convFail e (some k) { line := -1, url := some "<command-line option>".toList } "override key")
  | _ => .ok { b with sectitems := b.sectitems ++ [it] }

theorem mkBag_eq (conv : Conv) (t : SType) (items : List OptItem) :
    mkBag conv t items = items.foldlM (mkBagStep conv t) { keypairs := [], sectitems := [] } := rfl

/-- one item of `OptionBag.get_section_info` -/
def bsiStep (ty : Str) (name : Option Str) (acc : List OptItem × List OptItem) (it : OptItem) :
    M (List OptItem × List OptItem) :=
  match it.path with
  | [] => .error (.internal "IndexError")
  | p0 :: more =>
    match DT.basicKey p0 with
    | .error _ => .error (.cfg { kind := .syntax, line := some (-1), url := some "<command-line option>".toList, tag := "override basic-key" })
    | .ok bk =>
      if name.isSome && some (lower p0) == name then .ok (acc.1 ++ [{ it with path := more }], acc.2)
      else if bk == ty then .ok (acc.1 ++ [{ it with path := more }], acc.2)
      else .ok (acc.1, acc.2 ++ [it])

theorem bagSectionInfo_eq (conv : Conv) (s : Schema) (b : Bag) (ty : Str) (name : Option Str) :
    bagSectionInfo conv s b ty name =
      (b.sectitems.foldlM (bsiStep ty name) ([], [])) >>= fun x =>
        if x.1.isEmpty then pure (b, none)
        else
          match s.gettype ty with
          | some (.concrete t) => (mkBag conv t x.1) >>= fun child => pure ({ b with sectitems := x.2 }, some child)
          | none => throw (Fail.cfg { kind := .schema, tag := "unknown type name" })
          | _ => throw (Fail.internal "AttributeError") := rfl

/-- one command-line value added to the matcher by `finish_optionbag` -/
def finishBagStep (conv : Conv) (k : Str) (m : Matcher) (v : Str) : M Matcher :=
  match conv.key m.ty.keytype k with
  | .error e => .error (convFail e (some k) { line := -1, url := some "<command-line option>".toList } "key")
  | .ok rk => addValueCore m k rk v { line := -1, url := some "<command-line option>".toList }

theorem finishBag_eq (conv : Conv) (m : Matcher) :
    finishBag conv m =
      match m.bag with
      | none => .ok m
      | some b =>
        (b.keypairs.foldlM (fun (m : Matcher) (kv : Str × List Str) => kv.2.foldlM (finishBagStep conv kv.1) m) m) >>= fun m' =>
          if !b.sectitems.isEmpty then .error (plainErr "not all command line options were consumed")
          else .ok { m' with bag := none } := by
  unfold finishBag
  cases m.bag with
  | none => rfl
  | some b =>
    dsimp only
    show (_ >>= _) = (_ >>= _)
    congr 1

end ZCV.Cfg
