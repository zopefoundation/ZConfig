import ZCV.Lemmas.TextLoad
import ZCV.Lemmas.LoadTree
/-!
C15: what a container reads of its items.  `containerVal` is `containerCore` of the container's key lines and sub-sections
(`containerVal_eq`, in `LoadInv.lean`), and `containerCore` reads the key lines through `chk1` and, child by child, the (key, text)
pairs routed to the child (`containerCore_congr`).  First consequence: the value the schema defines for a text (`Conf.denote`)
does not depend on the positions recorded in the tree (`denote_erase`).
-/
namespace ZCV.Conf
open ZCV ZCV.Cfg

theorem keyLines_append (conv : Conv) (t : SType) (a b : List Item) :
    keyLines conv t (a ++ b) = keyLines conv t a ++ keyLines conv t b := by
  unfold keyLines; rw [List.filterMap_append]

/-! ### forgetting positions -/

def pos0 : Pos := { line := 0, url := none }

mutual
def eraseItem : Item → Item
  | .kv k v _ => .kv k v pos0
  | .sect ty nm its => .sect ty nm (eraseItems its)
def eraseItems : List Item → List Item
  | [] => []
  | i :: r => eraseItem i :: eraseItems r
end

theorem eraseItems_eq_map (l : List Item) : eraseItems l = l.map eraseItem := by
  induction l with
  | nil => rw [eraseItems]; rfl
  | cons i r ih => rw [eraseItems, ih]; rfl

theorem eraseItems_append (a b : List Item) : eraseItems (a ++ b) = eraseItems a ++ eraseItems b := by
  simp only [eraseItems_eq_map, List.map_append]

theorem eraseItems_reverse (a : List Item) : eraseItems a.reverse = (eraseItems a).reverse := by
  simp only [eraseItems_eq_map, List.map_reverse]

theorem eraseItems_cons (i : Item) (r : List Item) : eraseItems (i :: r) = eraseItem i :: eraseItems r := by
  rw [eraseItems]

/-! Forgetting the position on the intermediate forms `denote` goes through: a value with its position (`VI`), a key line
(`keyLines`), a value routed to a key (`routed`), a group of values under one key (`groupKeys`). -/

def eVI (vi : VI) : VI := { vi with pos := pos0 }
def eKL (e : Option Str × VI) : Option Str × VI := (e.1, eVI e.2)
def eR (e : Str × VI) : Str × VI := (e.1, eVI e.2)
def eG (e : Str × List VI) : Str × List VI := (e.1, e.2.map eVI)

theorem keyLines_erase (conv : Conv) (t : SType) (items : List Item) :
    keyLines conv t (eraseItems items) = (keyLines conv t items).map eKL := by
  induction items with
  | nil => rw [eraseItems]; rfl
  | cons i r ih =>
    rw [eraseItems]
    cases i with
    | kv k v p => rw [eraseItem, keyLines_kv, keyLines_kv, ih]; rfl
    | sect ty nm its => rw [eraseItem, keyLines_sect, keyLines_sect, ih]

theorem subsOf_erase (items : List Item) : ∀ vs, subsOf (eraseItems items) vs = subsOf items vs := by
  induction items with
  | nil => intro vs; rw [eraseItems]
  | cons i r ih =>
    intro vs
    rw [eraseItems]
    cases i with
    | kv k v p =>
      rw [eraseItem]
      cases vs with
      | nil => simp [subsOf]
      | cons x xs => rw [subsOf, subsOf, ih]
    | sect ty nm its =>
      rw [eraseItem]
      cases vs with
      | nil => simp [subsOf]
      | cons x xs => rw [subsOf, subsOf, ih]

theorem routed_erase (children : List (Option Str × Info)) (c : Option Str × Info) (kl : List (Option Str × VI)) :
    routed children c (kl.map eKL) = (routed children c kl).map eR := by
  unfold routed
  rw [List.filterMap_map, List.map_filterMap]
  congr 1
  funext x
  obtain ⟨rk?, vi⟩ := x
  cases rk? with
  | none => rfl
  | some rk =>
    simp only [Function.comp, eKL]
    cases route children rk with
    | none => rfl
    | some c' =>
      simp only
      split <;> rfl

theorem convAll_erase (conv : Conv) (dt : Str) (vs : List VI) : convAll conv dt (vs.map eVI) = convAll conv dt vs := by
  unfold convAll
  rw [List.mapM_map]
  rfl

theorem groupKeys_map (f : VI → VI) (l : List (Str × VI)) :
    groupKeys (l.map fun e => (e.1, f e.2)) = (groupKeys l).map fun e => (e.1, e.2.map f) := by
  unfold groupKeys
  rw [List.foldl_map]
  refine List.foldl_hom (List.map fun e : Str × List VI => (e.1, e.2.map f)) (init := []) ?_
  intro acc kv
  have hany : (acc.map fun e : Str × List VI => (e.1, e.2.map f)).any (·.1 == kv.1) = acc.any (·.1 == kv.1) := by
    rw [List.any_map]; rfl
  dsimp only
  rw [hany]
  by_cases h : acc.any (·.1 == kv.1) = true
  · rw [if_pos h, if_pos h, List.map_map, List.map_map]
    refine List.map_congr_left fun p _ => ?_
    dsimp only [Function.comp]
    split <;> simp
  · rw [if_neg h, if_neg h]
    simp

theorem groupKeys_erase (l : List (Str × VI)) : groupKeys (l.map eR) = (groupKeys l).map eG :=
  groupKeys_map eVI l

/-- `keyVal` reads a `VI` only through `.value`: every branch counts the values, groups them by key or converts
    their text -/
theorem keyVal_erase (conv : Conv) (ki : KeyInfo) (rs : List (Str × VI)) :
    keyVal conv ki (rs.map eR) = keyVal conv ki rs := by
  unfold keyVal
  by_cases h1 : (ki.name == ['+']) = true
  · simp only [h1, ↓reduceIte]
    by_cases h2 : ki.multi = true
    · simp only [h2, ↓reduceIte, groupKeys_erase, List.length_map, List.isEmpty_map]
      cases hg : (groupKeys rs).isEmpty with
      | true => simp only [↓reduceIte]
      | false =>
        simp only [Bool.false_eq_true, ↓reduceIte, List.length_map]
        rw [List.mapM_map]
        simp only [Function.comp_def, eG, convAll_erase]
    · simp only [h2, Bool.false_eq_true, ↓reduceIte, List.map_map, List.length_map, List.isEmpty_map]
      have : (fun x : Str × VI => x.1) ∘ eR = fun x => x.1 := by funext x; rfl
      rw [this]
      cases hr : rs.isEmpty with
      | true => simp only [↓reduceIte]
      | false =>
        simp only [Bool.false_eq_true, ↓reduceIte]
        rw [List.mapM_map]
        rfl
  · simp only [h1, Bool.false_eq_true, ↓reduceIte]
    by_cases h2 : ki.multi = true
    · simp only [h2, ↓reduceIte, List.map_map, List.isEmpty_map]
      have : (fun x : Str × VI => x.2) ∘ eR = eVI ∘ (fun x => x.2) := by funext x; rfl
      rw [this, ← List.map_map]
      cases hr : rs.isEmpty with
      | true => simp only [↓reduceIte]
      | false =>
        simp only [Bool.false_eq_true, ↓reduceIte, List.length_map, convAll_erase]
    · simp only [h2, Bool.false_eq_true, ↓reduceIte]
      cases rs with
      | nil => rfl
      | cons x r =>
        cases r with
        | nil => rfl
        | cons y r' => rfl

/-! ### what a container reads of its key lines -/

theorem childVal_lines_congr (conv : Conv) (s : Schema) (t : SType) (kl kl' : List (Option Str × VI)) (subs : List Sub)
    (c : Option Str × Info) (h : (routed t.children c kl).map eR = (routed t.children c kl').map eR) :
    childVal conv s t kl subs c = childVal conv s t kl' subs c := by
  cases hc : c.2 with
  | key ki =>
    rw [childVal_key _ _ _ _ _ _ ki hc, childVal_key _ _ _ _ _ _ ki hc, ← keyVal_erase conv ki (routed t.children c kl), h,
      keyVal_erase]
  | sect si => rw [childVal_sect _ _ _ _ _ _ si hc, childVal_sect _ _ _ _ _ _ si hc]

/-- **a container reads its key lines through two things only**: whether each goes to a key, and — child by child — the
    (key, text) pairs routed to that child, in their order.  Rearranging the lines of different children, respelling keys and
    moving lines about in the file leave both alone. -/
theorem containerCore_congr (conv : Conv) (s : Schema) (t : SType) (nm : Option Str) (kl kl' : List (Option Str × VI))
    (subs : List Sub) (hall : chk1 t kl = chk1 t kl')
    (hr : ∀ c, (routed t.children c kl).map eR = (routed t.children c kl').map eR) :
    containerCore conv s t nm kl subs = containerCore conv s t nm kl' subs := by
  unfold containerCore attrsVal
  simp only [fun c => childVal_lines_congr conv s t kl kl' subs c (hr c)]
  rw [hall]

theorem containerCore_erase (conv : Conv) (s : Schema) (t : SType) (nm : Option Str)
    (kl : List (Option Str × VI)) (subs : List Sub) :
    containerCore conv s t nm (kl.map eKL) subs = containerCore conv s t nm kl subs :=
  containerCore_congr conv s t nm _ _ subs (by unfold chk1; rw [List.all_map]; rfl)
    fun c => by rw [routed_erase, List.map_map]; rfl

mutual
theorem itemVal_erase (conv : Conv) (s : Schema) : ∀ i : Item, itemVal conv s (eraseItem i) = itemVal conv s i
  | .kv k v p => by rw [eraseItem, itemVal, itemVal]
  | .sect ty nm its => by
    rw [eraseItem, itemVal, itemVal]
    cases s.gettype ty with
    | none => rfl
    | some te =>
      cases te with
      | abstract_ n subs => rfl
      | concrete t =>
        simp only
        rw [containerVal_eq, containerVal_eq, keyLines_erase, subsOf_erase, itemVals_erase conv s its,
          containerCore_erase]
theorem itemVals_erase (conv : Conv) (s : Schema) : ∀ l : List Item, itemVals conv s (eraseItems l) = itemVals conv s l
  | [] => by rw [eraseItems]
  | i :: r => by rw [eraseItems, itemVals, itemVals, itemVal_erase conv s i, itemVals_erase conv s r]
end

theorem denote_erase (conv : Conv) (s : Schema) (items : List Item) :
    denote conv s (eraseItems items) = denote conv s items := by
  unfold denote
  rw [containerVal_eq, containerVal_eq, keyLines_erase, subsOf_erase, itemVals_erase, containerCore_erase]

mutual
theorem tyCanon_erase (s : Schema) : ∀ l : List Item, tyCanon s (eraseItems l) = tyCanon s l
  | [] => rfl
  | i :: r => by rw [eraseItems_cons, tyCanon_cons, tyCanon_cons s i, tyCanon_eraseItem s i, tyCanon_erase s r]
theorem tyCanon_eraseItem (s : Schema) : ∀ i : Item, tyCanon s [eraseItem i] = tyCanon s [i]
  | .kv k v p => by simp only [eraseItem, tyCanon]
  | .sect ty nm its => by rw [eraseItem, tyCanon_sect, tyCanon_sect, tyCanon_erase s its]
end

end ZCV.Conf
