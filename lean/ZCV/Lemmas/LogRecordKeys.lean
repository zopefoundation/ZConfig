import ZCV.Spec.LogTemplate
import ZCV.Spec.LogStrFormat
import ZCV.Lemmas.Lits
/-!
The attribute names of a log record, once.  The sample record of `FormatterFactory` (`LogFormat.sampleVars`, and
`LogStrFormat.sampleVals` with the `repr` of the floats), the kind table of the specification (`LogFormatSpec.fieldKinds`)
and `LogTemplate.knownNames` list the same 23 names in the same order, each time as string literals.  `recordKeys` is that
list as character lists (`knownNames` decoded, `Lemmas/Lits.lean`), and each of the other three tables is `recordKeys`
zipped with its second components (`sampleVars_eq` …).  Besides saying what the three styles share, this is what makes
evaluation affordable: the kernel decodes a string literal in time quadratic in its length, once for every declaration
that looks something up in one of the tables.
-/
namespace ZCV.LogRecord
open ZCV

def recordKeysD : Decoded LogTemplate.knownNames := by delta LogTemplate.knownNames; decode_names

def recordKeys : List Str := recordKeysD.1

theorem knownNames_keys : LogTemplate.knownNames = recordKeys := recordKeysD.2

theorem eq_zip_of_keys {α : Type} {tbl : List (Str × α)} {ks : List Str} (h : tbl.map (·.1) = ks) :
    tbl = ks.zip (tbl.map (·.2)) := by
  subst h
  induction tbl with
  | nil => rfl
  | cons a t ih => simp only [List.map_cons, List.zip_cons_cons, ← ih]

/-! The three tables are written with the literals of `knownNames`: unfolded side by side the key lists are the same term. -/

theorem sampleVars_keys : LogFormat.sampleVars.map (·.1) = recordKeys :=
  (by simp only [LogFormat.sampleVars, LogTemplate.knownNames, List.map] :
    LogFormat.sampleVars.map (·.1) = LogTemplate.knownNames).trans knownNames_keys

theorem fieldKinds_keys : LogFormatSpec.fieldKinds.map (·.1) = recordKeys :=
  (by simp only [LogFormatSpec.fieldKinds, LogTemplate.knownNames, List.map] :
    LogFormatSpec.fieldKinds.map (·.1) = LogTemplate.knownNames).trans knownNames_keys

theorem sampleVals_keys : LogStrFormat.sampleVals.map (·.1) = recordKeys :=
  (by simp only [LogStrFormat.sampleVals, LogTemplate.knownNames, List.map] :
    LogStrFormat.sampleVals.map (·.1) = LogTemplate.knownNames).trans knownNames_keys

def sampleVars' : List (Str × LogFormat.Value) := recordKeys.zip (LogFormat.sampleVars.map (·.2))
def fieldKinds' : List (Str × LogFormatSpec.Kind) := recordKeys.zip (LogFormatSpec.fieldKinds.map (·.2))
def sampleVals' : List (Str × LogStrFormat.Val) := recordKeys.zip (LogStrFormat.sampleVals.map (·.2))

theorem sampleVars_eq : LogFormat.sampleVars = sampleVars' := eq_zip_of_keys sampleVars_keys
theorem fieldKinds_eq : LogFormatSpec.fieldKinds = fieldKinds' := eq_zip_of_keys fieldKinds_keys
theorem sampleVals_eq : LogStrFormat.sampleVals = sampleVals' := eq_zip_of_keys sampleVals_keys

end ZCV.LogRecord
