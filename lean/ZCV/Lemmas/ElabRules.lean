import ZCV.Lemmas.ElabSteps
import ZCV.Lemmas.Datatypes
import ZCV.Lemmas.Except
/-!
What each function of the schema-loader model (`ZCV/Model/Elab.lean`) does: a normal-form equation where the definition is not
one already, and the inversions of success.  A section titled `n.` is about the rule of section `n.` of `Props/C10.lean`,
`C11 x.` about section `x.` of `Props/C11.lean`; the `extends` / `implements` sections belong to rule 4.  At the end what the
handlers leave alone (`SameTable`), what the character-data elements do (`FlagSet`, `charactersTag_ok`), and the start and end of the
document element and `<import>` (`startSchema_es`, `endSchema_es`, `startImport_ok`).
-/
namespace ZCV.Elab
open ZCV ZCV.Cfg

/-- the failure is a `SchemaError` -/
def EFail.isSchema : EFail → Prop
  | .schema _ => True
  | _ => False

theorem EFail.isSchema_iff (e : EFail) : e.isSchema ↔ ∃ t, e = .schema t := by
  cases e <;> simp [EFail.isSchema]

/-- the keys of the type table, in definition order -/
def ES.typeNames (es : ES) : List Str := es.types.map (·.1)

/-! ## generic list facts -/

theorem find_fst_append_fresh {β} (l : List (Str × β)) (n : Str) (e : β) (h : n ∉ l.map (·.1)) :
    (l ++ [(n, e)]).find? (·.1 == n) = some (n, e) := by
  rw [List.find?_append, (find_fst_none l n).2 h]
  simp

theorem find_fst_append_other {β} (l : List (Str × β)) (n m : Str) (e : β) (h : m ≠ n) :
    (l ++ [(n, e)]).find? (·.1 == m) = l.find? (·.1 == m) := by
  rw [List.find?_append]
  have : ([(n, e)] : List (Str × β)).find? (·.1 == m) = none := by
    simp [Ne.symm h]
  rw [this]; simp

/-! ## 11. well-formed names -/

theorem basicKeyE_eq (s : Str) :
    basicKeyE s = if DTSpec.isBasicKey s then .ok (asciiLower s) else .error (.schema "value did not match regular expression") := by
  unfold basicKeyE
  rw [DT.basicKey_eq_spec]; unfold DTSpec.basicKey
  by_cases h : DTSpec.isBasicKey s = true
  · rw [if_pos h, if_pos h]
  · rw [if_neg h, if_neg h]; rfl

theorem identifierE_eq (s : Str) :
    identifierE s = if DTSpec.isIdent s then .ok s else .error (.schema "not a valid Python identifier") := by
  unfold identifierE
  rw [DT.identifier_eq_spec]; unfold DTSpec.identifier
  by_cases h : DTSpec.isIdent s = true
  · rw [if_pos h, if_pos h]
  · rw [if_neg h, if_neg h]; rfl

theorem basicKeyE_ok {s r : Str} (h : basicKeyE s = .ok r) : DTSpec.isBasicKey s = true ∧ r = asciiLower s := by
  rw [basicKeyE_eq] at h
  split at h
  · rename_i hk; injection h with h; exact ⟨hk, h.symm⟩
  · cases h

theorem lower_asciiLower {b : Str} (h : DTSpec.isBasicKey b = true) : lower (asciiLower b) = asciiLower b := by
  rw [DT.lower_ascii _ fun c hc => DT.isKeyChar_ascii c (DT.basicKey_chars _ ((DT.isBasicKey_lower b).trans h) c hc),
    DT.asciiLower_idem]

theorem lower_basicKeyE {s r : Str} (h : basicKeyE s = .ok r) : lower r = r := by
  obtain ⟨hk, rfl⟩ := basicKeyE_ok h
  exact lower_asciiLower hk

theorem identifierE_ok {s r : Str} (h : identifierE s = .ok r) : DTSpec.isIdent s = true ∧ r = s := by
  rw [identifierE_eq] at h
  split at h
  · rename_i hk; injection h with h; exact ⟨hk, h.symm⟩
  · cases h

theorem basicKeyE_error {s : Str} {e : EFail} (h : basicKeyE s = .error e) : e.isSchema := by
  rw [basicKeyE_eq] at h
  split at h
  · cases h
  · injection h with h; subst h; trivial

theorem identifierE_error {s : Str} {e : EFail} (h : identifierE s = .error e) : e.isSchema := by
  rw [identifierE_eq] at h
  split at h
  · cases h
  · injection h with h; subst h; trivial

theorem basicKeyE_nil : basicKeyE [] = .error (.schema "value did not match regular expression") := by
  rw [basicKeyE_eq]; rfl

theorem isBasicKey_ne_nil {s : Str} (h : DTSpec.isBasicKey s = true) : s ≠ [] := by
  intro e; subst e; simp [DTSpec.isBasicKey] at h

theorem isIdent_ne_nil {s : Str} (h : DTSpec.isIdent s = true) : s ≠ [] := by
  intro e; subst e; simp [DTSpec.isIdent] at h

/-! ## 9. `required` -/

theorem getRequired_eq (attrs : Attrs) :
    getRequired attrs =
      match attr attrs "required" with
      | none => .ok false
      | some v => if v = "yes".toList then .ok true else if v = "no".toList then .ok false
                  else .error (.schema "value for 'required' must be 'yes' or 'no'") := by
  unfold getRequired
  cases attr attrs "required" with
  | none => rfl
  | some v => simp only [beq_iff_eq]; rfl

theorem getRequired_error {attrs : Attrs} {e : EFail} (h : getRequired attrs = .error e) : e.isSchema := by
  rw [getRequired_eq] at h
  (repeat' split at h) <;> cases h
  trivial

theorem startKeyObjM_error {multi : Bool} {gi : EM (Str × Str × Option Str × Str)} {a : Attrs} {e : EFail}
    (h : startKeyObjM multi gi a = .error e) : gi = .error e ∨ e.isSchema := by
  unfold startKeyObjM at h
  split at h
  · split at h
    · cases h; exact .inr trivial
    · rcases bind_error h with h | ⟨r, _, h⟩
      · exact .inl h
      rcases bind_error h with h | ⟨q, _, h⟩
      · exact .inr (getRequired_error h)
      · cases h
  · rcases bind_error h with h | ⟨r, _, h⟩
    · exact .inl h
    rcases bind_error h with h | ⟨q, _, h⟩
    · exact .inr (getRequired_error h)
    split at h
    · cases h; exact .inr trivial
    · split at h
      · cases h; exact .inr trivial
      · cases h

/-! ## 1. unique type names -/

theorem addType_eq (es : ES) (n : Str) (e : EEntry) :
    addType es n e = if n ∈ es.typeNames then .error (.schema "type name cannot be redefined")
                     else .ok { es with types := es.types ++ [(n, e)] } := by
  unfold addType
  by_cases h : n ∈ es.typeNames
  · rw [if_pos h, if_pos ((any_fst_beq _ _).2 h)]; rfl
  · rw [if_neg h, if_neg fun hc => h ((any_fst_beq _ _).1 hc)]

theorem addType_dup (es : ES) (n : Str) (e : EEntry) (h : n ∈ es.typeNames) :
    addType es n e = .error (.schema "type name cannot be redefined") := by
  unfold addType
  rw [if_pos ((any_fst_beq _ _).2 h)]; rfl

theorem addType_fresh (es : ES) (n : Str) (e : EEntry) (h : n ∉ es.typeNames) :
    addType es n e = .ok { es with types := es.types ++ [(n, e)] } := by
  unfold addType
  rw [if_neg (fun hc => h ((any_fst_beq _ _).1 hc))]

theorem addType_ok {es es' : ES} {n : Str} {e : EEntry} (h : addType es n e = .ok es') :
    n ∉ es.typeNames ∧ es' = { es with types := es.types ++ [(n, e)] } := by
  by_cases hn : n ∈ es.typeNames
  · rw [addType_dup es n e hn] at h; cases h
  · rw [addType_fresh es n e hn] at h; injection h with h; exact ⟨hn, h.symm⟩

/-! ## 2. unique child names and attributes per container -/

theorem addChild_eq (st : PSt) (key : Option Str) (info : EInfo) :
    addChild st key info =
      match topChildren st with
      | .error e => .error e
      | .ok ch =>
        if truthyKey key && ch.any (fun c => truthyKey c.1 && c.1 == key) then .error (.schema "child name … already used")
        else if !info.attr.isEmpty && ch.any (fun c => c.2.attr == info.attr) then
          .error (.schema "child attribute name … already used")
        else .ok (setTopChildren st (ch ++ [(key, info)])) := by
  unfold addChild
  cases topChildren st with
  | error e => rfl
  | ok ch =>
    simp only [bind, Except.bind, pure, Except.pure, serr]

/-- the key is non-empty and already the key of a child -/
def DupKey (ch : List (Option Str × EInfo)) (key : Option Str) : Prop := truthyKey key = true ∧ key ∈ ch.map (·.1)
/-- the attribute name is non-empty and already the attribute of a child -/
def DupAttr (ch : List (Option Str × EInfo)) (a : Str) : Prop := a ≠ [] ∧ a ∈ ch.map (·.2.attr)

theorem dupKey_iff (ch : List (Option Str × EInfo)) (key : Option Str) :
    (truthyKey key && ch.any (fun c => truthyKey c.1 && c.1 == key)) = true ↔ DupKey ch key := by
  simp only [Bool.and_eq_true, List.any_eq_true, beq_iff_eq, DupKey, List.mem_map]
  constructor
  · rintro ⟨hk, c, hc, _, rfl⟩; exact ⟨hk, c, hc, rfl⟩
  · rintro ⟨hk, c, hc, rfl⟩; exact ⟨hk, c, hc, hk, rfl⟩

theorem dupAttr_iff (ch : List (Option Str × EInfo)) (a : Str) :
    (!a.isEmpty && ch.any (fun c => c.2.attr == a)) = true ↔ DupAttr ch a := by
  simp only [Bool.and_eq_true, Bool.not_eq_true', List.isEmpty_eq_false_iff, List.any_eq_true, beq_iff_eq,
    DupAttr, List.mem_map, ne_eq]

instance (ch : List (Option Str × EInfo)) (key : Option Str) : Decidable (DupKey ch key) :=
  decidable_of_iff _ (dupKey_iff ch key)
instance (ch : List (Option Str × EInfo)) (a : Str) : Decidable (DupAttr ch a) :=
  decidable_of_iff _ (dupAttr_iff ch a)

theorem addChild_dupKey {st : PSt} {ch} (key : Option Str) (info : EInfo) (hch : topChildren st = .ok ch)
    (h : DupKey ch key) : addChild st key info = .error (.schema "child name … already used") := by
  rw [addChild_eq, hch]; simp only
  rw [if_pos ((dupKey_iff _ _).2 h)]

theorem addChild_dupAttr {st : PSt} {ch} (key : Option Str) (info : EInfo) (hch : topChildren st = .ok ch)
    (hk : ¬ DupKey ch key) (h : DupAttr ch info.attr) :
    addChild st key info = .error (.schema "child attribute name … already used") := by
  rw [addChild_eq, hch]; simp only
  rw [if_neg (fun hc => hk ((dupKey_iff _ _).1 hc)), if_pos ((dupAttr_iff _ _).2 h)]

theorem addChild_fresh {st : PSt} {ch} (key : Option Str) (info : EInfo) (hch : topChildren st = .ok ch)
    (hk : ¬ DupKey ch key) (ha : ¬ DupAttr ch info.attr) :
    addChild st key info = .ok (setTopChildren st (ch ++ [(key, info)])) := by
  rw [addChild_eq, hch]; simp only
  rw [if_neg (fun hc => hk ((dupKey_iff _ _).1 hc)), if_neg (fun hc => ha ((dupAttr_iff _ _).1 hc))]

theorem addChild_noTop {st : PSt} {e} (key : Option Str) (info : EInfo) (hch : topChildren st = .error e) :
    addChild st key info = .error e := by
  rw [addChild_eq, hch]

theorem addChild_ok {st st' : PSt} {key : Option Str} {info : EInfo} (h : addChild st key info = .ok st') :
    ∃ ch, topChildren st = .ok ch ∧ ¬ DupKey ch key ∧ ¬ DupAttr ch info.attr ∧
      st' = setTopChildren st (ch ++ [(key, info)]) := by
  cases hch : topChildren st with
  | error e => rw [addChild_noTop key info hch] at h; cases h
  | ok ch =>
    by_cases hk : DupKey ch key
    · rw [addChild_dupKey key info hch hk] at h; cases h
    · by_cases ha : DupAttr ch info.attr
      · rw [addChild_dupAttr key info hch hk ha] at h; cases h
      · rw [addChild_fresh key info hch hk ha] at h
        injection h with h
        exact ⟨ch, rfl, hk, ha, h.symm⟩

/-! ### `updType`; what `setTopChildren` leaves alone -/

theorem updType_typeNames (es : ES) (n : Str) (f : EType → EType) : (es.updType n f).typeNames = es.typeNames := by
  simp only [ES.updType, ES.typeNames, List.map_map]
  apply List.map_congr_left
  intro x _
  simp only [Function.comp]
  split <;> rfl

theorem updType_find (es : ES) (n m : Str) (f : EType → EType) :
    (es.updType n f).types.find? (·.1 == m) =
      (es.types.find? (·.1 == m)).map fun (k, e) =>
        if k == n then (k, match e with | .concrete t => .concrete (f t) | a => a) else (k, e) := by
  simp only [ES.updType]
  apply find_fst_map
  intro x
  split <;> rfl

theorem setTopChildren_stack (st : PSt) (ch : List (Option Str × EInfo)) : (setTopChildren st ch).stack = st.stack := by
  unfold setTopChildren
  split <;> rfl

theorem setTopChildren_prefixes (st : PSt) (ch : List (Option Str × EInfo)) :
    (setTopChildren st ch).prefixes = st.prefixes := by
  unfold setTopChildren
  split <;> rfl

/-! ### `pushChild`: the child is filed, the frame pushed -/

/-- over a container with children `ch`, `pushChild` is the two checks of `_add_child`, then the new list of children
and the new frame -/
theorem pushChild_eq {st : PSt} {ch : List (Option Str × EInfo)} (hch : topChildren st = .ok ch) (key : Option Str)
    (info : EInfo) (f : Frame) :
    pushChild st key info f = dupCheck ch key info.attr >>= fun _ =>
      pure { setTopChildren st (ch ++ [(key, info)]) with stack := f :: st.stack } := by
  unfold pushChild dupCheck
  rw [addChild_eq, hch]
  dsimp only
  split
  · rfl
  · split
    · rfl
    · show Except.ok _ = Except.ok _
      rw [setTopChildren_stack]

theorem dupCheck_ok_iff {ch : List (Option Str × EInfo)} {key : Option Str} {at_ : Str} {u : Unit} :
    dupCheck ch key at_ = .ok u ↔ ¬ DupKey ch key ∧ ¬ DupAttr ch at_ := by
  unfold dupCheck
  rw [← dupKey_iff, ← dupAttr_iff]
  by_cases h1 : (truthyKey key && ch.any (fun c => truthyKey c.1 && c.1 == key)) = true
  · rw [if_pos h1]; exact ⟨fun h => (nomatch h), fun h => absurd h1 h.1⟩
  · rw [if_neg h1]
    by_cases h2 : (!at_.isEmpty && ch.any (fun c => c.2.attr == at_)) = true
    · rw [if_pos h2]; exact ⟨fun h => (nomatch h), fun h => absurd h2 h.2⟩
    · rw [if_neg h2]; exact ⟨fun _ => ⟨h1, h2⟩, fun _ => rfl⟩

theorem dupCheck_error {ch : List (Option Str × EInfo)} {key : Option Str} {at_ : Str} {e : EFail}
    (h : dupCheck ch key at_ = .error e) : e.isSchema := by
  unfold dupCheck at h
  split at h
  · cases h; trivial
  · split at h
    · cases h; trivial
    · cases h

theorem pushChild_ok_iff {st st' : PSt} {key : Option Str} {info : EInfo} {f : Frame} :
    pushChild st key info f = .ok st' ↔
      ∃ ch, topChildren st = .ok ch ∧ ¬ DupKey ch key ∧ ¬ DupAttr ch info.attr ∧
        st' = { setTopChildren st (ch ++ [(key, info)]) with stack := f :: st.stack } := by
  cases hch : topChildren st with
  | error e =>
    unfold pushChild
    rw [addChild_noTop key info hch]
    exact ⟨fun h => (nomatch h), fun ⟨_, h, _⟩ => (nomatch h)⟩
  | ok ch =>
    rw [pushChild_eq hch, bind_ok]
    constructor
    · rintro ⟨u, hu, h⟩
      exact ⟨ch, rfl, (dupCheck_ok_iff.1 hu).1, (dupCheck_ok_iff.1 hu).2, (Except.ok.inj h).symm⟩
    · rintro ⟨ch', hc, hk, ha, rfl⟩
      cases hc
      exact ⟨(), dupCheck_ok_iff.2 ⟨hk, ha⟩, rfl⟩

/-! ## 3. types are defined before they are used -/

theorem gettype_none_iff (es : ES) (n : Str) : es.gettype n = none ↔ lower n ∉ es.typeNames :=
  find_fst_none _ _

theorem gettype_some {es : ES} {n : Str} {p : Str × EEntry} (h : es.gettype n = some p) :
    p.1 = lower n ∧ p ∈ es.types := find_fst_some _ _ _ h

theorem gettype_some_mem {es : ES} {n : Str} {p : Str × EEntry} (h : es.gettype n = some p) :
    lower n ∈ es.typeNames := by
  obtain ⟨h1, h2⟩ := gettype_some h
  exact List.mem_map.2 ⟨p, h2, h1⟩

theorem toSchema_gettype (es : ES) (x : Str) : es.toSchema.gettype x = (es.gettype x).map (·.2.toEntry) := by
  unfold Schema.gettype ES.toSchema ES.gettype
  dsimp only
  rw [find_fst_map es.types (lower x) (fun p : Str × EEntry => (p.1, p.2.toEntry)) (fun _ => rfl), Option.map_map]; rfl

theorem gettype_isSome_iff (es : ES) (n : Str) : (es.gettype n).isSome = true ↔ lower n ∈ es.typeNames := by
  cases h : es.gettype n with
  | none => simp [(gettype_none_iff es n).1 h]
  | some p => simp [gettype_some_mem h]

theorem getSectiontype_eq (st : PSt) (attrs : Attrs) :
    getSectiontype st attrs =
      match attr attrs "type" with
      | some (c :: cs) =>
        if lower (c :: cs) ∈ st.es.typeNames then .ok (lower (c :: cs)) else .error (.schema "unknown type name")
      | _ => .error (.schema "section must specify type") := by
  unfold getSectiontype
  rcases attr attrs "type" with _ | _ | ⟨c, cs⟩
  · rfl
  · rfl
  · dsimp only
    by_cases hm : lower (c :: cs) ∈ st.es.typeNames
    · rw [if_pos hm]
      cases hg : st.es.gettype (c :: cs) with
      | none => exact absurd hm ((gettype_none_iff _ _).1 hg)
      | some p => simp only [(gettype_some hg).1]
    · rw [if_neg hm, (gettype_none_iff _ _).2 hm]; rfl

theorem getSectiontype_missing (st : PSt) (attrs : Attrs) (h : (attr attrs "type").getD [] = []) :
    getSectiontype st attrs = .error (.schema "section must specify type") := by
  rw [getSectiontype_eq]
  cases ha : attr attrs "type" with
  | none => rfl
  | some v => rw [ha] at h; simp only [Option.getD_some] at h; subst h; rfl

theorem getSectiontype_cases (st : PSt) (attrs : Attrs) :
    ((attr attrs "type").getD [] = [] ∧ getSectiontype st attrs = .error (.schema "section must specify type")) ∨
    (∃ v, attr attrs "type" = some v ∧ v ≠ [] ∧ lower v ∉ st.es.typeNames ∧
        getSectiontype st attrs = .error (.schema "unknown type name")) ∨
    (∃ v, attr attrs "type" = some v ∧ v ≠ [] ∧ lower v ∈ st.es.typeNames ∧ getSectiontype st attrs = .ok (lower v)) := by
  rw [getSectiontype_eq]
  rcases attr attrs "type" with _ | _ | ⟨c, cs⟩
  · exact .inl ⟨rfl, rfl⟩
  · exact .inl ⟨rfl, rfl⟩
  · by_cases hm : lower (c :: cs) ∈ st.es.typeNames
    · exact .inr (.inr ⟨_, rfl, List.cons_ne_nil _ _, hm, if_pos hm⟩)
    · exact .inr (.inl ⟨_, rfl, List.cons_ne_nil _ _, hm, if_neg hm⟩)

theorem getSectiontype_error {st : PSt} {attrs : Attrs} {e} (h : getSectiontype st attrs = .error e) : e.isSchema := by
  rcases getSectiontype_cases st attrs with ⟨_, h1⟩ | ⟨_, _, _, _, h1⟩ | ⟨_, _, _, _, h1⟩ <;>
    (rw [h1] at h; cases h) <;> trivial

/-! ## prefixes (C11) -/

theorem getClassname_dot_noprefix (st : PSt) (name : Str) (h : name.head? = some '.') (hp : st.prefixes = []) :
    getClassname st name = .error (.internal "IndexError") := by
  unfold getClassname
  rw [if_pos (by rw [h]; rfl), hp]

theorem isDottedName_head {c : Char} {cs : Str} (h : DTSpec.isDottedName (c :: cs) = true) : c ≠ '.' := by
  intro hc
  subst hc
  simp [DTSpec.isDottedName, DTSpec.splitDots, DTSpec.isIdent] at h

/-- `push_prefix`: a non-empty `prefix` attribute must be a dotted name at the outermost level and a dotted name or
suffix inside; one that begins with a period is appended to the prefix in force, any other replaces it; without the
attribute the prefix in force is repeated.  (The `IndexError` of a relative prefix at the outermost level cannot
arise: a dotted name does not begin with a period.) -/
theorem pushPrefix_eq (st : PSt) (attrs : Attrs) :
    pushPrefix st attrs =
      match attr attrs "prefix" with
      | some (c :: cs) =>
        if (if st.prefixes.isEmpty then DTSpec.isDottedName (c :: cs) else DTSpec.isDottedSuffix (c :: cs)) = true then
          .ok { st with prefixes := (if c = '.' then st.prefixes.head?.getD [] ++ c :: cs else c :: cs) :: st.prefixes }
        else .error (.schema "not a valid prefix")
      | _ => .ok { st with prefixes := (st.prefixes.head?.getD []) :: st.prefixes } := by
  unfold pushPrefix
  rcases attr attrs "prefix" with _ | _ | ⟨c, cs⟩
  · cases st.prefixes <;> rfl
  · cases st.prefixes <;> rfl
  · dsimp only
    rw [DT.dottedSuffix_eq_spec, DT.dottedName_eq_spec]; unfold DTSpec.dottedSuffix DTSpec.dottedName
    cases hp : st.prefixes with
    | nil =>
      simp only [List.isEmpty_nil, ↓reduceIte]
      by_cases hv : DTSpec.isDottedName (c :: cs) = true
      · have hc := isDottedName_head hv
        simp [hv, hc]
      · simp [hv, serr]
    | cons p ps =>
      simp only [List.isEmpty_cons, Bool.false_eq_true, ↓reduceIte]
      by_cases hv : DTSpec.isDottedSuffix (c :: cs) = true
      · by_cases hc : c = '.'
        · subst hc
          simp [hv]
        · simp [hv, hc]
      · simp [hv, serr]

theorem pushPrefix_ok {st st1 : PSt} {attrs : Attrs} (h : pushPrefix st attrs = .ok st1) :
    ∃ p, st1 = { st with prefixes := p :: st.prefixes } := by
  rw [pushPrefix_eq] at h
  revert h
  rcases attr attrs "prefix" with _ | _ | ⟨c, cs⟩ <;> intro h
  · cases h; exact ⟨_, rfl⟩
  · cases h; exact ⟨_, rfl⟩
  · rcases ite_ok h with ⟨_, h⟩ | ⟨_, h⟩
    · cases h; exact ⟨_, rfl⟩
    · cases h

theorem pushPrefix_none (st : PSt) (attrs : Attrs) (h : (attr attrs "prefix").getD [] = []) :
    pushPrefix st attrs = .ok { st with prefixes := (st.prefixes.head?.getD []) :: st.prefixes } := by
  rw [pushPrefix_eq]
  revert h
  rcases attr attrs "prefix" with _ | _ | ⟨c, cs⟩ <;> intro h
  · rfl
  · rfl
  · exact absurd h (List.cons_ne_nil _ _)

theorem pushPrefix_relative (st : PSt) (attrs : Attrs) (nm p : Str) (ps : List Str)
    (ha : attr attrs "prefix" = some ('.' :: nm)) (hp : st.prefixes = p :: ps)
    (hv : DTSpec.isDottedSuffix ('.' :: nm) = true) :
    pushPrefix st attrs = .ok { st with prefixes := (p ++ '.' :: nm) :: st.prefixes } := by
  rw [pushPrefix_eq, ha]
  simp only [hp, List.isEmpty_cons, Bool.false_eq_true, ↓reduceIte, hv, List.head?_cons, Option.getD_some]

theorem pushPrefix_absolute (st : PSt) (attrs : Attrs) (c : Char) (cs : Str)
    (ha : attr attrs "prefix" = some (c :: cs)) (hc : c ≠ '.')
    (hv : (if st.prefixes.isEmpty then DTSpec.isDottedName (c :: cs) else DTSpec.isDottedSuffix (c :: cs)) = true) :
    pushPrefix st attrs = .ok { st with prefixes := (c :: cs) :: st.prefixes } := by
  rw [pushPrefix_eq, ha]
  simp only [hv, ↓reduceIte, hc]

theorem pushPrefix_invalid (st : PSt) (attrs : Attrs) (c : Char) (cs : Str)
    (ha : attr attrs "prefix" = some (c :: cs))
    (hv : (if st.prefixes.isEmpty then DTSpec.isDottedName (c :: cs) else DTSpec.isDottedSuffix (c :: cs)) = false) :
    pushPrefix st attrs = .error (.schema "not a valid prefix") := by
  rw [pushPrefix_eq, ha]
  simp only [hv, Bool.false_eq_true, ↓reduceIte]

/-! ## datatype attributes with a base fallback -/

theorem getDatatype_base (env : Env) (st : PSt) (attrs : Attrs) (key dflt : String) (b : Str)
    (h : attr attrs key = none) : getDatatype env st attrs key dflt (some b) = .ok b := by
  unfold getDatatype; rw [h]

theorem getDatatype_default (env : Env) (st : PSt) (attrs : Attrs) (key dflt : String)
    (h : attr attrs key = none) : getDatatype env st attrs key dflt none = regGet env dflt.toList := by
  unfold getDatatype; rw [h]

theorem getSectTypeinfo_ok {env : Env} {st : PSt} {attrs : Attrs} {base : Option (Str × Str)} {kt dt : Str}
    (h : getSectTypeinfo env st attrs base = .ok (kt, dt)) :
    getDatatype env st attrs "keytype" "basic-key" (base.map (·.1)) = .ok kt ∧
    (∃ vt, getDatatype env st attrs "valuetype" "string" none = .ok vt) ∧
    getDatatype env st attrs "datatype" "null" (base.map (·.2)) = .ok dt := by
  unfold getSectTypeinfo at h
  cases h1 : getDatatype env st attrs "keytype" "basic-key" (base.map (·.1)) with
  | error e => simp [h1, bind, Except.bind] at h
  | ok a =>
    cases h2 : getDatatype env st attrs "valuetype" "string" none with
    | error e => simp [h1, h2, bind, Except.bind] at h
    | ok b =>
      cases h3 : getDatatype env st attrs "datatype" "null" (base.map (·.2)) with
      | error e => simp [h1, h2, h3, bind, Except.bind] at h
      | ok c =>
        simp only [h1, h2, h3, bind, Except.bind, pure, Except.pure, Except.ok.injEq, Prod.mk.injEq] at h
        exact ⟨by rw [h.1], ⟨b, rfl⟩, by rw [h.2]⟩

/-! ## `start_sectiontype`, cut in its three steps -/

/-- the `extends` step: the new type is entered in the table, with the base's children when there is a base -/
def sectiontypeBase (env : Env) (st1 : PSt) (attrs : Attrs) (name : Str) : EM ES :=
  match attr attrs "extends" with
  | some b => do
    let basename ← basicKeyE b
    match st1.es.gettype basename with
    | none => serr "unknown type name"
    | some (_, .abstract_ _ _ _) => serr "sectiontype cannot extend an abstract type"
    | some (_, .concrete base) =>
      let (kt, dt) ← getSectTypeinfo env st1 attrs (some (base.keytype, base.datatype))
      let es' ← addType st1.es name (.concrete { name := some name, keytype := kt, datatype := dt })
      let ch ← deriveChildren env kt base.children
      pure (es'.updType name fun t => { t with children := ch })
  | none => do
    let (kt, dt) ← getSectTypeinfo env st1 attrs none
    addType st1.es name (.concrete { name := some name, keytype := kt, datatype := dt })

/-- `AbstractType.addsubtype` on the entry `an` -/
def addSubtype (es : ES) (an name : Str) : ES :=
  { es with types := es.types.map fun (k, e) =>
      if k == an then
        (k, match e with
            | .abstract_ nm subs d => .abstract_ nm (if subs.contains name then subs else subs ++ [name]) d
            | o => o)
      else (k, e) }

/-- the `implements` step -/
def sectiontypeImplements (es2 : ES) (attrs : Attrs) (name : Str) : EM ES :=
  match attr attrs "implements" with
  | some i => do
    let ifname ← basicKeyE i
    match es2.gettype ifname with
    | none => serr "unknown type name"
    | some (_, .concrete _) => serr "type specified by implements is not an abstracttype"
    | some (an, .abstract_ _ _ _) => pure (addSubtype es2 an name)
  | none => pure es2

theorem startSectiontype_eq (env : Env) (st : PSt) (attrs : Attrs) :
    startSectiontype env st attrs =
      match attr attrs "name" with
      | some (c :: cs) => do
        let name ← basicKeyE (c :: cs)
        let st1 ← pushPrefix st attrs
        let es2 ← sectiontypeBase env st1 attrs name
        let es3 ← sectiontypeImplements es2 attrs name
        pure { st1 with es := es3, stack := .stype name :: st1.stack }
      | _ => serr "sectiontype name must not be omitted or empty" := by
  unfold startSectiontype sectiontypeBase sectiontypeImplements addSubtype
  cases attr attrs "name" with
  | none => rfl
  | some v =>
  cases v with
  | nil => rfl
  | cons c cs =>
  dsimp only [bind, Except.bind, pure, Except.pure, serr]
  cases basicKeyE (c :: cs) with
  | error e => rfl
  | ok name =>
  dsimp only
  cases pushPrefix st attrs with
  | error e => rfl
  | ok st1 =>
  dsimp only
  cases attr attrs "extends" with
  | none =>
    dsimp only
    cases getSectTypeinfo env st1 attrs none with
    | error e => rfl
    | ok q =>
      dsimp only
      cases addType st1.es name (EEntry.concrete { name := some name, keytype := q.1, datatype := q.2 }) with
      | error e => rfl
      | ok es2 =>
        dsimp only
        cases attr attrs "implements" with
        | none => rfl
        | some i =>
          dsimp only
          cases basicKeyE i with
          | error e => rfl
          | ok ifname =>
            dsimp only
            cases es2.gettype ifname with
            | none => rfl
            | some q => obtain ⟨an, e⟩ := q; cases e <;> rfl
  | some b =>
    dsimp only
    cases basicKeyE b with
    | error e => rfl
    | ok basename =>
      dsimp only
      cases st1.es.gettype basename with
      | none => rfl
      | some q =>
        obtain ⟨bn, e⟩ := q
        cases e with
        | abstract_ a b c => rfl
        | concrete base =>
          dsimp only
          cases getSectTypeinfo env st1 attrs (some (base.keytype, base.datatype)) with
          | error e => rfl
          | ok q =>
            dsimp only
            cases addType st1.es name (EEntry.concrete { name := some name, keytype := q.1, datatype := q.2 }) with
            | error e => rfl
            | ok es' =>
              dsimp only
              cases deriveChildren env q.1 base.children with
              | error e => rfl
              | ok ch =>
                dsimp only
                cases attr attrs "implements" with
                | none => rfl
                | some i =>
                  dsimp only
                  cases basicKeyE i with
                  | error e => rfl
                  | ok ifname =>
                    dsimp only
                    generalize ES.gettype _ ifname = g
                    cases g with
                    | none => rfl
                    | some q => obtain ⟨an, e⟩ := q; cases e <;> rfl

/-! ## C11 a. derived types: defaults of wildcard keys are recomputed from the keys as written -/

/-- recomputing under another key type starts again from the keys as written, not from the normalised ones -/
theorem computeDefault_again {env : Env} {kt kt2 : Str} {k k' : EKey} (h : computeDefault env kt k = .ok k') :
    computeDefault env kt2 k' = computeDefault env kt2 k := by
  obtain ⟨hn, d, rfl⟩ := computeDefault_ok h
  rw [computeDefault_eq env kt2 k hn, computeDefault_eq env kt2 { k with raw := some (k.raw.getD k.dflt), dflt := d } hn]
  rfl

/-- two lists of the same length whose elements are related position by position -/
inductive Pointwise {α β} (R : α → β → Prop) : List α → List β → Prop
  | nil : Pointwise R [] []
  | cons {a b l l'} : R a b → Pointwise R l l' → Pointwise R (a :: l) (b :: l')

theorem Pointwise.length_eq {α β} {R : α → β → Prop} {l : List α} {l' : List β} (h : Pointwise R l l') :
    l'.length = l.length := by
  induction h with
  | nil => rfl
  | cons _ _ ih => simp [ih]

theorem Pointwise.get {α β} {R : α → β → Prop} {l : List α} {l' : List β} (h : Pointwise R l l') :
    ∀ (i : Nat) (h1 : i < l.length) (h2 : i < l'.length), R l[i] l'[i] := by
  induction h with
  | nil => intro i h1; cases h1
  | cons hab _ ih =>
    intro i h1 h2
    cases i with
    | zero => exact hab
    | succ j => exact ih j (Nat.lt_of_succ_lt_succ h1) (Nat.lt_of_succ_lt_succ h2)

theorem Pointwise.mem {α β} {R : α → β → Prop} {l : List α} {l' : List β} (h : Pointwise R l l') {b : β} (hb : b ∈ l') :
    ∃ a ∈ l, R a b := by
  obtain ⟨i, hi, rfl⟩ := List.getElem_of_mem hb
  have hi0 : i < l.length := h.length_eq ▸ hi
  exact ⟨_, List.getElem_mem hi0, h.get i hi0 hi⟩

theorem Pointwise.map_eq {α β γ} {R : α → β → Prop} {f : α → γ} {g : β → γ} (hR : ∀ a b, R a b → f a = g b) :
    ∀ {l : List α} {l' : List β}, Pointwise R l l' → l.map f = l'.map g := by
  intro l l' h
  induction h with
  | nil => rfl
  | cons h1 _ ih => rw [List.map_cons, List.map_cons, hR _ _ h1, ih]

theorem Pointwise.snoc {α β} {R : α → β → Prop} {l : List α} {l' : List β} {a : α} {b : β}
    (h : Pointwise R l l') (hab : R a b) : Pointwise R (l ++ [a]) (l' ++ [b]) := by
  induction h with
  | nil => exact .cons hab .nil
  | cons h1 _ ih => exact .cons h1 ih

theorem Pointwise.of_mapM_ok {ε α β} (f : α → Except ε β) :
    ∀ (l : List α) (r : List β), l.mapM f = .ok r → Pointwise (fun a b => f a = .ok b) l r := by
  intro l
  induction l with
  | nil => intro r h; simp [pure, Except.pure] at h; subst h; exact .nil
  | cons a l ih =>
    intro r h
    obtain ⟨b, bs, h1, h2, h3⟩ := mapM_ok_cons f a l r h
    subst h3
    exact .cons h1 (ih bs h2)

theorem Pointwise.mapM_ok {ε α β} (f : α → Except ε β) :
    ∀ (l : List α) (r : List β), Pointwise (fun a b => f a = .ok b) l r → l.mapM f = .ok r := by
  intro l r h
  induction h with
  | nil => rfl
  | cons h1 _ ih => rw [List.mapM_cons, h1, ih]; rfl

theorem Pointwise.mapM_congr {ε α β} (f : α → Except ε β) (R : α → α → Prop) (hR : ∀ a a', R a a' → f a' = f a) :
    ∀ (l l' : List α), Pointwise R l l' → l'.mapM f = l.mapM f := by
  intro l l' h
  induction h with
  | nil => rfl
  | cons h1 _ ih => rw [List.mapM_cons, List.mapM_cons, hR _ _ h1, ih]

/-- `deriveSectionType` on one child of the base -/
def deriveChild (env : Env) (kt : Str) : Option Str × EInfo → EM (Option Str × EInfo) := fun (key, info) =>
  match info with
  | .key k =>
    if k.name == ['+'] then do
      let k' ← computeDefault env kt k
      pure (key, EInfo.key k')
    else pure (key, info)
  | _ => pure (key, info)

theorem deriveChildren_eq (env : Env) (kt : Str) (ch : List (Option Str × EInfo)) :
    deriveChildren env kt ch = ch.mapM (deriveChild env kt) := rfl

/-- how one child `c` of the base appears (as `c'`) in a type derived under key type `kt` -/
def DerivedChild (env : Env) (kt : Str) (c c' : Option Str × EInfo) : Prop :=
  match c.2 with
  | .key k => if k.name = ['+'] then ∃ k', computeDefault env kt k = .ok k' ∧ c' = (c.1, .key k') else c' = c
  | .sect _ => c' = c

theorem DerivedChild.cases {env : Env} {kt : Str} {c c' : Option Str × EInfo} (h : DerivedChild env kt c c') :
    c' = c ∨ ∃ k k', c.2 = .key k ∧ computeDefault env kt k = .ok k' ∧ c' = (c.1, .key k') := by
  unfold DerivedChild at h
  split at h
  · split at h
    · obtain ⟨k', h1, rfl⟩ := h
      exact .inr ⟨_, k', ‹_›, h1, rfl⟩
    · exact .inl h
  · exact .inl h

theorem deriveChild_ok_iff (env : Env) (kt : Str) (c c' : Option Str × EInfo) :
    deriveChild env kt c = .ok c' ↔ DerivedChild env kt c c' := by
  obtain ⟨key, info⟩ := c
  cases info with
  | sect s =>
    simp only [deriveChild, DerivedChild, pure, Except.pure, Except.ok.injEq]
    exact eq_comm
  | key k =>
    simp only [deriveChild, DerivedChild, beq_iff_eq]
    by_cases hn : k.name = ['+']
    · simp only [hn, ↓reduceIte]
      constructor
      · intro h
        obtain ⟨k', h1, h2⟩ := bind_ok_inv h
        simp only [pure, Except.pure, Except.ok.injEq] at h2
        exact ⟨k', h1, h2.symm⟩
      · rintro ⟨k', h1, rfl⟩
        rw [h1]; rfl
    · simp only [hn, ↓reduceIte, pure, Except.pure, Except.ok.injEq]
      exact eq_comm

theorem deriveChildren_ok_iff (env : Env) (kt : Str) (ch ch' : List (Option Str × EInfo)) :
    deriveChildren env kt ch = .ok ch' ↔ Pointwise (DerivedChild env kt) ch ch' := by
  rw [deriveChildren_eq]
  have : (fun a b => deriveChild env kt a = .ok b) = DerivedChild env kt := by
    funext a b; exact propext (deriveChild_ok_iff env kt a b)
  constructor
  · intro h; rw [← this]; exact Pointwise.of_mapM_ok _ _ _ h
  · intro h; rw [← this] at h; exact Pointwise.mapM_ok _ _ _ h

theorem DerivedChild.key_eq {env : Env} {kt : Str} {c c' : Option Str × EInfo} (h : DerivedChild env kt c c') :
    c'.1 = c.1 := by
  rcases h.cases with rfl | ⟨_, _, _, _, rfl⟩ <;> rfl

theorem DerivedChild.attr_eq {env : Env} {kt : Str} {c c' : Option Str × EInfo} (h : DerivedChild env kt c c') :
    c'.2.attr = c.2.attr := by
  rcases h.cases with rfl | ⟨k, k', hk, hc, rfl⟩
  · rfl
  · obtain ⟨_, d, rfl⟩ := computeDefault_ok hc
    rw [hk]; rfl

theorem deriveChildren_keys {env : Env} {kt : Str} {ch ch' : List (Option Str × EInfo)}
    (h : deriveChildren env kt ch = .ok ch') : ch'.map (·.1) = ch.map (·.1) :=
  (Pointwise.map_eq (f := (·.1)) (g := (·.1)) (fun _ _ h => (DerivedChild.key_eq h).symm) ((deriveChildren_ok_iff _ _ _ _).1 h)).symm

theorem deriveChildren_attrs {env : Env} {kt : Str} {ch ch' : List (Option Str × EInfo)}
    (h : deriveChildren env kt ch = .ok ch') : ch'.map (·.2.attr) = ch.map (·.2.attr) :=
  (Pointwise.map_eq (f := (·.2.attr)) (g := (·.2.attr)) (fun _ _ h => (DerivedChild.attr_eq h).symm)
    ((deriveChildren_ok_iff _ _ _ _).1 h)).symm

theorem deriveChildren_mem {env : Env} {kt : Str} {ch ch' : List (Option Str × EInfo)}
    (h : deriveChildren env kt ch = .ok ch') {c' : Option Str × EInfo} (hc : c' ∈ ch') :
    ∃ c ∈ ch, DerivedChild env kt c c' :=
  ((deriveChildren_ok_iff _ _ _ _).1 h).mem hc

theorem deriveChild_again {env : Env} {kt kt2 : Str} {c c' : Option Str × EInfo} (h : DerivedChild env kt c c') :
    deriveChild env kt2 c' = deriveChild env kt2 c := by
  rcases h.cases with rfl | ⟨k, k', hk, hc, rfl⟩
  · rfl
  · obtain ⟨key, info⟩ := c
    cases hk
    obtain ⟨hn, d, hk'⟩ := computeDefault_ok hc
    have hn' : k'.name = ['+'] := by rw [hk']; exact hn
    simp only [deriveChild, hn, hn', beq_self_eq_true, ↓reduceIte]
    rw [computeDefault_again hc]

/-! ## the `extends` step -/

theorem updType_append_fresh (es : ES) (n : Str) (t : EType) (f : EType → EType) (h : n ∉ es.typeNames) :
    ({ es with types := es.types ++ [(n, .concrete t)] } : ES).updType n f =
      { es with types := es.types ++ [(n, .concrete (f t))] } := by
  simp only [ES.updType, List.map_append, List.map_cons, List.map_nil, beq_self_eq_true, ↓reduceIte]
  congr 2
  conv => rhs; rw [← List.map_id es.types]
  apply List.map_congr_left
  intro x hx
  have : x.1 ≠ n := fun e => h (List.mem_map.2 ⟨x, hx, e⟩)
  simp [this]

theorem sectiontypeBase_plain_ok {env : Env} {st1 : PSt} {attrs : Attrs} {name : Str} {es2 : ES}
    (hx : attr attrs "extends" = none) (h : sectiontypeBase env st1 attrs name = .ok es2) :
    ∃ kt dt, getSectTypeinfo env st1 attrs none = .ok (kt, dt) ∧ name ∉ st1.es.typeNames ∧
      es2 = { st1.es with types := st1.es.types ++
                [(name, .concrete { name := some name, keytype := kt, datatype := dt })] } := by
  unfold sectiontypeBase at h
  rw [hx] at h
  obtain ⟨⟨kt, dt⟩, h1, h2⟩ := bind_ok_inv h
  obtain ⟨h3, h4⟩ := addType_ok h2
  exact ⟨kt, dt, h1, h3, h4⟩

theorem sectiontypeBase_ext_ok {env : Env} {st1 : PSt} {attrs : Attrs} {name b : Str} {es2 : ES}
    (hx : attr attrs "extends" = some b) (h : sectiontypeBase env st1 attrs name = .ok es2) :
    ∃ bn key base kt dt ch, basicKeyE b = .ok bn ∧ st1.es.gettype bn = some (key, .concrete base) ∧
      getSectTypeinfo env st1 attrs (some (base.keytype, base.datatype)) = .ok (kt, dt) ∧
      name ∉ st1.es.typeNames ∧ deriveChildren env kt base.children = .ok ch ∧
      es2 = { st1.es with types := st1.es.types ++
                [(name, .concrete { name := some name, keytype := kt, datatype := dt, children := ch })] } := by
  unfold sectiontypeBase at h
  rw [hx] at h
  obtain ⟨bn, h0, h⟩ := bind_ok_inv h
  simp only at h
  split at h
  · cases h
  · cases h
  · rename_i key base hg
    obtain ⟨⟨kt, dt⟩, h1, h⟩ := bind_ok_inv h
    obtain ⟨es', h2, h⟩ := bind_ok_inv h
    obtain ⟨ch, h3, h⟩ := bind_ok_inv h
    obtain ⟨h4, rfl⟩ := addType_ok h2
    simp only [pure, Except.pure, Except.ok.injEq] at h
    rw [updType_append_fresh _ _ _ _ h4] at h
    exact ⟨bn, key, base, kt, dt, ch, h0, hg, h1, h4, h3, h.symm⟩

theorem sectiontypeBase_ok {env : Env} {st1 : PSt} {attrs : Attrs} {name : Str} {es2 : ES}
    (h : sectiontypeBase env st1 attrs name = .ok es2) :
    name ∉ st1.es.typeNames ∧
      ∃ t : EType, t.name = some name ∧ es2 = { st1.es with types := st1.es.types ++ [(name, .concrete t)] } := by
  cases hx : attr attrs "extends" with
  | none =>
    obtain ⟨kt, dt, _, h2, h3⟩ := sectiontypeBase_plain_ok hx h
    exact ⟨h2, _, rfl, h3⟩
  | some b =>
    obtain ⟨bn, key, base, kt, dt, ch, _, _, _, h4, _, h6⟩ := sectiontypeBase_ext_ok hx h
    exact ⟨h4, _, rfl, h6⟩

theorem sectiontypeBase_badname (env : Env) (st1 : PSt) (attrs : Attrs) (name b : Str) (e : EFail)
    (hx : attr attrs "extends" = some b) (hb : basicKeyE b = .error e) :
    sectiontypeBase env st1 attrs name = .error e := by
  unfold sectiontypeBase
  rw [hx]; simp only [hb, bind, Except.bind]

/-! ## the `implements` step -/

/-- `g` rewrites abstract entries in place: the key, every concrete entry and the name of every abstract entry stay -/
structure AbsOnly (g : Str × EEntry → Str × EEntry) : Prop where
  conc : ∀ k t, g (k, .concrete t) = (k, .concrete t)
  abs : ∀ k a b c, ∃ b' c', g (k, .abstract_ a b c) = (k, .abstract_ a b' c')

theorem AbsOnly.fst {g} (h : AbsOnly g) : ∀ p, (g p).1 = p.1
  | (k, .concrete t) => by rw [h.conc]
  | (k, .abstract_ a b c) => by obtain ⟨b', c', e⟩ := h.abs k a b c; rw [e]

theorem absOnly_id : AbsOnly id := ⟨fun _ _ => rfl, fun _ _ b c => ⟨b, c, rfl⟩⟩

/-- what `addSubtype es an name` does to an entry -/
def subEntry (an name : Str) : Str × EEntry → Str × EEntry := fun (k, e) =>
  if k == an then
    (k, match e with
        | .abstract_ nm subs d => .abstract_ nm (if subs.contains name then subs else subs ++ [name]) d
        | o => o)
  else (k, e)

theorem addSubtype_eq_map (es : ES) (an name : Str) :
    addSubtype es an name = { es with types := es.types.map (subEntry an name) } := rfl

theorem subEntry_absOnly (an name : Str) : AbsOnly (subEntry an name) :=
  ⟨fun k t => by unfold subEntry; dsimp only; split <;> rfl,
   fun k a b c => by unfold subEntry; dsimp only; split <;> exact ⟨_, _, rfl⟩⟩

/-- what a `<description>` inside `<abstracttype name=n>` does to an entry (`FlagSet.atype`) -/
def descEntry (n : Str) : Str × EEntry → Str × EEntry := fun (k, e) =>
  if k == n then (k, match e with | .abstract_ nm subs _ => .abstract_ nm subs true | o => o) else (k, e)

theorem descEntry_absOnly (n : Str) : AbsOnly (descEntry n) :=
  ⟨fun k t => by unfold descEntry; dsimp only; split <;> rfl,
   fun k a b c => by unfold descEntry; dsimp only; split <;> exact ⟨_, _, rfl⟩⟩

theorem addSubtype_typeNames (es : ES) (an name : Str) : (addSubtype es an name).typeNames = es.typeNames := by
  simp only [addSubtype_eq_map, ES.typeNames, List.map_map]
  exact List.map_congr_left fun x _ => (subEntry_absOnly an name).fst x

theorem addSubtype_find (es : ES) (an name m : Str) :
    (addSubtype es an name).types.find? (·.1 == m) =
      (es.types.find? (·.1 == m)).map fun (k, e) =>
        if k == an then
          (k, match e with
              | .abstract_ nm subs d => .abstract_ nm (if subs.contains name then subs else subs ++ [name]) d
              | o => o)
        else (k, e) := by
  simp only [addSubtype]
  apply find_fst_map
  intro x
  split <;> rfl

theorem addSubtype_find_concrete (es : ES) (an name m k : Str) (t : EType)
    (h : es.types.find? (·.1 == m) = some (k, .concrete t)) :
    (addSubtype es an name).types.find? (·.1 == m) = some (k, .concrete t) := by
  rw [addSubtype_find, h]
  simp only [Option.map_some]
  split <;> rfl

theorem addSubtype_find_other (es : ES) (an name m : Str) (hm : m ≠ an) :
    (addSubtype es an name).types.find? (·.1 == m) = es.types.find? (·.1 == m) := by
  rw [addSubtype_find]
  cases h : es.types.find? (·.1 == m) with
  | none => rfl
  | some p =>
    have := (find_fst_some _ _ _ h).1
    obtain ⟨k, e⟩ := p
    simp only at this
    subst this
    simp [hm]

theorem addSubtype_find_self (es : ES) (an name k nm : Str) (subs : List Str) (d : Bool)
    (h : es.types.find? (·.1 == an) = some (k, .abstract_ nm subs d)) :
    (addSubtype es an name).types.find? (·.1 == an) =
      some (k, .abstract_ nm (if subs.contains name then subs else subs ++ [name]) d) := by
  rw [addSubtype_find, h]
  have := (find_fst_some _ _ _ h).1
  simp only at this
  subst this
  simp

theorem sectiontypeImplements_none (es2 : ES) (attrs : Attrs) (name : Str) (hi : attr attrs "implements" = none) :
    sectiontypeImplements es2 attrs name = .ok es2 := by
  unfold sectiontypeImplements; rw [hi]; rfl

theorem sectiontypeImplements_some_ok {es2 es3 : ES} {attrs : Attrs} {name i : Str}
    (hi : attr attrs "implements" = some i) (h : sectiontypeImplements es2 attrs name = .ok es3) :
    ∃ ifn an nm subs d, basicKeyE i = .ok ifn ∧ es2.gettype ifn = some (an, .abstract_ nm subs d) ∧
      es3 = addSubtype es2 an name := by
  unfold sectiontypeImplements at h
  rw [hi] at h
  obtain ⟨ifn, h0, h⟩ := bind_ok_inv h
  split at h
  · cases h
  · cases h
  · rename_i an nm subs d hg
    simp only [pure, Except.pure, Except.ok.injEq] at h
    exact ⟨ifn, an, nm, subs, d, h0, hg, h.symm⟩

theorem sectiontypeImplements_typeNames {es2 es3 : ES} {attrs : Attrs} {name : Str}
    (h : sectiontypeImplements es2 attrs name = .ok es3) : es3.typeNames = es2.typeNames := by
  cases hi : attr attrs "implements" with
  | none => rw [sectiontypeImplements_none _ _ _ hi] at h; cases h; rfl
  | some i =>
    obtain ⟨_, an, _, _, _, _, _, rfl⟩ := sectiontypeImplements_some_ok hi h
    exact addSubtype_typeNames _ _ _

theorem sectiontypeImplements_find_concrete {es2 es3 : ES} {attrs : Attrs} {name m k : Str} {t : EType}
    (h : sectiontypeImplements es2 attrs name = .ok es3) (hf : es2.types.find? (·.1 == m) = some (k, .concrete t)) :
    es3.types.find? (·.1 == m) = some (k, .concrete t) := by
  cases hi : attr attrs "implements" with
  | none => rw [sectiontypeImplements_none _ _ _ hi] at h; cases h; exact hf
  | some i =>
    obtain ⟨_, an, _, _, _, _, _, rfl⟩ := sectiontypeImplements_some_ok hi h
    exact addSubtype_find_concrete _ _ _ _ _ _ hf

/-! ## `start_sectiontype` as a whole -/

theorem startSectiontype_ok {env : Env} {st st' : PSt} {attrs : Attrs} (h : startSectiontype env st attrs = .ok st') :
    ∃ v name st1 es2 es3, attr attrs "name" = some v ∧ basicKeyE v = .ok name ∧ pushPrefix st attrs = .ok st1 ∧
      sectiontypeBase env st1 attrs name = .ok es2 ∧ sectiontypeImplements es2 attrs name = .ok es3 ∧
      st' = { st1 with es := es3, stack := .stype name :: st1.stack } := by
  rw [startSectiontype_eq] at h
  split at h
  · rename_i c cs hn
    obtain ⟨name, h1, h⟩ := bind_ok_inv h
    obtain ⟨st1, h2, h⟩ := bind_ok_inv h
    obtain ⟨es2, h3, h⟩ := bind_ok_inv h
    obtain ⟨es3, h4, h⟩ := bind_ok_inv h
    simp only [pure, Except.pure, Except.ok.injEq] at h
    exact ⟨_, name, st1, es2, es3, hn, h1, h2, h3, h4, h.symm⟩
  · cases h

theorem startSectiontype_noname (env : Env) (st : PSt) (attrs : Attrs) (h : (attr attrs "name").getD [] = []) :
    startSectiontype env st attrs = .error (.schema "sectiontype name must not be omitted or empty") := by
  rw [startSectiontype_eq]
  cases ha : attr attrs "name" with
  | none => rfl
  | some v => rw [ha] at h; simp only [Option.getD_some] at h; subst h; rfl

theorem startSectiontype_steps (env : Env) (st : PSt) (attrs : Attrs) (v name : Str) (st1 : PSt)
    (hn : attr attrs "name" = some v) (hb : basicKeyE v = .ok name) (hp : pushPrefix st attrs = .ok st1) :
    startSectiontype env st attrs =
      (do let es2 ← sectiontypeBase env st1 attrs name
          let es3 ← sectiontypeImplements es2 attrs name
          pure { st1 with es := es3, stack := .stype name :: st1.stack }) := by
  rw [startSectiontype_eq, hn]
  cases v with
  | nil => rw [basicKeyE_nil] at hb; cases hb
  | cons c cs => simp only [hb, hp, bind, Except.bind]

theorem startSectiontype_result {env : Env} {st st' : PSt} {attrs : Attrs}
    (h : startSectiontype env st attrs = .ok st') :
    ∃ v name t, attr attrs "name" = some v ∧ basicKeyE v = .ok name ∧ name ∉ st.es.typeNames ∧
      st'.es.typeNames = st.es.typeNames ++ [name] ∧ st'.stack = .stype name :: st.stack ∧
      st'.es.types.find? (·.1 == name) = some (name, .concrete t) ∧ t.name = some name ∧
      topChildren st' = .ok t.children := by
  obtain ⟨v, name, st1, es2, es3, h1, h2, h3, h4, h5, rfl⟩ := startSectiontype_ok h
  obtain ⟨p, rfl⟩ := pushPrefix_ok h3
  obtain ⟨h6, t, h7, rfl⟩ := sectiontypeBase_ok h4
  have hf : es3.types.find? (·.1 == name) = some (name, .concrete t) :=
    sectiontypeImplements_find_concrete h5 (find_fst_append_fresh _ _ _ h6)
  refine ⟨v, name, t, h1, h2, h6, ?_, rfl, hf, h7, ?_⟩
  · rw [sectiontypeImplements_typeNames h5]
    simp [ES.typeNames]
  · simp only [topChildren, hf]

theorem startSectiontype_table {env : Env} {st st' : PSt} {attrs : Attrs} (h : startSectiontype env st attrs = .ok st') :
    ∃ (name x : Str) (t : EType) (g : Str × EEntry → Str × EEntry), st'.stack = .stype name :: st.stack ∧
      st'.prefixes = x :: st.prefixes ∧ name ∉ st.es.typeNames ∧ t.name = some name ∧
      (t.children = [] ∨ ∃ bn key base, st.es.gettype bn = some (key, .concrete base) ∧
        deriveChildren env t.keytype base.children = .ok t.children) ∧
      AbsOnly g ∧ st'.es = { st.es with types := (st.es.types ++ [(name, EEntry.concrete t)]).map g } := by
  obtain ⟨v, name, st1, es2, es3, _, _, h3, h4, h5, rfl⟩ := startSectiontype_ok h
  obtain ⟨x, rfl⟩ := pushPrefix_ok h3
  have hb : ∃ t : EType, name ∉ st.es.typeNames ∧ t.name = some name ∧ (t.children = [] ∨ ∃ bn key base,
      st.es.gettype bn = some (key, .concrete base) ∧ deriveChildren env t.keytype base.children = .ok t.children) ∧
      es2 = { st.es with types := st.es.types ++ [(name, .concrete t)] } := by
    cases hx : attr attrs "extends" with
    | none =>
      obtain ⟨kt, dt, _, hf, rfl⟩ := sectiontypeBase_plain_ok hx h4
      exact ⟨{ name := some name, keytype := kt, datatype := dt }, hf, rfl, .inl rfl, rfl⟩
    | some b =>
      obtain ⟨bn, key, base, kt, dt, ch, _, hg, _, hf, hder, rfl⟩ := sectiontypeBase_ext_ok hx h4
      exact ⟨{ name := some name, keytype := kt, datatype := dt, children := ch }, hf, rfl,
        .inr ⟨bn, key, base, hg, hder⟩, rfl⟩
  obtain ⟨t, hf, hn, hch, rfl⟩ := hb
  cases hi : attr attrs "implements" with
  | none =>
    rw [sectiontypeImplements_none _ _ _ hi] at h5; cases h5
    exact ⟨name, x, t, id, rfl, rfl, hf, hn, hch, absOnly_id, by
      show _ = ({ st.es with types := List.map id _ } : ES); rw [List.map_id]⟩
  | some i =>
    obtain ⟨_, an, _, _, _, _, _, rfl⟩ := sectiontypeImplements_some_ok hi h5
    exact ⟨name, x, t, subEntry an name, rfl, rfl, hf, hn, hch, subEntry_absOnly an name, rfl⟩

theorem startSectiontype_extends_result {env : Env} {st st' : PSt} {attrs : Attrs} {b : Str}
    (hx : attr attrs "extends" = some b) (h : startSectiontype env st attrs = .ok st') :
    ∃ name st1 bn key base t, pushPrefix st attrs = .ok st1 ∧ basicKeyE b = .ok bn ∧
      st.es.gettype bn = some (key, .concrete base) ∧
      st'.es.types.find? (·.1 == name) = some (name, .concrete t) ∧ st'.stack = .stype name :: st.stack ∧
      topChildren st' = .ok t.children ∧
      getSectTypeinfo env st1 attrs (some (base.keytype, base.datatype)) = .ok (t.keytype, t.datatype) ∧
      deriveChildren env t.keytype base.children = .ok t.children := by
  obtain ⟨v, name, st1, es2, es3, h1, h2, h3, h4, h5, rfl⟩ := startSectiontype_ok h
  obtain ⟨bn, key, base, kt, dt, ch, g1, g2, g3, g4, g5, rfl⟩ := sectiontypeBase_ext_ok hx h4
  have hf := sectiontypeImplements_find_concrete h5 (find_fst_append_fresh _ _ _ g4)
  obtain ⟨p, rfl⟩ := pushPrefix_ok h3
  refine ⟨name, _, bn, key, base, _, h3, g1, g2, hf, rfl, ?_, g3, g5⟩
  simp only [topChildren, hf]

theorem startSectiontype_plain_result {env : Env} {st st' : PSt} {attrs : Attrs}
    (hx : attr attrs "extends" = none) (h : startSectiontype env st attrs = .ok st') :
    ∃ name st1 t, pushPrefix st attrs = .ok st1 ∧
      st'.es.types.find? (·.1 == name) = some (name, .concrete t) ∧ st'.stack = .stype name :: st.stack ∧
      t.children = [] ∧ getSectTypeinfo env st1 attrs none = .ok (t.keytype, t.datatype) := by
  obtain ⟨v, name, st1, es2, es3, h1, h2, h3, h4, h5, rfl⟩ := startSectiontype_ok h
  obtain ⟨kt, dt, g1, g2, rfl⟩ := sectiontypeBase_plain_ok hx h4
  have hf := sectiontypeImplements_find_concrete h5 (find_fst_append_fresh _ _ _ g2)
  obtain ⟨p, rfl⟩ := pushPrefix_ok h3
  exact ⟨name, _, _, h3, hf, rfl, rfl, g1⟩

theorem find_append_abstract (l : List (Str × EEntry)) (n m : Str) (t : EType) (p : Str × EEntry)
    (h : (l ++ [(n, EEntry.concrete t)]).find? (·.1 == m) = some p) (hp : ∀ t', p.2 ≠ EEntry.concrete t') :
    l.find? (·.1 == m) = some p := by
  rw [List.find?_append] at h
  cases hl : l.find? (·.1 == m) with
  | some q => rw [hl] at h; exact h
  | none =>
    rw [hl] at h
    simp only [Option.none_or, List.find?_cons] at h
    split at h
    · injection h with h; subst h; exact absurd rfl (hp t)
    · cases h

/-- with `implements`: the abstract type named — and only it — gains the new name -/
theorem startSectiontype_implements {env : Env} {st st' : PSt} {attrs : Attrs} {i : Str}
    (hi : attr attrs "implements" = some i) (h : startSectiontype env st attrs = .ok st') :
    ∃ name t ifn an nm subs d, basicKeyE i = .ok ifn ∧ st.es.gettype ifn = some (an, .abstract_ nm subs d) ∧
      st'.es = addSubtype { st.es with types := st.es.types ++ [(name, .concrete t)] } an name := by
  obtain ⟨v, name, st1, es2, es3, h1, h2, h3, h4, h5, rfl⟩ := startSectiontype_ok h
  obtain ⟨p, rfl⟩ := pushPrefix_ok h3
  obtain ⟨h6, t, h7, rfl⟩ := sectiontypeBase_ok h4
  obtain ⟨ifn, an, nm, subs, d, g1, g2, rfl⟩ := sectiontypeImplements_some_ok hi h5
  refine ⟨name, t, ifn, an, nm, subs, d, g1, ?_, rfl⟩
  exact find_append_abstract st.es.types name (lower ifn) t _ g2 (fun t' => by simp)

/-! ## 5. names: wildcards need an attribute, `*` is not a key name -/

theorem anyNames_iff (n : Str) : Gen.anyNames.contains n = true ↔ n = ['*'] ∨ n = ['+'] := by
  simp [Gen.anyNames]

theorem multisectionNames_iff (n : Str) : Gen.multisectionNames.contains n = true ↔ n = ['*'] ∨ n = ['+'] := by
  simp [Gen.multisectionNames]

/-- the `name` attribute, or the default the handler passes (`*` for sections) -/
def effName (attrs : Attrs) (dflt : Option Str) : Option Str :=
  match attr attrs "name" with | some v => some v | none => dflt

/-- the `attribute` attribute: absent/empty, or an identifier not starting with `getSection` -/
def attrNameE (attrs : Attrs) : EM (Option Str) :=
  match attr attrs "attribute" with
  | some (c :: cs) =>
    if DTSpec.isIdent (c :: cs) then
      if startsWith (c :: cs) Gen.reservedAttrPrefix then serr "attribute names may not start with 'getSection'"
      else .ok (some (c :: cs))
    else serr "not a valid Python identifier"
  | _ => .ok none

/-- the part of `get_name_info` after name and attribute have been read -/
def nameTail (env : Env) (st : PSt) (name : Str) (aname : Option Str) : EM (Option Str × Option Str × Option Str) :=
  if Gen.anyNames.contains name then
    match aname with
    | some (c :: cs) => pure (some name, none, some (c :: cs))
    | _ => serr "container attribute must be specified"
  else do
    let kt ← topKeytype st
    let nm ← convKeyName env kt name
    match aname with
    | some (c :: cs) => pure (none, some nm, some (c :: cs))
    | _ =>
      let a ← basicKeyE nm
      let a' ← identifierE (a.map fun ch => if ch == '-' then '_' else ch)
      pure (none, some nm, some a')

/-- `get_name_info` in normal form: the name (given, or the handler's default) must be there; then the `attribute`
attribute is read (`attrNameE`) and the rest depends on whether the name is a wildcard (`nameTail`) -/
theorem getNameInfo_nf (env : Env) (st : PSt) (attrs : Attrs) (dflt : Option Str) :
    getNameInfo env st attrs dflt =
      match effName attrs dflt with
      | some (c :: cs) => attrNameE attrs >>= nameTail env st (c :: cs)
      | _ => serr "name must be specified and non-empty" := by
  -- after the name: the `attribute` attribute, read as in the definition, is `attrNameE`
  have tail : ∀ (c : Char) (cs : Str),
      (match attr attrs "attribute" with
        | some (d :: ds) => identifierE (d :: ds) >>= fun a =>
            if startsWith a Gen.reservedAttrPrefix then
              (serr "attribute names may not start with 'getSection'" : EM Unit) >>= fun _ => nameTail env st (c :: cs) (some a)
            else nameTail env st (c :: cs) (some a)
        | _ => nameTail env st (c :: cs) none) = attrNameE attrs >>= nameTail env st (c :: cs) := by
    intro c cs
    unfold attrNameE
    rcases attr attrs "attribute" with _ | _ | ⟨d, ds⟩
    · rfl
    · rfl
    · dsimp only
      rw [identifierE_eq]
      by_cases hi : DTSpec.isIdent (d :: ds) = true
      · rw [if_pos hi, if_pos hi]
        by_cases hr : startsWith (d :: ds) Gen.reservedAttrPrefix = true
        · rw [if_pos hr]; simp only [bind, Except.bind, hr, ↓reduceIte]; rfl
        · rw [if_neg hr]; simp only [bind, Except.bind, hr, Bool.false_eq_true, ↓reduceIte]
      · rw [if_neg hi, if_neg hi]; rfl
  unfold getNameInfo effName
  rcases attr attrs "name" with _ | _ | ⟨c, cs⟩
  · rcases dflt with _ | _ | ⟨c, cs⟩
    · rfl
    · rfl
    · exact tail c cs
  · rfl
  · exact tail c cs

theorem attrNameE_some {attrs : Attrs} {c : Char} {cs : Str} (ha : attr attrs "attribute" = some (c :: cs)) :
    attrNameE attrs =
      if DTSpec.isIdent (c :: cs) then
        if startsWith (c :: cs) Gen.reservedAttrPrefix then serr "attribute names may not start with 'getSection'"
        else .ok (some (c :: cs))
      else serr "not a valid Python identifier" := by
  unfold attrNameE; rw [ha]

theorem attrNameE_cases (attrs : Attrs) :
    (∃ e, attrNameE attrs = .error e) ∨ attrNameE attrs = .ok none ∨ ∃ c cs, attrNameE attrs = .ok (some (c :: cs)) := by
  unfold attrNameE
  split
  · split
    · split
      · exact .inl ⟨_, rfl⟩
      · exact .inr (.inr ⟨_, _, rfl⟩)
    · exact .inl ⟨_, rfl⟩
  · exact .inr (.inl rfl)

theorem attrNameE_error {attrs : Attrs} {e : EFail} (h : attrNameE attrs = .error e) : e.isSchema := by
  unfold attrNameE at h
  split at h
  · split at h
    · split at h
      · cases h; trivial
      · cases h
    · cases h; trivial
  · cases h

theorem attrNameE_none (attrs : Attrs) (h : (attr attrs "attribute").getD [] = []) : attrNameE attrs = .ok none := by
  unfold attrNameE
  cases ha : attr attrs "attribute" with
  | none => rfl
  | some v => rw [ha] at h; simp only [Option.getD_some] at h; subst h; rfl

theorem attrNameE_ok {attrs : Attrs} {o : Option Str} (h : attrNameE attrs = .ok o) :
    (o = none ∧ (attr attrs "attribute").getD [] = []) ∨
    (∃ a, o = some a ∧ attr attrs "attribute" = some a ∧ a ≠ [] ∧ DTSpec.isIdent a = true ∧
        startsWith a Gen.reservedAttrPrefix = false) := by
  unfold attrNameE at h
  split at h
  · rename_i c cs ha
    split at h
    · rename_i hi
      split at h
      · cases h
      · rename_i hr
        cases h
        exact Or.inr ⟨_, rfl, ha, by simp, hi, by simpa using hr⟩
    · cases h
  · rename_i hne
    cases h
    left
    refine ⟨rfl, ?_⟩
    cases ha : attr attrs "attribute" with
    | none => rfl
    | some v =>
      cases v with
      | nil => rfl
      | cons c cs => exact absurd ha (hne c cs)

theorem getNameInfo_wild (env : Env) (st : PSt) (attrs : Attrs) (dflt : Option Str) (n : Str)
    (hn : effName attrs dflt = some n) (hw : n = ['*'] ∨ n = ['+']) :
    getNameInfo env st attrs dflt =
      (attrNameE attrs >>= fun aname =>
        match aname with
        | some a => pure (some n, none, some a)
        | none => serr "container attribute must be specified") := by
  rw [getNameInfo_nf, hn]
  rcases hw with rfl | rfl <;>
    (rcases attrNameE_cases attrs with ⟨e, ha⟩ | ha | ⟨d, ds, ha⟩ <;> rw [ha] <;> rfl)

theorem getNameInfo_ok {env : Env} {st : PSt} {attrs : Attrs} {dflt : Option Str} {r : Option Str × Option Str × Option Str}
    (h : getNameInfo env st attrs dflt = .ok r) :
    ∃ n a, effName attrs dflt = some n ∧ n ≠ [] ∧ a ≠ [] ∧ r.2.2 = some a ∧
      (((n = ['*'] ∨ n = ['+']) ∧ r.1 = some n ∧ r.2.1 = none ∧ attr attrs "attribute" = some a) ∨
       (¬ (n = ['*'] ∨ n = ['+']) ∧ r.1 = none ∧
          ∃ kt nm, topKeytype st = .ok kt ∧ convKeyName env kt n = .ok nm ∧ r.2.1 = some nm)) := by
  rw [getNameInfo_nf] at h
  split at h
  · rename_i c cs hn
    obtain ⟨aname, ha, h⟩ := bind_ok_inv h
    unfold nameTail at h
    by_cases hc : Gen.anyNames.contains (c :: cs) = true
    · rw [if_pos hc] at h
      have hw := (anyNames_iff _).1 hc
      split at h
      · cases h
        rcases attrNameE_ok ha with ⟨h0, _⟩ | ⟨a', h1, h2, h3, _⟩
        · cases h0
        · cases h1
          exact ⟨_, _, hn, by simp, h3, rfl, Or.inl ⟨hw, rfl, rfl, h2⟩⟩
      · cases h
    · rw [if_neg hc] at h
      have hw : ¬ (c :: cs = ['*'] ∨ c :: cs = ['+']) := fun hw => hc ((anyNames_iff _).2 hw)
      obtain ⟨kt, hkt, h⟩ := bind_ok_inv h
      obtain ⟨nm, hnm, h⟩ := bind_ok_inv h
      split at h
      · cases h
        exact ⟨_, _, hn, by simp, by simp, rfl, Or.inr ⟨hw, rfl, kt, nm, hkt, hnm, rfl⟩⟩
      · obtain ⟨a, hba, h⟩ := bind_ok_inv h
        obtain ⟨a', hia, h⟩ := bind_ok_inv h
        cases h
        obtain ⟨hi1, hi2⟩ := identifierE_ok hia
        exact ⟨_, a', hn, by simp, by rw [hi2]; exact isIdent_ne_nil hi1, rfl,
          Or.inr ⟨hw, rfl, kt, nm, hkt, hnm, rfl⟩⟩
  · cases h

/-! ### `get_key_info`, `start_key`, `start_multikey` -/

/-- the name `get_key_info` hands on: `*` is refused; a fixed name comes as the key type normalised it and must not be
empty; `+` stays -/
def keyInfoName (any name : Option Str) : EM Str :=
  if any == some ['*'] then serr "may not specify '*' for name"
  else match name with
    | some (c :: cs) => .ok (c :: cs)
    | _ => if any == some ['+'] then .ok ['+'] else serr "name may not be omitted or empty"

/-- `get_key_info` in normal form: name and attribute (`get_name_info`), the name handed on (`keyInfoName`), then the
`datatype` and `handler` attributes -/
theorem getKeyInfo_nf (env : Env) (st : PSt) (attrs : Attrs) :
    getKeyInfo env st attrs =
      getNameInfo env st attrs none >>= fun ni => keyInfoName ni.1 ni.2.1 >>= fun nm =>
        getDatatype env st attrs "datatype" "string" none >>= fun dt => getHandler attrs >>= fun hd =>
          pure (nm, dt, hd, ni.2.2.getD []) := by
  unfold getKeyInfo keyInfoName
  cases getNameInfo env st attrs none with
  | error e => rfl
  | ok ni =>
    obtain ⟨any, name, an⟩ := ni
    dsimp only [bind, Except.bind, bne]
    cases h1 : any == some ['*'] with
    | true => rfl
    | false =>
      rcases name with _ | _ | ⟨c, cs⟩
      case' some.cons => rfl
      all_goals
        by_cases h2 : (any == some ['+']) = true
        · cases eq_of_beq h2; rfl
        · simp only [h2]; rfl

theorem getKeyInfo_ok {env : Env} {st : PSt} {attrs : Attrs} {r : Str × Str × Option Str × Str}
    (h : getKeyInfo env st attrs = .ok r) :
    ∃ n, effName attrs none = some n ∧ r.1 ≠ [] ∧ r.2.2.2 ≠ [] ∧
      ((n = ['+'] ∧ r.1 = ['+'] ∧ attr attrs "attribute" = some r.2.2.2) ∨
       (¬ (n = ['*'] ∨ n = ['+']) ∧ ∃ kt, topKeytype st = .ok kt ∧ convKeyName env kt n = .ok r.1)) ∧
      getDatatype env st attrs "datatype" "string" none = .ok r.2.1 ∧ getHandler attrs = .ok r.2.2.1 := by
  rw [getKeyInfo_nf] at h
  obtain ⟨⟨any, name, an⟩, hni, h⟩ := bind_ok_inv h
  obtain ⟨nm, hnm, h⟩ := bind_ok_inv h
  obtain ⟨dt, hdt, h⟩ := bind_ok_inv h
  obtain ⟨hd, hhd, h⟩ := bind_ok_inv h
  cases h
  obtain ⟨n, a, h1, _, ha, h4, h5⟩ := getNameInfo_ok hni
  cases h4
  unfold keyInfoName at hnm
  rcases h5 with ⟨rfl | rfl, h6, h7, h8⟩ | ⟨hw, h6, kt, nm', hkt, hc, h7⟩ <;> cases h6 <;> cases h7
  · cases hnm
  · cases hnm; exact ⟨_, h1, by simp, ha, .inl ⟨rfl, rfl, h8⟩, hdt, hhd⟩
  · rcases nm' with _ | ⟨c, cs⟩ <;> cases hnm
    exact ⟨_, h1, by simp, ha, .inr ⟨hw, kt, hkt, hc⟩, hdt, hhd⟩

theorem getKeyInfo_star (env : Env) (st : PSt) (attrs : Attrs) (h : attr attrs "name" = some ['*']) :
    ∃ t, getKeyInfo env st attrs = .error (.schema t) := by
  have hn : effName attrs none = some ['*'] := by unfold effName; rw [h]
  rw [getKeyInfo_nf, getNameInfo_nf, hn]
  -- the attribute name fails, or is missing (refused for a wildcard), or is there — and then `*` itself is refused
  rcases attrNameE_cases attrs with ⟨e, ha⟩ | ha | ⟨d, ds, ha⟩
  · obtain ⟨t, rfl⟩ := (EFail.isSchema_iff e).1 (attrNameE_error ha)
    rw [ha]; exact ⟨t, rfl⟩
  · rw [ha]; exact ⟨_, rfl⟩
  · rw [ha]; exact ⟨_, rfl⟩

theorem startKey_star (env : Env) (st : PSt) (attrs : Attrs) (h : attr attrs "name" = some ['*']) :
    ∃ t, startKey env st attrs = .error (.schema t) := by
  obtain ⟨t, ht⟩ := getKeyInfo_star env st attrs h
  rw [startKey_nf, ht]
  exact ⟨t, rfl⟩

theorem startMultikey_star (env : Env) (st : PSt) (attrs : Attrs) (h : attr attrs "name" = some ['*']) :
    ∃ t, startMultikey env st attrs = .error (.schema t) := by
  obtain ⟨t, ht⟩ := getKeyInfo_star env st attrs h
  rw [startMultikey_nf, ht]
  unfold startKeyObjM
  rw [if_pos rfl]
  split
  · exact ⟨_, rfl⟩
  · exact ⟨t, rfl⟩

/-! ## 7. a required key has no default -/

theorem getRequired_yes (attrs : Attrs) (h : attr attrs "required" = some "yes".toList) : getRequired attrs = .ok true := by
  rw [getRequired_eq, h]; rfl

theorem startKey_required_default_fails (env : Env) (st st' : PSt) (attrs : Attrs) (d : Str)
    (hr : attr attrs "required" = some "yes".toList) (hd : attr attrs "default" = some d) :
    startKey env st attrs ≠ .ok st' := by
  intro h
  rw [startKey_nf] at h
  obtain ⟨p, hp, _⟩ := bind_ok_inv h
  obtain ⟨r, req, _, hq, hA, _⟩ := startKeyObjM_ok_iff.1 hp
  rw [getRequired_yes attrs hr] at hq
  cases hq
  exact nomatch (hA d hd).1

/-! ## 6. multisections are named `*` or `+` -/

theorem startMultisection_ok_name {env : Env} {st st' : PSt} {attrs : Attrs}
    (h : startMultisection env st attrs = .ok st') :
    ∃ n, effName attrs (some ['*']) = some n ∧ (n = ['*'] ∨ n = ['+']) := by
  unfold startMultisection at h
  obtain ⟨ty, _, h⟩ := bind_ok_inv h
  obtain ⟨req, _, h⟩ := bind_ok_inv h
  obtain ⟨r, hr, h⟩ := bind_ok_inv h
  obtain ⟨n, a, h1, _, _, _, h5⟩ := getNameInfo_ok hr
  rcases h5 with ⟨hw, _⟩ | ⟨_, h6, _⟩
  · exact ⟨n, h1, hw⟩
  · obtain ⟨r1, r2, r3⟩ := r
    simp only at h6; subst h6
    cases h

/-! ## 8. defaults are keyed exactly for wildcard keys, and keys do not collide -/

theorem addDefault_wellkeyed (k : EKey) (v : Str) (key : Option Str) (hf : k.finished = false)
    (hk : k.name = ['+'] ↔ key.isSome = true) :
    addDefault k v key = addValueInfo k { value := v, pos := defaultPos } key := by
  unfold addDefault
  rw [if_neg (by simp [hf])]
  by_cases hn : k.name = ['+']
  · cases key with
    | none => exact absurd (hk.1 hn) (by simp)
    | some kk => rw [if_neg (by simp), if_neg (by simp [hn])]
  · cases key with
    | none => rw [if_neg (by simp [hn]), if_neg (by simp)]
    | some kk => exact absurd (hk.2 rfl) hn

theorem addDefault_ok {k k' : EKey} {v : Str} {key : Option Str} (h : addDefault k v key = .ok k') :
    k.finished = false ∧ (k.name = ['+'] ↔ key.isSome = true) ∧
      addValueInfo k { value := v, pos := defaultPos } key = .ok k' := by
  unfold addDefault at h
  rcases ite_ok h with ⟨_, h⟩ | ⟨hf, h⟩
  · cases h
  rcases ite_ok h with ⟨_, h⟩ | ⟨h1, h⟩
  · cases h
  rcases ite_ok h with ⟨_, h⟩ | ⟨h2, h⟩
  · cases h
  refine ⟨by simpa using hf, ?_, h⟩
  cases key with
  | none => simpa using h1
  | some kk => simpa using h2

theorem startKey_ok_stack {env : Env} {st st' : PSt} {attrs : Attrs} (h : startKey env st attrs = .ok st') :
    ∃ k req, getRequired attrs = .ok req ∧ st'.stack = .key k :: st.stack ∧ k.minOccurs = (if req then 1 else 0) ∧
      k.multi = false := by
  rw [startKey_nf] at h
  obtain ⟨p, hp, h⟩ := bind_ok_inv h
  obtain ⟨r, req, _, hq, _, rfl⟩ := startKeyObjM_ok_iff.1 hp
  obtain ⟨ch, _, _, _, rfl⟩ := pushChild_ok_iff.1 h
  exact ⟨_, req, hq, rfl, rfl, rfl⟩

theorem startMultikey_ok_stack {env : Env} {st st' : PSt} {attrs : Attrs} (h : startMultikey env st attrs = .ok st') :
    ∃ k req, getRequired attrs = .ok req ∧ st'.stack = .key k :: st.stack ∧ k.minOccurs = (if req then 1 else 0) ∧
      k.multi = true := by
  rw [startMultikey_nf] at h
  obtain ⟨p, hp, h⟩ := bind_ok_inv h
  obtain ⟨r, req, _, hq, _, rfl⟩ := startKeyObjM_ok_iff.1 hp
  obtain ⟨ch, _, _, _, rfl⟩ := pushChild_ok_iff.1 h
  exact ⟨_, req, hq, rfl, rfl, rfl⟩

theorem addDefault_error_schema_of_shape {k : EKey} {v : Str} {key : Option Str} {e : EFail}
    (hshape : k.multi = false) (hd : (k.name = ['+'] → ∃ m, k.dflt = .keyed m) ∧
      (k.name ≠ ['+'] → k.dflt = .none ∨ ∃ vi, k.dflt = .one vi))
    (h : addDefault k v key = .error e) : e.isSchema := by
  unfold addDefault at h
  split at h
  · cases h; trivial
  · split at h
    · cases h; trivial
    · split at h
      · cases h; trivial
      · unfold addValueInfo at h
        simp only [hshape, Bool.false_eq_true, ↓reduceIte] at h
        by_cases hn : k.name = ['+']
        · obtain ⟨m, hm⟩ := hd.1 hn
          simp only [hn, hm, beq_self_eq_true, ↓reduceIte] at h
          split at h
          · cases h; trivial
          · cases h
        · have hn' : (k.name == ['+']) = false := by simp [hn]
          simp only [hn', Bool.false_eq_true, ↓reduceIte] at h
          rcases hd.2 hn with h0 | ⟨vi, h1⟩
          · simp only [h0] at h; cases h
          · simp only [h1] at h; cases h; trivial

theorem addValueInfo_single_dup (k : EKey) (vi : VI) (kk : Str) (m : List (Str × VI)) (hm : k.multi = false)
    (hn : k.name = ['+']) (hd : k.dflt = .keyed m) (hk : kk ∈ m.map (·.1)) :
    addValueInfo k vi (some kk) = .error (.schema "duplicate default value for key") := by
  unfold addValueInfo
  simp only [hm, Bool.false_eq_true, ↓reduceIte, hn, beq_self_eq_true, hd, Option.getD_some]
  rw [if_pos ((any_fst_beq m kk).2 hk)]; rfl

theorem addValueInfo_single_new (k : EKey) (vi : VI) (kk : Str) (m : List (Str × VI)) (hm : k.multi = false)
    (hn : k.name = ['+']) (hd : k.dflt = .keyed m) (hk : kk ∉ m.map (·.1)) :
    addValueInfo k vi (some kk) = .ok { k with dflt := .keyed (m ++ [(kk, vi)]) } := by
  unfold addValueInfo
  simp only [hm, Bool.false_eq_true, ↓reduceIte, hn, beq_self_eq_true, hd, Option.getD_some]
  rw [if_neg (fun hc => hk ((any_fst_beq m kk).1 hc))]

/-- the keys as written, each normalised by the key type -/
def normKeys (env : Env) (kt : Str) (m : List (Str × VI)) : EM (List Str) := m.mapM fun p => convDefaultKey env kt p.1

/-- one step of the loop of `computedefault` for a single-valued `+` key, on the default alone -/
def normStep (env : Env) (kt : Str) (d : Default) (p : Str × VI) : EM Default := do
  let key ← convDefaultKey env kt p.1
  addDflt false d p.2 key

/-- the loop over the keys as written, from the defaults `d` collected so far: when the key type accepts every key it ends
with the normalised keys paired with the values behind `d`, unless one of them is already in `d` or two coincide -/
theorem normFold_single (env : Env) (kt : Str) :
    ∀ (m : List (Str × VI)) (ks : List Str) (d : List (Str × VI)), normKeys env kt m = .ok ks →
      m.foldlM (normStep env kt) (.keyed d) =
        if (∀ x ∈ ks, x ∉ d.map (·.1)) ∧ ks.Nodup then .ok (.keyed (d ++ ks.zip (m.map (·.2))))
        else .error (.schema "duplicate default value for key") := by
  intro m
  induction m with
  | nil =>
    intro ks d hks
    simp only [normKeys, List.mapM_nil, pure, Except.pure, Except.ok.injEq] at hks
    subst hks
    rw [if_pos ⟨fun _ h => (nomatch h), List.nodup_nil⟩]
    simp only [List.foldlM_nil, pure, Except.pure, List.zip_nil_left, List.append_nil]
  | cons p m ih =>
    intro ks d hks
    obtain ⟨key, ks', h1, h2, rfl⟩ := mapM_ok_cons _ p m ks hks
    rw [List.foldlM_cons]
    have hstep : normStep env kt (.keyed d) p =
        if key ∈ d.map (·.1) then .error (.schema "duplicate default value for key") else .ok (.keyed (d ++ [(key, p.2)])) := by
      simp only [normStep, h1, bind, Except.bind, addDflt, Bool.false_eq_true, ↓reduceIte, any_fst_beq]
      rfl
    rw [hstep]
    by_cases hk : key ∈ d.map (·.1)
    · rw [if_pos hk, if_neg fun hc => hc.1 key (by simp) hk]
      rfl
    · rw [if_neg hk]
      show m.foldlM (normStep env kt) (.keyed (d ++ [(key, p.2)])) = _
      rw [ih ks' (d ++ [(key, p.2)]) h2]
      -- `key` joins `d`: the remaining keys avoid `d` and `key`, and each other
      have hmem : ∀ x, x ∈ (d ++ [(key, p.2)]).map (·.1) ↔ x ∈ d.map (·.1) ∨ x = key := by
        intro x; simp [List.map_append]
      have hequiv : ((∀ x ∈ ks', x ∉ (d ++ [(key, p.2)]).map (·.1)) ∧ ks'.Nodup) ↔
          ((∀ x ∈ key :: ks', x ∉ d.map (·.1)) ∧ (key :: ks').Nodup) := by
        rw [List.nodup_cons]
        constructor
        · rintro ⟨h3, h4⟩
          refine ⟨?_, fun hc => (h3 key hc) ((hmem key).2 (Or.inr rfl)), h4⟩
          intro x hx
          rcases List.mem_cons.1 hx with rfl | hx
          · exact hk
          · exact fun hc => h3 x hx ((hmem x).2 (Or.inl hc))
        · rintro ⟨h3, h4, h5⟩
          refine ⟨fun x hx hc => ?_, h5⟩
          rcases (hmem x).1 hc with hc | rfl
          · exact h3 x (List.mem_cons_of_mem _ hx) hc
          · exact h4 hx
      by_cases hc : (∀ x ∈ ks', x ∉ (d ++ [(key, p.2)]).map (·.1)) ∧ ks'.Nodup
      · rw [if_pos hc, if_pos (hequiv.1 hc)]
        simp [List.append_assoc]
      · rw [if_neg hc, if_neg fun h => hc (hequiv.2 h)]

theorem normDefault_keyed (env : Env) (kt : Str) (m : List (Str × VI)) :
    normDefault env kt false (.keyed m) = m.foldlM (normStep env kt) (.keyed []) := rfl

theorem normFold_fail (env : Env) (kt : Str) :
    ∀ (m : List (Str × VI)) (e : EFail) (d : Default), normKeys env kt m = .error e →
      ∃ e', m.foldlM (normStep env kt) d = .error e' := by
  intro m
  induction m with
  | nil => intro e d h; simp [normKeys, pure, Except.pure] at h
  | cons p m ih =>
    intro e d h
    rw [List.foldlM_cons]
    simp only [normKeys, List.mapM_cons] at h
    cases h1 : convDefaultKey env kt p.1 with
    | error e1 => exact ⟨e1, by simp only [normStep, h1, bind, Except.bind]⟩
    | ok key =>
      cases h2 : addDflt false d p.2 key with
      | error e2 => exact ⟨e2, by simp only [normStep, h1, h2, bind, Except.bind]⟩
      | ok d' =>
        have hm : normKeys env kt m = .error e := by
          cases h3 : normKeys env kt m with
          | error e3 =>
            simp only [normKeys] at h3
            simp only [h1, h3, bind, Except.bind, Except.error.injEq] at h
            rw [h]
          | ok ks =>
            simp only [normKeys] at h3
            simp only [h1, h3, bind, Except.bind, pure, Except.pure] at h
            cases h
        obtain ⟨e', he'⟩ := ih e d' hm
        exact ⟨e', by simp only [normStep, h1, h2, bind, Except.bind]; exact he'⟩

/-- **the defaults of a single-valued `+` key normalise** exactly when the key type accepts every key as written and no
two of them normalise to the same key; the result pairs the normalised keys with the values, in order -/
theorem normDefault_single_ok_iff (env : Env) (kt : Str) (m : List (Str × VI)) (d : Default) :
    normDefault env kt false (.keyed m) = .ok d ↔
      ∃ ks, normKeys env kt m = .ok ks ∧ ks.Nodup ∧ d = .keyed (ks.zip (m.map (·.2))) := by
  rw [normDefault_keyed]
  cases hks : normKeys env kt m with
  | error e =>
    obtain ⟨e', he'⟩ := normFold_fail env kt m e (.keyed []) hks
    rw [he']
    exact ⟨fun h => (nomatch h), fun ⟨_, h, _⟩ => (nomatch h)⟩
  | ok ks =>
    rw [normFold_single env kt m ks [] hks]
    by_cases hnd : ks.Nodup
    · rw [if_pos ⟨fun _ _ h => (nomatch h), hnd⟩, List.nil_append]
      exact ⟨fun h => ⟨ks, rfl, hnd, (Except.ok.inj h).symm⟩, fun ⟨ks', h1, _, h3⟩ => by cases h1; rw [h3]⟩
    · rw [if_neg fun h => hnd h.2]
      exact ⟨fun h => (nomatch h), fun ⟨ks', h1, h2, _⟩ => by cases h1; exact absurd h2 hnd⟩

theorem computeDefault_single (env : Env) (kt : Str) (k : EKey) (m : List (Str × VI)) (ks : List Str)
    (hn : k.name = ['+']) (hm : k.multi = false) (hraw : k.raw.getD k.dflt = .keyed m)
    (hks : normKeys env kt m = .ok ks) :
    (ks.Nodup → computeDefault env kt k =
        .ok { k with raw := some (.keyed m), dflt := .keyed (ks.zip (m.map (·.2))) }) ∧
    (¬ ks.Nodup → computeDefault env kt k = .error (.schema "duplicate default value for key")) := by
  rw [computeDefault_eq env kt k hn, hraw, hm]
  constructor
  · intro hnd
    rw [(normDefault_single_ok_iff env kt m _).2 ⟨ks, hks, hnd, rfl⟩]
    rfl
  · intro hnd
    rw [normDefault_keyed, normFold_single env kt m ks [] hks, if_neg fun h => hnd h.2]
    rfl

theorem computeDefault_single_ok {env : Env} {kt : Str} {k k' : EKey} {m : List (Str × VI)}
    (hn : k.name = ['+']) (hm : k.multi = false) (hraw : k.raw.getD k.dflt = .keyed m)
    (h : computeDefault env kt k = .ok k') :
    ∃ ks, normKeys env kt m = .ok ks ∧ ks.Nodup ∧
      k' = { k with raw := some (.keyed m), dflt := .keyed (ks.zip (m.map (·.2))) } := by
  rw [computeDefault_eq env kt k hn, hraw] at h
  cases hd : normDefault env kt k.multi (.keyed m) with
  | error e => rw [hd] at h; cases h
  | ok d =>
    rw [hd] at h
    rw [hm] at hd
    obtain ⟨ks, h1, h2, rfl⟩ := (normDefault_single_ok_iff env kt m d).1 hd
    cases h
    exact ⟨ks, h1, h2, rfl⟩

/-! ## 10. element nesting (stray text and the document element: `ElabRulesDoc.lean`) -/

theorem nestingCheck_eq (parent name : Str) :
    nestingCheck parent name =
      match Gen.allowedParents.find? (·.1 == name) with
      | none => .error (.schema "Unknown tag")
      | some (_, ps) => if ps.contains parent then .ok () else .error (.schema "elements may not be nested") := rfl

theorem nestingCheck_ok_iff_find (parent name : Str) :
    nestingCheck parent name = .ok () ↔
      ∃ ps, Gen.allowedParents.find? (·.1 == name) = some (name, ps) ∧ parent ∈ ps := by
  rw [nestingCheck_eq]
  cases hf : Gen.allowedParents.find? (·.1 == name) with
  | none => simp
  | some q =>
    obtain ⟨n, ps⟩ := q
    have hn := (find_fst_some _ _ _ hf).1
    simp only at hn; subst hn
    simp only
    by_cases hc : ps.contains parent = true
    · rw [if_pos hc]
      simp only [Option.some.injEq, Prod.mk.injEq, true_and, exists_eq_left', true_iff]
      simpa using hc
    · rw [if_neg hc]
      constructor
      · intro h; cases h
      · rintro ⟨ps', h1, h2⟩
        cases h1
        exact absurd (by simpa using h2) hc

theorem allowedParents_keys_nodup : (Gen.allowedParents.map (·.1)).Nodup := by decide +kernel

theorem find_of_mem_nodup {β} : ∀ (l : List (Str × β)) (n : Str) (b : β), (l.map (·.1)).Nodup → (n, b) ∈ l →
    l.find? (·.1 == n) = some (n, b) := by
  intro l
  induction l with
  | nil => intro n b _ h; cases h
  | cons a l ih =>
    intro n b hnd hm
    rw [List.map_cons, List.nodup_cons] at hnd
    rw [List.find?_cons]
    rcases List.mem_cons.1 hm with rfl | hm
    · simp
    · have : (a.1 == n) = false := by
        simp only [beq_eq_false_iff_ne, ne_eq]
        exact fun e => hnd.1 (e ▸ List.mem_map.2 ⟨(n, b), hm, rfl⟩)
      rw [this]
      exact ih n b hnd.2 hm

theorem nestingCheck_ok_iff (parent name : Str) :
    nestingCheck parent name = .ok () ↔ ∃ ps, (name, ps) ∈ Gen.allowedParents ∧ parent ∈ ps := by
  rw [nestingCheck_ok_iff_find]
  constructor
  · rintro ⟨ps, h1, h2⟩; exact ⟨ps, List.mem_of_find?_eq_some h1, h2⟩
  · rintro ⟨ps, h1, h2⟩; exact ⟨ps, find_of_mem_nodup _ _ _ allowedParents_keys_nodup h1, h2⟩

theorem nestingCheck_error {parent name : Str} {e : EFail} (h : nestingCheck parent name = .error e) : e.isSchema := by
  rw [nestingCheck_eq] at h
  split at h
  · cases h; trivial
  · split at h
    · cases h
    · cases h; trivial

/-! ## C11 d. a component is merged once -/

/-- the string under which an imported component is remembered -/
def importSource (pkg file : Str) : Str := "package:".toList ++ pkg ++ [':'] ++ file
/-- the `file` attribute, `component.xml` by default -/
def importFile (attrs : Attrs) : Str :=
  if (attrStrip attrs "file").isEmpty then "component.xml".toList else attrStrip attrs "file"

/-- `start_import` once the package name is resolved to `pkg'`: the component is looked up; one that is recorded already is
skipped; a new one is recorded first and then read through the hook -/
def importTail (env : Env) (h : Hooks) (st : PSt) (attrs : Attrs) (pkg' : Str) : EM PSt :=
  match env.comps pkg' (importFile attrs) with
  | .notImportable => .error (.schemaResource "could not load package")
  | .notPackage => .error (.schemaResource "import name does not refer to a package")
  | .noFile =>
    if st.es.components.contains (importSource pkg' (importFile attrs)) then .ok st
    else .error (.schemaResource "component file not found")
  | .doc tree =>
    if st.es.components.contains (importSource pkg' (importFile attrs)) then .ok st
    else (h.loadComponent { st.es with components := st.es.components ++ [importSource pkg' (importFile attrs)] } tree).map
          fun es2 => { st with es := es2 }

theorem startImport_eq (env : Env) (h : Hooks) (st : PSt) (attrs : Attrs) :
    startImport env h st attrs =
      if (attrStrip attrs "src").isEmpty && (attrStrip attrs "package").isEmpty then
        serr "import must specify either src or package"
      else if !(attrStrip attrs "src").isEmpty && !(attrStrip attrs "package").isEmpty then
        serr "import may only specify one of src or package"
      else if !(attrStrip attrs "src").isEmpty then
        (if !(attrStrip attrs "file").isEmpty then serr "import may not specify file and src"
         else .error (.internal "unmodelled: import src"))
      else if (attrStrip attrs "file").contains '/' then serr "file may not include a directory part"
      else getClassname st (attrStrip attrs "package") >>= fun pkg' =>
        if (splitOnChar pkg' '.').contains [] then serr "illegal schema component name"
        else importTail env h st attrs pkg' := by
  unfold startImport
  cases h1 : (attrStrip attrs "src").isEmpty <;> cases h2 : (attrStrip attrs "package").isEmpty
  · -- both given
    simp only [h1, h2, bind, Except.bind, Bool.false_eq_true, ↓reduceIte, Bool.not_false, Bool.and_self]
    rfl
  · -- `src` alone: not modelled
    simp only [h1, h2, bind, Except.bind, Bool.false_and, Bool.false_eq_true, ↓reduceIte, Bool.not_false, Bool.not_true,
      Bool.and_false]
    cases (attrStrip attrs "file").isEmpty <;> rfl
  · -- `package` alone
    simp only [h1, h2, bind, Except.bind, Bool.true_and, Bool.false_eq_true, ↓reduceIte, Bool.not_true, Bool.false_and]
    cases h3 : (attrStrip attrs "file").contains '/'
    · simp only [Bool.false_eq_true, ↓reduceIte]
      cases getClassname st (attrStrip attrs "package") with
      | error e => rfl
      | ok pkg' =>
        simp only
        cases h4 : (splitOnChar pkg' '.').contains []
        · simp only [Bool.false_eq_true, ↓reduceIte]
          unfold importTail importSource importFile
          cases env.comps pkg' (if (attrStrip attrs "file").isEmpty = true then "component.xml".toList else attrStrip attrs "file") with
          | notImportable => rfl
          | notPackage => rfl
          | noFile => rfl
          | doc tree =>
            simp only [pure, Except.pure]
            split
            · rfl
            · cases h.loadComponent _ tree <;> rfl
        · simp only [↓reduceIte]
          rfl
    · simp only [↓reduceIte]
      rfl
  · -- neither
    simp only [h1, h2, bind, Except.bind, Bool.and_self, ↓reduceIte]
    rfl

theorem startImport_package (env : Env) (h : Hooks) (st : PSt) (attrs : Attrs) (pkg' : Str)
    (hsrc : attrStrip attrs "src" = []) (hpkg : attrStrip attrs "package" ≠ [])
    (hfile : (attrStrip attrs "file").contains '/' = false)
    (hcls : getClassname st (attrStrip attrs "package") = .ok pkg')
    (hsplit : (splitOnChar pkg' '.').contains [] = false) :
    startImport env h st attrs =
      match env.comps pkg' (importFile attrs) with
      | .notImportable => .error (.schemaResource "could not load package")
      | .notPackage => .error (.schemaResource "import name does not refer to a package")
      | .noFile =>
        if st.es.components.contains (importSource pkg' (importFile attrs)) then .ok st
        else .error (.schemaResource "component file not found")
      | .doc tree =>
        if st.es.components.contains (importSource pkg' (importFile attrs)) then .ok st
        else (h.loadComponent { st.es with components := st.es.components ++ [importSource pkg' (importFile attrs)] } tree).map
              fun es2 => { st with es := es2 } := by
  have hpkg' : (attrStrip attrs "package").isEmpty = false := by
    cases hp : attrStrip attrs "package" with
    | nil => exact absurd hp hpkg
    | cons c cs => rfl
  rw [startImport_eq]
  simp only [hsrc, hpkg', hfile, hcls, hsplit, List.isEmpty_nil, Bool.and_false, Bool.false_eq_true, ↓reduceIte,
    Bool.not_true, Bool.and_true, Bool.not_false, bind, Except.bind]
  rfl

/-- already merged: nothing is read, nothing changes — whatever the hooks are -/
theorem startImport_once (env : Env) (h : Hooks) (st : PSt) (attrs : Attrs) (pkg' : Str)
    (hsrc : attrStrip attrs "src" = []) (hpkg : attrStrip attrs "package" ≠ [])
    (hfile : (attrStrip attrs "file").contains '/' = false)
    (hcls : getClassname st (attrStrip attrs "package") = .ok pkg')
    (hsplit : (splitOnChar pkg' '.').contains [] = false)
    (hres : env.comps pkg' (importFile attrs) = .noFile ∨ ∃ tree, env.comps pkg' (importFile attrs) = .doc tree)
    (hin : importSource pkg' (importFile attrs) ∈ st.es.components) :
    startImport env h st attrs = .ok st := by
  rw [startImport_package env h st attrs pkg' hsrc hpkg hfile hcls hsplit]
  have hc : st.es.components.contains (importSource pkg' (importFile attrs)) = true := by simpa using hin
  rcases hres with h1 | ⟨tree, h1⟩ <;> rw [h1] <;> simp only [hc, ↓reduceIte]

/-- not merged yet: the component is recorded first, and read with the record already in place -/
theorem startImport_first (env : Env) (h : Hooks) (st : PSt) (attrs : Attrs) (pkg' : Str) (tree : Node)
    (hsrc : attrStrip attrs "src" = []) (hpkg : attrStrip attrs "package" ≠ [])
    (hfile : (attrStrip attrs "file").contains '/' = false)
    (hcls : getClassname st (attrStrip attrs "package") = .ok pkg')
    (hsplit : (splitOnChar pkg' '.').contains [] = false)
    (hres : env.comps pkg' (importFile attrs) = .doc tree)
    (hin : importSource pkg' (importFile attrs) ∉ st.es.components) :
    startImport env h st attrs =
      (h.loadComponent { st.es with components := st.es.components ++ [importSource pkg' (importFile attrs)] } tree).map
        fun es2 => { st with es := es2 } := by
  rw [startImport_package env h st attrs pkg' hsrc hpkg hfile hcls hsplit, hres]
  have hc : st.es.components.contains (importSource pkg' (importFile attrs)) = false := by
    cases hcc : st.es.components.contains (importSource pkg' (importFile attrs)) with
    | false => rfl
    | true => exact absurd (by simpa using hcc) hin
  simp only [hc, Bool.false_eq_true, ↓reduceIte]

/-! ## `start_abstracttype` -/

theorem startAbstracttype_named (st : PSt) (attrs : Attrs) (v n : Str) (hv : attr attrs "name" = some v)
    (hn : basicKeyE v = .ok n) :
    startAbstracttype st attrs =
      (addType st.es n (.abstract_ n [] false)).map fun es => { st with es := es, stack := .atype n :: st.stack } := by
  unfold startAbstracttype
  rw [hv]
  cases v with
  | nil => rw [basicKeyE_nil] at hn; cases hn
  | cons c cs =>
    simp only [hn, bind, Except.bind, pure, Except.pure]
    cases addType st.es n (.abstract_ n [] false) <;> rfl

theorem startAbstracttype_noname (st : PSt) (attrs : Attrs) (h : (attr attrs "name").getD [] = []) :
    startAbstracttype st attrs = .error (.schema "abstracttype name must not be omitted or empty") := by
  unfold startAbstracttype
  cases ha : attr attrs "name" with
  | none => rfl
  | some v => rw [ha] at h; simp only [Option.getD_some] at h; subst h; rfl

theorem startAbstracttype_badname (st : PSt) (attrs : Attrs) (v : Str) (e : EFail) (hv : attr attrs "name" = some v)
    (hne : v ≠ []) (hn : basicKeyE v = .error e) : startAbstracttype st attrs = .error e := by
  unfold startAbstracttype
  rw [hv]
  cases v with
  | nil => exact absurd rfl hne
  | cons c cs => simp only [hn, bind, Except.bind]

theorem startAbstracttype_ok {st st' : PSt} {attrs : Attrs} (h : startAbstracttype st attrs = .ok st') :
    ∃ v n es, attr attrs "name" = some v ∧ basicKeyE v = .ok n ∧ addType st.es n (.abstract_ n [] false) = .ok es ∧
      st' = { st with es := es, stack := .atype n :: st.stack } := by
  unfold startAbstracttype at h
  split at h
  · rename_i c cs hv
    obtain ⟨n, hn, h⟩ := bind_ok_inv h
    obtain ⟨es, hes, h⟩ := bind_ok_inv h
    cases h
    exact ⟨_, n, es, hv, hn, hes, rfl⟩
  · cases h

theorem gettype_append_concrete (es : ES) (name m : Str) (t : EType) :
    ({ es with types := es.types ++ [(name, .concrete t)] } : ES).gettype m =
      match es.gettype m with
      | some p => some p
      | none => if name = lower m then some (name, .concrete t) else none := by
  simp only [ES.gettype, List.find?_append]
  cases es.types.find? (·.1 == lower m) with
  | some p => rfl
  | none =>
    simp only [Option.none_or, List.find?_cons]
    by_cases h : name = lower m
    · simp [h]
    · have : (name == lower m) = false := by simpa using h
      simp [this, h]

theorem mapM_append_error {ε α β} (f : α → Except ε β) (pre post : List α) (x : α) (r : List β) (e : ε)
    (hpre : pre.mapM f = .ok r) (hx : f x = .error e) : (pre ++ x :: post).mapM f = .error e := by
  induction pre generalizing r with
  | nil => simp only [List.nil_append, List.mapM_cons, hx, bind, Except.bind]
  | cons a pre ih =>
    obtain ⟨b, bs, h1, h2, _⟩ := mapM_ok_cons f a pre r hpre
    simp only [List.cons_append, List.mapM_cons, h1, bind, Except.bind, ih bs h2]

/-! ## datatype names: the registry lookup `regGet` -/

theorem regGet_eq (env : Env) (name : Str) :
    regGet env name =
      if name.contains '.' then
        match env.dotted name with
        | .found c => .ok c
        | .valueError => .error (.schema "datatype (registry ValueError)")
        | .raises e => .error (.internal e)
      else if DTSpec.isBasicKey name then
        if Gen.stockNames.contains (asciiLower name) then .ok (asciiLower name)
        else .error (.schema "unloadable datatype name")
      else .error (.schema "value did not match regular expression") := by
  unfold regGet
  rw [DT.basicKey_eq_spec]; unfold DTSpec.basicKey
  split
  · rfl
  · cases DTSpec.isBasicKey name <;> rfl

theorem regGet_stock (env : Env) (name : Str) (h1 : name.contains '.' = false) (h2 : DTSpec.isBasicKey name = true)
    (h3 : Gen.stockNames.contains (asciiLower name) = true) : regGet env name = .ok (asciiLower name) := by
  rw [regGet_eq, h1, h2, h3]; rfl

theorem regGet_basicKey (env : Env) : regGet env "basic-key".toList = .ok "basic-key".toList := by
  char_lits
  exact regGet_stock env _ (by decide) (by decide) (by decide +kernel)
theorem regGet_string (env : Env) : regGet env "string".toList = .ok "string".toList := by
  char_lits
  exact regGet_stock env _ (by decide) (by decide) (by decide +kernel)
theorem regGet_null (env : Env) : regGet env "null".toList = .ok "null".toList := by
  char_lits
  exact regGet_stock env _ (by decide) (by decide) (by decide +kernel)

/-! ## multi-valued wildcard keys: equal keys merge, nothing is refused -/

theorem addDflt_multi_ok (m : List (Str × List VI)) (vi : VI) (key : Str) :
    ∃ m', addDflt true (.keyedMany m) vi key = .ok (.keyedMany m') := by
  unfold addDflt
  simp only [↓reduceIte]
  split
  · exact ⟨_, rfl⟩
  · exact ⟨_, rfl⟩

theorem foldlM_ok_of_step {ε α β} (P : β → Prop) (f : β → α → Except ε β)
    (hf : ∀ b a, P b → ∃ b', f b a = .ok b' ∧ P b') :
    ∀ (l : List α) (init : β), P init → ∃ r, l.foldlM f init = .ok r ∧ P r := by
  intro l
  induction l with
  | nil => intro init hp; exact ⟨init, rfl, hp⟩
  | cons a l ih =>
    intro init hp
    obtain ⟨b', h1, h2⟩ := hf init a hp
    obtain ⟨r, h3, h4⟩ := ih b' h2
    exact ⟨r, by rw [List.foldlM_cons, h1]; exact h3, h4⟩

theorem foldlM_ok_of_step_mem {ε α β} (P : β → Prop) (f : β → α → Except ε β) :
    ∀ (l : List α) (init : β), (∀ b a, a ∈ l → P b → ∃ b', f b a = .ok b' ∧ P b') → P init →
      ∃ r, l.foldlM f init = .ok r ∧ P r := by
  intro l
  induction l with
  | nil => intro init _ hp; exact ⟨init, rfl, hp⟩
  | cons a l ih =>
    intro init hf hp
    obtain ⟨b', h1, h2⟩ := hf init a (by simp) hp
    obtain ⟨r, h3, h4⟩ := ih b' (fun b x hx => hf b x (List.mem_cons_of_mem _ hx)) h2
    exact ⟨r, by rw [List.foldlM_cons, h1]; exact h3, h4⟩

theorem foldlM_ok_step {ε α β} (f : β → α → Except ε β) :
    ∀ (l : List α) (init r : β), l.foldlM f init = .ok r → ∀ a ∈ l, ∃ b b', f b a = .ok b'
  | [], _, _, _, a, ha => nomatch ha
  | x :: l, init, r, h, a, ha => by
    rw [List.foldlM_cons] at h
    obtain ⟨b1, h1, h2⟩ := bind_ok_inv h
    rcases List.mem_cons.1 ha with rfl | ha
    · exact ⟨init, b1, h1⟩
    · exact foldlM_ok_step f l b1 r h2 a ha

/-- **the defaults of a multi-valued `+` key normalise** exactly when the key type accepts every key as written: defaults
whose keys coincide after normalisation are merged, not refused -/
theorem normDefault_multi_ok_iff (env : Env) (kt : Str) (m : List (Str × List VI)) :
    (∃ m', normDefault env kt true (.keyedMany m) = .ok (.keyedMany m')) ↔
      ∀ p ∈ m, ∃ key, convDefaultKey env kt p.1 = .ok key := by
  constructor
  · rintro ⟨m', h⟩ p hp
    obtain ⟨b, b', hstep⟩ := foldlM_ok_step _ m _ _ h p hp
    obtain ⟨key, hkey, _⟩ := bind_ok_inv hstep
    exact ⟨key, hkey⟩
  · intro hks
    -- the loop stays among the `keyedMany` defaults and never fails
    let P : Default → Prop := fun d => ∃ m', d = .keyedMany m'
    have hfold : ∃ d, normDefault env kt true (.keyedMany m) = .ok d ∧ P d := by
      refine foldlM_ok_of_step_mem P _ m (.keyedMany []) (fun d p hp hd => ?_) ⟨[], rfl⟩
      obtain ⟨key, hkey⟩ := hks p hp
      simp only [hkey, bind, Except.bind]
      refine foldlM_ok_of_step P _ ?_ p.2 d hd
      rintro d2 vi ⟨m2, rfl⟩
      obtain ⟨m3, h3⟩ := addDflt_multi_ok m2 vi key
      exact ⟨_, h3, m3, rfl⟩
    obtain ⟨d, h1, m', rfl⟩ := hfold
    exact ⟨m', h1⟩

/-! ## what the handlers leave alone: the keys of the type table and the component registry

Only `<abstracttype>` and `<sectiontype>` add a key to the type table (one, at the end), only `<import>` touches the
component registry; `<schema>` with `extends` reads the base schemas through the hooks. -/

/-- same keys in the type table, same component registry -/
def SameTable (a b : ES) : Prop := b.typeNames = a.typeNames ∧ b.components = a.components

theorem SameTable.refl (a : ES) : SameTable a a := ⟨rfl, rfl⟩

theorem SameTable.map (es : ES) (g : Str × EEntry → Str × EEntry) (hk : ∀ p, (g p).1 = p.1) :
    SameTable es { es with types := es.types.map g } := by
  refine ⟨?_, rfl⟩
  simp only [ES.typeNames, List.map_map]
  exact List.map_congr_left fun x _ => hk x

theorem setTopChildren_sameTable (st : PSt) (ch : List (Option Str × EInfo)) :
    SameTable st.es (setTopChildren st ch).es := by
  unfold setTopChildren
  split
  · exact ⟨rfl, rfl⟩
  · exact ⟨updType_typeNames _ _ _, rfl⟩
  · exact .refl _

theorem addChild_sameTable {st st' : PSt} {key : Option Str} {info : EInfo} (h : addChild st key info = .ok st') :
    SameTable st.es st'.es := by
  obtain ⟨ch, _, _, _, rfl⟩ := addChild_ok h
  exact setTopChildren_sameTable _ _

theorem pushChild_sameTable {st st' : PSt} {key : Option Str} {info : EInfo} {f : Frame}
    (h : pushChild st key info f = .ok st') : SameTable st.es st'.es := by
  obtain ⟨st1, h1, h⟩ := bind_ok_inv h
  cases h
  exact (addChild_sameTable h1 :)

theorem replaceLastChild_sameTable {st st' : PSt} {k : EKey} (h : replaceLastChild st k = .ok st') :
    SameTable st.es st'.es := by
  unfold replaceLastChild at h
  obtain ⟨ch, _, h⟩ := bind_ok_inv h
  split at h
  · cases h; exact setTopChildren_sameTable _ _
  · cases h

theorem popFrame_ok {st st' : PSt} (h : popFrame st = .ok st') : st' = { st with stack := st.stack.tail } := by
  unfold popFrame at h
  split at h
  · rename_i hs; cases h; rw [hs]; rfl
  · cases h

theorem startKey_sameTable {env : Env} {st st' : PSt} {attrs : Attrs} (h : startKey env st attrs = .ok st') :
    SameTable st.es st'.es := by
  rw [startKey_nf] at h
  obtain ⟨_, _, h⟩ := bind_ok_inv h
  exact pushChild_sameTable h

theorem startMultikey_sameTable {env : Env} {st st' : PSt} {attrs : Attrs} (h : startMultikey env st attrs = .ok st') :
    SameTable st.es st'.es := by
  rw [startMultikey_nf] at h
  obtain ⟨_, _, h⟩ := bind_ok_inv h
  exact pushChild_sameTable h

theorem startSection_ok {env : Env} {st st' : PSt} {attrs : Attrs} (h : startSection env st attrs = .ok st') :
    ∃ ty handler req anyName name attrName, getSectiontype st attrs = .ok ty ∧ getRequired attrs = .ok req ∧
      getNameInfo env st attrs (some ['*']) = .ok (anyName, name, attrName) ∧
      ¬ ((name == some ['*'] || name == some ['+']) = true) ∧
      pushChild st name (.sect ⟨(match anyName with | some a => a | none => name.getD []), attrName.getD [], false,
          if req then 1 else 0, ty, handler⟩) (.sect false false) = .ok st' := by
  unfold startSection at h
  obtain ⟨ty, h1, h⟩ := bind_ok_inv h
  obtain ⟨handler, _, h⟩ := bind_ok_inv h
  obtain ⟨req, h2, h⟩ := bind_ok_inv h
  obtain ⟨⟨anyName, name, attrName⟩, h3, h⟩ := bind_ok_inv h
  exact ⟨ty, handler, req, anyName, name, attrName, h1, h2, h3, guard_jp h⟩

theorem startMultisection_ok {env : Env} {st st' : PSt} {attrs : Attrs} (h : startMultisection env st attrs = .ok st') :
    ∃ ty handler req a name attrName, getSectiontype st attrs = .ok ty ∧ getRequired attrs = .ok req ∧
      getNameInfo env st attrs (some ['*']) = .ok (some a, name, attrName) ∧ Gen.multisectionNames.contains a = true ∧
      pushChild st name (.sect ⟨a, attrName.getD [], true, if req then 1 else 0, ty, handler⟩) (.sect false false) = .ok st' := by
  unfold startMultisection at h
  obtain ⟨ty, h1, h⟩ := bind_ok_inv h
  obtain ⟨req, h2, h⟩ := bind_ok_inv h
  obtain ⟨⟨anyName, name, attrName⟩, h3, h⟩ := bind_ok_inv h
  dsimp only at h
  split at h
  · rename_i a
    obtain ⟨hm, h⟩ := guard_jp h
    obtain ⟨handler, _, h⟩ := bind_ok_inv h
    exact ⟨ty, handler, req, a, name, attrName, h1, h2, h3, by simpa using hm, h⟩
  · cases h

theorem startSection_sameTable {env : Env} {st st' : PSt} {attrs : Attrs} (h : startSection env st attrs = .ok st') :
    SameTable st.es st'.es := by
  obtain ⟨_, _, _, _, _, _, _, _, _, _, h⟩ := startSection_ok h
  exact pushChild_sameTable h

theorem startMultisection_sameTable {env : Env} {st st' : PSt} {attrs : Attrs}
    (h : startMultisection env st attrs = .ok st') : SameTable st.es st'.es := by
  obtain ⟨_, _, _, _, _, _, _, _, _, _, h⟩ := startMultisection_ok h
  exact pushChild_sameTable h

theorem endKey_stack {env : Env} {st st' : PSt} (h : endKey env st = .ok st') : ∃ k rest, st.stack = .key k :: rest := by
  unfold endKey at h
  split at h
  · exact ⟨_, _, by assumption⟩
  · cases h

theorem endMultikey_stack {env : Env} {st st' : PSt} (h : endMultikey env st = .ok st') :
    ∃ k rest, st.stack = .key k :: rest := by
  unfold endMultikey at h
  split at h
  · exact ⟨_, _, by assumption⟩
  · cases h

theorem endKey_sameTable {env : Env} {st st' : PSt} (h : endKey env st = .ok st') : SameTable st.es st'.es := by
  obtain ⟨k, rest, hs⟩ := endKey_stack h
  rw [endKey_eq hs] at h
  obtain ⟨k', _, h⟩ := bind_ok_inv h
  exact (replaceLastChild_sameTable h :)

theorem endMultikey_sameTable {env : Env} {st st' : PSt} (h : endMultikey env st = .ok st') :
    SameTable st.es st'.es := by
  obtain ⟨k, rest, hs⟩ := endMultikey_stack h
  rw [endMultikey_eq hs] at h
  obtain ⟨k2, _, h⟩ := bind_ok_inv h
  exact (replaceLastChild_sameTable h :)

theorem endHandled_sameTable {env : Env} {t : Str} {st st' : PSt} (h : endHandled env t st = .ok st') :
    SameTable st.es st'.es := by
  rcases endHandled_ok h with ⟨_, rfl⟩ | ⟨_, h⟩ | ⟨_, h⟩ | ⟨_, h⟩ | ⟨_, h⟩ | ⟨_, h⟩ | ⟨_, h⟩
  · exact .refl _
  · rw [popFrame_ok h]; exact .refl _
  · rw [popFrame_ok h]; exact .refl _
  · exact endKey_sameTable h
  · exact endMultikey_sameTable h
  · rw [popFrame_ok h]; exact .refl _
  · rw [popFrame_ok h]; exact .refl _

/-- What `<description>` and `<example>` do to the parser state: they set a flag on the object the frame on top of the
stack stands for — the schema's top type, the concrete or abstract type `n` of the table, the key being read, the
section frame — or, for a description at the root of a component, nothing. -/
inductive FlagSet (st : PSt) : PSt → Prop
  | same : FlagSet st st
  | top (t : EType) (rest : List Frame) : st.stack = .schema :: rest → t.name = st.es.top.name →
      t.children = st.es.top.children → FlagSet st { st with es := { st.es with top := t } }
  | stype (n : Str) (rest : List Frame) (f : EType → EType) : st.stack = .stype n :: rest →
      (∀ t, (f t).name = t.name ∧ (f t).children = t.children ∧ (f t).keytype = t.keytype ∧ (f t).datatype = t.datatype) →
      FlagSet st { st with es := st.es.updType n f }
  | atype (n : Str) (rest : List Frame) : st.stack = .atype n :: rest →
      FlagSet st { st with es := { st.es with types := st.es.types.map fun (k, e) =>
        if k == n then (k, match e with | .abstract_ nm subs _ => .abstract_ nm subs true | o => o) else (k, e) } }
  | key (k : EKey) (d e : Bool) (rest : List Frame) : st.stack = .key k :: rest →
      FlagSet st { st with stack := .key { k with hasDesc := d, hasEx := e } :: rest }
  | sect (a b a' b' : Bool) (rest : List Frame) : st.stack = .sect a b :: rest →
      FlagSet st { st with stack := .sect a' b' :: rest }

theorem markDesc_flag {isC : Bool} {st st' : PSt} (h : markDesc isC st = .ok st') : FlagSet st st' := by
  unfold markDesc at h
  split at h
  · rcases ite_ok h with ⟨_, h⟩ | ⟨_, h⟩ <;> cases h
    exact .same
  · rename_i f rest hs
    cases f <;> dsimp only at h
    · rcases ite_ok h with ⟨_, h⟩ | ⟨_, h⟩ <;> cases h
      exact .top _ rest hs rfl rfl
    · split at h
      · rcases ite_ok h with ⟨_, h⟩ | ⟨_, h⟩ <;> cases h
        exact .stype _ rest _ hs fun _ => ⟨rfl, rfl, rfl, rfl⟩
      · cases h
    · split at h
      · rcases ite_ok h with ⟨_, h⟩ | ⟨_, h⟩ <;> cases h
        exact .atype _ rest hs
      · cases h
    · rcases ite_ok h with ⟨_, h⟩ | ⟨_, h⟩ <;> cases h
      exact .key _ _ _ rest hs
    · rcases ite_ok h with ⟨_, h⟩ | ⟨_, h⟩ <;> cases h
      exact .sect _ _ _ _ rest hs

theorem markExample_flag {st st' : PSt} (h : markExample st = .ok st') : FlagSet st st' := by
  unfold markExample at h
  split at h
  · cases h
  · rename_i f rest hs
    cases f <;> dsimp only at h
    · rcases ite_ok h with ⟨_, h⟩ | ⟨_, h⟩ <;> cases h
      exact .top _ rest hs rfl rfl
    · split at h
      · rcases ite_ok h with ⟨_, h⟩ | ⟨_, h⟩ <;> cases h
        exact .stype _ rest _ hs fun _ => ⟨rfl, rfl, rfl, rfl⟩
      · cases h
    · cases h
    · rcases ite_ok h with ⟨_, h⟩ | ⟨_, h⟩ <;> cases h
      exact .key _ _ _ rest hs
    · rcases ite_ok h with ⟨_, h⟩ | ⟨_, h⟩ <;> cases h
      exact .sect _ _ _ _ rest hs

theorem FlagSet.sameTable {st st' : PSt} (h : FlagSet st st') : SameTable st.es st'.es := by
  cases h with
  | same => exact .refl _
  | top => exact ⟨rfl, rfl⟩
  | stype => exact ⟨updType_typeNames _ _ _, rfl⟩
  | atype n => exact SameTable.map _ _ (descEntry_absOnly n).fst
  | key => exact .refl _
  | sect => exact .refl _

/-- what a character-data element does: a `<default>` adds a default to the optional key being read; `<description>`,
`<example>` set a flag (`FlagSet`); `<metadefault>` does nothing -/
theorem charactersTag_ok {isC : Bool} {t : Str} {a : Attrs} {data : Str} {st st' : PSt}
    (h : charactersTag isC t a data st = .ok st') :
    (∃ k rest k', st.stack = .key k :: rest ∧ k.minOccurs = 0 ∧ addDefault k data (attr a "key") = .ok k' ∧
        st' = { st with stack := .key k' :: rest }) ∨
    FlagSet st st' := by
  unfold charactersTag at h
  rcases ite_ok h with ⟨_, h⟩ | ⟨_, h⟩
  · split at h
    · rename_i k rest hs
      rcases ite_ok h with ⟨_, h⟩ | ⟨hm, h⟩
      · cases h
      · obtain ⟨k', hk', h⟩ := bind_ok_inv h
        cases h
        exact .inl ⟨k, rest, k', hs, by simpa using hm, hk', rfl⟩
    · cases h
    · cases h
  rcases ite_ok h with ⟨_, h⟩ | ⟨_, h⟩
  · exact .inr (markDesc_flag h)
  rcases ite_ok h with ⟨_, h⟩ | ⟨_, h⟩
  · exact .inr (markExample_flag h)
  rcases ite_ok h with ⟨_, h⟩ | ⟨_, h⟩ <;> cases h
  exact .inr .same

theorem charactersTag_sameTable {isC : Bool} {t : Str} {a : Attrs} {data : Str} {st st' : PSt}
    (h : charactersTag isC t a data st = .ok st') : SameTable st.es st'.es := by
  rcases charactersTag_ok h with ⟨_, _, _, _, _, _, rfl⟩ | hf
  · exact .refl _
  · exact hf.sameTable

/-- the end of `<schema>` leaves the schema state alone, except that a schema with a base forgets that a description was seen -/
theorem endSchema_es {ext : Bool} {st st' : PSt} (h : endSchema ext st = .ok st') :
    st'.es = st.es ∨ st'.es = { st.es with top := { st.es.top with hasDesc := false } } := by
  unfold endSchema at h
  split at h
  · split at h
    · cases h
      cases ext
      · exact .inl rfl
      · exact .inr rfl
    · cases h
  · cases h

theorem startImport_ok {env : Env} {h : Hooks} {st st' : PSt} {attrs : Attrs}
    (hs : startImport env h st attrs = .ok st') :
    st' = st ∨ ∃ pkg file tree es2, env.comps pkg file = .doc tree ∧
      h.loadComponent { st.es with components := st.es.components ++ [importSource pkg file] } tree = .ok es2 ∧
      st' = { st with es := es2 } := by
  rw [startImport_eq] at hs
  rcases ite_ok hs with ⟨_, hs⟩ | ⟨_, hs⟩
  · cases hs
  rcases ite_ok hs with ⟨_, hs⟩ | ⟨_, hs⟩
  · cases hs
  rcases ite_ok hs with ⟨_, hs⟩ | ⟨_, hs⟩
  · rcases ite_ok hs with ⟨_, hs⟩ | ⟨_, hs⟩ <;> cases hs
  rcases ite_ok hs with ⟨_, hs⟩ | ⟨_, hs⟩
  · cases hs
  obtain ⟨pkg', _, hs⟩ := bind_ok_inv hs
  rcases ite_ok hs with ⟨_, hs⟩ | ⟨_, hs⟩
  · cases hs
  unfold importTail at hs
  split at hs
  · cases hs
  · cases hs
  · rcases ite_ok hs with ⟨_, hs⟩ | ⟨_, hs⟩ <;> cases hs
    exact .inl rfl
  · rename_i tree hres
    rcases ite_ok hs with ⟨_, hs⟩ | ⟨_, hs⟩
    · cases hs; exact .inl rfl
    · cases hl : h.loadComponent { st.es with components := st.es.components ++ [importSource pkg' (importFile attrs)] } tree with
      | error e => rw [hl] at hs; cases hs
      | ok es2 => rw [hl] at hs; cases hs; exact .inr ⟨_, _, tree, es2, hres, hl, rfl⟩

/-- `start_schema` and the schema object: it starts as the extending schema's object (a base schema) or as a fresh one
with an empty type table, goes through the hook once for every base schema named by `extends`, and gets its key type
and datatype at the end.  So a property of schema objects that these steps keep holds when `start_schema` returns. -/
theorem startSchema_es {env : Env} {h : Hooks} {ext : Option ES} {st st' : PSt} {attrs : Attrs} {I : ES → Prop}
    (hs : startSchema env h ext st attrs = .ok st')
    (h0 : ∀ kt dt hdl, I (match ext with
      | some es => es
      | none => { types := [], top := { name := none, keytype := kt, datatype := dt }, handler := hdl, components := [] }))
    (hext : ∀ es src tree es', I es → env.bases src = some tree → h.extendSchema es tree = .ok es' → I es')
    (htop : ∀ es kt dt, I es → I { es with top := { es.top with keytype := kt, datatype := dt } }) : I st'.es := by
  unfold startSchema at hs
  obtain ⟨st1, _, hs⟩ := bind_ok_inv hs
  obtain ⟨hd, _, hs⟩ := bind_ok_inv hs
  obtain ⟨⟨kt, dt⟩, _, hs⟩ := bind_ok_inv hs
  dsimp only at hs
  split at hs
  · obtain ⟨st4, h4, hs⟩ := bind_ok_inv hs
    obtain ⟨k, _, hs⟩ := bind_ok_inv hs
    obtain ⟨d', _, hs⟩ := bind_ok_inv hs
    cases hs
    refine htop _ _ _ ((Ends.foldlM (I := fun acc : PSt => I acc.es) (Q := fun _ => True) (h0 _ _ _) fun b src _ hb =>
      Ends.intro (fun b' hstep => ?_) fun _ _ => trivial).of_ok h4)
    obtain ⟨_, hstep⟩ := guard_jp hstep
    split at hstep
    · cases hstep
    · rename_i tree htree
      obtain ⟨es', hes', hstep⟩ := bind_ok_inv hstep
      cases hstep
      exact hext _ _ _ _ hb htree hes'
  · cases hs
    exact htop _ _ _ (h0 _ _ _)

theorem startSchema_frame {env : Env} {h : Hooks} {ext : Option ES} {st st' : PSt} {attrs : Attrs}
    (hs : startSchema env h ext st attrs = .ok st') :
    st'.stack = [.schema] ∧ ∃ x, st'.prefixes = x :: st.prefixes := by
  unfold startSchema at hs
  obtain ⟨st1, h1, hs⟩ := bind_ok_inv hs
  obtain ⟨x, rfl⟩ := pushPrefix_ok h1
  obtain ⟨hd, _, hs⟩ := bind_ok_inv hs
  obtain ⟨⟨kt, dt⟩, _, hs⟩ := bind_ok_inv hs
  dsimp only at hs
  split at hs
  · obtain ⟨st4, h4, hs⟩ := bind_ok_inv hs
    obtain ⟨k, _, hs⟩ := bind_ok_inv hs
    obtain ⟨d', _, hs⟩ := bind_ok_inv hs
    cases hs
    show st4.stack = [.schema] ∧ ∃ x, st4.prefixes = x :: st.prefixes
    refine (Ends.foldlM (I := fun acc : PSt => acc.stack = [.schema] ∧ ∃ x, acc.prefixes = x :: st.prefixes)
      (Q := fun _ => True) ⟨rfl, x, rfl⟩ fun b src _ hb => Ends.intro (fun b' hstep => ?_) fun _ _ => trivial).of_ok h4
    obtain ⟨_, hstep⟩ := guard_jp hstep
    split at hstep
    · cases hstep
    · obtain ⟨es', _, hstep⟩ := bind_ok_inv hstep
      cases hstep
      exact hb
  · cases hs
    exact ⟨rfl, x, rfl⟩

theorem startHandled_table {env : Env} {h : Hooks} {t : Str} {a : Attrs} {st st' : PSt}
    (hs : startHandled env h t a st = .ok st') :
    startImport env h st a = .ok st' ∨
    (st'.es.components = st.es.components ∧
      (st'.es.typeNames = st.es.typeNames ∨ ∃ v n, basicKeyE v = .ok n ∧ st'.es.typeNames = st.es.typeNames ++ [n])) := by
  rcases startHandled_ok hs with ⟨_, hs⟩ | ⟨_, hs⟩ | ⟨_, hs⟩ | ⟨_, hs⟩ | ⟨_, hs⟩ | ⟨_, hs⟩ | ⟨_, hs⟩
  · exact .inl hs
  · right
    obtain ⟨_, n, es, _, hn, hes, rfl⟩ := startAbstracttype_ok hs
    obtain ⟨_, rfl⟩ := addType_ok hes
    exact ⟨rfl, .inr ⟨_, n, hn, by simp [ES.typeNames]⟩⟩
  · right
    obtain ⟨v, name, _, _, hb, _, hnames, _⟩ := startSectiontype_result hs
    refine ⟨?_, .inr ⟨v, name, hb, hnames⟩⟩
    obtain ⟨_, _, _, _, _, _, _, _, _, _, he⟩ := startSectiontype_table hs
    rw [he]
  · exact .inr ⟨(startKey_sameTable hs).2, .inl (startKey_sameTable hs).1⟩
  · exact .inr ⟨(startMultikey_sameTable hs).2, .inl (startMultikey_sameTable hs).1⟩
  · exact .inr ⟨(startSection_sameTable hs).2, .inl (startSection_sameTable hs).1⟩
  · exact .inr ⟨(startMultisection_sameTable hs).2, .inl (startMultisection_sameTable hs).1⟩

end ZCV.Elab
