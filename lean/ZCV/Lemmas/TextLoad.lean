import ZCV.Lemmas.OverrideEval
import ZCV.Spec.Tree
import ZCV.Lemmas.Lower
import ZCV.Lemmas.LoadSlot
/-!
`load` without overrides as parse + `loadFin`, `loadTree` as `runItems` + `treeFinB`, `treeOf` as parse + reading off the tree
builder's stack.  `tyCanon` — section types spelled as the schema stores them, the hypothesis of `loadTree_eq_denote` — over
`::` and `++`, and on a header whose type is lower-cased (`hdrOK_lower`).
-/
namespace ZCV.Conf
open ZCV ZCV.Cfg

def loadSt0 (conv : Conv) (pkgs : Str → Pkg) (schema : Schema) : LS :=
  { schema := schema, privateSchema := false, handlers := [], stack := [newMatcher schema.top none none],
    pkgs := pkgs, conv := conv }

theorem load_nil_eq (conv : Conv) (env : Env) (pkgs : Str → Pkg) (s : Schema) (url : Option Str) (lines : List Str) :
    load conv env pkgs s url lines [] =
      parseLines 64 env loaderCtx (activeOf url) url lines 0 { ctx := loadSt0 conv pkgs s, stack := [], defs := [] } >>=
        fun ps => loadFin conv s ps.ctx := rfl

theorem loadTree_eq (conv : Conv) (s : Schema) (items : List Item) :
    loadTree conv s items =
      runItems (loadSt0 conv (fun _ => .notImportable) s) items >>= treeFinB conv s := by
  unfold loadTree
  show (match runItems (loadSt0 conv (fun _ => .notImportable) s) items with
    | .error e => (.error e : M Val)
    | .ok st => treeFinB conv s st) = _
  cases runItems (loadSt0 conv (fun _ => .notImportable) s) items <;> rfl

/-- what `treeOf` makes of the final state of the parse -/
def tbFin (a : TB) : M (List Item) :=
  match a.stack with
  | [(_, _, items)] => pure items.reverse
  | _ => throw (.internal "IndexError")

theorem treeOf_eq (env : Env) (url : Option Str) (lines : List Str) :
    treeOf env url lines =
      parseLines 64 env treeCtx (activeOf url) url lines 0 { ctx := { stack := [([], none, [])] }, stack := [], defs := [] } >>=
        fun ps => tbFin ps.ctx := rfl

/-! ### section types in the tree are spelled as the schema stores them -/

/-- the header type `ty` is the stored name of the type it denotes -/
def hdrOK (s : Schema) (ty : Str) : Bool :=
  match s.gettype ty with
  | some (.concrete t) => t.name == some ty
  | some (.abstract_ n _) => n == ty
  | none => true

theorem tyCanon_cons (s : Schema) (i : Item) (l : List Item) : tyCanon s (i :: l) = (tyCanon s [i] && tyCanon s l) := by
  cases i with
  | kv k v p => simp [tyCanon]
  | sect ty nm items => simp [tyCanon]

theorem tyCanon_append (s : Schema) (a b : List Item) : tyCanon s (a ++ b) = (tyCanon s a && tyCanon s b) := by
  induction a with
  | nil => simp [tyCanon]
  | cons i a ih => rw [List.cons_append, tyCanon_cons, ih, tyCanon_cons s i a, Bool.and_assoc]

theorem tyCanon_nil (s : Schema) : tyCanon s [] = true := by rw [tyCanon]

theorem tyCanon_sect (s : Schema) (ty : Str) (nm : Option Str) (items r : List Item) :
    tyCanon s (.sect ty nm items :: r) = (hdrOK s ty && tyCanon s items && tyCanon s r) := by
  rw [tyCanon]; rfl

theorem hdrOK_lower (s : Schema) (hs : schemaOK s = true) (ty0 : Str) :
    hdrOK s (lower ty0) = true := by
  unfold hdrOK
  cases hg : s.gettype (lower ty0) with
  | none => rfl
  | some te =>
    cases te with
    | concrete t => simp only [(schemaOK_type s hs _ t hg).2, ZCV.lower_idem, beq_self_eq_true]
    | abstract_ n subs =>
      obtain ⟨n', hm, hn⟩ := gettype_mem s _ _ hg
      unfold schemaOK at hs
      simp only [Bool.and_eq_true, List.all_eq_true] at hs
      have := hs.2 _ hm
      rw [ZCV.lower_idem] at hn
      simpa [hn] using this

end ZCV.Conf
