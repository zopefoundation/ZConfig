import ZCV.Spec.Grammar
import ZCV.Lemmas.Chars
/-!
`lowerChar` (the one-to-one part of `str.lower`, driven by the generated table `Gen.lowerTbl`) either leaves a character
alone or maps it to a character that it leaves alone, that is a word character and is not `/` (`lowerChar_cases`).
Idempotence of `lower`, word characters staying word characters and "only `/` lower-cases to `/`" follow.
The table part is one finite check (`lowerTbl_ok`), re-done whenever the table is regenerated.  It runs over the
entries of the table (181), not over the code points they stand for (1406): per entry, that the interval of its images avoids the
characters excluded (`ivOk`); per pair of entries, that no image of the first is a code point of the second (`pairOk`: by
their intervals, by enumeration for the few pairs whose intervals meet), the second entry being taken by groups of 16 of
which a whole group is passed over when the interval around it (`box`) is apart from the images.
-/
namespace ZCV.LowerTbl
open ZCV

/-- what we need of a code point `m` that is the image of an upper-case character:
    a valid scalar value, itself unchanged by `lowerChar`, not whitespace, not a parenthesis, not `/` -/
def goodImage (m : Nat) : Bool :=
  (m < 55296 || (57343 < m && m < 1114112)) &&
  (if m < 128 then !(65 ≤ m && m ≤ 90) else uniLowerNat m == m) &&
  !Gen.spaceTbl.contains m && m != 40 && m != 41 && m != 47

/-- the members of the arithmetic progression an entry of `Gen.lowerTbl` stands for, mapped through its delta -/
def img (e : Nat × Nat × Nat × Int) (i : Nat) : Nat := (Int.ofNat (e.1 + i * e.2.2.1) + e.2.2.2).toNat
def entryImages (e : Nat × Nat × Nat × Int) : List Nat := (List.range e.2.1).map (img e)

/-- `n` is one of the code points the entry stands for -/
def inDom (e : Nat × Nat × Nat × Int) (n : Nat) : Bool :=
  e.1 ≤ n && n < e.1 + e.2.1 * e.2.2.1 && (n - e.1) % e.2.2.1 == 0

/-- the images of an entry lie in one interval of valid scalar values that avoids whitespace, `(`, `)`, `/`
    and the ASCII capitals -/
def ivOk (e : Nat × Nat × Nat × Int) : Bool :=
  let lo := img e 0
  let hi := img e (e.2.1 - 1)
  (hi < 55296 || (57343 < lo && hi < 1114112)) &&
  (Gen.spaceTbl ++ [40, 41, 47]).all (fun x => x < lo || hi < x) &&
  (hi < 65 || 90 < lo)

/-- no image of `e` is a code point `e'` stands for: the intervals are apart, or (rarely) by enumeration.
    Written with `Nat.blt`/`Nat.ble`: the kernel evaluates these primitives directly but reaches `decide (· < ·)` only
    through `Nat.decLt`. -/
def pairOk (e e' : Nat × Nat × Nat × Int) : Bool :=
  (Nat.blt (img e (e.2.1 - 1)) e'.1 || Nat.ble (e'.1 + e'.2.1 * e'.2.2.1) (img e 0)) ||
    (entryImages e).all (fun m => !inDom e' m)

/-- the list cut into groups of 16 consecutive entries (`k` bounds the number of groups) -/
def groups : Nat → List (Nat × Nat × Nat × Int) → List (List (Nat × Nat × Nat × Int))
  | 0, _ => []
  | _, [] => []
  | k + 1, e :: l => (e :: l.take 15) :: groups k (l.drop 15)

theorem mem_groups : ∀ (k : Nat) (l : List (Nat × Nat × Nat × Int)), l.length ≤ k → ∀ x ∈ l, ∃ g ∈ groups k l, x ∈ g := by
  intro k
  induction k with
  | zero => intro l hl x hx; rw [List.eq_nil_of_length_eq_zero (Nat.le_zero.mp hl)] at hx; cases hx
  | succ k ih =>
    intro l hl x hx
    cases l with
    | nil => cases hx
    | cons e l =>
      rw [groups]
      rcases List.mem_cons.mp hx with rfl | hx
      · exact ⟨_, List.mem_cons_self, List.mem_cons_self⟩
      · rw [← List.take_append_drop 15 l, List.mem_append] at hx
        rcases hx with hx | hx
        · exact ⟨_, List.mem_cons_self, List.mem_cons_of_mem _ hx⟩
        · have hd : (l.drop 15).length ≤ k := by rw [List.length_drop]; simp only [List.length_cons] at hl; omega
          obtain ⟨g, hg, hxg⟩ := ih _ hd x hx
          exact ⟨g, List.mem_cons_of_mem _ hg, hxg⟩

/-- an interval that holds the code points of every entry of the group -/
def box (g : List (Nat × Nat × Nat × Int)) : Nat × Nat :=
  g.foldr (fun e b => (Nat.min e.1 b.1, Nat.max (e.1 + e.2.1 * e.2.2.1) b.2)) (1114112, 0)

theorem box_spec (g : List (Nat × Nat × Nat × Int)) (x : Nat × Nat × Nat × Int) (hx : x ∈ g) :
    (box g).1 ≤ x.1 ∧ x.1 + x.2.1 * x.2.2.1 ≤ (box g).2 := by
  induction g with
  | nil => cases hx
  | cons e g ih =>
    rcases List.mem_cons.mp hx with rfl | hx
    · exact ⟨Nat.min_le_left _ _, Nat.le_max_left _ _⟩
    · exact ⟨Nat.le_trans (Nat.min_le_right _ _) (ih hx).1, Nat.le_trans (ih hx).2 (Nat.le_max_right _ _)⟩

def lowerTblOk : Bool :=
  let gs := (groups Gen.lowerTbl.length Gen.lowerTbl).map fun g => (box g, g)
  Gen.lowerTbl.all fun e => ivOk e &&
    gs.all fun bg => (Nat.blt (img e (e.2.1 - 1)) bg.1.1 || Nat.ble bg.1.2 (img e 0)) || bg.2.all (pairOk e)

theorem lowerTbl_ok : lowerTblOk = true := by decide +kernel

theorem lowerTbl_pairs (e : Nat × Nat × Nat × Int) (he : e ∈ Gen.lowerTbl) :
    ivOk e = true ∧ ∀ e' ∈ Gen.lowerTbl, pairOk e e' = true := by
  have h := lowerTbl_ok
  simp only [lowerTblOk, List.all_eq_true, Bool.and_eq_true, List.mem_map, forall_exists_index, and_imp,
    forall_apply_eq_imp_iff₂] at h
  refine ⟨(h e he).1, fun e' he' => ?_⟩
  obtain ⟨g, hg, hx⟩ := mem_groups _ _ (Nat.le_refl _) e' he'
  have hb := box_spec g e' hx
  have := (h e he).2 g hg
  simp only [Bool.or_eq_true, List.all_eq_true, Nat.blt_eq, Nat.ble_eq] at this
  rcases this with (h1 | h1) | h1
  · simp only [pairOk, Bool.or_eq_true, Nat.blt_eq]
    exact .inl (.inl (Nat.lt_of_lt_of_le h1 hb.1))
  · simp only [pairOk, Bool.or_eq_true, Nat.ble_eq]
    exact .inl (.inr (Nat.le_trans hb.2 h1))
  · exact h1 e' hx

theorem img_mono (e : Nat × Nat × Nat × Int) (i j : Nat) (h : i ≤ j) : img e i ≤ img e j := by
  unfold img
  have : i * e.2.2.1 ≤ j * e.2.2.1 := Nat.mul_le_mul_right _ h
  generalize i * e.2.2.1 = x at this
  generalize j * e.2.2.1 = y at this
  simp only [Int.ofNat_eq_natCast]
  omega

theorem uniLower_cases (n : Nat) : uniLowerNat n = n ∨ goodImage (uniLowerNat n) = true := by
  unfold uniLowerNat
  split
  · rename_i e he
    right
    have hmem := List.mem_of_find?_eq_some he
    have hp := List.find?_some he
    obtain ⟨hiv, hpairs⟩ := lowerTbl_pairs e hmem
    simp only [Bool.and_eq_true, decide_eq_true_eq, beq_iff_eq] at hp
    obtain ⟨⟨ha, hb⟩, hc⟩ := hp
    have hs : 0 < e.2.2.1 := by
      rcases Nat.eq_zero_or_pos e.2.2.1 with h0 | h0
      · rw [h0] at hb; omega
      · exact h0
    -- the index of `n` in the progression
    have hidx : (n - e.1) / e.2.2.1 < e.2.1 := by
      apply (Nat.div_lt_iff_lt_mul hs).2
      omega
    have himg : (Int.ofNat n + e.2.2.2).toNat = img e ((n - e.1) / e.2.2.1) := by
      unfold img
      have : (n - e.1) / e.2.2.1 * e.2.2.1 = n - e.1 := Nat.div_mul_cancel (Nat.dvd_of_mod_eq_zero hc)
      rw [this]
      have : e.1 + (n - e.1) = n := by omega
      rw [this]
    rw [himg]
    generalize hi : (n - e.1) / e.2.2.1 = i at hidx
    have hlo : img e 0 ≤ img e i := img_mono e 0 i (Nat.zero_le _)
    have hhi : img e i ≤ img e (e.2.1 - 1) := img_mono e i _ (by omega)
    have hmemI : img e i ∈ entryImages e := by
      unfold entryImages
      exact List.mem_map.2 ⟨i, List.mem_range.2 hidx, rfl⟩
    generalize img e i = m at *
    unfold ivOk at hiv
    simp only [Bool.and_eq_true, Bool.or_eq_true, decide_eq_true_eq, List.all_eq_true] at hiv
    obtain ⟨⟨hv, hav⟩, hup⟩ := hiv
    unfold goodImage
    have hfix : uniLowerNat m = m := by
      unfold uniLowerNat
      have : Gen.lowerTbl.find? (fun e => decide (e.1 ≤ m) && decide (m < e.1 + e.2.1 * e.2.2.1) && (m - e.1) % e.2.2.1 == 0) = none := by
        rw [List.find?_eq_none]
        intro e' he'
        have hp := hpairs e' he'
        unfold pairOk at hp
        simp only [Bool.or_eq_true, Nat.blt_eq, Nat.ble_eq, List.all_eq_true, Bool.not_eq_true'] at hp
        rcases hp with (hp | hp) | hp
        · simp only [Bool.and_eq_true, decide_eq_true_eq, beq_iff_eq, not_and]
          intro h1 _; omega
        · simp only [Bool.and_eq_true, decide_eq_true_eq, beq_iff_eq, not_and]
          intro _ h2; omega
        · have := hp m hmemI
          unfold inDom at this
          rw [this]; simp
      rw [this]
    have hx : ∀ x ∈ Gen.spaceTbl ++ [40, 41, 47], x ≠ m := by
      intro x hx
      have := hav x hx
      omega
    have hsp : Gen.spaceTbl.contains m = false := by
      rw [Bool.eq_false_iff]
      intro hc
      rw [List.contains_iff_mem] at hc
      exact hx m (List.mem_append_left _ hc) rfl
    have h40 : m ≠ 40 := fun h => hx 40 (by simp) h.symm
    have h41 : m ≠ 41 := fun h => hx 41 (by simp) h.symm
    have h47 : m ≠ 47 := fun h => hx 47 (by simp) h.symm
    simp only [Bool.and_eq_true, Bool.or_eq_true, decide_eq_true_eq, hsp, Bool.not_false, bne_iff_ne, ne_eq,
      h40, h41, h47, not_false_eq_true, and_true]
    refine ⟨by omega, ?_⟩
    by_cases h128 : m < 128
    · simp only [h128, ↓reduceIte, Bool.not_eq_eq_eq_not, Bool.not_true, Bool.and_eq_false_imp, decide_eq_true_eq,
        decide_eq_false_iff_not]
      omega
    · simp only [h128, ↓reduceIte, beq_iff_eq]
      exact hfix
  · left; rfl

end ZCV.LowerTbl

namespace ZCV
open LowerTbl

def Settled (d : Char) : Prop := lowerChar d = d ∧ Grammar.isWord d = true ∧ d ≠ '/'

theorem settled_of_good (m : Nat) (h : goodImage m = true) : Settled (Char.ofNat m) := by
  unfold goodImage at h
  simp only [Bool.and_eq_true, Bool.or_eq_true, decide_eq_true_eq, Bool.not_eq_true', bne_iff_ne, ne_eq] at h
  obtain ⟨⟨⟨⟨⟨hv, hl⟩, hsp⟩, h40⟩, h41⟩, h47⟩ := h
  have hn := toNat_ofNat_valid m hv
  refine ⟨?_, ?_, ?_⟩
  · unfold lowerChar
    rw [hn]
    by_cases h128 : m < 128
    · simp only [h128, ↓reduceIte] at hl ⊢
      apply char_ext
      rw [asciiLowerChar_toNat, hn]
      split
      · simp at hl; omega
      · rfl
    · simp only [h128, ↓reduceIte, beq_iff_eq] at hl ⊢
      rw [hl]
  · unfold Grammar.isWord pySpace
    rw [hn, hsp]
    simp only [Bool.not_false, cne, hn, Char.reduceToNat, Bool.true_and, Bool.and_eq_true, bne_iff_ne, ne_eq]
    exact ⟨h40, h41⟩
  · intro e
    have := congrArg Char.toNat e
    rw [hn] at this
    exact h47 this

theorem lowerChar_cases (c : Char) : lowerChar c = c ∨ Settled (lowerChar c) := by
  unfold lowerChar
  by_cases h128 : c.toNat < 128
  · simp only [h128, ↓reduceIte]
    by_cases hr : 65 ≤ c.toNat ∧ c.toNat ≤ 90
    · right
      have e : asciiLowerChar c = Char.ofNat (c.toNat + 32) := by
        apply char_ext; rw [asciiLowerChar_toNat, if_pos hr, toNat_ofNat_valid _ (.inl (by omega))]
      rw [e]
      apply settled_of_good
      have hall : ∀ n ∈ List.range' 65 26, goodImage (n + 32) = true := by decide
      exact hall _ (by simp only [List.mem_range'_1]; omega)
    · left; apply char_ext; rw [asciiLowerChar_toNat, if_neg hr]
  · simp only [h128, ↓reduceIte]
    rcases uniLower_cases c.toNat with h | h
    · left; rw [h, Char.ofNat_toNat]
    · right; exact settled_of_good _ h

theorem lowerChar_idem (c : Char) : lowerChar (lowerChar c) = lowerChar c := by
  rcases lowerChar_cases c with h | h
  · rw [h, h]
  · exact h.1

theorem lowerChar_isWord (c : Char) (h : Grammar.isWord c = true) : Grammar.isWord (lowerChar c) = true := by
  rcases lowerChar_cases c with e | e
  · rw [e]; exact h
  · exact e.2.1

theorem lowerChar_ne_slash (c : Char) (h : c ≠ '/') : lowerChar c ≠ '/' := by
  rcases lowerChar_cases c with e | e
  · rw [e]; exact h
  · exact e.2.2

theorem lower_idem (s : Str) : lower (lower s) = lower s := by
  unfold lower
  rw [List.map_map]
  apply List.map_congr_left
  intro c _
  exact lowerChar_idem c

theorem lower_all_isWord (s : Str) (h : s.all Grammar.isWord = true) : (lower s).all Grammar.isWord = true := by
  unfold lower
  rw [List.all_map]
  rw [List.all_eq_true] at h ⊢
  intro c hc
  exact lowerChar_isWord c (h c hc)

end ZCV
