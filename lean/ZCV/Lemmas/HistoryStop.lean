import ZCV.Lemmas.HistoryShare
import ZCV.Lemmas.Ends
/-!
C13, histories on the application's schema object (`runHistoryApp`): where a load stops (`stepStop` / `linesStop` / `loadStop`).
When the lines go through, the schema `linesStop` reports is the loader's schema and no component broke off
(`linesStop_run_ok`, `loadStop_ok`).  An invariant principle (`StopInv`, `linesStop_inv`): a predicate that holds for "nothing
happened", for one `importSchemaComponent` and is kept by "then", holds for every load – successful or not, any include depth.
Two instances: `Traced` (the private schema descends from the start schema by the recorded `addsubtype` calls) and `Sourced` (the
recorded calls are exactly the calls of the components read completely, followed by a front part of the calls of the component
that broke off).  Then whole loads: `load` from `loadInit` (`load_eq_init`), `loadStop` of a load that goes through, and loads
without `%import`, which keep the schema they start from (`load_without_import_keeps_schema`, `runHistory_without_import`).
-/
namespace ZCV.Cfg
open ZCV ZCV.Conf

theorem linesStop_nil (fuel : Nat) (env : Env) (active : List Str) (url : Option Str) (n : Nat) (st : PS LS) :
    linesStop fuel env active url [] n st = Stop.here st.ctx.schema := by rw [linesStop]

theorem linesStop_cons (fuel : Nat) (env : Env) (active : List Str) (url : Option Str) (l : Str) (rest : List Str)
    (n : Nat) (st : PS LS) :
    linesStop fuel env active url (l :: rest) n st =
      match stepLine fuel env loaderCtx active url (n + 1) (strip l) st with
      | .ok st' =>
        (stepStop fuel env active url (n + 1) (strip l) st).andThen (linesStop fuel env active url rest (n + 1) st')
      | .error _ => stepStop fuel env active url (n + 1) (strip l) st := by rw [linesStop]; rfl

/-- the `%import` arm -/
def impStop (env : Env) (url : Option Str) (line : Nat) (arg : Str) (st : PS LS) : Stop :=
  match replace env st.defs url line (strip arg) with
  | .ok pkg => importStop st.ctx pkg
  | .error _ => Stop.here st.ctx.schema

/-- the `%include` arm -/
def incStop (fuel : Nat) (env : Env) (active : List Str) (url : Option Str) (line : Nat) (arg : Str) (st : PS LS) : Stop :=
  match replace env st.defs url line (strip arg) with
  | .error _ => Stop.here st.ctx.schema
  | .ok a =>
    match env.resolve url a with
    | .url u =>
      match env.res u with
      | some lines =>
        if u != [] && active.contains u then Stop.here st.ctx.schema
        else match fuel with
          | 0 => Stop.here st.ctx.schema
          | fuel' + 1 => linesStop fuel' env (u :: active) (some u) lines 0 { ctx := st.ctx, stack := [], defs := st.defs }
      | none => Stop.here st.ctx.schema
    | _ => Stop.here st.ctx.schema

theorem stepStop_import (fuel : Nat) (env : Env) (active : List Str) (url : Option Str) (line : Nat) (l arg : Str)
    (st : PS LS) (h : lineShape l = .import_ arg) :
    stepStop fuel env active url line l st = impStop env url line arg st := by
  rw [stepStop]
  simp only [h]
  rfl

theorem stepStop_include (fuel : Nat) (env : Env) (active : List Str) (url : Option Str) (line : Nat) (l arg : Str)
    (st : PS LS) (h : lineShape l = .include_ arg) :
    stepStop fuel env active url line l st = incStop fuel env active url line arg st := by
  rw [stepStop]
  simp only [h]
  rfl

theorem stepStop_other (fuel : Nat) (env : Env) (active : List Str) (url : Option Str) (line : Nat) (l : Str)
    (st : PS LS) (h1 : ∀ a, lineShape l ≠ .import_ a) (h2 : ∀ a, lineShape l ≠ .include_ a) :
    stepStop fuel env active url line l st = Stop.here st.ctx.schema := by
  rw [stepStop]
  split
  · rename_i a h; exact absurd h (h1 a)
  · rename_i a h; exact absurd h (h2 a)
  · rfl

/-! ### one component (the model's `compRegs`, `typeRegs` are `compCalls` and its filter: the first two lemmas read that) -/

theorem compRegs_cons (te : Str × TypeEntry) (rest : List (Str × TypeEntry)) (impls : List (Str × Str)) :
    compRegs (te :: rest) impls = typeRegs impls te.1 ++ compRegs rest impls := compCalls_cons te rest impls

theorem mem_compRegs (types : List (Str × TypeEntry)) (impls : List (Str × Str)) (ia : Str × Str) :
    ia ∈ compRegs types impls ↔ ia ∈ impls ∧ ia.1 ∈ types.map (·.1) := mem_compCalls types impls ia

theorem compStop_nil (impls : List (Str × Str)) (sc : Schema) : compStop impls [] sc = (sc, [], true) := rfl

theorem compStop_cons_ok (impls : List (Str × Str)) (te : Str × TypeEntry) (rest : List (Str × TypeEntry))
    (sc sc1 : Schema) (h : addStep impls sc te = .ok sc1) :
    compStop impls (te :: rest) sc =
      ((compStop impls rest sc1).1, typeRegs impls te.1 ++ (compStop impls rest sc1).2.1, (compStop impls rest sc1).2.2) := by
  simp only [compStop, h]

theorem compStop_cons_error (impls : List (Str × Str)) (te : Str × TypeEntry) (rest : List (Str × TypeEntry))
    (sc : Schema) (f : Fail) (h : addStep impls sc te = .error f) :
    compStop impls (te :: rest) sc = (sc, [], false) := by
  simp only [compStop, h]

theorem compStop_fold (impls : List (Str × Str)) : ∀ (types : List (Str × TypeEntry)) (sc : Schema),
    Ends (types.foldlM (addStep impls) sc) (fun sc' => compStop impls types sc = (sc', compRegs types impls, true))
      (fun _ => (compStop impls types sc).2.2 = false)
  | [], _ => rfl
  | te :: rest, sc => by
    rw [List.foldlM_cons]
    cases h1 : addStep impls sc te with
    | error g => rw [compStop_cons_error impls te rest sc g h1]; rfl
    | ok sc1 =>
      rw [compStop_cons_ok impls te rest sc sc1 h1]
      exact (compStop_fold impls rest sc1).weaken fun sc' h => by rw [h, compRegs_cons]

theorem compStop_error (impls : List (Str × Str)) : ∀ (types : List (Str × TypeEntry)) (sc : Schema) (f : Fail),
    types.foldlM (addStep impls) sc = .error f → (compStop impls types sc).2.2 = false :=
  fun types sc _ h => (compStop_fold impls types sc).of_error h

theorem compStop_eq (impls : List (Str × Str)) : ∀ (types : List (Str × TypeEntry)) (sc : Schema), ∃ pre, pre <+: types ∧
    (compStop impls types sc).1 = sc.withComponent pre impls ∧ (compStop impls types sc).2.1 = compRegs pre impls ∧
      ((compStop impls types sc).2.2 = true → pre = types) := by
  intro types
  induction types with
  | nil => intro sc; exact ⟨[], List.prefix_refl _, (withComponent_nil sc impls).symm, rfl, fun _ => rfl⟩
  | cons te rest ih =>
    intro sc
    cases h1 : addStep impls sc te with
    | error g =>
      rw [compStop_cons_error impls te rest sc g h1]
      exact ⟨[], List.nil_prefix, (withComponent_nil sc impls).symm, rfl, fun h => by cases h⟩
    | ok sc1 =>
      rw [compStop_cons_ok impls te rest sc sc1 h1]
      obtain ⟨pre, hp, e1, e2, e3⟩ := ih sc1
      rw [addStep_eq] at h1
      split at h1
      · cases h1
      · cases h1
        refine ⟨te :: pre, (List.cons_prefix_cons).mpr ⟨rfl, hp⟩, ?_, ?_, fun h => by rw [e3 h]⟩
        · rw [e1, withComponent_cons]
        · rw [e2, compRegs_cons]

theorem compStop_regs (impls : List (Str × Str)) (types : List (Str × TypeEntry)) (sc : Schema) :
    (compStop impls types sc).2.1 <+: compRegs types impls ∧
      ((compStop impls types sc).2.2 = true → (compStop impls types sc).2.1 = compRegs types impls) := by
  obtain ⟨pre, ⟨t, rfl⟩, _, e2, e3⟩ := compStop_eq impls types sc
  rw [e2]
  refine ⟨?_, fun h => by rw [← e3 h]⟩
  unfold compRegs
  rw [List.flatMap_append]
  exact List.prefix_append _ _

theorem compStop_traced (impls : List (Str × Str)) (types : List (Str × TypeEntry)) (sc : Schema) :
    (∃ new, (compStop impls types sc).1.types = sc.types.map (regEntries (compStop impls types sc).2.1) ++ new) ∧
      (compStop impls types sc).1.top = sc.top ∧ (compStop impls types sc).1.handler = sc.handler := by
  obtain ⟨pre, _, e1, e2, _⟩ := compStop_eq impls types sc
  rw [e1, e2]
  exact ⟨⟨_, rfl⟩, rfl, rfl⟩

/-! ### one `importSchemaComponent` -/

theorem importStop_ok (st st1 : LS) (pkg : Str) (h : lsImport st pkg = .ok st1) :
    (importStop st pkg).schema = st1.schema ∧ (importStop st pkg).broken = none := by
  obtain ⟨url, types, impls, hp⟩ := lsImport_ok_component st st1 pkg h
  unfold importStop
  rw [lsImport_component st pkg url types impls hp] at h
  simp only [hp]
  split at h
  · rename_i hc
    cases h
    simp only [hc, if_true, Stop.here, and_self]
  · rename_i hc
    obtain ⟨sch, h1, rfl⟩ := map_ok_inv h
    simp only [hc, Bool.false_eq_true, if_false, (compStop_fold impls types _).of_ok h1, if_true, and_self]

theorem importStop_traced (st : LS) (pkg : Str) : Traced st.schema (importStop st pkg) := by
  unfold importStop
  cases hp : st.pkgs pkg with
  | component url types impls =>
    simp only
    split
    · exact Traced.here _
    · have := compStop_traced impls types { st.schema with components := st.schema.components ++ [url] }
      split
      · exact this
      · exact this
  | _ => exact Traced.here _

/-! ### agreement with the loader -/

theorem line_cases (l : Str) :
    (∃ a, lineShape (strip l) = .import_ a) ∨ (∃ a, lineShape (strip l) = .include_ a) ∨ PlainLine l := by
  cases hs : lineShape (strip l) with
  | import_ a => exact .inl ⟨a, rfl⟩
  | include_ a => exact .inr (.inl ⟨a, rfl⟩)
  | _ => exact .inr (.inr ⟨fun a h => (by rw [hs] at h; cases h), fun a h => (by rw [hs] at h; cases h)⟩)

theorem stepStop_plain (fuel : Nat) (env : Env) (active : List Str) (url : Option Str) (line : Nat) (l : Str)
    (st : PS LS) (hl : PlainLine l) : stepStop fuel env active url line (strip l) st = Stop.here st.ctx.schema :=
  stepStop_other _ _ _ _ _ _ _ hl.1 hl.2

theorem linesStop_run_ok (env : Env) (fuel : Nat) (active : List Str) (url : Option Str) :
    ∀ (lines : List Str) (n : Nat) (st st' : PS LS), runLines fuel env loaderCtx active url lines n st = .ok st' →
      (linesStop fuel env active url lines n st).schema = st'.ctx.schema ∧
        (linesStop fuel env active url lines n st).broken = none := by
  intro lines
  induction lines with
  | nil => intro n st st' h; cases h; rw [linesStop_nil]; exact ⟨rfl, rfl⟩
  | cons l rest ihl =>
    intro n st st' h
    simp only [runLines] at h
    obtain ⟨s1, h1, h2⟩ := bind_ok_inv h
    rw [linesStop_cons]
    simp only [h1]
    exact ihl _ _ _ h2

theorem linesStop_parse_ok (env : Env) (fuel : Nat) (active : List Str) (url : Option Str) (lines : List Str) (n : Nat)
    (st st' : PS LS) (h : parseLines fuel env loaderCtx active url lines n st = .ok st') :
    (linesStop fuel env active url lines n st).schema = st'.ctx.schema ∧
      (linesStop fuel env active url lines n st).broken = none := by
  rw [parseLines_eq_run] at h
  obtain ⟨s1, h1, h2⟩ := bind_ok_inv h
  rw [(finish_inv h2).1]
  exact linesStop_run_ok env fuel active url lines n st s1 h1

theorem stepStop_ok (env : Env) (fuel : Nat) (active : List Str) (url : Option Str) (line : Nat) (l : Str)
    (st st' : PS LS) (h : stepLine fuel env loaderCtx active url line (strip l) st = .ok st') :
    (stepStop fuel env active url line (strip l) st).schema = st'.ctx.schema ∧
      (stepStop fuel env active url line (strip l) st).broken = none := by
  rcases line_cases l with ⟨a, hs⟩ | ⟨a, hs⟩ | hl
  · rw [stepStop_import _ _ _ _ _ _ _ _ hs]
    unfold impStop
    cases stepLine_ok h with
    | import_ hs' hr hi => cases hs.symm.trans hs'; rw [hr]; exact importStop_ok _ _ _ hi
    | skip hs' | close hs' | open_ hs' | empty hs' | kv hs' | define hs' | include_ hs' => cases hs.symm.trans hs'
  · rw [stepStop_include _ _ _ _ _ _ _ _ hs]
    unfold incStop
    cases stepLine_ok h with
    | include_ hs' hr _ hres hlines hact hf hsub =>
      cases hs.symm.trans hs'
      subst hf
      rw [hr]
      simp only [hres, hlines, not_active hact, Bool.false_eq_true, if_false]
      exact linesStop_parse_ok env _ _ _ _ _ _ _ hsub
    | skip hs' | close hs' | open_ hs' | empty hs' | kv hs' | define hs' | import_ hs' => cases hs.symm.trans hs'
  · rw [stepStop_plain _ _ _ _ _ _ _ hl]
    exact ⟨(step_rel opsRel_schema env PlainLine (fun _ a hl hs => absurd hs (hl.1 a)) (fun _ a hl hs => absurd hs (hl.2 a))
      fuel active url line l st st' hl h).symm, rfl⟩

theorem Stop.andThen_here {x : Stop} {sc : Schema} (hs : x.schema = sc) (hb : x.broken = none) :
    x.andThen (Stop.here sc) = x := by
  cases x
  simp only at hs hb
  subst hs hb
  simp [Stop.andThen, Stop.here]

theorem linesStop_import_line {fuel : Nat} {env : Env} {active : List Str} {url : Option Str} {n : Nat} {l a pkg : Str}
    {st : PS LS} (hs : lineShape (strip l) = .import_ a) (hr : replace env st.defs url (n + 1) (strip a) = .ok pkg) :
    linesStop fuel env active url [l] n st = importStop st.ctx pkg := by
  have hstop : stepStop fuel env active url (n + 1) (strip l) st = importStop st.ctx pkg := by
    rw [stepStop_import _ _ _ _ _ _ _ _ hs]; unfold impStop; rw [hr]
  rw [linesStop_cons, hstop]
  cases hstep : stepLine fuel env loaderCtx active url (n + 1) (strip l) st with
  | error e => rfl
  | ok st' =>
    obtain ⟨h1, h2⟩ := stepStop_ok env fuel active url (n + 1) l st st' hstep
    rw [hstop] at h1 h2
    simp only [linesStop_nil]
    exact Stop.andThen_here h1 h2

theorem stepLine_pkgs (env : Env) (fuel : Nat) (active : List Str) (url : Option Str) (line : Nat) (l : Str)
    (st st' : PS LS) (h : stepLine fuel env loaderCtx active url line (strip l) st = .ok st') :
    st'.ctx.pkgs = st.ctx.pkgs :=
  (step_rel opsRel_grows env (fun _ => True) (fun _ _ _ _ s pkg s' hi => lsImport_grows s s' pkg hi)
    (fun _ _ _ _ _ _ _ _ _ => trivial) fuel active url line l st st' trivial h).1

/-! ### the invariant principle -/

/-- what a predicate on (start schema, stop) must satisfy to hold for every load -/
structure StopInv (pkgs : Str → Pkg) (P : Schema → Stop → Prop) : Prop where
  here : ∀ sc, P sc (Stop.here sc)
  imp : ∀ (st : LS) (pkg : Str), st.pkgs = pkgs → P st.schema (importStop st pkg)
  seq : ∀ sc x y, P sc x → x.broken = none → P x.schema y → P sc (x.andThen y)

section inv
variable {pkgs : Str → Pkg} {P : Schema → Stop → Prop}

theorem stepStop_inv_aux (H : StopInv pkgs P) (env : Env) (fuel : Nat)
    (ih : ∀ f, fuel = f + 1 → ∀ (active : List Str) (url : Option Str) (lines : List Str) (n : Nat) (st : PS LS),
      st.ctx.pkgs = pkgs → P st.ctx.schema (linesStop f env active url lines n st))
    (active : List Str) (url : Option Str) (line : Nat) (l : Str) (st : PS LS) (hp : st.ctx.pkgs = pkgs) :
    P st.ctx.schema (stepStop fuel env active url line (strip l) st) := by
  rcases line_cases l with ⟨a, hs⟩ | ⟨a, hs⟩ | hl
  · rw [stepStop_import _ _ _ _ _ _ _ _ hs]
    unfold impStop
    split
    · exact H.imp _ _ hp
    · exact H.here _
  · rw [stepStop_include _ _ _ _ _ _ _ _ hs]
    unfold incStop
    split
    · exact H.here _
    · split
      · split
        · split
          · exact H.here _
          · split
            · exact H.here _
            · exact ih _ rfl _ _ _ _ { ctx := st.ctx, stack := [], defs := st.defs } hp
        · exact H.here _
      · exact H.here _
  · rw [stepStop_plain _ _ _ _ _ _ _ hl]
    exact H.here _

theorem linesStop_inv_of_step (H : StopInv pkgs P) (env : Env) (fuel : Nat)
    (hstep : ∀ (active : List Str) (url : Option Str) (line : Nat) (l : Str) (st : PS LS), st.ctx.pkgs = pkgs →
      P st.ctx.schema (stepStop fuel env active url line (strip l) st))
    (active : List Str) (url : Option Str) :
    ∀ (lines : List Str) (n : Nat) (st : PS LS), st.ctx.pkgs = pkgs →
      P st.ctx.schema (linesStop fuel env active url lines n st) := by
  intro lines
  induction lines with
  | nil => intro n st _; rw [linesStop_nil]; exact H.here _
  | cons l rest ihl =>
    intro n st hp
    rw [linesStop_cons]
    cases h1 : stepLine fuel env loaderCtx active url (n + 1) (strip l) st with
    | error e => exact hstep _ _ _ _ _ hp
    | ok st' =>
      simp only
      obtain ⟨hsch, hbr⟩ := stepStop_ok env fuel active url (n + 1) l st st' h1
      have hp' : st'.ctx.pkgs = pkgs := (stepLine_pkgs env fuel active url (n + 1) l st st' h1).trans hp
      refine H.seq _ _ _ (hstep _ _ _ _ _ hp) hbr ?_
      rw [hsch]
      exact ihl _ _ hp'

theorem linesStop_inv (H : StopInv pkgs P) (env : Env) : ∀ (fuel : Nat) (active : List Str) (url : Option Str)
    (lines : List Str) (n : Nat) (st : PS LS), st.ctx.pkgs = pkgs →
      P st.ctx.schema (linesStop fuel env active url lines n st) := by
  intro fuel
  induction fuel with
  | zero =>
    exact linesStop_inv_of_step H env 0 (stepStop_inv_aux H env 0 (fun f hf => by omega))
  | succ f ihf =>
    refine linesStop_inv_of_step H env (f + 1) (stepStop_inv_aux H env (f + 1) ?_)
    intro f' hf
    have : f = f' := by omega
    subst this
    exact ihf

end inv

/-! ### instance 1: the private schema descends from the start schema by the recorded calls -/

theorem stopInv_traced (pkgs : Str → Pkg) : StopInv pkgs Traced :=
  ⟨Traced.here, fun st pkg _ => importStop_traced st pkg, fun _ _ _ hx _ hy => hx.andThen hy⟩

/-! ### instance 2: the recorded calls are those of the components read, in order -/

/-- the calls recorded are all the calls of the components read to their end, in order, followed by a front part of the
    calls of the component that broke off (if one did) -/
def Sourced (pkgs : Str → Pkg) (x : Stop) : Prop :=
  ∃ part, x.regs = x.imports.flatMap (fun p => pkgRegs (pkgs p)) ++ part ∧
    match x.broken with
    | none => part = []
    | some b => part <+: pkgRegs (pkgs b)

theorem Sourced.here (pkgs : Str → Pkg) (sc : Schema) : Sourced pkgs (Stop.here sc) := ⟨[], rfl, rfl⟩

theorem importStop_sourced (st : LS) (pkg : Str) : Sourced st.pkgs (importStop st pkg) := by
  unfold importStop
  cases hp : st.pkgs pkg with
  | component url types impls =>
    simp only
    split
    · exact Sourced.here _ _
    · obtain ⟨h1, h2⟩ := compStop_regs impls types { st.schema with components := st.schema.components ++ [url] }
      split
      · rename_i hc
        refine ⟨[], ?_, rfl⟩
        simp only [List.flatMap_cons, List.flatMap_nil, List.append_nil, hp, pkgRegs]
        exact h2 hc
      · refine ⟨(compStop impls types { st.schema with components := st.schema.components ++ [url] }).2.1, ?_, ?_⟩
        · simp only [List.flatMap_nil, List.nil_append]
        · simp only [hp, pkgRegs]
          exact h1
  | _ => exact Sourced.here _ _

theorem stopInv_sourced (pkgs : Str → Pkg) : StopInv pkgs (fun _ x => Sourced pkgs x) := by
  refine ⟨fun sc => Sourced.here pkgs sc, fun st pkg hp => by rw [← hp]; exact importStop_sourced st pkg, ?_⟩
  intro _ x y hx hb hy
  obtain ⟨px, hx1, hx2⟩ := hx
  obtain ⟨py, hy1, hy2⟩ := hy
  rw [hb] at hx2
  simp only at hx2
  subst hx2
  refine ⟨py, ?_, hy2⟩
  simp only [Stop.andThen, hx1, hy1, List.append_nil, List.flatMap_append, List.append_assoc]

/-! ### whole loads -/

theorem loadInit_ok (conv : Conv) (pkgs : Str → Pkg) (schema : Schema) (specs : List Str) (ps0 : PS LS)
    (h : loadInit conv pkgs schema specs = .ok ps0) : ps0.ctx.schema = schema ∧ ps0.ctx.pkgs = pkgs := by
  unfold loadInit at h
  obtain ⟨overrides, _, h⟩ := bind_ok_inv h
  obtain ⟨bag, _, h⟩ := bind_ok_inv h
  cases h
  exact ⟨rfl, rfl⟩

theorem load_eq_init (conv : Conv) (env : Env) (pkgs : Str → Pkg) (s : Schema) (url : Option Str) (lines specs : List Str) :
    load conv env pkgs s url lines specs =
      loadInit conv pkgs s specs >>= fun ps0 =>
        parseLines 64 env loaderCtx (activeOf url) url lines 0 ps0 >>= fun ps => Conf.loadFin conv s ps.ctx := by
  rw [Conf.load_ov_eq]
  unfold loadInit
  simp only [bind_assoc]
  rfl

theorem loadFin_schemaAfter (conv : Conv) (s : Schema) (ps : PS LS) (r : LoadResult) (h : Conf.loadFin conv s ps.ctx = .ok r) :
    r.schemaAfter = ps.ctx.schema := by
  unfold Conf.loadFin at h
  split at h
  · obtain ⟨⟨v, hs⟩, _, h⟩ := bind_ok_inv h
    dsimp only at h
    split at h
    · cases h
      rfl
    · cases h
  · cases h

theorem load_ok_init (conv : Conv) (env : Env) (pkgs : Str → Pkg) (schema : Schema) (url : Option Str)
    (lines specs : List Str) (r : LoadResult) (h : load conv env pkgs schema url lines specs = .ok r) :
    ∃ (ps0 ps : PS LS), loadInit conv pkgs schema specs = .ok ps0 ∧
      parseLines 64 env loaderCtx (activeOf url) url lines 0 ps0 = .ok ps ∧ r.schemaAfter = ps.ctx.schema := by
  rw [load_eq_init] at h
  obtain ⟨ps0, h0, h⟩ := bind_ok_inv h
  obtain ⟨ps, hp, hf⟩ := bind_ok_inv h
  exact ⟨ps0, ps, h0, hp, loadFin_schemaAfter conv schema ps r hf⟩

/-! ### import-free loads -/

theorem load_without_import_keeps_schema (conv : Conv) (env : Env) (pkgs : Str → Pkg) (s : Schema) (url : Option Str)
    (lines specs : List Str) (r : LoadResult)
    (hres : ∀ u ls, env.res u = some ls → ∀ l ∈ ls, NoImportLine l) (hl : ∀ l ∈ lines, NoImportLine l)
    (h : load conv env pkgs s url lines specs = .ok r) : r.schemaAfter = s := by
  obtain ⟨ps0, ps, h0, hp, hr⟩ := load_ok_init conv env pkgs s url lines specs r h
  rw [hr, parse_without_import_keeps_schema env hres _ _ _ _ _ _ _ hl hp, (loadInit_ok conv pkgs s specs ps0 h0).1]

theorem runHistory_cons (conv : Conv) (env : Env) (pkgs : Str → Pkg) (s : Schema) (q : LoadReq) (rest : List LoadReq) :
    runHistory conv env pkgs s (q :: rest) =
      (load conv env pkgs s q.url q.lines q.specs ::
        (runHistory conv env pkgs (match load conv env pkgs s q.url q.lines q.specs with
          | .ok x => x.schemaAfter | .error _ => s) rest).1,
       (runHistory conv env pkgs (match load conv env pkgs s q.url q.lines q.specs with
          | .ok x => x.schemaAfter | .error _ => s) rest).2) := rfl

theorem runHistory_without_import (conv : Conv) (env : Env) (pkgs : Str → Pkg)
    (hres : ∀ u ls, env.res u = some ls → ∀ l ∈ ls, NoImportLine l) (s : Schema) :
    ∀ (hist : List LoadReq), (∀ q ∈ hist, ∀ l ∈ q.lines, NoImportLine l) →
      runHistory conv env pkgs s hist = (hist.map fun q => load conv env pkgs s q.url q.lines q.specs, s) := by
  intro hist
  induction hist with
  | nil => intro _; rfl
  | cons q rest ih =>
    intro hq
    have hs' : (match load conv env pkgs s q.url q.lines q.specs with
        | .ok x => x.schemaAfter | .error _ => s) = s := by
      cases hr : load conv env pkgs s q.url q.lines q.specs with
      | error e => rfl
      | ok r => exact load_without_import_keeps_schema conv env pkgs s _ _ _ r hres (hq q List.mem_cons_self) hr
    rw [runHistory_cons, hs', ih (fun q' h' => hq q' (List.mem_cons_of_mem _ h'))]
    rfl

theorem loadStop_ok (conv : Conv) (env : Env) (pkgs : Str → Pkg) (schema : Schema) (url : Option Str)
    (lines specs : List Str) (r : LoadResult) (h : load conv env pkgs schema url lines specs = .ok r) :
    (loadStop conv env pkgs schema url lines specs).schema = r.schemaAfter ∧
      (loadStop conv env pkgs schema url lines specs).broken = none := by
  obtain ⟨ps0, ps, h0, hp, hr⟩ := load_ok_init conv env pkgs schema url lines specs r h
  unfold loadStop
  rw [h0, hr]
  exact linesStop_parse_ok env 64 _ _ _ _ _ _ hp

theorem loadStop_import_line (conv : Conv) (env : Env) (pkgs : Str → Pkg) (s : Schema) (url : Option Str) {l a pkg : Str}
    (hs : lineShape (strip l) = .import_ a) (h : strip a = pkg ∧ '$' ∉ pkg) :
    loadStop conv env pkgs s url [l] [] =
      importStop { schema := s, privateSchema := false, handlers := [], stack := [newMatcher s.top none none],
                   pkgs := pkgs, conv := conv } pkg :=
  linesStop_import_line hs (replace_closed h)

theorem loadStop_inv {pkgs : Str → Pkg} {P : Schema → Stop → Prop} (H : StopInv pkgs P) (conv : Conv) (env : Env)
    (schema : Schema) (url : Option Str) (lines specs : List Str) :
    P schema (loadStop conv env pkgs schema url lines specs) := by
  unfold loadStop
  cases h0 : loadInit conv pkgs schema specs with
  | error e => exact H.here _
  | ok ps0 =>
    obtain ⟨hs, hp⟩ := loadInit_ok conv pkgs schema specs ps0 h0
    have := linesStop_inv H env 64 (activeOf url) url lines 0 ps0 hp
    rw [hs] at this
    exact this

theorem loadStop_traced (conv : Conv) (env : Env) (pkgs : Str → Pkg) (schema : Schema) (url : Option Str)
    (lines specs : List Str) : Traced schema (loadStop conv env pkgs schema url lines specs) :=
  loadStop_inv (stopInv_traced pkgs) conv env schema url lines specs

theorem loadStop_sourced (conv : Conv) (env : Env) (pkgs : Str → Pkg) (schema : Schema) (url : Option Str)
    (lines specs : List Str) : Sourced pkgs (loadStop conv env pkgs schema url lines specs) :=
  loadStop_inv (stopInv_sourced pkgs) conv env schema url lines specs

end ZCV.Cfg
