import ZCV.Lemmas.ElabCompleteMember
/-!
C10: type declarations.  The type table of the loader corresponds (`TypesRel`) to the signature `Γ` of the specification.
An `<abstracttype>` element is accepted exactly when it obeys the rules, and then extends the table by the entry the
specification predicts (`abstracttypeElem`); the start tag of a `<sectiontype>` likewise (`startSectiontype_accepts`, from
its `extends` and `implements` steps).  The container on top of the stack — the section type being read, or the top-level
container of a schema — is a slot of the schema state (`OpenAt`); its children, member elements and notes
(`<description>`, `<example>`: `isNoteTag`), are read one at a time (`containerChild`), its body by `typeBody`.
-/
namespace ZCV.SchemaRules
open ZCV ZCV.Elab
open ZCV.Cfg (VI SectInfo Default)

/-! ### signature vs. type table -/

/-- an entry of the signature describes an entry of the type table: both abstract, or both concrete with the same key
type and corresponding members -/
def EntryRel : TySig → EEntry → Prop
  | .abstract, .abstract_ _ _ _ => True
  | .concrete kt ms, .concrete t => t.keytype = kt ∧ Pointwise MemberRel ms t.children
  | _, _ => False

/-- the signature describes the type table: same names in the same order, entries related by `EntryRel` -/
def TypesRel (Γ : Ctx) (ts : List (Str × EEntry)) : Prop :=
  Pointwise (fun (g : Str × TySig) (t : Str × EEntry) => g.1 = t.1 ∧ EntryRel g.2 t.2) Γ ts

theorem TypesRel.names {Γ : Ctx} {ts : List (Str × EEntry)} (h : TypesRel Γ ts) : Γ.names = ts.map (·.1) :=
  Pointwise.map_eq (fun _ _ h => h.1) h

theorem TypesRel.find {Γ : Ctx} {ts : List (Str × EEntry)} (h : TypesRel Γ ts) (n : Str) :
    (Γ.find? (·.1 == n) = none ∧ ts.find? (·.1 == n) = none) ∨
    (∃ sig e, Γ.find? (·.1 == n) = some (n, sig) ∧ ts.find? (·.1 == n) = some (n, e) ∧ EntryRel sig e) := by
  induction h with
  | nil => exact Or.inl ⟨rfl, rfl⟩
  | @cons g t l l' hgt _ ih =>
    obtain ⟨gn, gs⟩ := g
    obtain ⟨tn, te⟩ := t
    obtain ⟨h1, h2⟩ := hgt
    simp only at h1 h2
    subst h1
    by_cases hk : gn = n
    · subst hk
      right
      exact ⟨gs, te, by simp, by simp, h2⟩
    · have : (gn == n) = false := by simpa using hk
      simp only [List.find?_cons, this]
      exact ih

theorem TypesRel.lookup {Γ : Ctx} {ts : List (Str × EEntry)} (h : TypesRel Γ ts) {n : Str} {sig : TySig}
    (hl : Γ.lookup n = some sig) : ∃ e, ts.find? (·.1 == n) = some (n, e) ∧ EntryRel sig e := by
  unfold Ctx.lookup at hl
  rcases h.find n with ⟨h1, _⟩ | ⟨sig', e, h1, h2, h3⟩
  · rw [h1] at hl; cases hl
  · rw [h1] at hl
    simp only [Option.map_some, Option.some.injEq] at hl
    subst hl
    exact ⟨e, h2, h3⟩

theorem TypesRel.snoc {Γ : Ctx} {ts : List (Str × EEntry)} (h : TypesRel Γ ts) {n : Str} {sig : TySig} {e : EEntry}
    (he : EntryRel sig e) : TypesRel (Γ ++ [(n, sig)]) (ts ++ [(n, e)]) :=
  Pointwise.snoc h ⟨rfl, he⟩

theorem TypesRel.map_abstract {Γ : Ctx} {ts : List (Str × EEntry)} (h : TypesRel Γ ts) (f : Str × EEntry → Str × EEntry)
    (hf : ∀ p, (f p).1 = p.1 ∧ ((∀ t, p.2 = .concrete t → (f p).2 = .concrete t) ∧
      (∀ a b c, p.2 = .abstract_ a b c → ∃ a' b' c', (f p).2 = .abstract_ a' b' c'))) :
    TypesRel Γ (ts.map f) := by
  induction h with
  | nil => exact .nil
  | @cons g t l l' hgt _ ih =>
    refine .cons ⟨by rw [(hf t).1]; exact hgt.1, ?_⟩ ih
    obtain ⟨_, hc, ha⟩ := hf t
    have hrel := hgt.2
    cases hg : g.2 with
    | abstract =>
      rw [hg] at hrel
      cases ht : t.2 with
      | concrete t0 => rw [ht] at hrel; exact hrel.elim
      | abstract_ a b c =>
        obtain ⟨a', b', c', e⟩ := ha a b c ht
        rw [e]; trivial
    | concrete kt ms =>
      rw [hg] at hrel
      cases ht : t.2 with
      | concrete t0 => rw [hc t0 ht]; rw [ht] at hrel; exact hrel
      | abstract_ a b c => rw [ht] at hrel; exact hrel.elim

theorem TypesRel.absOnly {Γ : Ctx} {ts : List (Str × EEntry)} (h : TypesRel Γ ts) {g} (hg : AbsOnly g) : TypesRel Γ (ts.map g) :=
  h.map_abstract g fun p => ⟨hg.fst p, fun t ht => by obtain ⟨k, e⟩ := p; cases ht; rw [hg.conc],
    fun a b c ht => by obtain ⟨k, e⟩ := p; cases ht; obtain ⟨b', c', e⟩ := hg.abs k a b c; exact ⟨a, b', c', by rw [e]⟩⟩

/-! ### two steps shared by the type declarations -/

theorem basicKeyE_accepts (v : Str) : Accepts (basicKeyE v) (DTSpec.isBasicKey v = true) (· = asciiLower v) := by
  rw [basicKeyE_eq]
  by_cases h : DTSpec.isBasicKey v = true
  · rw [if_pos h]; exact .ok h rfl
  · rw [if_neg h]; exact .error h

theorem addType_accepts (es : ES) (n : Str) (e : EEntry) :
    Accepts (addType es n e) (n ∉ es.typeNames) (· = { es with types := es.types ++ [(n, e)] }) := by
  rw [addType_eq]
  by_cases h : n ∈ es.typeNames
  · rw [if_pos h]; exact .error fun hn => hn h
  · rw [if_neg h]; exact .ok h rfl

/-! ### `<abstracttype>` -/

theorem map_append_fresh {β} (pre : List (Str × β)) (y : Str × β) (f : Str × β → Str × β)
    (hf : ∀ x ∈ pre, f x = x) : (pre ++ [y]).map f = pre ++ [f y] := by
  rw [List.map_append, List.map_cons, List.map_nil]
  congr 1
  conv => rhs; rw [← List.map_id pre]
  exact List.map_congr_left hf

theorem abstractParent_description : ChildrenAll (· = "description".toList) "abstracttype".toList :=
  childrenAll_of_pk (pkOfB_abstracttype false) fun t ck hmem hc =>
    (ckTable_notes _ hmem).1 (by cases ck <;> first | rfl | cases hc)

theorem charactersTag_description (isC : Bool) (a : Attrs) (data : Str) (st : PSt) :
    charactersTag isC "description".toList a data st = markDesc isC st := by
  unfold charactersTag
  have h1 : ("description".toList == "default".toList) = false := by char_lits; decide +kernel
  simp only [h1, Bool.false_eq_true, ↓reduceIte, beq_self_eq_true]

theorem charactersTag_example (isC : Bool) (a : Attrs) (data : Str) (st : PSt) :
    charactersTag isC "example".toList a data st = markExample st := by
  unfold charactersTag
  have h1 : ("example".toList == "default".toList) = false := by char_lits; decide +kernel
  have h2 : ("example".toList == "description".toList) = false := by char_lits; decide +kernel
  simp only [h1, h2, Bool.false_eq_true, ↓reduceIte, beq_self_eq_true]

theorem noteTag_cdata {t : Str} (h : isNoteTag t = true) : Gen.cdataTags.contains t = true := by
  rcases isNoteTag_cases h with h | h
  · rw [h]; exact cdata_description
  · rw [h]; exact cdata_example

theorem cdataElem {env : Env} {h : Hooks} {d : DocKind} {parent : Str} {st : PSt} {tg : Str} {a : Attrs} {c0 : List Node}
    {P : Prop} {Q : PSt → Prop} (hc : Gen.cdataTags.contains tg = true) (hn : nestingOK parent tg = true)
    (hch : Accepts (charactersTag (isComp d) tg a (strip (textOf c0)) st) P Q) :
    Accepts (visitElem env h d (some parent) st (.elem tg a c0)) (c0.all isText = true ∧ P) Q := by
  obtain ⟨h1, h2⟩ := cdataTag_dispatch d hc
  rw [visitElem_cdata_eq (nestingOK_check hn) h1 h2 hc]
  exact (collectText_accepts tg c0).bind_eq fun _ => hch

theorem markDesc_abstract {isC : Bool} {st : PSt} {n nm : Str} {subs : List Str} {pre : List (Str × EEntry)}
    {rest : List Frame} {d : Bool} (hfresh : n ∉ pre.map (·.1)) (hs : st.stack = .atype n :: rest)
    (ht : st.es.types = pre ++ [(n, .abstract_ nm subs d)]) :
    markDesc isC st =
      if (d && !isC) = true then serr "at most one <description> may be used for each element"
      else .ok { st with es := { st.es with types := pre ++ [(n, .abstract_ nm subs true)] } } := by
  have hfind : st.es.types.find? (·.1 == n) = some (n, .abstract_ nm subs d) := by
    rw [ht]; exact find_fst_append_fresh _ _ _ hfresh
  unfold markDesc
  rw [hs]
  simp only [hfind]
  cases (d && !isC)
  · simp only [Bool.false_eq_true, ↓reduceIte]
    congr 3
    rw [ht, map_append_fresh]
    · simp
    · intro x hx
      have : x.1 ≠ n := fun e => hfresh (List.mem_map.2 ⟨x, hx, e⟩)
      obtain ⟨k, e⟩ := x
      have hk : (k == n) = false := by simpa using this
      simp only [hk, Bool.false_eq_true, ↓reduceIte]
  · rfl

/-- **the body of an `<abstracttype>`**: blank text and at most one `<description>` (in a schema document), which sets
the flag of the (last) table entry -/
theorem abstractBody {env : Env} {h : Hooks} {dk : DocKind} {parent : Str} (hl : leafParent parent)
    (hpar : ChildrenAll (· = "description".toList) parent)
    (n nm : Str) (subs : List Str) (pre : List (Str × EEntry)) (rest : List Frame) (hfresh : n ∉ pre.map (·.1)) :
    ∀ (c : List Node) (st : PSt) (d : Bool), st.stack = .atype n :: rest →
      st.es.types = pre ++ [(n, .abstract_ nm subs d)] →
      Accepts (visitChildren env h dk parent st c)
        (leafBodyOK parent c = true ∧ OnceIf (isComp dk) d "description".toList c)
        (fun st' => ∃ d', st' = { st with es := { st.es with types := pre ++ [(n, .abstract_ nm subs d')] } })
  | [], st, d, _, ht => by
    rw [visitChildren_nil]
    exact .ok ⟨rfl, OnceIf.nil _ _ _⟩ ⟨d, by rw [← ht]⟩
  | .text s :: r, st, d, hs, ht => by
    rw [visitChildren_text, leafBodyOK_text, OnceIf.text]
    by_cases hb : (strip s).isEmpty = true
    · rw [if_pos hb]
      exact (abstractBody hl hpar n nm subs pre rest hfresh r st d hs ht).congr
        ⟨fun hP => ⟨hP.1.2, hP.2⟩, fun hP => ⟨⟨hb, hP.1⟩, hP.2⟩⟩
    · rw [if_neg hb]; exact .error fun hP => hb hP.1.1
  | .elem t a c0 :: r, st, d, hs, ht => by
    rw [visitChildren_elem]
    -- the one child the nesting table allows here is `<description>`
    have step : Accepts (visitElem env h dk (some parent) st (.elem t a c0))
        (nestingOK parent t = true ∧ c0.all isText = true ∧ (d && !isComp dk) = false)
        (fun st1 => t = "description".toList ∧
          st1 = { st with es := { st.es with types := pre ++ [(n, .abstract_ nm subs true)] } }) :=
      nested fun hn => by
        have hc := hl _ hn
        have htag := hpar t hn
        refine cdataElem hc hn ?_
        rw [htag, charactersTag_description, markDesc_abstract hfresh hs ht]
        cases (d && !isComp dk)
        · exact .ok rfl ⟨rfl, rfl⟩
        · exact .error fun hP => nomatch hP
    refine (step.bind (P' := leafBodyOK parent r = true ∧ OnceIf (isComp dk) true "description".toList r) ?_).congr ?_
    · rintro st1 _ ⟨-, rfl⟩
      exact abstractBody hl hpar n nm subs pre rest hfresh r _ true hs rfl
    · rw [leafBodyOK_cons hl]
      constructor
      · rintro ⟨⟨⟨hn, htxt⟩, hbr⟩, ho⟩
        rw [hpar t hn] at ho
        exact ⟨⟨hn, htxt, (OnceIf.same.1 ho).1⟩, hbr, (OnceIf.same.1 ho).2⟩
      · rintro ⟨⟨hn, htxt, hf⟩, hbr, ho⟩
        rw [hpar t hn]
        exact ⟨⟨⟨by rw [← hpar t hn]; exact hn, htxt⟩, hbr⟩, OnceIf.same.2 ⟨hf, ho⟩⟩

theorem typeName_fresh {Γ : Ctx} {pre : List (Str × EEntry)} {a : Attrs} (hpre : TypesRel Γ pre)
    (r1 : typeNameOK Γ a = true) : typeNameOf a ∉ pre.map (·.1) := by
  unfold typeNameOK at r1
  rw [Bool.and_eq_true, Bool.not_eq_true', hpre.names] at r1
  intro hc
  rw [List.contains_iff_mem.mpr hc] at r1
  cases r1.2

theorem startAbstracttype_accepts {st : PSt} {Γ : Ctx} {a : Attrs} (hrel : TypesRel Γ st.es.types) :
    Accepts (startAbstracttype st a) (typeNameOK Γ a = true)
      (· = { st with es := { st.es with types := st.es.types ++ [(typeNameOf a, .abstract_ (typeNameOf a) [] false)] },
                     stack := .atype (typeNameOf a) :: st.stack }) := by
  unfold startAbstracttype typeNameOK typeNameOf
  rw [hrel.names]
  rcases attr a "name" with _ | _ | ⟨c, cs⟩
  · exact .error fun hP => nomatch (Bool.and_eq_true _ _ ▸ hP).1
  · exact .error fun hP => nomatch (Bool.and_eq_true _ _ ▸ hP).1
  · dsimp only [Option.getD_some]
    generalize c :: cs = v
    refine ((basicKeyE_accepts v).bind_eq fun _ => (addType_accepts st.es (asciiLower v) _).bind_pure
      fun es1 _ hes1 => by rw [hes1]).congr ?_
    rw [Bool.and_eq_true, Bool.not_eq_true']
    refine and_congr_right fun _ => ⟨fun rf hc => ?_, fun rf => ?_⟩
    · have hc' : asciiLower v ∈ st.es.types.map (·.1) := hc
      rw [List.contains_iff_mem.mpr hc'] at rf; cases rf
    · cases hc : (st.es.types.map (·.1)).contains (asciiLower v) with
      | false => rfl
      | true => exact absurd (List.contains_iff_mem.mp hc) rf

theorem abstracttypeElem {env : Env} {h : Hooks} {d : DocKind} {parent : Str} {st : PSt} {Γ : Ctx} {a : Attrs}
    {c : List Node} (hrel : TypesRel Γ st.es.types) :
    Accepts (visitElem env h d (some parent) st (.elem "abstracttype".toList a c))
      (nestingOK parent "abstracttype".toList = true ∧ abstracttypeOK (!isComp d) Γ a c = true)
      (fun st' => ∃ e, st' = { st with es := { st.es with types := st.es.types ++ [(typeNameOf a, e)] } } ∧
        EntryRel .abstract e) := by
  refine nested fun hn => ?_
  rw [visitElem_abstracttype (nestingOK_check hn)]
  have rest : typeNameOK Γ a = true →
      Accepts (visitChildren env h d "abstracttype".toList
          { st with es := { st.es with types := st.es.types ++ [(typeNameOf a, .abstract_ (typeNameOf a) [] false)] },
                    stack := .atype (typeNameOf a) :: st.stack } c >>= fun st2 => popFrame st2)
        (leafBodyOK "abstracttype".toList c = true ∧ descOnce (!isComp d) c = true)
        (fun st' => ∃ e, st' = { st with es := { st.es with types := st.es.types ++ [(typeNameOf a, e)] } } ∧
          EntryRel .abstract e) := by
    intro hP
    have hfresh : typeNameOf a ∉ st.es.types.map (·.1) := typeName_fresh hrel hP
    refine ((abstractBody (env := env) (h := h) (dk := d) leafParent_abstracttype abstractParent_description
      (typeNameOf a) (typeNameOf a) [] st.es.types st.stack hfresh c _ false rfl rfl).bind (P' := True) ?_).congr ?_
    · rintro st2 _ ⟨d', rfl⟩
      exact .ok trivial ⟨.abstract_ (typeNameOf a) [] d', rfl, trivial⟩
    · rw [descOnce_iff]
      exact ⟨fun hP => ⟨hP, trivial⟩, fun hP => hP.1⟩
  refine ((startAbstracttype_accepts hrel).bind_eq rest).congr ?_
  unfold abstracttypeOK
  simp only [Bool.and_eq_true, and_assoc]

/-! ### `<sectiontype>`: the start tag -/

theorem addSubtype_append_concrete (es : ES) (an name n : Str) (t : EType) :
    (addSubtype { es with types := es.types ++ [(n, .concrete t)] } an name).types =
      (addSubtype es an name).types ++ [(n, .concrete t)] := by
  unfold addSubtype
  simp only [List.map_append, List.map_cons, List.map_nil]
  congr 2
  split <;> rfl

theorem addSubtype_typesRel {Γ : Ctx} {es : ES} (h : TypesRel Γ es.types) (an name : Str) :
    TypesRel Γ (addSubtype es an name).types :=
  h.absOnly (subEntry_absOnly an name)

theorem TypesRel.gettype {Γ : Ctx} {es : ES} (hrel : TypesRel Γ es.types) {b : Str} (hb : DTSpec.isBasicKey b = true) :
    (Γ.lookup (asciiLower b) = none ∧ es.gettype (asciiLower b) = none) ∨
    (∃ sig e, Γ.lookup (asciiLower b) = some sig ∧ es.gettype (asciiLower b) = some (asciiLower b, e) ∧
      EntryRel sig e) := by
  unfold Ctx.lookup ES.gettype
  rw [lower_asciiLower hb]
  rcases hrel.find (asciiLower b) with ⟨h1, h2⟩ | ⟨sig, e, h1, h2, h3⟩
  · exact .inl ⟨by rw [h1]; rfl, h2⟩
  · exact .inr ⟨sig, e, by rw [h1]; rfl, h2, h3⟩

theorem deriveChild_accepts {env : Env} {kt : Str} {m : Member} {c : Option Str × EInfo} (hmc : MemberRel m c) :
    Accepts (deriveChild env kt c)
      ((match m.plus with | some (multi, keys) => defaultKeysOK env kt multi keys | none => true) = true) (MemberRel m) := by
  obtain ⟨key, info⟩ := c
  cases info with
  | sect s => exact .ok (by rw [show m.plus = none from hmc.2.2]) hmc
  | key k =>
    obtain ⟨hk, ha, hp⟩ := hmc
    replace hp : PlusRel m.plus k := hp
    by_cases hplus : k.name = ['+']
    · have hp2 := hp
      unfold PlusRel at hp2
      rw [if_pos hplus] at hp2
      obtain ⟨keys, hm, _, _⟩ := hp2
      have e : deriveChild env kt (key, .key k) = computeDefault env kt k >>= fun k' => pure (key, EInfo.key k') := by
        simp only [deriveChild, beq_iff_eq.2 hplus, ↓reduceIte]
      rw [e, hm]
      exact (computeDefault_accepts hplus (hm ▸ hp)).bind_pure fun k' _ hk' => by
        obtain ⟨d, rfl⟩ := hk'
        exact ⟨hk, ha, hp.computed d k.finished⟩
    · have e : deriveChild env kt (key, .key k) = .ok (key, .key k) := by
        simp only [deriveChild, beq_eq_false_iff_ne.2 hplus, Bool.false_eq_true, ↓reduceIte]; rfl
      rw [e]
      exact .ok (by unfold PlusRel at hp; rw [if_neg hplus] at hp; rw [hp]) ⟨hk, ha, hp⟩

theorem deriveChildren_accepts {env : Env} {kt : Str} {ms : List Member} {ch : List (Option Str × EInfo)}
    (h : Pointwise MemberRel ms ch) :
    Accepts (deriveChildren env kt ch) (inheritedDefaultsOK env kt ms = true) (Pointwise MemberRel ms) :=
  (Accepts.mapM (f := deriveChild env kt) (Q := MemberRel) (fun _ _ hmc => deriveChild_accepts hmc) h).congr
    List.all_eq_true

theorem sectiontypeBase_accepts {env : Env} {st1 : PSt} {Γ : Ctx} {pfx : Str} {ps : List Str} {a : Attrs} {name : Str}
    (hrel : TypesRel Γ st1.es.types) (hp1 : st1.prefixes = pfx :: ps) :
    Accepts (sectiontypeBase env st1 a name)
      (extendsOK Γ a = true ∧
        (dtAttrOK env pfx a "keytype" = true ∧ dtAttrOK env pfx a "valuetype" = true ∧
          dtAttrOK env pfx a "datatype" = true) ∧
        name ∉ st1.es.typeNames ∧
        inheritedDefaultsOK env (keytypeOf env pfx a ((baseOf Γ a).map (·.1))) (inheritedOf Γ a) = true)
      (fun es2 => ∃ t : EType, es2 = { st1.es with types := st1.es.types ++ [(name, .concrete t)] } ∧
        t.keytype = keytypeOf env pfx a ((baseOf Γ a).map (·.1)) ∧ Pointwise MemberRel (inheritedOf Γ a) t.children ∧
        t.hasDesc = false ∧ t.hasEx = false) := by
  unfold sectiontypeBase extendsOK inheritedOf baseOf
  cases attr a "extends" with
  | none =>
    refine ((Accepts.of_iff fun r => getSectTypeinfo_ok_iff (env := env) (a := a) (r := r) none hp1).bind_eq fun _ =>
      (addType_accepts st1.es name _).mono fun es2 _ hes2 => ?_).congr
        ⟨fun hP => ⟨hP.2.1, hP.2.2.1⟩, fun hP => ⟨rfl, hP.1, hP.2, rfl⟩⟩
    exact ⟨_, hes2, rfl, .nil, rfl, rfl⟩
  | some b =>
    dsimp only
    rw [basicKeyE_eq]
    by_cases hb : DTSpec.isBasicKey b = true
    · rw [if_pos hb, hb, Bool.true_and]
      show Accepts (match st1.es.gettype (asciiLower b) with
        | none => serr "unknown type name"
        | some (_, .abstract_ _ _ _) => serr "sectiontype cannot extend an abstract type"
        | some (_, .concrete base) => _) _ _
      rcases hrel.gettype hb with ⟨h1, h2⟩ | ⟨sig, e, h1, h2, h3⟩
      · rw [h1, h2]
        exact .error fun hP => nomatch hP.1
      · rw [h1, h2]
        cases sig with
        | abstract =>
          cases e with
          | concrete base => exact h3.elim
          | abstract_ x y z => exact .error fun hP => nomatch hP.1
        | concrete bkt bms =>
          cases e with
          | abstract_ x y z => exact h3.elim
          | concrete base =>
            obtain ⟨hbkt, hbch⟩ := h3
            dsimp only [Option.map_some, Option.getD_some, Option.isSome_some]
            rw [← hbkt]
            refine ((Accepts.of_iff fun r => getSectTypeinfo_ok_iff (env := env) (a := a) (r := r)
              (some (base.keytype, base.datatype)) hp1).bind_eq fun _ => (addType_accepts st1.es name _).bind_eq fun hfresh =>
                (deriveChildren_accepts hbch).bind_pure (R := fun es2 => ∃ t : EType,
                  es2 = { st1.es with types := st1.es.types ++ [(name, EEntry.concrete t)] } ∧
                  t.keytype = keytypeOf env pfx a (some base.keytype) ∧ Pointwise MemberRel bms t.children ∧
                  t.hasDesc = false ∧ t.hasEx = false) fun ch' _ hch' =>
                    ⟨_, updType_append_fresh _ _ _ _ hfresh, rfl, hch', rfl, rfl⟩).congr
              ⟨fun hP => ⟨hP.2.1, hP.2.2.1, hP.2.2.2⟩, fun hP => ⟨rfl, hP.1, hP.2.1, hP.2.2⟩⟩
    · rw [if_neg hb]
      exact .error fun hP => hb (Bool.and_eq_true _ _ ▸ hP.1).1

theorem sectiontypeImplements_accepts {Γ : Ctx} {es : ES} {a : Attrs} {name : Str} (hrel : TypesRel Γ es.types)
    (t : EType) :
    Accepts (sectiontypeImplements { es with types := es.types ++ [(name, .concrete t)] } a name)
      (implementsOK Γ a = true)
      (fun es3 => ∃ pre, es3 = { es with types := pre ++ [(name, .concrete t)] } ∧ TypesRel Γ pre) := by
  unfold sectiontypeImplements implementsOK
  cases attr a "implements" with
  | none => exact .ok rfl ⟨es.types, rfl, hrel⟩
  | some i =>
    dsimp only
    rw [basicKeyE_eq]
    by_cases hib : DTSpec.isBasicKey i = true
    · rw [if_pos hib, hib, Bool.true_and]
      show Accepts (match ({ es with types := es.types ++ [(name, .concrete t)] } : ES).gettype (asciiLower i) with
        | none => serr "unknown type name"
        | some (_, .concrete _) => serr "type specified by implements is not an abstracttype"
        | some (an, .abstract_ _ _ _) => pure (addSubtype _ an name)) _ _
      rw [gettype_append_concrete]
      rcases hrel.gettype hib with ⟨h1, h2⟩ | ⟨sig, e, h1, h2, h3⟩
      · rw [h1, h2]
        dsimp only
        by_cases hn : name = lower (asciiLower i)
        · rw [if_pos hn]; exact .error fun hP => nomatch hP
        · rw [if_neg hn]; exact .error fun hP => nomatch hP
      · rw [h1, h2]
        cases sig with
        | concrete x y =>
          cases e with
          | abstract_ x y z => exact h3.elim
          | concrete base => exact .error fun hP => nomatch hP
        | abstract =>
          cases e with
          | concrete base => exact h3.elim
          | abstract_ nm subs d =>
            refine .ok rfl ⟨(addSubtype es (asciiLower i) name).types, ?_, addSubtype_typesRel hrel _ _⟩
            have := addSubtype_append_concrete es (asciiLower i) name name t
            unfold addSubtype at this ⊢
            simp only at this ⊢
            rw [this]
    · rw [if_neg hib]
      exact .error fun hP => hib (Bool.and_eq_true _ _ ▸ hP).1

theorem startSectiontype_accepts {env : Env} {st : PSt} {Γ : Ctx} {outer : Str} {ps : List Str} {a : Attrs}
    (hrel : TypesRel Γ st.es.types) (hp : st.prefixes = outer :: ps) :
    Accepts (startSectiontype env st a)
      (typeNameOK Γ a = true ∧ prefixOK (some outer) a = true ∧ extendsOK Γ a = true ∧ implementsOK Γ a = true ∧
        dtAttrOK env (prefixOf (some outer) a) a "keytype" = true ∧
        dtAttrOK env (prefixOf (some outer) a) a "valuetype" = true ∧
        dtAttrOK env (prefixOf (some outer) a) a "datatype" = true ∧
        inheritedDefaultsOK env (typeKeytype env outer Γ a) (inheritedOf Γ a) = true)
      (fun st1 => ∃ (pre : List (Str × EEntry)) (t : EType),
        st1 = { st with es := { st.es with types := pre ++ [(typeNameOf a, .concrete t)] },
                        prefixes := prefixOf (some outer) a :: st.prefixes,
                        stack := .stype (typeNameOf a) :: st.stack } ∧
        TypesRel Γ pre ∧ t.keytype = typeKeytype env outer Γ a ∧ Pointwise MemberRel (inheritedOf Γ a) t.children ∧
        t.hasDesc = false ∧ t.hasEx = false) := by
  rw [startSectiontype_eq]
  unfold typeNameOK typeNameOf typeKeytype
  rw [hrel.names]
  rcases attr a "name" with _ | _ | ⟨c, cs⟩
  · exact .error fun hP => nomatch (Bool.and_eq_true _ _ ▸ hP.1).1
  · exact .error fun hP => nomatch (Bool.and_eq_true _ _ ▸ hP.1).1
  · dsimp only [Option.getD_some]
    generalize c :: cs = v
    refine ((basicKeyE_accepts v).bind_eq fun _ =>
      (Accepts.of_iff fun st1 => pushPrefix_ok_iff_inner (a := a) (st1 := st1) hp).bind_eq fun _ =>
        (sectiontypeBase_accepts (env := env) (a := a) (name := asciiLower v)
          (st1 := { st with prefixes := prefixOf (some outer) a :: st.prefixes }) (pfx := prefixOf (some outer) a)
          (ps := st.prefixes) hrel rfl).bind (P' := implementsOK Γ a = true) fun es2 _ hes2 => ?_).congr ?_
    · obtain ⟨t, rfl, hk, hch, hd, he⟩ := hes2
      refine (sectiontypeImplements_accepts (a := a) (name := asciiLower v) hrel t).bind_pure ?_
      rintro es3 _ ⟨pre, rfl, hpre⟩
      exact ⟨pre, t, rfl, hpre, hk, hch, hd, he⟩
    · rw [Bool.and_eq_true, Bool.not_eq_true']
      constructor
      · rintro ⟨⟨r1, rf⟩, r2, r3, r4, r5, r6, r7, r8⟩
        exact ⟨r1, r2, ⟨r3, ⟨r5, r6, r7⟩, (fun hc => by
          have hc' : asciiLower v ∈ st.es.types.map (·.1) := hc
          rw [List.contains_iff_mem.mpr hc'] at rf; cases rf), r8⟩, r4⟩
      · rintro ⟨r1, r2, ⟨r3, ⟨r5, r6, r7⟩, rf, r8⟩, r4⟩
        refine ⟨⟨r1, ?_⟩, r2, r3, r4, r5, r6, r7, r8⟩
        cases hc : (st.es.types.map (·.1)).contains (asciiLower v) with
        | false => rfl
        | true => exact absurd (List.contains_iff_mem.mp hc) rf

/-! ### member elements and notes -/

theorem memberElemAdds_note {env : Env} {kt t : Str} {a : Attrs} {c : List Node} (h : isNoteTag t = true) :
    memberElemAdds env kt t a c = [] := by
  simp only [memberElemAdds, noteTag_notMember h, Bool.false_eq_true, ↓reduceIte]

theorem memberElemOK_note {env : Env} {strict : Bool} {parent pfx kt t : Str} {names : List Str} {ms : List Member}
    {a : Attrs} {c : List Node} (h : isNoteTag t = true) :
    memberElemOK env strict parent pfx kt names ms t a c = true ↔ nestingOK parent t = true ∧ c.all isText = true := by
  simp only [memberElemOK, noteTag_notMember h, h, Bool.false_eq_true, ↓reduceIte, Bool.and_eq_true]

/-! ### the container on top of the stack and its children -/

/-- the container on top of the stack — the top-level container of a schema, or the section type that is being read —
as a slot `put` of the schema state that holds a type object -/
inductive OpenAt (stack : List Frame) (put : EType → ES) : Prop
  | schema (es : ES) (hs : stack = [.schema]) (hput : put = fun t => { es with top := t })
  | stype (es0 : ES) (n : Str) (rest : List Frame) (hfresh : n ∉ es0.typeNames) (hs : stack = .stype n :: rest)
      (hput : put = fun t => { es0 with types := es0.types ++ [(n, .concrete t)] })

namespace OpenAt
variable {stack : List Frame} {put : EType → ES}

theorem proj_eq {α} (g : EType → α) (ho : OpenAt stack put) (t : EType) : projTop g (put t) stack = .ok (g t) := by
  cases ho with
  | schema es hs hput => subst hs hput; rfl
  | stype es0 n rest hfresh hs hput =>
    subst hs hput
    have hf : (es0.types ++ [(n, EEntry.concrete t)]).find? (·.1 == n) = some (n, .concrete t) :=
      find_fst_append_fresh _ _ _ hfresh
    unfold projTop
    simp only [hf]

theorem children_eq (ho : OpenAt stack put) (t : EType) : topOf (put t) stack = .ok t.children :=
  topOf_eq_proj ▸ ho.proj_eq _ t

theorem keytype_eq (ho : OpenAt stack put) (t : EType) : ktOf (put t) stack = .ok t.keytype :=
  ktOf_eq_proj ▸ ho.proj_eq _ t

theorem set_eq (ho : OpenAt stack put) (t : EType) (ch : List (Option Str × EInfo)) :
    setTopOf (put t) stack ch = put { t with children := ch } := by
  cases ho with
  | schema es hs hput => subst hs hput; rfl
  | stype es0 n rest hfresh hs hput =>
    subst hs hput
    exact updType_append_fresh es0 n t _ hfresh

theorem names_eq (ho : OpenAt stack put) (t t' : EType) : (put t).typeNames = (put t').typeNames := by
  cases ho with
  | schema es hs hput => subst hput; rfl
  | stype es0 n rest hfresh hs hput => subst hput; simp [ES.typeNames]

theorem markDesc_eq (ho : OpenAt stack put) (t : EType) {isC : Bool} {st : PSt} (hs : st.stack = stack)
    (hes : st.es = put t) :
    markDesc isC st =
      if (t.hasDesc && !isC) = true then serr "at most one <description> may be used for each element"
      else .ok { st with es := put { t with hasDesc := true } } := by
  obtain ⟨es', p, stk, bk, bd⟩ := st
  simp only at hs hes
  subst hs hes
  cases ho with
  | schema es hs hput =>
    subst hs hput
    unfold markDesc
    rfl
  | stype es0 n rest hfresh hs hput =>
    subst hs hput
    have hf : (es0.types ++ [(n, EEntry.concrete t)]).find? (·.1 == n) = some (n, .concrete t) :=
      find_fst_append_fresh _ _ _ hfresh
    unfold markDesc
    simp only [hf]
    rw [updType_append_fresh es0 n t _ hfresh]

theorem markExample_eq (ho : OpenAt stack put) (t : EType) {st : PSt} (hs : st.stack = stack) (hes : st.es = put t) :
    markExample st =
      if t.hasEx = true then serr "at most one <example> may be used for each element"
      else .ok { st with es := put { t with hasEx := true } } := by
  obtain ⟨es', p, stk, bk, bd⟩ := st
  simp only at hs hes
  subst hs hes
  cases ho with
  | schema es hs hput =>
    subst hs hput
    unfold markExample
    rfl
  | stype es0 n rest hfresh hs hput =>
    subst hs hput
    have hf : (es0.types ++ [(n, EEntry.concrete t)]).find? (·.1 == n) = some (n, .concrete t) :=
      find_fst_append_fresh _ _ _ hfresh
    unfold markExample
    simp only [hf]
    rw [updType_append_fresh es0 n t _ hfresh]

theorem note_ok_iff (ho : OpenAt stack put) (t : EType) {isC : Bool} {st st1 : PSt} {tg : Str} {a : Attrs} {data : Str}
    (hnote : isNoteTag tg = true) (hs : st.stack = stack) (hes : st.es = put t) :
    charactersTag isC tg a data st = .ok st1 ↔
      ((tg = "description".toList → (t.hasDesc && !isC) = false) ∧ (tg = "example".toList → t.hasEx = false)) ∧
        st1 = { st with es := put { t with hasDesc := t.hasDesc || tg == "description".toList,
                                           hasEx := t.hasEx || tg == "example".toList } } := by
  have heq : charactersTag isC tg a data st =
      (noteFlags isC tg t.hasDesc t.hasEx).map fun p => { st with es := put { t with hasDesc := p.1, hasEx := p.2 } } := by
    unfold noteFlags
    rcases isNoteTag_cases hnote with h | h
    · rw [h, charactersTag_description, ho.markDesc_eq t hs hes, if_pos (beq_self_eq_true _)]
      cases (t.hasDesc && !isC) <;> rfl
    · rw [h, charactersTag_example, ho.markExample_eq t hs hes,
        beq_eq_false_iff_ne.2 (Ne.symm description_ne_example), beq_self_eq_true]
      cases t.hasEx <;> rfl
  rw [heq]
  exact noteFlags_map_ok_iff

theorem container (ho : OpenAt stack put) {st : PSt} {t : EType} {pfx : Str} {ps : List Str} {names : List Str}
    {ms : List Member} (hs : st.stack = stack) (hp : st.prefixes = pfx :: ps) (hes : st.es = put t)
    (hnames : (put t).typeNames = names) (hms : Pointwise MemberRel ms t.children) :
    Container st pfx t.keytype names ms t.children :=
  ⟨by rw [hs, hes]; exact ho.children_eq t, hms, by rw [hs, hes]; exact ho.keytype_eq t, ⟨ps, hp⟩,
    by rw [hes]; exact hnames⟩

end OpenAt

section Child
variable {env : Env} {h : Hooks} {d : DocKind} {parent pfx kt : Str} {ps : List Str} {names : List Str}
  {stack : List Frame} {put : EType → ES} {st : PSt} {t : EType} {ms : List Member} {tg : Str} {a : Attrs}
  {c0 : List Node}

theorem containerChild
    (hclass : nestingOK parent tg = true → isKeyTag tg = true ∨ isSectTag tg = true ∨ isNoteTag tg = true)
    (ho : OpenAt stack put) (hs : st.stack = stack) (hp : st.prefixes = pfx :: ps) (hes : st.es = put t)
    (hkt : t.keytype = kt) (hnames : (put t).typeNames = names) (hms : Pointwise MemberRel ms t.children) :
    Accepts (visitElem env h d (some parent) st (.elem tg a c0))
      (memberElemOK env (!isComp d) parent pfx kt names ms tg a c0 = true ∧
        (tg = "description".toList → (t.hasDesc && !isComp d) = false) ∧ (tg = "example".toList → t.hasEx = false))
      (fun st1 => ∃ t', st1 = { st with es := put t' } ∧ t'.keytype = kt ∧
        Pointwise MemberRel (ms ++ memberElemAdds env kt tg a c0) t'.children ∧
        t'.hasDesc = (t.hasDesc || tg == "description".toList) ∧ t'.hasEx = (t.hasEx || tg == "example".toList)) := by
  have hnest : memberElemOK env (!isComp d) parent pfx kt names ms tg a c0 = true → nestingOK parent tg = true := by
    intro hok
    unfold memberElemOK at hok
    exact (Bool.and_eq_true _ _ ▸ hok).1
  refine (nested (P := memberElemOK env (!isComp d) parent pfx kt names ms tg a c0 = true ∧
      (tg = "description".toList → (t.hasDesc && !isComp d) = false) ∧ (tg = "example".toList → t.hasEx = false))
    fun hn => ?_).congr ⟨fun hP => ⟨hnest hP.1, hP⟩, fun hP => hP.2⟩
  by_cases hnote : isNoteTag tg = true
  · rw [memberElemOK_note hnote, memberElemAdds_note hnote, List.append_nil]
    refine ((cdataElem (h := h) (noteTag_cdata hnote) hn (Accepts.of_iff fun st1 => ho.note_ok_iff t hnote hs hes)).mono ?_).congr
      ⟨fun hP => ⟨hP.1.2, hP.2⟩, fun hP => ⟨⟨hn, hP.1⟩, hP.2⟩⟩
    rintro st1 _ rfl
    exact ⟨_, rfl, hkt, hms, rfl, rfl⟩
  · have htag : isKeyTag tg = true ∨ isSectTag tg = true := by
      rcases hclass hn with hk | hk | hk
      · exact .inl hk
      · exact .inr hk
      · exact absurd hk hnote
    have hnote := memberTag_notNote htag
    have n1 := ne_description_of_notNote hnote
    have n2 := ne_example_of_notNote hnote
    refine ((memberElem (h := h) (d := d) (hkt ▸ ho.container hs hp hes hnames hms) htag).congr
      ⟨fun hP => hP.1, fun hP => ⟨hP, fun e => absurd e n1, fun e => absurd e n2⟩⟩).mono ?_
    rintro st1 _ ⟨xs, rfl, hxs⟩
    refine ⟨{ t with children := t.children ++ xs }, ?_, hkt, Pointwise.append hms hxs,
      by rw [beq_eq_false_iff_ne.2 n1, Bool.or_false], by rw [beq_eq_false_iff_ne.2 n2, Bool.or_false]⟩
    rw [hs, hes, ho.set_eq]

end Child

abbrev typeParent (parent : Str) : Prop :=
  ChildrenAll (fun t => isKeyTag t = true ∨ isSectTag t = true ∨ isNoteTag t = true) parent

theorem typeParent_sectiontype : typeParent "sectiontype".toList :=
  childrenAll_of_pk (pkOfB_sectiontype false) fun _ _ hmem hc => memberOrNote hmem hc

theorem typeBody {env : Env} {h : Hooks} {d : DocKind} {parent pfx kt : Str} {ps : List Str} {names : List Str}
    {stack : List Frame} {put : EType → ES} (hl : typeParent parent) (ho : OpenAt stack put) :
    ∀ (c : List Node) (ms : List Member) (t : EType) (st : PSt),
      st.stack = stack → st.prefixes = pfx :: ps → st.es = put t → t.keytype = kt → (put t).typeNames = names →
      Pointwise MemberRel ms t.children →
      Accepts (visitChildren env h d parent st c)
        (membersOK env (!isComp d) parent pfx kt names ms c = true ∧
          OnceIf (isComp d) t.hasDesc "description".toList c ∧ onceLeft t.hasEx "example".toList c)
        (fun st' => ∃ t', st' = { st with es := put t' } ∧ t'.keytype = kt ∧
          Pointwise MemberRel (ms ++ membersOf env kt c) t'.children)
  | [], ms, t, st, _, _, hes, hkt, _, hms => by
    rw [visitChildren_nil]
    exact .ok ⟨rfl, OnceIf.nil _ _ _, onceLeft_nil _ _⟩
      ⟨t, by rw [← hes], hkt, by rw [membersOf, List.append_nil]; exact hms⟩
  | .text s :: r, ms, t, st, hs, hp, hes, hkt, hnames, hms => by
    rw [visitChildren_text, membersOK, membersOf, Bool.and_eq_true, OnceIf.text, onceLeft_text]
    by_cases hb : (strip s).isEmpty = true
    · rw [if_pos hb]
      exact (typeBody hl ho r ms t st hs hp hes hkt hnames hms).congr
        ⟨fun hP => ⟨hP.1.2, hP.2⟩, fun hP => ⟨⟨hb, hP.1⟩, hP.2⟩⟩
    · rw [if_neg hb]; exact .error fun hP => hb hP.1.1
  | .elem tg a c0 :: r, ms, t, st, hs, hp, hes, hkt, hnames, hms => by
    rw [visitChildren_elem, membersOK, membersOf, Bool.and_eq_true, OnceIf.cons, onceLeft_cons, ← List.append_assoc]
    refine ((containerChild (h := h) (d := d) (hl _) ho hs hp hes hkt hnames hms).bind
      (P' := membersOK env (!isComp d) parent pfx kt names (ms ++ memberElemAdds env kt tg a c0) r = true ∧
        OnceIf (isComp d) (t.hasDesc || tg == "description".toList) "description".toList r ∧
        onceLeft (t.hasEx || tg == "example".toList) "example".toList r) ?_).congr
      ⟨fun hP => ⟨⟨hP.1.1, hP.2.1.1, hP.2.2.1⟩, hP.1.2, hP.2.1.2, hP.2.2.2⟩,
       fun hP => ⟨⟨hP.1.1, hP.2.1⟩, ⟨hP.1.2.1, hP.2.2.1⟩, hP.1.2.2, hP.2.2.2⟩⟩
    rintro st1 _ ⟨t1, rfl, hk1, hm1, hd1, he1⟩
    rw [← hd1, ← he1]
    exact typeBody hl ho r _ t1 { st with es := put t1 } hs hp rfl hk1 (by rw [ho.names_eq t1 t]; exact hnames) hm1

end ZCV.SchemaRules
