import ZCV.Model.Validator
import ZCV.Model.Schema
/-!
The loop of `validator.main` over the outcomes of the files (`loop_append`: a run of files without internal outcome only
sets the flag and prints): with no internal outcome it exits with status 1 exactly when some file is invalid, having printed
one message per invalid file (`loop_spec`); the first internal outcome ends it there (`loop_escapes`).  `outcomeOf` is how a `load` of the model is seen by the loop.
-/
namespace ZCV.Validator
open ZCV

def msgOf : Outcome → Option Str
  | .cfgError m => some m
  | _ => none

def isInvalid : Outcome → Bool
  | .cfgError _ => true
  | _ => false

def isInternal : Outcome → Bool
  | .internal _ => true
  | _ => false

@[simp] theorem filterMap_valid (rest : List Outcome) : (Outcome.valid :: rest).filterMap msgOf = rest.filterMap msgOf := rfl
@[simp] theorem filterMap_cfgError (m : Str) (rest : List Outcome) :
    (Outcome.cfgError m :: rest).filterMap msgOf = m :: rest.filterMap msgOf := rfl
@[simp] theorem filterMap_internal (e : Str) (rest : List Outcome) :
    (Outcome.internal e :: rest).filterMap msgOf = rest.filterMap msgOf := rfl

theorem loop_append (pre : List Outcome) (hpre : ∀ o ∈ pre, isInternal o = false) (rest : List Outcome) (errors : Bool)
    (printed : List Str) :
    loop (pre ++ rest) errors printed = loop rest (errors || pre.any isInvalid) (printed ++ pre.filterMap msgOf) := by
  induction pre generalizing errors printed with
  | nil => simp
  | cons o pre ih =>
    have hr : ∀ o ∈ pre, isInternal o = false := fun o h => hpre o (List.mem_cons_of_mem _ h)
    cases o with
    | valid => simp [loop, ih hr, isInvalid]
    | cfgError m => simp [loop, ih hr, isInvalid]
    | internal e => exact absurd (hpre _ List.mem_cons_self) (by simp [isInternal])

theorem loop_spec (files : List Outcome) (hf : ∀ o ∈ files, isInternal o = false) (errors : Bool) (printed : List Str) :
    loop files errors printed =
      .exit (if errors || files.any isInvalid then 1 else 0) (printed ++ files.filterMap msgOf) := by
  have := loop_append files hf [] errors printed
  rwa [List.append_nil] at this

theorem filterMap_msgOf_length (files : List Outcome) :
    (files.filterMap msgOf).length = files.countP isInvalid := by
  induction files with
  | nil => rfl
  | cons o rest ih => cases o <;> simp [isInvalid, List.countP_cons, ih]

/-- an exception that is not a configuration error ends the command at that file: nothing after it is looked at -/
theorem loop_escapes (pre : List Outcome) (hpre : ∀ o ∈ pre, isInternal o = false) (e : Str) (post : List Outcome)
    (errors : Bool) (printed : List Str) :
    loop (pre ++ .internal e :: post) errors printed = .escaped e (printed ++ pre.filterMap msgOf) :=
  loop_append pre hpre _ errors printed

/-- how the model's `load` outcome is seen by the validator loop; `render` is `str(e)` -/
def outcomeOf {α : Type} (render : Cfg.Err → Str) : Except Cfg.Fail α → Outcome
  | .ok _ => .valid
  | .error (.cfg e) => .cfgError (render e)
  | .error (.dtExc n) => .internal n
  | .error (.internal x) => .internal x.toList

theorem outcomeOf_cfg {α : Type} (render : Cfg.Err → Str) (x : Except Cfg.Fail α)
    (h : (∃ r, x = .ok r) ∨ ∃ e, x = .error (.cfg e)) :
    isInternal (outcomeOf render x) = false ∧ isInvalid (outcomeOf render x) = !x.toBool ∧
      (isInvalid (outcomeOf render x) = false ↔ ∃ r, x = .ok r) := by
  rcases h with ⟨r, rfl⟩ | ⟨e, rfl⟩
  · exact ⟨rfl, rfl, fun _ => ⟨r, rfl⟩, fun _ => rfl⟩
  · exact ⟨rfl, rfl, nofun, fun ⟨_, h⟩ => nomatch h⟩

end ZCV.Validator
