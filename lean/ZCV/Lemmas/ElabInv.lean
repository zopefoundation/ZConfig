import ZCV.Lemmas.ElabInvDoc
import ZCV.Model.TreeLoad
/-!
C10: every schema document the loader accepts yields a well-formed schema object: `elabSchema … = ok S → schemaOK S`.

The invariant `ESInv` on the loader state is kept by everything the loader does, nested documents included (`elabES_inv`);
here it is turned into `Conf.schemaOK` of `toSchema`.

Model note.  The theorem needs `startSection` to mirror `SectionType.addsection`'s `assert name not in ("*", "+")`
(info.py).  Without that check the statement is false: with a key type that turns the fixed name "foo" into "+"
(`conv.key := fun _ _ => .ok ['+']`, which satisfies `hkey`) the document
`<schema><sectiontype name="t"/><section type="t" name="foo" attribute="a"/></schema>` would yield the child
`(some "+", .sect {name := "+", …})`, for which `stypeOK` is false; Python raises AssertionError there.
-/
namespace ZCV.Elab
open ZCV ZCV.Cfg ZCV.Conf

/-! ### from the invariant to `schemaOK` -/

theorem toInfo_attr (i : EInfo) : i.toInfo.attr = i.attr := by cases i <;> rfl

/-- at most one wildcard key, given distinct keys and `+` keys stored under `+` -/
theorem wild_le_one : ∀ (l : List (Option Str × Info)), (l.filterMap (·.1)).Nodup →
    (∀ c ∈ l, isWildKey c = true → c.1 = some ['+']) → (l.filter isWildKey).length ≤ 1
  | [], _, _ => by simp
  | c :: r, hn, hw => by
    have hwr : ∀ c' ∈ r, isWildKey c' = true → c'.1 = some ['+'] := fun c' hc' => hw c' (List.mem_cons_of_mem _ hc')
    by_cases hc : isWildKey c = true
    · have hk := hw c List.mem_cons_self hc
      rw [List.filterMap_cons, hk] at hn
      simp only [List.nodup_cons] at hn
      have : r.filter isWildKey = [] := by
        rw [List.filter_eq_nil_iff]
        intro c' hc' hwc'
        apply hn.1
        rw [List.mem_filterMap]
        exact ⟨c', hc', hwr c' hc' hwc'⟩
      rw [List.filter_cons, if_pos hc, this]
      simp
    · rw [List.filter_cons, if_neg hc]
      refine wild_le_one r ?_ hwr
      rw [List.filterMap_cons] at hn
      split at hn
      · exact hn
      · exact (List.nodup_cons.mp hn).2

theorem gettype_isSome_of_known (es : ES) (x : Str) (h : knownIn es.types (lower x) = true) :
    (es.toSchema.gettype x).isSome = true := by
  rw [toSchema_gettype, Option.isSome_map, gettype_isSome_iff]; exact (any_fst_beq _ _).1 h

theorem stypeOK_of_children (es : ES) (t : EType) (h : ChildrenOK es.types t.children) :
    stypeOK es.toSchema t.toSType = true := by
  unfold stypeOK distinctB
  simp only [Bool.and_eq_true, nodupB_iff', decide_eq_true_eq, List.all_eq_true]
  have hattr : (t.toSType.children.map (·.2.attr)) = t.children.map (·.2.attr) := by
    unfold EType.toSType
    simp only [List.map_map]
    congr 1
    funext ⟨k, i⟩
    exact toInfo_attr i
  have hkeys : (t.toSType.children.filterMap (·.1)) = t.children.filterMap (·.1) := by
    unfold EType.toSType
    simp only [List.filterMap_map]
    congr 1
  have hall : ∀ c ∈ t.toSType.children, ∃ c0 ∈ t.children, c = (c0.1, c0.2.toInfo) := by
    intro c hc
    unfold EType.toSType at hc
    simp only [List.mem_map] at hc
    obtain ⟨c0, hc0, rfl⟩ := hc
    exact ⟨c0, hc0, rfl⟩
  refine ⟨⟨⟨?_, ?_⟩, ?_⟩, ?_⟩
  · rw [hattr]; exact h.attrs
  · rw [hkeys]; exact h.keys
  · refine wild_le_one _ (by rw [hkeys]; exact h.keys) ?_
    intro c hc hw
    obtain ⟨c0, hc0, rfl⟩ := hall c hc
    have hco := h.child c0 hc0
    unfold ChildOK at hco
    cases hi : c0.2 with
    | key k =>
      simp only [hi] at hco
      simp only [isWildKey, hi, EInfo.toInfo, EKey.toKeyInfo, Info.name, Info.isSection, Bool.not_false, Bool.and_true,
        beq_iff_eq] at hw
      rw [hco.1, hw]
    | sect si =>
      simp [isWildKey, hi, EInfo.toInfo, Info.isSection] at hw
  · intro c hc
    obtain ⟨c0, hc0, rfl⟩ := hall c hc
    have hco := h.child c0 hc0
    unfold ChildOK at hco
    cases hi : c0.2 with
    | key k =>
      simp only [hi] at hco
      obtain ⟨hk1, hne, hsh⟩ := hco
      simp only [EInfo.toInfo, EKey.toKeyInfo, hk1, beq_self_eq_true, Bool.true_and, Bool.and_eq_true,
        Bool.not_eq_true', List.isEmpty_eq_false_iff]
      refine ⟨hne, ?_⟩
      by_cases hp : k.name = ['+']
      · simp only [hp, ↓reduceIte] at hsh
        simp only [hp, beq_self_eq_true, ↓reduceIte]
        have := hsh.1
        cases hd : k.dflt <;> simp only [hd, plusShape] at this ⊢
        · simp [this]
        · simp [this]
      · simp only [hp, ↓reduceIte] at hsh
        have hpb : (k.name == ['+']) = false := by simpa using hp
        simp only [hpb, Bool.false_eq_true, ↓reduceIte]
        by_cases hm : k.multi = true
        · simp only [hm, ↓reduceIte] at hsh ⊢
          obtain ⟨l, hl⟩ := hsh
          rw [hl]
        · have hm' : k.multi = false := by simpa using hm
          simp only [hm', Bool.false_eq_true, ↓reduceIte] at hsh ⊢
          rcases hsh with hd | ⟨v, hd, ho⟩
          · rw [hd]
          · rw [hd]; simp [ho]
    | sect si =>
      simp only [hi] at hco
      obtain ⟨h1, h2, h3⟩ := hco
      simp only [EInfo.toInfo, Bool.and_eq_true, Bool.or_eq_true, beq_iff_eq, Bool.not_eq_true']
      refine ⟨⟨?_, ?_⟩, gettype_isSome_of_known es si.ty h3⟩
      · by_cases hs : si.name = ['*'] ∨ si.name = ['+']
        · simp only [hs, ↓reduceIte] at h1 ⊢
          simp [h1]
        · simp only [hs, ↓reduceIte] at h1 ⊢
          simp only [h1.1, beq_self_eq_true, Bool.true_and, Bool.not_eq_true', List.isEmpty_eq_false_iff]
          exact h1.2
      · by_cases hm : si.multi = true
        · rcases h2 hm with h2 | h2
          · exact Or.inl (Or.inr h2)
          · exact Or.inr h2
        · exact Or.inl (Or.inl (by simpa using hm))

theorem schemaOK_of_inv (es : ES) (h : ESInv es) : schemaOK es.toSchema = true := by
  unfold schemaOK
  simp only [Bool.and_eq_true, beq_iff_eq, List.all_eq_true]
  refine ⟨⟨stypeOK_of_children es es.top h.top, h.topName⟩, ?_⟩
  intro q hq
  unfold ES.toSchema at hq
  simp only [List.mem_map] at hq
  obtain ⟨p, hp, rfl⟩ := hq
  have he := h.entries p hp
  obtain ⟨n, e⟩ := p
  cases e with
  | concrete t =>
    simp only [EEntry.toEntry, Bool.and_eq_true, beq_iff_eq]
    exact ⟨he.1, stypeOK_of_children es t he.2⟩
  | abstract_ n' subs d =>
    simp only [EEntry.toEntry, beq_iff_eq]
    exact he

/-- **Every accepted schema document yields a well-formed schema object** (strong form: the key types only have to
    return a non-empty key for a NON-EMPTY name — which is all the loader ever passes them, and what the stock key
    types satisfy, `"string"` included).

    `hkey`: a `<section name=…>` child stored under an empty key would escape the duplicate-name check.
    `hlow`: type-table keys are `basic-key` results (`lower …`), and `Schema.gettype` lower-cases its argument.  It is the
    theorem `ZCV.lower_idem` (`Lemmas/Lower.lean`, read off the table of `str.lower`); the modules of this invariant do not
    import that one and carry the fact as a hypothesis, which `Props/C10.lean` discharges. -/
theorem elab_schemaOK' (env : Env) (fuel : Nat) (t : Node) (S : Cfg.Schema)
    (hkey : ∀ (kt s r : Str), s ≠ [] → env.conv.key kt s = .ok r → r ≠ [])
    (hlow : ∀ x : Str, lower (lower x) = lower x)
    (h : elabSchema env fuel t = .ok S) : Conf.schemaOK S = true := by
  obtain ⟨es, he, rfl⟩ := elabSchema_ok h
  exact schemaOK_of_inv es (elabES_inv hkey hlow he)

/-- **Every accepted schema document yields a well-formed schema object**: whatever XML element tree the schema loader
    accepts (with components and base schemas pulled in to any depth), the schema it returns has, in the top type and in
    every section type, distinct attribute names, distinct non-empty keys, at most one `+` key, key entries stored under
    their own name with a default of the right kind, section entries stored under `none` exactly for `*`/`+`, and only
    section types that exist — `Conf.schemaOK`, the assumption of C01/C02. -/
theorem elab_schemaOK (env : Env) (fuel : Nat) (t : Node) (S : Cfg.Schema)
    (hkey : ∀ kt s r, env.conv.key kt s = .ok r → r ≠ [])
    (hlow : ∀ x : Str, lower (lower x) = lower x)
    (h : elabSchema env fuel t = .ok S) : Conf.schemaOK S = true :=
  elab_schemaOK' env fuel t S (fun kt s r _ => hkey kt s r) hlow h

/-- the top-level type of a loaded schema has no name (read off `elab_schemaOK'`) -/
theorem elab_top_name_none (env : Env) (fuel : Nat) (t : Node) (S : Cfg.Schema)
    (hkey : ∀ (kt s r : Str), s ≠ [] → env.conv.key kt s = .ok r → r ≠ [])
    (hlow : ∀ x : Str, lower (lower x) = lower x)
    (h : elabSchema env fuel t = .ok S) : S.top.name = none := by
  have := elab_schemaOK' env fuel t S hkey hlow h
  unfold schemaOK at this
  simp only [Bool.and_eq_true, beq_iff_eq] at this
  exact this.1.2

/-- **The type table only grows** (by-product): reading a component (`<import>`) or a base schema (`extends`) into a
    well-formed schema object never removes or renames a type — the keys of the type table before are an initial
    segment of the keys after (`Grows`); in particular every type that was known stays known (`Grows.known`). -/
theorem elab_types_grow (env : Env) (fuel : Nat) (es es' : ES) (tree : Node)
    (hkey : ∀ (kt s r : Str), s ≠ [] → env.conv.key kt s = .ok r → r ≠ [])
    (hlow : ∀ x : Str, lower (lower x) = lower x) (hes : ESInv es)
    (h : (hooks env fuel).loadComponent es tree = .ok es' ∨ (hooks env fuel).extendSchema es tree = .ok es') :
    Grows es es' := by
  have hh := hooks_ok hkey hlow fuel
  rcases h with h | h
  · exact (hh.load es tree es' hes h).2
  · exact (hh.extend es tree es' hes h).2

/-- reading a component or a base schema into a well-formed schema state gives a well-formed schema state (the
    induction behind `elab_schemaOK`, for nested documents) -/
theorem elab_nested_inv (env : Env) (fuel : Nat) (es es' : ES) (tree : Node)
    (hkey : ∀ (kt s r : Str), s ≠ [] → env.conv.key kt s = .ok r → r ≠ [])
    (hlow : ∀ x : Str, lower (lower x) = lower x) (hes : ESInv es)
    (h : (hooks env fuel).loadComponent es tree = .ok es' ∨ (hooks env fuel).extendSchema es tree = .ok es') :
    ESInv es' := by
  have hh := hooks_ok hkey hlow fuel
  rcases h with h | h
  · exact (hh.load es tree es' hes h).1
  · exact (hh.extend es tree es' hes h).1

/-! ### the hypotheses are satisfiable -/

/-- `hkey` of `elab_schemaOK'` holds of the stock key types (`basic-key`, `identifier`, `ipaddr-or-hostname`, `string`).
    (The unrestricted `hkey` of `elab_schemaOK` does not: `stockKey "string" "" = ok ""`.) -/
theorem stockConv_key_ne_nil (kt s r : Str) (hs : s ≠ []) (h : stockConv.key kt s = .ok r) : r ≠ [] := by
  change stockKey kt s = .ok r at h
  unfold stockKey at h
  split at h
  · unfold DT.basicKey DT.regexConv at h
    split at h
    · simp only [Except.map, Except.ok.injEq] at h; subst h; exact fun e => hs (List.map_eq_nil_iff.1 e)
    · simp [Except.map] at h
  · unfold DT.identifier DT.regexConv at h
    split at h
    · simp only [Except.ok.injEq] at h; subst h; exact hs
    · cases h
  · unfold DT.ipaddrOrHostname DT.regexConv at h
    split at h
    · simp only [Except.map, bind, Except.bind, pure, Except.pure, throw, throwThe, MonadExceptOf.throw] at h
      split at h
      · split at h
        · simp only [Except.ok.injEq] at h; subst h; exact fun e => hs (List.map_eq_nil_iff.1 e)
        · cases h
      · simp only [Except.ok.injEq] at h; subst h; exact fun e => hs (List.map_eq_nil_iff.1 e)
    · simp [Except.map, bind, Except.bind] at h
  · simp only [Except.ok.injEq] at h; subst h; exact hs
  · cases h

example : (stockConv.key "string".toList []).toOption = some [] := by decide +kernel

namespace Example
/-- a base schema, a component and a schema that extends / imports them (datatype names are dotted so that the closed
    term reduces in the kernel: the stock names go through the regular-expression matcher, which is defined by
    well-founded recursion) -/
def base : Node :=
  .elem "schema".toList [("keytype".toList, "a.k".toList), ("valuetype".toList, "a.v".toList), ("datatype".toList, "a.d".toList)]
    [.elem "description".toList [] [.text "base".toList]]
def comp : Node :=
  .elem "component".toList [] [.elem "description".toList [] [.text "comp".toList]]
def env : Env :=
  { conv := stockConv, dotted := fun _ => .found "d.t".toList, comps := fun _ _ => .doc comp, bases := fun _ => some base }
def doc : Node :=
  .elem "schema".toList [("extends".toList, "base.xml".toList), ("keytype".toList, "a.k".toList),
      ("valuetype".toList, "a.v".toList), ("datatype".toList, "a.d".toList)]
    [.elem "description".toList [] [.text " x ".toList], .text "  ".toList,
     .elem "import".toList [("package".toList, "pkg".toList)] []]

/-- the one evaluation of this run: the document is accepted, and the schema it yields declares nothing at top level -/
theorem doc_accepted : ∃ S, elabSchema env 1 doc = .ok S ∧ S.top.children = [] := by
  have h : (elabSchema env 1 doc).toOption.map (fun S => S.top.children.isEmpty) = some true := by decide +kernel
  cases hS : elabSchema env 1 doc with
  | ok S =>
    rw [hS] at h
    simp only [Except.toOption, Option.map_some, Option.some.injEq, List.isEmpty_iff] at h
    exact ⟨S, rfl, h⟩
  | error e => rw [hS] at h; cases h

/-- the document is accepted … -/
example : (elabSchema env 1 doc).toOption.isSome = true := by
  obtain ⟨S, h, _⟩ := doc_accepted; rw [h]; rfl
/-- … so the theorem applies to it (with the stock key types) -/
example (hlow : ∀ x : Str, lower (lower x) = lower x) (S : Cfg.Schema) (h : elabSchema env 1 doc = .ok S) :
    Conf.schemaOK S = true :=
  elab_schemaOK' env 1 doc S stockConv_key_ne_nil hlow h
end Example

end ZCV.Elab
