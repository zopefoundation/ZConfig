import ZCV.Lemmas.IncludeGen
import ZCV.Lemmas.Grammar
import ZCV.Lemmas.Lits
import ZCV.Lemmas.SubstCor
/-!
A concrete instance for the C06 theorems (non-vacuity, and the role of each hypothesis):

    d/top :  %define n f          d/f :  %define y 2         d/g :  j $y$n
             %include $n                 %include g
             i $y

* the argument of the `%include` in `d/top` contains a reference (`$n`);
* `d/f` itself contains an `%include` (nested), whose argument `g` is resolved against `d/f`, giving `d/g`;
* `n` (defined in `d/top`) and `y` (defined in `d/f`) are both visible in `d/g`; `y` is visible in `d/top` after the `%include`;
* read from a resource outside `d/` (URL `none` here), the inlined copy of `d/f` looks for `g`, not `d/g`: textual inclusion
  holds only if the nested arguments resolve alike (hypothesis `hrel` of the nested theorem).
-/
namespace ZCV.Cfg.IncEx
open ZCV ZCV.Cfg ZCV.Subst ZCV.SubstSpec

def F : List Str := ["%define y 2".toList, "%include g".toList]
def G : List Str := ["j $y$n".toList]
def A : List Str := ["%define n f".toList]
def B : List Str := ["i $y".toList]

/-- references are resolved against the directory of the includer: inside `d/…`, `a` means `d/a` -/
def env : Env :=
  { res := fun u => if u = "d/f".toList then some F else if u = "d/g".toList then some G else none,
    resolve := fun url a => match url with
      | some u => if u.take 2 = "d/".toList then .url ("d/".toList ++ a) else .url a
      | none => .url a,
    getenv := fun _ => none }

def dn : List (Str × Str) := [("n".toList, "f".toList)]
def dny : List (Str × Str) := [("n".toList, "f".toList), ("y".toList, "2".toList)]

theorem sh_def_n : lineShape (strip "%define n f".toList) = .define "n f".toList :=
  lineShape_of_classify _ (by char_lits; decide +kernel) _ (by char_lits; decide +kernel) (by decide)
theorem sh_def_y : lineShape (strip "%define y 2".toList) = .define "y 2".toList :=
  lineShape_of_classify _ (by char_lits; decide +kernel) _ (by char_lits; decide +kernel) (by decide)
theorem sh_inc_n : lineShape (strip "%include $n".toList) = .include_ "$n".toList :=
  lineShape_of_classify _ (by char_lits; decide +kernel) _ (by char_lits; decide +kernel) (by decide)
theorem sh_inc_dn : lineShape (strip "%include d/$n".toList) = .include_ "d/$n".toList :=
  lineShape_of_classify _ (by char_lits; decide +kernel) _ (by char_lits; decide +kernel) (by decide)
theorem sh_inc_g : lineShape (strip "%include g".toList) = .include_ "g".toList :=
  lineShape_of_classify _ (by char_lits; decide +kernel) _ (by char_lits; decide +kernel) (by decide)
theorem sh_j : lineShape (strip "j $y$n".toList) = .kv "j".toList "$y$n".toList :=
  lineShape_of_classify _ (by char_lits; decide +kernel) _ (by char_lits; decide +kernel) (by decide)
theorem sh_i : lineShape (strip "i $y".toList) = .kv "i".toList "$y".toList :=
  lineShape_of_classify _ (by char_lits; decide +kernel) _ (by char_lits; decide +kernel) (by decide)

section rules
variable {e : Env} {url : Option Str} {line : Nat}

/-- a `%define` of a new, legal name with a value that expands to `nv` -/
theorem define_new {defs : List (Str × Str)} {arg p0 v nv : Str}
    (hsp : splitWS1 arg = [p0, v]) (hnew : lookupDef defs (lower p0) = none) (hname : isnameSpec (lower p0) = true)
    (hrep : substitute (lookupDef defs) e.getenv v = .ok nv) :
    define e url line arg defs = .ok (setDef defs (lower p0) nv) := by
  unfold define
  have hn : Subst.isname (lower p0) = true := by rw [substcor_isname]; exact hname
  rw [hsp]
  simp only [defValue, hnew, hn, replace_of_subst hrep, Bool.not_true, Bool.false_eq_true,
    ↓reduceIte, bind, Except.bind, pure, Except.pure]

end rules

/-! ### the three resources -/

def ut : Option Str := some "d/top".toList

theorem res_f : env.res "d/f".toList = some F := rfl
theorem res_g : env.res "d/g".toList = some G := by char_lits; decide +kernel
theorem res_plain_g : env.res "g".toList = none := by char_lits; decide +kernel

theorem resolve_in_d (u a : Str) (h : u.take 2 = "d/".toList) : env.resolve (some u) a = .url ("d/".toList ++ a) := by
  show (if u.take 2 = "d/".toList then _ else _) = _
  rw [if_pos h]

theorem subst_yn : substitute (lookupDef dny) env.getenv "$y$n".toList = .ok "2f".toList := by
  rw [substcor_eval_eq]; char_lits; decide +kernel
theorem subst_y : substitute (lookupDef dny) env.getenv "$y".toList = .ok "2".toList := by
  rw [substcor_eval_eq]; char_lits; decide +kernel
theorem subst_n : substitute (lookupDef dn) env.getenv "$n".toList = .ok "f".toList := by
  rw [substcor_eval_eq]; char_lits; decide +kernel
theorem subst_dn : substitute (lookupDef dn) env.getenv "d/$n".toList = .ok "d/f".toList := by
  rw [substcor_eval_eq]; char_lits; decide +kernel

/-- `d/g`: sees `y` and `n` -/
theorem parse_G (fuel : Nat) (active : List Str) (c : List Ev0) :
    parseLines fuel env rec0 active (some "d/g".toList) G 0 { ctx := c, stack := [], defs := dny } =
      .ok { ctx := c ++ [.value "j".toList "2f".toList], stack := [], defs := dny } :=
  parse_cons (StepOk.step (.kv sh_j (replace_of_subst subst_yn) rfl)) (parse_nil rfl)

theorem step_def_y (fuel : Nat) (active : List Str) (url : Option Str) (line : Nat) (c : List Ev0) :
    stepLine fuel env rec0 active url line (strip "%define y 2".toList) { ctx := c, stack := [], defs := dn } =
      .ok { ctx := c, stack := [], defs := dny } :=
  StepOk.step (.define sh_def_y rfl (define_new (p0 := "y".toList) (v := "2".toList) (nv := "2".toList)
    (by char_lits; decide +kernel)
    (by show lookupDef dn (lower "y".toList) = none; char_lits; decide +kernel) (by char_lits; decide +kernel)
    (by show substitute (lookupDef dn) env.getenv "2".toList = .ok "2".toList; rw [substcor_eval_eq]; char_lits; decide +kernel)))

theorem step_inc_g (fuel : Nat) (active : List Str) (url : Option Str) (line : Nat) (c : List Ev0)
    (hurl : ∃ u, url = some u ∧ u.take 2 = "d/".toList) (hact : "d/g".toList ∉ active) :
    stepLine (fuel + 1) env rec0 active url line (strip "%include g".toList) { ctx := c, stack := [], defs := dny } =
      .ok { ctx := c ++ [.value "j".toList "2f".toList], stack := [], defs := dny } := by
  obtain ⟨u, rfl, hu⟩ := hurl
  exact (StepOk.step (.include_ (st := { ctx := c, stack := [], defs := dny }) (a := "g".toList) (u := "d/g".toList) sh_inc_g
    (replace_nodollar _ _ _ _ _ (by char_lits; decide +kernel)) rfl (resolve_in_d _ _ hu) res_g (.inr hact) rfl
    (parse_G fuel _ c)))

/-- `d/f`, read under its own URL: defines `y`, then includes `g` RELATIVE TO `d/f`, i.e. `d/g` -/
theorem parse_F (fuel : Nat) (active : List Str) (c : List Ev0) (hact : "d/g".toList ∉ active) :
    parseLines (fuel + 1) env rec0 active (some "d/f".toList) F 0 { ctx := c, stack := [], defs := dn } =
      .ok { ctx := c ++ [.value "j".toList "2f".toList], stack := [], defs := dny } :=
  parse_cons (step_def_y _ _ _ _ c)
    (parse_cons (step_inc_g fuel active _ _ c ⟨_, rfl, by char_lits; decide +kernel⟩ hact) (parse_nil rfl))

def s0 : PS (List Ev0) := { ctx := [], stack := [], defs := [] }
def s1 : PS (List Ev0) := { ctx := [], stack := [], defs := dn }

theorem step_def_n (fuel : Nat) (active : List Str) (url : Option Str) (line : Nat) :
    stepLine fuel env rec0 active url line (strip "%define n f".toList) s0 = .ok s1 :=
  StepOk.step (.define sh_def_n rfl (define_new (p0 := "n".toList) (v := "f".toList) (nv := "f".toList)
    (by char_lits; decide +kernel)
    (by char_lits; decide +kernel) (by char_lits; decide +kernel)
    (by show substitute (lookupDef []) env.getenv "f".toList = .ok "f".toList; rw [substcor_eval_eq]; char_lits; decide +kernel)))

theorem run_A (fuel : Nat) (active : List Str) (url : Option Str) : runLines fuel env rec0 active url A 0 s0 = .ok s1 := by
  unfold A
  simp only [runLines]
  rw [step_def_n]
  rfl

/-- `d/top`: the argument `$n` expands to `f`, resolved against `d/top`: `d/f`; afterwards `y` is visible (whatever resources
    are considered active, `d/f` and `d/g` excepted) -/
theorem parse_top_act (fuel : Nat) (active : List Str) (hf : "d/f".toList ∉ active) (hg : "d/g".toList ∉ active) :
    parseLines (fuel + 2) env rec0 active ut (A ++ ["%include $n".toList] ++ B) 0 s0 =
      .ok { ctx := [.value "j".toList "2f".toList, .value "i".toList "2".toList], stack := [], defs := dny } := by
  have hg' : "d/g".toList ∉ "d/f".toList :: active := by
    intro h
    rcases List.mem_cons.1 h with h | h
    · exact absurd h (by char_lits; decide +kernel)
    · exact hg h
  exact parse_cons (step_def_n _ _ _ _)
    (parse_cons (StepOk.step (.include_ (st := s1) (a := "f".toList) (u := "d/f".toList) sh_inc_n (replace_of_subst subst_n) rfl
        (resolve_in_d _ _ (by char_lits; decide +kernel)) res_f (.inr hf) rfl (parse_F fuel _ [] hg')))
      (parse_cons (StepOk.step (.kv sh_i (replace_of_subst subst_y) rfl)) (parse_nil rfl)))

theorem parse_top (fuel : Nat) :
    parseLines (fuel + 2) env rec0 [] ut (A ++ ["%include $n".toList] ++ B) 0 s0 =
      .ok { ctx := [.value "j".toList "2f".toList, .value "i".toList "2".toList], stack := [], defs := dny } :=
  parse_top_act fuel [] List.not_mem_nil List.not_mem_nil

theorem balanced_F : Balanced F := by
  have h1 : lineDelta "%define y 2".toList = 0 := by unfold lineDelta; rw [sh_def_y]
  have h2 : lineDelta "%include g".toList = 0 := by unfold lineDelta; rw [sh_inc_g]
  constructor
  · simp only [F, neverBelow, h1, h2]; decide
  · simp only [F, List.map_cons, List.map_nil, h1, h2]; decide

/-- whatever `A` is read with: afterwards the argument `$n` expands to `f`, which `d/top` resolves to `d/f` -/
theorem prep_A (fuel : Nat) (active : List Str) (k : Nat) (sA : PS (List Ev0))
    (hA : runLines fuel env rec0 active ut A 0 s0 = .ok sA) :
    ∃ a, replace env sA.defs ut k (strip "$n".toList) = .ok a ∧ env.resolve ut a = .url "d/f".toList := by
  rw [run_A] at hA
  cases hA
  exact ⟨"f".toList, replace_of_subst subst_n, resolve_in_d _ _ (by char_lits; decide +kernel)⟩

/-- `d/f` and `d/top` are in the same directory -/
theorem rel_F (a : Str) : env.resolve (some "d/f".toList) a = env.resolve ut a := by
  rw [resolve_in_d _ _ (by char_lits; decide +kernel)]
  exact (resolve_in_d _ _ (by char_lits; decide +kernel)).symm

/-- the hypotheses of the nested-inclusion theorem hold for this text: a reference in the argument, an `%include` inside the
    fragment, definitions flowing both ways -/
theorem nested_instance (fuel : Nat) :
    outcome (parseLines (fuel + 2) env rec0 [] ut (A ++ ["%include $n".toList] ++ B) 0 s0) =
    outcome (parseLines (fuel + 2) env rec0 [] ut (A ++ F ++ B) 0 s0) := by
  refine incgen_inline_nested (fuel + 1) env [] ut A F B _ "$n".toList "d/f".toList 0 s0 sh_inc_n (prep_A _ _ _) res_f
    (by simp) balanced_F (fun _ _ _ _ => rel_F) ?_
  rw [parse_top]
  exact incgenNoLimit_ok _

/-- … so the inlined text gives the same events and definitions (obtained from the theorem, not by running the parser) -/
theorem inlined_outcome (fuel : Nat) :
    outcome (parseLines (fuel + 2) env rec0 [] ut (A ++ F ++ B) 0 s0) =
      some ([.value "j".toList "2f".toList, .value "i".toList "2".toList], dny, []) := by
  rw [← nested_instance, parse_top]
  rfl

/-- the inlined text, read directly (whatever resources are considered active, `d/g` excepted) -/
theorem parse_inlined (fuel : Nat) (active : List Str) (hact : "d/g".toList ∉ active) :
    parseLines (fuel + 1) env rec0 active ut (A ++ F ++ B) 0 s0 =
      .ok { ctx := [.value "j".toList "2f".toList, .value "i".toList "2".toList], stack := [], defs := dny } :=
  parse_cons (step_def_n _ _ _ _)
    (parse_cons (step_def_y _ _ _ _ [])
      (parse_cons (step_inc_g fuel active _ _ [] ⟨_, rfl, by char_lits; decide +kernel⟩ hact)
        (parse_cons (StepOk.step (.kv sh_i (replace_of_subst subst_y) rfl)) (parse_nil rfl))))

/-- the hypotheses of `incgen_inline_nested_rev` hold too: the inlined text, read with `d/f` considered active, is accepted -/
theorem nested_rev_instance (fuel : Nat) :
    outcome (parseLines (fuel + 2) env rec0 [] ut (A ++ ["%include $n".toList] ++ B) 0 s0) =
    outcome (parseLines (fuel + 1) env rec0 [] ut (A ++ F ++ B) 0 s0) := by
  refine incgen_inline_nested_rev fuel env [] ut A F B _ "$n".toList "d/f".toList 0 s0 sh_inc_n (prep_A _ _ _) res_f
    (by simp) balanced_F (fun _ _ _ _ => rel_F) ?_
  rw [parse_inlined fuel _ (by char_lits; decide +kernel)]
  exact incgenNoLimit_ok _

/-! ### read from outside `d/`: the nested argument is resolved against the FRAGMENT's URL -/

/-- the includer has no URL (or one outside `d/`): `d/$n` is `d/f`; inside it, `g` still means `d/g` -/
theorem parse_outside (fuel : Nat) :
    parseLines (fuel + 2) env rec0 [] none (A ++ ["%include d/$n".toList] ++ []) 0 s0 =
      .ok { ctx := [.value "j".toList "2f".toList], stack := [], defs := dny } :=
  parse_cons (step_def_n _ _ _ _)
    (parse_cons (StepOk.step (.include_ (st := s1) (a := "d/f".toList) (u := "d/f".toList) sh_inc_dn (replace_of_subst subst_dn) rfl rfl
        res_f (.inr List.not_mem_nil) rfl (parse_F fuel _ [] (by char_lits; decide +kernel))))
      (parse_nil rfl))

/-- the inlined copy, read from outside `d/`, looks for `g` — which does not exist: without `hrel`, inclusion is not textual -/
theorem inlined_outside_fails (fuel : Nat) :
    parseLines fuel env rec0 [] none (A ++ F ++ []) 0 s0 =
      .error (.cfg { kind := .plain, url := some "g".toList, tag := "error opening" }) :=
  parse_cons (step_def_n _ _ _ _)
    (parse_cons (step_def_y _ _ _ _ [])
      (parse_cons_error (incgen_include_missing fuel env rec0 [] none _ _ "g".toList "g".toList "g".toList
        { ctx := [], stack := [], defs := dny } sh_inc_g rfl (replace_nodollar _ _ _ _ _ (by char_lits; decide +kernel)) rfl
        res_plain_g)))

end ZCV.Cfg.IncEx
