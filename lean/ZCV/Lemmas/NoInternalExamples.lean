import ZCV.Lemmas.SlotsEx
import ZCV.Lemmas.NoInternalParse
/-!
Closed instances used by the counterexamples of `ZCV.Props.C07`: tiny schemas, datatype tables and include
environments; the two "the include recursion runs out of fuel" computations (`self_runs_out`, `chain_runs_out`); and three
loads that end in an internal exception because a hypothesis of `C07_no_internal` fails: `pkg_counterexample` (an imported
component with an ill-formed type), `misnamed_counterexample` (a concrete type stored under a name that is not its own),
`wrongKey_counterexample` (a key child stored without its key).
-/
namespace ZCV.Cfg

theorem shape_define (line a : Str) (hn : '\n' ∉ line) (hc : Grammar.classify line = .define a) :
    lineShape (strip line) = .define a :=
  shape_closed line (.define a) ⟨hn, nofun, hc⟩

end ZCV.Cfg

namespace ZCV.Cfg.Ex
open ZCV ZCV.Cfg

/-- datatypes that accept everything -/
def conv0 : Conv := { key := fun _ k => .ok k, val := fun _ v => .ok (.str v), sect := fun _ v => .ok v }
/-- no resource can be opened, every include argument is refused as a fragment URL -/
def env0 : Env := { res := fun _ => none, resolve := fun _ _ => .fragment, getenv := fun _ => none }
def pkgs0 : Str → Pkg := fun _ => .notImportable

def sch (children : List (Option Str × Info)) (types : List (Str × TypeEntry)) : Schema :=
  { types := types, top := { name := none, keytype := [], datatype := [], children := children }, handler := none, components := [] }
def sty (nm : Str) (children : List (Option Str × Info)) : SType :=
  { name := some nm, keytype := [], datatype := [], children := children }
def vi0 : VI := { value := [], pos := { line := 0, url := none } }
def key1 (name attr : String) (multi : Bool) (minOccurs : Nat) (dflt : Default) : KeyInfo :=
  { name := name.toList, attr := attr.toList, multi := multi, minOccurs := minOccurs, dt := [], dflt := dflt, handler := none }
def anySect (ty : String) : SectInfo :=
  { name := ['*'], attr := "s".toList, multi := false, minOccurs := 0, ty := ty.toList, handler := none }

def sEmpty : Schema := sch [] []

def inc : Str := "%include y".toList

theorem shape_inc : lineShape (strip inc) = .include_ "y".toList :=
  shape_closed _ _ (by unfold inc; char_lits; decide +kernel)

theorem strip_y : strip "y".toList = "y".toList := by char_lits; decide +kernel

theorem arg_y {defs : List (Str × Str)} {env : Env} {url : Option Str} {line : Nat} :
    replace env defs url line (strip "y".toList) = .ok "y".toList :=
  replace_closed ⟨strip_y, by decide⟩

/-! ### the empty URL is never refused as "including itself" -/

def envSelf : Env := { res := fun _ => some [inc], resolve := fun _ _ => .url [], getenv := fun _ => none }

theorem self_runs_out {σ} (c : PCtx σ) (hc : c.canInclude = true) : ∀ (fuel : Nat) (active : List Str) (url : Option Str)
    (st : PS σ), parseLines fuel envSelf c active url [inc] 0 st = .error (.internal "RecursionError") := by
  intro fuel
  induction fuel with
  | zero =>
    intro active url st
    exact parse_cons_error (incgen_include_depth envSelf c active url _ _ _ _ [] [inc] st shape_inc hc arg_y rfl rfl (.inl rfl))
  | succ f ih =>
    intro active url st
    refine parse_cons_error ((incgen_include_found f envSelf c active url _ _ _ _ [] [inc] st shape_inc hc arg_y rfl rfl
      (.inl rfl)).trans ?_)
    rw [ih]
    rfl

/-! ### a chain of 65 resources, each including the next -/

def chain : List Str := (List.range 65).map fun k => List.replicate (k + 1) 'x'

def envChain : Env :=
  { res := fun u => if chain.contains u then some [inc] else none,
    resolve := fun b _ => .url (b.getD [] ++ ['x']),
    getenv := fun _ => none }

theorem chain_mem (k : Nat) (hk : k < 65) : chain.contains (List.replicate (k + 1) 'x') = true := by
  rw [List.contains_iff_mem]
  exact List.mem_map.mpr ⟨k, List.mem_range.mpr hk, rfl⟩

/-- the `%include y` line in resource `x…x` (`k` letters) opens the next resource of the chain -/
theorem chain_step {σ} (c : PCtx σ) (hc : c.canInclude = true) (fuel k : Nat) (active : List Str) (n : Nat) (st : PS σ)
    (url : Option Str) (hu : url.getD [] = List.replicate k 'x') (hk : k < 65) (hact : ∀ a ∈ active, a.length ≤ k) :
    stepLine fuel envChain c active url n (strip inc) st =
      match fuel with
      | 0 => .error (.internal "RecursionError")
      | fuel' + 1 =>
        parseLines fuel' envChain c (List.replicate (k + 1) 'x' :: active) (some (List.replicate (k + 1) 'x')) [inc] 0
          { ctx := st.ctx, stack := [], defs := st.defs } >>= fun sub => .ok { st with ctx := sub.ctx, defs := sub.defs } := by
  have hres : envChain.resolve url "y".toList = .url (List.replicate (k + 1) 'x') := by
    simp only [envChain, hu, List.replicate_succ']
  have hopen : envChain.res (List.replicate (k + 1) 'x') = some [inc] := by
    simp only [envChain, chain_mem k hk, if_true]
  have hnot : List.replicate (k + 1) 'x' ∉ active := fun h => by
    have := hact _ h
    rw [List.length_replicate] at this
    omega
  cases fuel with
  | zero => exact incgen_include_depth envChain c active url n _ _ _ _ [inc] st shape_inc hc arg_y hres hopen (.inr hnot)
  | succ f => exact incgen_include_found f envChain c active url n _ _ _ _ [inc] st shape_inc hc arg_y hres hopen (.inr hnot)

theorem chain_runs_out {σ} (c : PCtx σ) (hc : c.canInclude = true) : ∀ (fuel k : Nat) (active : List Str) (st : PS σ),
    k + fuel = 64 → (∀ a ∈ active, a.length ≤ k) →
    parseLines fuel envChain c active (some (List.replicate k 'x')) [inc] 0 st = .error (.internal "RecursionError") := by
  intro fuel
  induction fuel with
  | zero =>
    intro k active st hk hact
    rw [parseLines, chain_step c hc 0 k active _ st _ rfl (by omega) hact]
    rfl
  | succ f ih =>
    intro k active st hk hact
    rw [parseLines, chain_step c hc (f + 1) k active _ st _ rfl (by omega) hact]
    dsimp only
    rw [ih (k + 1) _ _ (by omega) (by
      intro a ha
      rcases List.mem_cons.mp ha with rfl | ha
      · rw [List.length_replicate]; omega
      · have := hact a ha
        omega)]
    rfl

theorem envChain_ok : EnvOK envChain chain ∧ chain.length = 65 := by
  refine ⟨⟨fun b a h => (by cases h), ?_⟩, by simp [chain]⟩
  intro b a u hr ho
  simp only [envChain, Resolved.url.injEq] at hr
  constructor
  · rw [← hr]; simp
  · simp only [envChain] at ho
    split at ho
    · rename_i hc; exact List.contains_iff_mem.mp hc
    · cases ho

/-! ### an imported component with an ill-formed type -/

/-- a component whose only type has a required key with a default -/
def tBad : SType := sty "t".toList [(some "k".toList, .key (key1 "k" "k" false 1 (.one vi0)))]
def pkgsBad : Str → Pkg := fun _ => .component "u".toList [("t".toList, .concrete tBad)] []
/-- the application schema accepts one section of (the not yet known) type `t` -/
def sHost : Schema := sch [(none, .sect (anySect "t"))] []

def impLine : Str := "%import p".toList
def tLine : Str := "<t/>".toList
theorem shape_t : lineShape (strip tLine) = .open_ "t".toList none true :=
  lineShape_of_classify _ (by unfold tLine; char_lits; decide +kernel) _ (by unfold tLine; char_lits; decide +kernel) nofun

def stHost0 : LS := { schema := sHost, privateSchema := false, handlers := [], stack := [newMatcher sHost.top none none], pkgs := pkgsBad, conv := conv0 }
def sHost1 : Schema := { sHost with types := [("t".toList, .concrete tBad)], components := ["u".toList] }
def stHost1 : LS := { stHost0 with schema := sHost1, privateSchema := true }

theorem start_t : lsStart stHost1 "t".toList none =
    .ok { stHost1 with stack := [newMatcher tBad none none, newMatcher sHost.top none none] } :=
  lsStart_of_slot stHost1 "t".toList none _ [] tBad (anySect "t") rfl rfl rfl rfl
    ((getsectioninfo_eq_answerAt _ _ _ _).trans rfl) (by decide) (by decide)

/-- `%import p` brings the type in; `<t/>` opens a section of it, and finishing that section fails -/
theorem pkg_counterexample :
    load conv0 env0 pkgsBad sHost none [impLine, tLine] [] = .error (.internal "TypeError") :=
  (load_closed conv0 env0 pkgsBad sHost
    (parse_cons (StepOk.import_ shape_import (replace_closed arg_p) (a := stHost1) rfl).step
      (parse_cons_error ((stepLine_of_open shape_t).trans (open_empty_fail start_t rfl))))).trans rfl

/-! ### a concrete type stored under a name that is not its own -/

def absSect : SectInfo := { name := ['*'], attr := "s".toList, multi := false, minOccurs := 0, ty := "abs".toList, handler := none }
def tB : SType := sty "b".toList []
/-- the type table maps `a` to a type that calls itself `b` -/
def sMisnamed : Schema :=
  sch [(none, .sect absSect)]
    [("a".toList, .concrete tB), ("abs".toList, .abstract_ "abs".toList ["a".toList, "b".toList])]

def aLine : Str := "<a/>".toList
theorem shape_aLine : lineShape (strip aLine) = .open_ "a".toList none true :=
  lineShape_of_classify _ (by unfold aLine; char_lits; decide +kernel) _ (by unfold aLine; char_lits; decide +kernel) nofun

def topM : Matcher := newMatcher sMisnamed.top none none
def stM0 : LS := { schema := sMisnamed, privateSchema := false, handlers := [], stack := [topM], pkgs := pkgs0, conv := conv0 }
def vB : Val := .sect "b".toList none []
def topM' : Matcher := setSlot topM "s".toList (.sect vB)
def stM2 : LS := { stM0 with stack := [topM'] }

/-- `<a/>`: the section is opened as an `a`, finished, and added to the parent as a `b` -/
theorem misnamed_open : StepOk 64 env0 loaderCtx [] none (0 + 1) (strip aLine) { ctx := stM0, stack := [], defs := [] }
    { ctx := stM2, stack := [], defs := [] } := by
  -- both `a` and `b` are taken by the slot of the abstract type
  have hg1 : getsectioninfo sMisnamed topM.ty "b".toList none = .ok absSect :=
    (getsectioninfo_eq_answerAt _ _ _ _).trans rfl
  have hg2 : getsectioninfo sMisnamed topM.ty "a".toList none = .ok absSect :=
    (getsectioninfo_eq_answerAt _ _ _ _).trans rfl
  have h2 : sMisnamed.gettype "a".toList = some (.concrete tB) := rfl
  have h1 : lsStart stM0 "a".toList none = .ok { stM0 with stack := [newMatcher tB none none, topM] } := by
    simp only [lsStart, stM0, h2, tB, sty, Option.getD_some, hg1]
    rfl
  have ha : addSection sMisnamed topM "a".toList none vB = .ok topM' := by
    simp only [addSection, bind, Except.bind, pure, Except.pure, hg2]
    rfl
  have h3 : lsStop { stM0 with stack := [newMatcher tB none none, topM] } "a".toList none = .ok stM2 := by
    simp only [lsStop, stM0]
    have hf : finishMatcher conv0 sMisnamed (newMatcher tB none none) = .ok (vB, []) := rfl
    simp only [bind, Except.bind, hf, ha]
    rfl
  exact .empty shape_aLine h1 h3

theorem misnamed_counterexample :
    load conv0 env0 pkgs0 sMisnamed none [aLine] [] = .error (.internal "AttributeError") :=
  (load_closed conv0 env0 pkgs0 sMisnamed (url := none) (lines := [aLine])
    (parse_cons misnamed_open.step (parse_nil rfl))).trans rfl

/-! ### a well-formed schema with some variety -/

/-- a schema with a wildcard multikey with defaults, a required key, and a section type used through an abstract type -/
def sNice : Schema :=
  sch [ (some "k".toList, .key (key1 "k" "k" false 1 .none)),
        (some ['+'], .key (key1 "+" "m" true 0 (.keyedMany []))),
        (none, .sect { name := ['+'], attr := "s".toList, multi := true, minOccurs := 0, ty := "abs".toList, handler := none }) ]
      [ ("abs".toList, .abstract_ "abs".toList ["t".toList]),
        ("t".toList, .concrete (sty "t".toList [(some "d".toList, .key (key1 "d" "d" false 0 (.one vi0)))])) ]


/-! ### a key child stored without its key -/

/-- the top-level type holds a key child under no key -/
def sWrongKey : Schema := sch [(none, .key (key1 "k" "k" false 0 .none))] [("a".toList, .concrete (sty "a".toList []))]

theorem wrongKey_counterexample :
    load conv0 env0 pkgs0 sWrongKey none ["<a/>".toList] [] = .error (.internal "AttributeError") := by
  have hg : getsectioninfo sWrongKey sWrongKey.top "a".toList none = .error (.internal "AttributeError") :=
    (getsectioninfo_eq_answerAt _ _ _ _).trans rfl
  have h2 : sWrongKey.gettype "a".toList = some (.concrete (sty "a".toList [])) := rfl
  have h1 : lsStart (Conf.loadSt0 conv0 pkgs0 sWrongKey) "a".toList none = .error (.internal "AttributeError") := by
    simp only [lsStart, Conf.loadSt0, h2, newMatcher, sty, Option.getD_some, hg]
    rfl
  exact (load_closed conv0 env0 pkgs0 sWrongKey
    (parse_cons_error ((stepLine_of_open shape_aLine).trans (open_fail h1)))).trans rfl

end ZCV.Cfg.Ex
