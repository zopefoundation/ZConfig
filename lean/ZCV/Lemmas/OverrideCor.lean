import ZCV.Lemmas.OverrideSim
/-!
Consequences of the edit equivalence: the edited tree is spelled canonically again (so C01/C02 apply to it), overrides
that address no section or a key the section does not allow are refused.
-/
namespace ZCV.Conf
open ZCV ZCV.Cfg

theorem tyCanon_kept (s : Schema) : KeptByEdit (tyCanon s) where
  nil := tyCanon_nil s
  cons := tyCanon_cons s
  kv := fun k v p => by rw [tyCanon, tyCanon]
  sect := fun ty nm sub sub' h => by
    obtain ⟨hh, hsub⟩ := tyCanon_single_sect s ty nm sub h
    exact ⟨hsub, fun h' => by rw [tyCanon_sect, hh, h', tyCanon_nil]; rfl⟩

theorem canonItem (conv : Conv) (s : Schema) (asGiven : Bool) :
    ∀ (i : Item), tyCanon s [i] = true → ∀ norm keys pend is pend',
      editItem conv s asGiven norm keys i pend = .ok (is, pend') → tyCanon s is = true :=
  editItem_pres (tyCanon_kept s) conv s asGiven

theorem editBody_tyCanon (conv : Conv) (s : Schema) (asGiven : Bool) (kt : Str) (items : List Item) (ovs : List OptItem)
    (items' : List Item) (hcan : tyCanon s items = true) (h : editBody conv s asGiven kt items ovs = .ok items') :
    tyCanon s items' = true :=
  editBody_pres (tyCanon_kept s) conv s asGiven kt items ovs items' hcan h

/-! ### an override whose first component selects no section stays pending, and the edit is impossible -/

theorem editItems_keeps (conv : Conv) (s : Schema) (asGiven : Bool) (norm : Str → Except ConvErr Str) (keys : List Str)
    (o : OptItem) : ∀ (l : List Item) (pend : List OptItem) (is : List Item) (pend' : List OptItem),
    o ∈ pend → (∀ ty nm sub, Item.sect ty nm sub ∈ l → addresses o ty nm = false) →
    editItems conv s asGiven norm keys l pend = .ok (is, pend') → o ∈ pend'
  | [], pend, is, pend', ho, _, h => by
    rw [editItems_nil] at h
    cases h
    exact ho
  | i :: r, pend, is, pend', ho, hno, h => by
    obtain ⟨is1, pend1, rs, h1, h2, _⟩ := editItems_cons_ok h
    refine editItems_keeps conv s asGiven norm keys o r pend1 rs pend' ?_
      (fun ty nm sub hm => hno ty nm sub (List.mem_cons_of_mem _ hm)) h2
    cases i with
    | kv k v p => rw [editItem_kv] at h1; cases h1; exact ho
    | sect ty nm sub =>
      rcases editItem_sect_ok h1 with ⟨_, _, rfl⟩ | ⟨_, _, _, _, _, _, rfl⟩
      · exact ho
      · exact List.mem_filter.mpr ⟨ho, by rw [hno ty nm sub List.mem_cons_self]; rfl⟩

theorem splitOvs_mem_ss (norm : Str → Except ConvErr Str) (o : OptItem) (ho2 : 2 ≤ o.path.length)
    (ovs : List OptItem) (ks : List KeyOv) (ss : List OptItem) (ho : o ∈ ovs) (h : splitOvs norm ovs = .ok (ks, ss)) : o ∈ ss := by
  rw [(splitOvs_char norm ovs ks ss h).1]
  exact List.mem_filter.mpr ⟨ho, by simpa using ho2⟩

theorem editBody_unknown_section (conv : Conv) (s : Schema) (asGiven : Bool) (kt : Str) (items : List Item)
    (ovs : List OptItem) (o : OptItem) (ho : o ∈ ovs) (ho2 : 2 ≤ o.path.length)
    (hno : ∀ ty nm sub, Item.sect ty nm sub ∈ items → addresses o ty nm = false) :
    ∃ r, editBody conv s asGiven kt items ovs = .error r := by
  cases hed : editBody conv s asGiven kt items ovs with
  | error r => exact ⟨r, rfl⟩
  | ok items' =>
    obtain ⟨ks, ss, is, h1, h2, _⟩ := editBody_ok conv s asGiven kt items ovs items' hed
    have hm := splitOvs_mem_ss (conv.key kt) o ho2 ovs ks ss ho h1
    have := editItems_keeps conv s asGiven _ _ o items ss is [] hm hno h2
    cases this

/-! ### a line whose key the section does not allow stops the evaluation -/

/-- the key type refuses the key, or the normalised key is neither declared nor captured by a wildcard key -/
def keyRejected (conv : Conv) (t : SType) (k : Str) : Prop :=
  match conv.key t.keytype k with
  | .error _ => True
  | .ok rk => route t.children rk = none

theorem evalItemsB_rejects (conv : Conv) (s : Schema) (k v : Str) (p : Pos) :
    ∀ (l : List Item) (m : Matcher), m.bag = none → Item.kv k v p ∈ l → keyRejected conv m.ty k →
      ∃ e, evalItemsB conv s m l = .error e
  | [], _, _, hm, _ => by cases hm
  | i :: r, m, hb, hm, hrej => by
    rw [evalItemsB_cons]
    cases hev : evalItemB conv s m i with
    | error e => exact ⟨e, rfl⟩
    | ok m1 =>
      have hp := evalItemB_pres conv s m m1 i hev
      cases hm with
      | head =>
        rw [evalItemB, addValue_nobag conv m hb] at hev
        unfold keyRejected at hrej
        cases hk : conv.key m.ty.keytype k with
        | error e => rw [hk] at hev; cases hev
        | ok rk =>
          rw [hk] at hev hrej
          simp only at hev hrej
          obtain ⟨e, he, _⟩ := addValueCore_unknown_rejected m k rk v p hrej
          rw [he] at hev
          cases hev
      | tail _ hm =>
        exact evalItemsB_rejects conv s k v p r m1 (hp.2 hb) hm (by rw [hp.1]; exact hrej)

/-! ### every key override shows up among the supplied lines -/

theorem splitOvs_mem_ks (norm : Str → Except ConvErr Str) (o : OptItem) (k n : Str) (hp : o.path = [k]) (hn : norm k = .ok n)
    (ovs : List OptItem) (ks : List KeyOv) (ss : List OptItem) (ho : o ∈ ovs) (h : splitOvs norm ovs = .ok (ks, ss)) :
    { key := k, norm := n, val := o.val } ∈ ks :=
  ((splitOvs_char norm ovs ks ss h).2 _).mpr ⟨o, ho, hp, hn, rfl⟩

theorem newLines_mem (asGiven : Bool) (ks : List KeyOv) (x : KeyOv) (hx : x ∈ ks) :
    Item.kv (if asGiven then x.key else x.norm) x.val cmdPos ∈ newLines asGiven (groupsOf ks) := by
  rw [groupsOf_eq]
  obtain ⟨g, hg, h1, h2⟩ :=
    (cstep_fold_iff x.norm (x.key, x.val) (ks.map kvOf) []).mpr (.inl (List.mem_map_of_mem (f := kvOf) hx))
  unfold newLines
  rw [List.mem_flatMap]
  refine ⟨g, hg, ?_⟩
  rw [List.mem_map]
  refine ⟨(x.key, x.val), h2, ?_⟩
  rw [h1]

end ZCV.Conf
