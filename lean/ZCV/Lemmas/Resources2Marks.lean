import ZCV.Lemmas.Resources2
/-!
Lemmas about `ZCV/Model/Resources2.lean`: which component marks a load leaves (`importSchemaComponent` puts
`self.schema` back when it fails); what a successful load adds.
-/
namespace ZCV.Res2
open ZCV.Res (Pt)

theorem mem_dictSet_self (l : List Nat) (x : Nat) : x ∈ dictSet l x := by
  unfold dictSet; split
  · rename_i h; exact List.contains_iff_mem.mp h
  · simp

theorem mem_dictSet {l : List Nat} {x y : Nat} (h : y ∈ dictSet l x) : y ∈ l ∨ y = x := by
  unfold dictSet at h; split at h
  · exact Or.inl h
  · simpa using h

/-! ## every mark that is left belongs to a component whose load returned -/

section marks
variable (f : Pt → Bool) (docs : List (Nat × Doc))

/-- the component `c` was loaded to the end (under this fault oracle, at some nesting depth, from some loader state) -/
def Good (c : Nat) : Prop := ∃ n st0, (runRes f docs n .comp c st0).ok = true

/-- every mark in `b` was in `a` or belongs to a completely loaded component -/
def J (a b : List Nat) : Prop := ∀ c ∈ b, c ∈ a ∨ Good f docs c

theorem J.refl (a : List Nat) : J f docs a a := fun _ h => Or.inl h
theorem J.trans {a b c : List Nat} (h1 : J f docs a b) (h2 : J f docs b c) : J f docs a c := by
  intro x hx
  rcases h2 x hx with h | h
  · exact h1 x h
  · exact Or.inr h
theorem J.mark {a : List Nat} {c : Nat} (hc : Good f docs c) : J f docs a (dictSet a c) := by
  intro x hx
  rcases mem_dictSet hx with h | h
  · exact Or.inl h
  · exact Or.inr (h ▸ hc)

/-- `J` from the marks before the block to the marks after it, when the block returns -/
def JOk (g : LState → Out) : Prop := Sat (fun a v b => v = true → J f docs a.comps b.comps) g
/-- the same, however the block ends -/
def JAll (g : LState → Out) : Prop := Sat (fun a _ b => J f docs a.comps b.comps) g

theorem JAll.jok {g : LState → Out} (h : JAll f docs g) : JOk f docs g := fun st _ => h st

theorem jokInv : Inv (fun a v b => v = true → J f docs a.comps b.comps) :=
  ⟨fun _ _ _ => J.refl f docs _, fun h1 h2 hv => (h1 rfl).trans f docs (h2 hv), fun _ _ _ _ h => h⟩

theorem jallInv : Inv (fun a _ b => J f docs a.comps b.comps) :=
  ⟨fun _ _ => J.refl f docs _, J.trans f docs, fun _ _ _ _ h => h⟩

/-- what the induction over the nesting depth provides about the recursive call -/
structure RecJ (rec : Rec) : Prop where
  ok : ∀ m c, JOk f docs (rec m c)
  incl : ∀ c, JAll f docs (rec .incl c)
  top : ∀ b c, JAll f docs (rec (.top b) c)
  load : ∀ b c, JAll f docs (rec (.load b) c)
  good : ∀ c st, (rec .comp c st).ok = true → Good f docs c

/-- `<import package>` inside a schema or a component: the mark is made before the component is read and is NOT taken back by
    schema.py when reading fails — on return it is justified -/
theorem schLine_jok (rec : Rec) (hr : RecJ f docs rec) (s : SStep) : JOk f docs (schLine rec s) := by
  intro st
  cases s with
  | work => exact fun _ => J.refl f docs _
  | ext b => exact hr.ok _ _ st
  | importSrc c => exact hr.ok _ _ st
  | importPkg c =>
    simp only [schLine]
    split
    · exact fun _ => J.refl f docs _
    · intro h
      exact (J.mark f docs (hr.good c _ h)).trans f docs (hr.ok .comp c _ h)

/-- a line of a configuration resource: `%import` takes its marks back when it fails -/
theorem cfgLine_jall (rec : Rec) (hr : RecJ f docs rec) (s : CStep) : JAll f docs (cfgLine rec s) := by
  intro st
  cases s with
  | work => exact J.refl f docs _
  | incl c => exact hr.incl c st
  | imp c =>
    rcases cfgLine_imp_view rec c st with ⟨_, hv⟩ | ⟨_, o, rfl, ⟨hok, hv⟩ | ⟨_, hv⟩⟩ <;> rw [hv]
    · exact J.refl f docs _
    · exact (J.mark f docs (hr.good c _ hok)).trans f docs (hr.ok .comp c _ hok)
    · exact J.refl f docs _

theorem loadSchemaRes_jall (rec : Rec) (r : Nat) (doc : Option Doc) : JAll f docs (loadSchemaRes f rec r doc) := by
  intro st
  rcases loadSchemaRes_view f rec r doc st with ⟨_, hv⟩ | ⟨_, b, _, ⟨_, hv⟩ | ⟨_, hv⟩⟩ <;> rw [hv] <;> exact J.refl f docs _

theorem runRes_recJ : ∀ (fuel : Nat), RecJ f docs (runRes f docs fuel)
  | 0 => ⟨fun _ _ _ _ => J.refl f docs _, fun _ _ => J.refl f docs _, fun _ _ _ => J.refl f docs _, fun _ _ _ => J.refl f docs _,
      fun c st h => ⟨0, st, h⟩⟩
  | fuel + 1 => by
    have ih := runRes_recJ fuel
    have hcfg := fun c => runRes_cfg_sat (jallInv f docs) f docs fuel c fun _ _ s _ => cfgLine_jall f docs _ ih s
    have hload : ∀ b c, JAll f docs (runRes f docs (fuel + 1) (.load b) c) :=
      fun b c => withResource_sat (jallInv f docs) f c _ _ (loadSchemaRes_jall f docs _ c _)
    refine ⟨?_, fun c => (hcfg c).1, fun b c => (hcfg c).2 b, hload, fun c st h => ⟨fuel + 1, st, h⟩⟩
    intro m r
    cases m with
    | top file => exact JAll.jok f docs ((hcfg r).2 file)
    | incl => exact JAll.jok f docs (hcfg r).1
    | load file => exact (hload file r).jok
    | extend => exact withResource_sat (jokInv f docs) f r _ _ (schemaBody_sat (jokInv f docs) f _ r _ (schLine_jok f docs _ ih))
    | comp => exact withResource_sat (jokInv f docs) f r _ _ (compBody_sat (jokInv f docs) f _ r _ (schLine_jok f docs _ ih))

end marks

theorem run_marks_justified (faults : List Pt) (sc : Scenario) (st : LState) :
    J (fun p => faults.contains p) sc.docs st.comps (run faults sc st).st.comps := by
  unfold run
  cases h : sc.entry.mode with
  | top file => exact (runRes_recJ _ sc.docs sc.limit).top file _ st
  | load file => exact (runRes_recJ _ sc.docs sc.limit).load file _ st
  | incl | extend | comp => cases he : sc.entry <;> simp [he, Entry.mode] at h

/-! ## what a load that returns has added -/

theorem withResource_ok_inv (f : Pt → Bool) (o : Opener) (r : Nat) (ex : Bool) (body : LState → Out) (st : LState)
    (h : (withResource f o r ex body st).ok = true) :
    (body st).ok = true ∧ (withResource f o r ex body st).st = (body st).st := by
  rcases withResource_view f o r ex body st with ⟨_, _, h'⟩ | ⟨_, _, h'⟩ <;> rw [h'] at h ⊢
  · exact Bool.noConfusion h
  · exact ⟨h, rfl⟩

theorem cfgLine_imp_marks (rec : Rec) (hr : ∀ m c, Keeps (rec m c)) (c : Nat) (st : LState)
    (h : (cfgLine rec (.imp c) st).ok = true) : c ∈ (cfgLine rec (.imp c) st).st.comps := by
  rcases cfgLine_imp_view rec c st with ⟨hc, hv⟩ | ⟨_, o, rfl, ⟨_, hv⟩ | ⟨_, hv⟩⟩ <;> rw [hv] at h ⊢
  · exact List.contains_iff_mem.mp hc
  · exact (hr .comp c _).comps.subset (mem_dictSet_self _ _)
  · cases h

theorem stepLoop_cfg_marks (f : Pt → Bool) (rec : Rec) (hr : ∀ m c, Keeps (rec m c)) (r : Nat) (c : Nat) :
    ∀ (lines : List CStep) (k : Nat) (st : LState), (stepLoop f r (cfgLine rec) k lines st).ok = true → CStep.imp c ∈ lines →
      c ∈ (stepLoop f r (cfgLine rec) k lines st).st.comps
  | [], _, _, _, hm => by simp at hm
  | s :: rest, k, st, h, hm => by
    simp only [stepLoop] at h ⊢
    split
    · rename_i hf; simp [hf] at h
    · rename_i hf
      simp only [hf, Bool.false_eq_true, if_false] at h
      split
      · rename_i hok
        simp only [hok, if_true] at h
        rcases List.mem_cons.mp hm with he | hrest
        · subst he
          have h1 := cfgLine_imp_marks rec hr c st hok
          exact (stepLoop_keeps f r _ (cfgLine_keeps rec hr) rest (k + 1) _).comps.subset h1
        · exact stepLoop_cfg_marks f rec hr r c rest (k + 1) _ h hrest
      · rename_i hok; simp [hok] at h

theorem runRes_top_marks (f : Pt → Bool) (docs : List (Nat × Doc)) (fuel : Nat) (file : Bool) (r : Nat) (st : LState)
    (lines : List CStep) (hd : lookup docs r = some (.cfg lines)) (c : Nat) (hc : CStep.imp c ∈ lines)
    (h : (runRes f docs fuel (.top file) r st).ok = true) : c ∈ (runRes f docs fuel (.top file) r st).st.comps := by
  cases fuel with
  | zero => simp [runRes] at h
  | succ fuel =>
    simp only [runRes, hd] at h ⊢
    obtain ⟨hb, hst⟩ := withResource_ok_inv f _ r _ _ st h
    rw [hst]
    simp only [loadCfg] at hb ⊢
    split
    · rename_i hp
      simp only [parseCfg] at hp ⊢
      split
      · rename_i ha; simp [List.contains_iff_mem.mp ha] at hp
      · rename_i ha
        simp only [ha, Bool.false_eq_true, if_false] at hp
        exact stepLoop_cfg_marks f _ (runRes_keeps f docs fuel) r c lines 0 _ hp hc
    · rename_i hp; simp [hp] at hb

theorem runRes_load_cached (f : Pt → Bool) (docs : List (Nat × Doc)) (fuel : Nat) (file : Bool) (r : Nat) (st : LState)
    (h : (runRes f docs fuel (.load file) r st).ok = true) : r ∈ (runRes f docs fuel (.load file) r st).st.cache := by
  cases fuel with
  | zero => simp [runRes] at h
  | succ fuel =>
    simp only [runRes] at h ⊢
    obtain ⟨hb, hst⟩ := withResource_ok_inv f _ r _ _ st h
    rw [hst]
    rcases loadSchemaRes_view f _ r _ st with ⟨hc, hv⟩ | ⟨_, b, _, ⟨_, hv⟩ | ⟨_, hv⟩⟩ <;> rw [hv] at hb ⊢
    · exact List.contains_iff_mem.mp hc
    · exact mem_dictSet_self _ _
    · cases hb

end ZCV.Res2
