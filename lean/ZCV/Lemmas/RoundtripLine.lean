import ZCV.Lemmas.RoundtripDefs
import ZCV.Props.C04
import ZCV.Lemmas.LayoutCase
import ZCV.Lemmas.DefinesSpec
/-!
One printed line at a time (C17): a value printed with its `$` doubled re-reads as the value (on top of C04); what the
well-formedness predicates of the tree give for its parts; what `strip` leaves of a printed line; and how the parser
classifies that (`lineShape_data`: the arm of a line that starts neither a comment, a section nor a directive).
-/
namespace ZCV.Roundtrip
open ZCV ZCV.Cfg ZCV.SubstSpec

/-! ### `$`-escaping -/

theorem value_roundtrip_spec (defs env : Str → Option Str) (src v : Str) :
    spec defs env src (escDollar v) = .ok v := by
  induction v with
  | nil => simp [escDollar, spec_nil]
  | cons c t ih =>
    by_cases hc : c = '$'
    · subst hc
      have : escDollar ('$' :: t) = '$' :: '$' :: escDollar t := by simp [escDollar]
      rw [this, Subst.spec_esc, ih]; rfl
    · have : escDollar (c :: t) = c :: escDollar t := by simp [escDollar, hc]
      rw [this, spec_lit _ _ _ _ _ hc, ih]; rfl

theorem value_roundtrip (defs env : Str → Option Str) (v : Str) :
    Subst.substitute defs env (escDollar v) = .ok v := by
  have h := ZCV.Props.C04.C04_substitute_eq_spec defs env (escDollar v)
  unfold substituteSpec at h
  rw [value_roundtrip_spec] at h
  cases hs : Subst.substitute defs env (escDollar v) with
  | ok r => rw [hs] at h; simp [Subst.conv] at h; rw [h]
  | error e => rw [hs] at h; simp [Subst.conv] at h

theorem replace_esc (env : Env) (defs : List (Str × Str)) (url : Option Str) (n : Nat) (v : Str) :
    replace env defs url n (escDollar v) = .ok v := by
  unfold replace
  rw [value_roundtrip]

theorem esc_nil : escDollar [] = [] := rfl

theorem esc_cons (c : Char) (t : Str) :
    escDollar (c :: t) = (if c == '$' then ['$', '$'] else [c]) ++ escDollar t := by
  simp [escDollar]

theorem esc_eq_nil {v : Str} : escDollar v = [] ↔ v = [] := by
  cases v with
  | nil => simp [esc_nil]
  | cons c t =>
    rw [esc_cons]
    by_cases h : (c == '$') = true <;> simp [h]

theorem mem_esc {a : Char} {v : Str} (h : a ∈ escDollar v) : a ∈ v := by
  unfold escDollar at h
  rw [List.mem_flatMap] at h
  obtain ⟨c, hc, ha⟩ := h
  by_cases hd : (c == '$') = true
  · simp only [hd, ↓reduceIte, List.mem_cons, List.not_mem_nil, or_false, or_self] at ha
    rw [ha, ← beq_iff_eq.1 hd]; exact hc
  · simp only [hd, Bool.false_eq_true, ↓reduceIte, List.mem_cons, List.not_mem_nil, or_false] at ha
    rw [ha]; exact hc

theorem esc_head (v : Str) (c : Char) (h : (escDollar v).head? = some c) : v.head? = some c := by
  cases v with
  | nil => simp [esc_nil] at h
  | cons a t =>
    rw [esc_cons] at h
    by_cases hd : (a == '$') = true
    · simp only [hd, ↓reduceIte, List.cons_append, List.nil_append, List.head?_cons, Option.some.injEq] at h
      rw [← h, ← beq_iff_eq.1 hd]; rfl
    · simpa [hd] using h

theorem esc_append (a b : Str) : escDollar (a ++ b) = escDollar a ++ escDollar b := by
  simp [escDollar]

theorem esc_last (v : Str) (c : Char) (h : (escDollar v).getLast? = some c) : v.getLast? = some c := by
  rcases List.eq_nil_or_concat v with rfl | ⟨L, b, rfl⟩
  · simp [esc_nil] at h
  · rw [List.concat_eq_append, esc_append] at h
    by_cases hd : b = '$'
    · subst hd
      have : escDollar ['$'] = ['$', '$'] := rfl
      rw [this] at h
      simp only [List.getLast?_append, List.getLast?_cons_cons, List.getLast?_singleton] at h
      rw [← h]; simp
    · have : escDollar [b] = [b] := by simp [escDollar, hd]
      rw [this] at h
      simpa using h

/-! ### what the well-formedness predicates give -/

theorem isWord_ne_nl {c : Char} (h : Grammar.isWord c = true) : c ≠ '\n' :=
  not_space_ne_nl (isWord_not_space h)

theorem wordTok_all {s : Str} (h : wordTok s = true) : ∀ c ∈ s, Grammar.isWord c = true := by
  unfold wordTok at h
  rw [Bool.and_eq_true, List.all_eq_true] at h
  exact h.2

theorem wordTok_nonl {s : Str} (h : wordTok s = true) : '\n' ∉ s :=
  fun hm => isWord_ne_nl (wordTok_all h _ hm) rfl

theorem wordTok_head {s : Str} (h : wordTok s = true) (c : Char) (hc : s.head? = some c) : pySpace c = false :=
  isWord_not_space (wordTok_all h c (List.mem_of_head? hc))

theorem wordTok_last {s : Str} (h : wordTok s = true) (c : Char) (hc : s.getLast? = some c) : pySpace c = false :=
  isWord_not_space (wordTok_all h c (List.mem_of_getLast? hc))

theorem cleanVal_nonl {v : Str} (h : cleanVal v = true) : '\n' ∉ v := by
  unfold cleanVal at h
  simp only [Bool.and_eq_true, Bool.not_eq_true', List.contains_eq_mem, decide_eq_false_iff_not] at h
  exact h.1.1

theorem cleanVal_head {v : Str} (h : cleanVal v = true) (c : Char) (hc : v.head? = some c) : pySpace c = false := by
  unfold cleanVal at h
  simp only [Bool.and_eq_true, Bool.not_eq_true'] at h
  have := h.1.2
  rw [hc] at this
  simpa using this

theorem cleanVal_last {v : Str} (h : cleanVal v = true) (c : Char) (hc : v.getLast? = some c) : pySpace c = false := by
  unfold cleanVal at h
  simp only [Bool.and_eq_true, Bool.not_eq_true'] at h
  have := h.2
  rw [hc] at this
  simpa using this

theorem cleanVal_intro {v : Str} (h1 : '\n' ∉ v) (h2 : ∀ c, v.head? = some c → pySpace c = false)
    (h3 : ∀ c, v.getLast? = some c → pySpace c = false) : cleanVal v = true := by
  unfold cleanVal
  simp only [Bool.and_eq_true, Bool.not_eq_true', List.contains_eq_mem, decide_eq_false_iff_not]
  refine ⟨⟨h1, ?_⟩, ?_⟩
  · cases hh : v.head? with
    | none => rfl
    | some d => simp [h2 d hh]
  · cases hh : v.getLast? with
    | none => rfl
    | some d => simp [h3 d hh]

theorem keyOK_word {k : Str} (h : keyOK k = true) : wordTok k = true := by
  unfold keyOK at h
  simp only [Bool.and_eq_true] at h
  exact h.1.1.1

theorem keyOK_first {k : Str} (h : keyOK k = true) : ∃ c t, k = c :: t ∧ c ≠ '#' ∧ c ≠ '<' ∧ c ≠ '%' := by
  have hw := wordTok_ne (keyOK_word h)
  unfold keyOK at h
  cases k with
  | nil => exact absurd rfl hw
  | cons c t =>
    refine ⟨c, t, rfl, ?_⟩
    simp only [Bool.and_eq_true, List.take_succ_cons, List.take_zero, bne_iff_ne, ne_eq, List.cons.injEq,
      and_true] at h
    exact ⟨h.1.1.2, h.1.2, h.2⟩

theorem tokOK_word {s : Str} (h : tokOK s = true) : wordTok s = true := by
  unfold tokOK at h
  simp only [Bool.and_eq_true] at h
  exact h.1

theorem tokOK_lower {s : Str} (h : tokOK s = true) : lower s = s := by
  unfold tokOK at h
  simp only [Bool.and_eq_true, beq_iff_eq] at h
  exact h.2

theorem all_space_of_blanks {pre : Str} (h : pre.all (· == ' ') = true) : pre.all pySpace = true := by
  rw [List.all_eq_true] at h ⊢
  intro c hc
  rw [beq_iff_eq.1 (h c hc)]
  decide

theorem blanks_nonl {pre : Str} (h : pre.all (· == ' ') = true) : '\n' ∉ pre := by
  rw [List.all_eq_true] at h
  intro hm
  have := beq_iff_eq.1 (h _ hm)
  cases this

/-! ### `strip` of the printed lines -/

theorem strip_indent (pre body : Str) (hpre : pre.all (· == ' ') = true)
    (h1 : ∀ c, body.head? = some c → pySpace c = false) (h2 : ∀ c, body.getLast? = some c → pySpace c = false) :
    strip (pre ++ body) = body := by
  rw [strip_pad_left _ _ (all_space_of_blanks hpre), strip_clean body h1 h2]

theorem strip_kv (pre k v : Str) (hpre : pre.all (· == ' ') = true) (hk : keyOK k = true) (hv : cleanVal v = true) :
    strip (pre ++ k ++ ' ' :: escDollar v) = kvLine k v := by
  have hw := keyOK_word hk
  unfold kvLine
  by_cases he : v = []
  · subst he
    rw [if_pos rfl, esc_nil]
    rw [strip_pad pre k [' '] (all_space_of_blanks hpre) (by decide)]
    exact strip_clean k (wordTok_head hw) (wordTok_last hw)
  · rw [if_neg he, List.append_assoc]
    apply strip_indent _ _ hpre
    · intro c hc
      obtain ⟨c0, t, rfl, _⟩ := keyOK_first hk
      simp only [List.cons_append, List.head?_cons, Option.some.injEq] at hc
      rw [← hc]
      exact wordTok_head hw c0 rfl
    · intro c hc
      have hne : escDollar v ≠ [] := fun e => he (esc_eq_nil.1 e)
      rw [getLast?_append_ne _ _ (by simp), getLast?_cons_ne _ _ hne] at hc
      exact cleanVal_last hv c (esc_last v c hc)

theorem endsWith_one (s : Str) (c : Char) : endsWith s [c] = decide (s.getLast? = some c) := by
  unfold endsWith
  have := lastN_one_beq s c
  unfold lastN at this
  simp only [List.length_cons, List.length_nil, Nat.zero_add]
  rw [this]
  cases s with
  | nil => simp
  | cons a t => simp

theorem hdrBody_ne {ty : Str} (nm : Option Str) (h : ty ≠ []) : hdrBody ty nm ≠ [] := by
  unfold hdrBody
  cases nm with
  | none => exact h
  | some n =>
    simp only
    split
    · exact h
    · simp [h]

theorem hdr_text (pre ty : Str) (nm : Option Str) :
    (match nm with
      | some n => if n.isEmpty then pre ++ '<' :: ty else pre ++ '<' :: ty ++ ' ' :: n
      | none => pre ++ '<' :: ty) = pre ++ '<' :: hdrBody ty nm := by
  unfold hdrBody
  cases nm with
  | none => rfl
  | some n =>
    simp only
    split <;> simp

theorem closeHeader_eq (pre B : Str) (hB : B ≠ []) :
    closeHeader (pre ++ '<' :: B) = pre ++ ('<' :: B ++ (if B.getLast? = some '/' then [' ', '>'] else ['>'])) := by
  unfold closeHeader
  rw [endsWith_one]
  have : (pre ++ '<' :: B).getLast? = B.getLast? := by
    rw [getLast?_append_ne _ _ (by simp), getLast?_cons_ne _ _ hB]
  rw [this]
  by_cases h : B.getLast? = some '/'
  · simp [h]
  · simp [h]

theorem hdrBody_last {ty : Str} {nm : Option Str} (hty : tyOK ty = true) (hnm : nameOK nm = true) (c : Char)
    (hc : (hdrBody ty nm).getLast? = some c) : pySpace c = false := by
  have hw : wordTok ty = true := by
    unfold tyOK at hty; rw [Bool.and_eq_true] at hty; exact tokOK_word hty.1
  unfold hdrBody at hc
  cases nm with
  | none => exact wordTok_last hw c hc
  | some n =>
    have hn : wordTok n = true := tokOK_word hnm
    simp only at hc
    split at hc
    · exact wordTok_last hw c hc
    · rw [getLast?_append_ne _ _ (by simp), getLast?_cons_ne _ _ (wordTok_ne hn)] at hc
      exact wordTok_last hn c hc

theorem strip_hdr (pre ty : Str) (nm : Option Str) (hpre : pre.all (· == ' ') = true)
    (hty : tyOK ty = true) :
    strip (closeHeader (pre ++ '<' :: hdrBody ty nm)) = hdrLine ty nm := by
  have hw : wordTok ty = true := by
    unfold tyOK at hty; rw [Bool.and_eq_true] at hty; exact tokOK_word hty.1
  rw [closeHeader_eq _ _ (hdrBody_ne nm (wordTok_ne hw)), strip_pad_left _ _ (all_space_of_blanks hpre)]
  unfold hdrLine
  split
  · simpa using Grammar.strip_angle (hdrBody ty nm ++ [' '])
  · exact Grammar.strip_angle _

theorem strip_close (pre ty : Str) (hpre : pre.all (· == ' ') = true) :
    strip (pre ++ '<' :: '/' :: ty ++ ['>']) = closeLine ty := by
  rw [List.append_assoc, strip_pad_left _ _ (all_space_of_blanks hpre)]
  exact Grammar.strip_angle ('/' :: ty)

theorem impsOK_iff {imps : List Str} : impsOK imps = true ↔ (∀ p ∈ imps, p ≠ [] ∧ cleanVal p = true) ∧ imps.Nodup := by
  unfold impsOK
  simp only [Bool.and_eq_true, List.all_eq_true, decide_eq_true_eq, Bool.not_eq_true', List.isEmpty_eq_false_iff, ne_eq]

theorem impsOK_all {imps : List Str} (h : impsOK imps = true) : ∀ p ∈ imps, p ≠ [] ∧ cleanVal p = true :=
  (impsOK_iff.1 h).1

theorem impsOK_nodup {imps : List Str} (h : impsOK imps = true) : imps.Nodup := (impsOK_iff.1 h).2

theorem strip_imp (p : Str) (hne : p ≠ []) (hp : cleanVal p = true) :
    strip ("%import ".toList ++ escDollar p) = impLine p := by
  unfold impLine
  apply strip_clean
  · intro c hc
    have : ("%import ".toList ++ escDollar p).head? = some '%' := by char_lits; rfl
    rw [this] at hc
    cases hc; decide
  · intro c hc
    have hne' : escDollar p ≠ [] := fun e => hne (esc_eq_nil.1 e)
    rw [getLast?_append_ne _ _ hne'] at hc
    exact cleanVal_last hp c (esc_last p c hc)

/-! ### how the parser classifies them -/

theorem isWord_blank : Grammar.isWord ' ' = false := by decide

theorem lineShape_data (c : Char) (t : Str) (h1 : c ≠ '#') (h2 : c ≠ '<') (h3 : c ≠ '%') (hn : '\n' ∉ c :: t) :
    lineShape (c :: t) = match Grammar.keyValue (c :: t) with
      | none => .bad "malformed configuration data"
      | some (key, value?) => .kv key (match value? with | none => [] | some v => v) := by
  rw [lineShape_dataArm c t h1 h2 h3, kvMatch_eq_keyValue _ hn]
  rfl

theorem word_of_tok {s : Str} (h : wordTok s = true) : Grammar.Word s :=
  ⟨wordTok_ne h, List.all_eq_true.2 (wordTok_all h)⟩

theorem keyValue_line (k v : Str) (hk : wordTok k = true) (hv : ∀ c, v.head? = some c → pySpace c = false) :
    Grammar.keyValue (kvLine k v) = some (k, if v = [] then none else some (escDollar v)) := by
  unfold kvLine Grammar.keyValue
  by_cases he : v = []
  · simp only [he, ↓reduceIte]
    have := takeWhile_dropWhile_stop Grammar.isWord k [] (word_of_tok hk).2 (by simp)
    rw [List.append_nil] at this
    rw [this.1, this.2]
    simp [wordTok_ne hk]
  · simp only [he, ↓reduceIte]
    have := takeWhile_dropWhile_stop Grammar.isWord k (' ' :: escDollar v) (word_of_tok hk).2 (by simp [isWord_blank])
    rw [this.1, this.2]
    have hne : escDollar v ≠ [] := fun e => he (esc_eq_nil.1 e)
    have hd : (' ' :: escDollar v).dropWhile pySpace = escDollar v := by
      cases hx : escDollar v with
      | nil => exact absurd hx hne
      | cons a r =>
        have : pySpace a = false := hv a (esc_head v a (by rw [hx]; rfl))
        have hsp : pySpace ' ' = true := by decide
        simp [hsp, this]
    rw [hd]
    simp [wordTok_ne hk, hne]

theorem kvLine_nonl {k v : Str} (hk : '\n' ∉ k) (hv : '\n' ∉ v) : '\n' ∉ kvLine k v := by
  unfold kvLine
  split
  · exact hk
  · simp only [List.mem_append, List.mem_cons, not_or]
    exact ⟨hk, by decide, fun h => hv (mem_esc h)⟩

theorem lineShape_kvLine (k v : Str) (hk : keyOK k = true) (hv : cleanVal v = true) :
    lineShape (kvLine k v) = .kv k (escDollar v) := by
  obtain ⟨c, t, hkt, h1, h2, h3⟩ := keyOK_first hk
  have hw := keyOK_word hk
  have hcons : ∃ t', kvLine k v = c :: t' := by
    unfold kvLine; split
    · exact ⟨t, hkt⟩
    · exact ⟨t ++ ' ' :: escDollar v, by rw [hkt]; rfl⟩
  obtain ⟨t', ht'⟩ := hcons
  have hn := kvLine_nonl (wordTok_nonl hw) (cleanVal_nonl hv)
  have hkv := keyValue_line k v hw (cleanVal_head hv)
  rw [ht'] at hn hkv
  rw [ht', lineShape_data c t' h1 h2 h3 hn, hkv]
  by_cases he : v = []
  · simp [he, esc_nil]
  · simp [he]

theorem header_body (ty : Str) (nm : Option Str) (hty : wordTok ty = true) (hnm : nameOK nm = true) :
    Grammar.header (hdrBody ty nm) = some (ty, nm) := by
  unfold hdrBody
  cases nm with
  | none => exact Grammar.header_one ty (word_of_tok hty)
  | some n =>
    have hn : wordTok n = true := tokOK_word hnm
    dsimp only
    rw [if_neg (by simpa using wordTok_ne hn)]
    simpa using Grammar.header_two ty [' '] n (word_of_tok hty) (word_of_tok hn) (by simp) (by decide)

theorem hdrBody_nonl {ty : Str} {nm : Option Str} (hty : wordTok ty = true) (hnm : nameOK nm = true) :
    '\n' ∉ hdrBody ty nm := by
  unfold hdrBody
  cases nm with
  | none => exact wordTok_nonl hty
  | some n =>
    dsimp only
    split
    · exact wordTok_nonl hty
    · simp only [List.mem_append, List.mem_cons, not_or]
      exact ⟨wordTok_nonl hty, by decide, wordTok_nonl (tokOK_word hnm)⟩

theorem tyOK_parts {ty : Str} (h : tyOK ty = true) :
    wordTok ty = true ∧ lower ty = ty ∧ ty.take 1 ≠ ['/'] := by
  unfold tyOK at h
  simp only [Bool.and_eq_true, bne_iff_ne, ne_eq] at h
  exact ⟨tokOK_word h.1, tokOK_lower h.1, h.2⟩

theorem lineShape_hdrLine (ty : Str) (nm : Option Str) (hty : tyOK ty = true) (hnm : nameOK nm = true) :
    lineShape (hdrLine ty nm) = .open_ ty nm false := by
  obtain ⟨hw, hlow, hsl⟩ := tyOK_parts hty
  have hlast := hdrBody_last hty hnm
  have hhead : ∀ x : Str, (hdrBody ty nm ++ x).head? ≠ some '/' := by
    intro x
    have : ∃ r, hdrBody ty nm = ty ++ r := by
      unfold hdrBody
      cases nm with
      | none => exact ⟨[], by simp⟩
      | some n => dsimp only; split; exact ⟨[], by simp⟩; exact ⟨' ' :: n, rfl⟩
    obtain ⟨r, hr⟩ := this
    rw [hr]
    cases ty with
    | nil => exact absurd rfl (wordTok_ne hw)
    | cons a t => simpa using hsl
  have hmap : nm.map lower = nm := by
    cases nm with
    | none => rfl
    | some n => exact congrArg some (tokOK_lower hnm)
  -- `x`: the text between `<` and `>`, the header's body with or without the blank that keeps a final `/` off the `>`
  have key : ∀ x : Str, x.head? ≠ some '/' → x.getLast? ≠ some '/' → rstrip x = hdrBody ty nm → '\n' ∉ x →
      lineShape ('<' :: (x ++ ['>'])) = .open_ ty nm false := by
    intro x hx hl hr hn
    rw [← Grammar.strip_angle x]
    refine lineShape_of_classify _ (by simpa using hn) (.open_ ty nm false) ?_ nofun
    show Grammar.classify _ = .open_ ty nm false
    rw [Grammar.classify_open x hx, if_neg hl, hr, header_body ty nm hw hnm]
    simp only [hlow, hmap, hl, decide_false]
  unfold hdrLine
  by_cases hs : (hdrBody ty nm).getLast? = some '/'
  · rw [if_pos hs]
    have := key (hdrBody ty nm ++ [' ']) (hhead _) (by simp)
      (by rw [rstrip_pad_right _ [' '] (by decide), rstrip_clean _ hlast])
      (by simpa using hdrBody_nonl hw hnm)
    simpa using this
  · rw [if_neg hs]
    exact key _ (by simpa using hhead []) hs (rstrip_clean _ hlast) (hdrBody_nonl hw hnm)

theorem lineShape_closeLine (ty : Str) (hty : tyOK ty = true) : lineShape (closeLine ty) = .close ty := by
  obtain ⟨hw, hlow, _⟩ := tyOK_parts hty
  have := Cfg.lineShape_closeLine ty (word_of_tok hw)
  rwa [show Grammar.closeLine ty = '<' :: ('/' :: ty ++ ['>']) from rfl, Grammar.strip_angle, hlow] at this

theorem lineShape_import (rest : Str) (a? : Option Str) (hn : '\n' ∉ rest)
    (hk : Grammar.keyValue rest = some ("import".toList, a?)) :
    lineShape ('%' :: rest) = if a?.getD [] == [] then .bad "missing argument" else .import_ (a?.getD []) := by
  have h1 : Gen.directives.contains "import".toList = true := by rw [directives_eq]; char_lits; decide +kernel
  have h2 : ("import".toList == "define".toList) = false := by char_lits; decide +kernel
  rw [lineShape_directiveArm, kvMatch_eq_keyValue rest hn, hk]
  simp only [h1, h2]
  simp

theorem lineShape_impLine (p : Str) (hne : p ≠ []) (hp : cleanVal p = true) :
    lineShape (impLine p) = .import_ (escDollar p) := by
  have hl : impLine p = '%' :: kvLine "import".toList p := by
    unfold impLine kvLine
    rw [if_neg hne]
    char_lits
    rfl
  have hn : '\n' ∉ kvLine "import".toList p := kvLine_nonl (by char_lits; decide +kernel) (cleanVal_nonl hp)
  rw [hl, lineShape_import _ (some (escDollar p)) hn
    (by rw [keyValue_line _ p (by char_lits; decide +kernel) (cleanVal_head hp), if_neg hne])]
  exact if_neg (by simpa [esc_eq_nil] using hne)

end ZCV.Roundtrip
