import ZCV.Lemmas.LogRecordKeys
/-!
Closed facts about the three log-format styles are evaluated by the kernel (`log_tables`, then `decide +kernel`) on tables
whose names are character lists.  The four `dir()` tables of `LogStrFormat.attrOf` are consulted deep inside the evaluation
(`evalStr → evalField → getField → walk → access → attrOf`), where no rewrite of the goal reaches them; so the evaluator has
a twin `evalStrT` whose `getattr` is an argument: it is the model's at `attrOf` (`evalStr_T`) and is evaluated at `attrOfD`,
the same function on the decoded tables (`evalStr_D`).  Then the checks and the run-time functions of the three styles, in
the forms in which they are evaluated.
-/
namespace ZCV.LogRecord
open ZCV ZCV.LogStrFormat

/-! ## The attribute tables of `attrOf`, decoded -/

def strAttrsD : Decoded strAttrs := by delta strAttrs; decode_names
def intAttrsD : Decoded intAttrs := by delta intAttrs; decode_names
def floatAttrsD : Decoded floatAttrs := by delta floatAttrs; decode_names
def noneAttrsD : Decoded noneAttrs := by delta noneAttrs; decode_names

def attrOfD (v : Val) (n : Str) : Except SErr Val :=
  match v with
  | .str _ =>
    if strAttrsD.1.contains n then (if n == "__doc__".toList then .error .unmodelled else .ok .other)
    else .error .attributeError
  | .int k =>
    if intAttrsD.1.contains n then
      if n == "real".toList || n == "numerator".toList then .ok (.int k)
      else if n == "imag".toList then .ok (.int 0)
      else if n == "denominator".toList then .ok (.int 1)
      else if n == "__doc__".toList then .error .unmodelled
      else .ok .other
    else .error .attributeError
  | .float k r =>
    if floatAttrsD.1.contains n then
      if n == "real".toList then .ok (.float k r)
      else if n == "imag".toList then .ok (.float .finite "0.0".toList)
      else if n == "__doc__".toList then .error .unmodelled
      else .ok .other
    else .error .attributeError
  | .none =>
    if noneAttrsD.1.contains n then (if n == "__doc__".toList then .ok .none else .ok .other)
    else .error .attributeError
  | .other => .error .unmodelled

theorem attrOf_eq : attrOf = attrOfD := by
  funext v n
  unfold attrOf attrOfD
  rw [← strAttrsD.2, ← intAttrsD.2, ← floatAttrsD.2, ← noneAttrsD.2]
  cases v <;> rfl

/-! ## The evaluator with `getattr` as an argument -/

def accessT (attr : Val → Str → Except SErr Val) (v : Val) : Acc → Except SErr Val
  | .attr n => attr v n
  | a => access v a

def walkT (attr : Val → Str → Except SErr Val) : Val → List Acc → Except SErr Val
  | v, [] => .ok v
  | v, a :: rest =>
    match accessT attr v a with
    | .error e => .error e
    | .ok v' => walkT attr v' rest

/-- `evalField`, with `getField` spelt out as `lookupFirst` followed by `walkT attr` -/
def evalFieldT (attr : Val → Str → Except SErr Val) (m : Mode) (d : SDict) (expand : Str → Except SErr (Option Str))
    (name : Str) (conv : Option Char) (spec : Str) : Except SErr (Option Str) :=
  match lookupFirst m d name with
  | .error e => .error e
  | .ok v0 =>
    match walkT attr v0 (pathOf name) with
    | .error e => .error e
    | .ok v =>
      match convert v conv with
      | .error e => .error e
      | .ok o =>
        match (if m == .cformat && !spec.contains '{' then .ok (some spec) else expand spec) with
        | .error e => .error e
        | .ok none => .error .unmodelled
        | .ok (some st) => formatObj o st

def evalStrT (attr : Val → Str → Except SErr Val) (m : Mode) (d : SDict) : Nat → Str → Except SErr (Option Str)
  | 0, _ => .error .valueError
  | level + 1, s => runItems (evalFieldT attr m d (fun spec => evalStrT attr m d level spec)) (parse s)

theorem access_T (v : Val) (a : Acc) : access v a = accessT attrOf v a := by
  cases a <;> rfl

theorem walk_T (v : Val) (p : List Acc) : walk v p = walkT attrOf v p := by
  induction p generalizing v with
  | nil => rfl
  | cons a rest ih =>
    simp only [walk, walkT, access_T, ih]
    cases accessT attrOf v a <;> rfl

theorem evalField_T (m : Mode) (d : SDict) (expand : Str → Except SErr (Option Str)) :
    evalField m d expand = evalFieldT attrOf m d expand := by
  funext name conv spec
  unfold evalField evalFieldT getField
  cases lookupFirst m d name with
  | error e => rfl
  | ok v0 =>
    simp only [walk_T]
    cases walkT attrOf v0 (pathOf name) <;> rfl

theorem evalStr_T (m : Mode) (d : SDict) (lvl : Nat) : evalStr m d lvl = evalStrT attrOf m d lvl := by
  induction lvl with
  | zero => rfl
  | succ l ih =>
    funext s
    simp only [evalStr, evalStrT, evalField_T, ih]

theorem evalStr_D (m : Mode) (d : SDict) (lvl : Nat) (s : Str) : evalStr m d lvl s = evalStrT attrOfD m d lvl s := by
  rw [evalStr_T, attrOf_eq]

/-! ## The checks in the forms in which they are evaluated

Each equation replaces a whole application of a check by an expression on `recordKeys` tables (and, for the `format`
style, on `evalStrT attrOfD`), in one step: after a rewrite BELOW a `match` the kernel compares the `match` before and
after the rewrite by evaluating both. -/

theorem accepts_toBool (fmt : Str) : LogFormat.accepts fmt = (LogFormat.loadCheck fmt).toBool := by
  unfold LogFormat.accepts
  cases LogFormat.loadCheck fmt <;> rfl

theorem loadCheck_keys (fmt : Str) : LogFormat.loadCheck fmt =
    (LogFormat.formatRunTable (LogFormat.effective fmt) sampleVars').bind fun _ => LogFormat.buildFormatter fmt := by
  unfold LogFormat.loadCheck
  rw [← sampleVars_eq]
  cases LogFormat.formatRunTable (LogFormat.effective fmt) LogFormat.sampleVars <;> rfl

theorem acceptsTemplate_toBool (fmt : Str) :
    LogTemplate.acceptsTemplate fmt = (LogTemplate.loadCheckTemplate fmt).toBool := by
  unfold LogTemplate.acceptsTemplate
  cases LogTemplate.loadCheckTemplate fmt <;> rfl

theorem loadCheckTemplate_keys (fmt : Str) : LogTemplate.loadCheckTemplate fmt =
    (LogTemplate.substitute (LogTemplate.effectiveTemplate fmt) (LogFormat.lookup sampleVars')).bind
      fun _ => LogTemplate.buildTemplateFormatter fmt := by
  unfold LogTemplate.loadCheckTemplate LogFormat.sampleDict
  rw [← sampleVars_eq]
  cases LogTemplate.substitute (LogTemplate.effectiveTemplate fmt) (LogFormat.lookup LogFormat.sampleVars) <;> rfl

theorem acceptsStrFormat_toBool (fmt : Str) :
    LogStrFormat.acceptsStrFormat fmt = (LogStrFormat.loadCheckStrFormat fmt).toBool := by
  unfold LogStrFormat.acceptsStrFormat
  cases LogStrFormat.loadCheckStrFormat fmt <;> rfl

theorem vformatRun_D (fmt : Str) (d : SDict) : vformatRun fmt d = toUnit (evalStrT attrOfD .vformat d 3 fmt) := by
  unfold vformatRun
  rw [evalStr_D]

theorem cformatRun_D (fmt : Str) (d : SDict) : cformatRun fmt d = toUnit (evalStrT attrOfD .cformat d 2 fmt) := by
  unfold cformatRun
  rw [evalStr_D]

theorem loadCheckStrFormat_D (fmt : Str) : loadCheckStrFormat fmt =
    match toUnit (evalStrT attrOfD .vformat (lookupS sampleVals') 3 (effectiveStr fmt)) with
    | .error .indexError => .error .valueError
    | .error e => .error e
    | .ok _ => buildStrFormatter fmt := by
  rw [← vformatRun_D, ← sampleVals_eq]
  rfl

theorem formatStr_D (fmt : Str) (r : SDict) : formatStr fmt r =
    match toUnit (evalStrT attrOfD .cformat r 2 (effectiveStr fmt)) with
    | .error .keyError => .error .valueError
    | .error e => .error e
    | .ok _ => .ok () := by
  rw [← cformatRun_D]
  rfl

/-- Before `decide +kernel` on a closed goal about the checks, the run-time functions or the table tests of the three
    styles: the string literals of the goal become character lists (first: the rewrites that follow would otherwise
    carry them along), then every check is put in its evaluation form and every table in its `recordKeys` form. -/
macro "log_tables" : tactic => `(tactic|
  (char_lits
   simp only [accepts_toBool, loadCheck_keys, LogFormat.acceptsConfigured, LogFormat.sampleDict,
     LogFormatSpec.ordinaryTable, LogFormatSpec.ordinaryTableFor,
     acceptsTemplate_toBool, loadCheckTemplate_keys, LogTemplate.acceptsTemplateConfigured, LogTemplateSpec.hasKnownTable,
     acceptsStrFormat_toBool, loadCheckStrFormat_D, formatStr_D, vformatRun_D, cformatRun_D,
     LogStrFormat.acceptsStrFormatConfigured, LogStrFormat.sampleSDict, LogStrFormatSpec.recordTableFor,
     sampleVars_eq, fieldKinds_eq, sampleVals_eq, knownNames_keys]))

end ZCV.LogRecord
