import ZCV.Lemmas.ImportLoadFree
/-!
Text without `%import` lines, loaded without overrides: `load` returns the value the schema defines for the tree the parser builds
(`load_eq_denote`: C01 and C02 for texts in one equation).  A text without `%import` is the case "no `.imp` among the top-level
items" of `load_eq_denoteI` (`ImportLoadText.lean`), whose items are those of `treeOf` (`treeOfI_import_free`).  The trees
`treeOf` builds spell section types as the schema stores them (`treeOf_tyCanon_schemaOK`, the hypothesis `tyCanon` of
`loadTree_eq_denote`): their headers are lower-cased (`treeOf_low`).
-/
namespace ZCV.Conf
open ZCV ZCV.Cfg

/-! ### the trees the parser builds spell section types as the schema stores them -/

theorem treeOf_tyCanon_schemaOK (env : Env) (url : Option Str) (lines : List Str) (s : Schema) (items : List Item)
    (hs : schemaOK s = true) (h : treeOf env url lines = .ok items) : tyCanon s items = true :=
  tyCanon_of_low s hs _ (treeOf_low env url lines items h)

/-- the same under two hypotheses the proof does not need: `hlow` is `lower_idem`, `hkeys` says that type names are stored lower-cased -/
theorem treeOf_tyCanon (env : Env) (url : Option Str) (lines : List Str) (s : Schema) (items : List Item)
    (hs : schemaOK s = true) (hlow : ∀ x : Str, lower (lower x) = lower x)
    (hkeys : ∀ p ∈ s.types, lower p.1 = p.1)
    (h : treeOf env url lines = .ok items) : tyCanon s items = true :=
  treeOf_tyCanon_schemaOK env url lines s items hs h

/-- **the loader computes the schema's value of the tree the parser builds**: it accepts exactly when the parser accepts the text
    and the tree conforms, and then returns `denote` of the tree -/
theorem load_eq_denote (conv : Conv) (env : Env) (pkgs : Str → Pkg) (s : Schema) (url : Option Str) (lines : List Str)
    (hs : schemaOK s = true)
    (hni : ∀ l ∈ lines, NoImportLine l) (hres : ∀ u ls, env.res u = some ls → ∀ l ∈ ls, NoImportLine l) :
    (load conv env pkgs s url lines []).toOption.map (·.value) = (treeOf env url lines).toOption.bind (denote conv s) := by
  obtain ⟨hfree, htop⟩ := treeOfI_import_free env url lines hni hres
  rw [load_eq_denoteI conv env pkgs s url lines htop fun tops ht => by
    obtain ⟨items, _, rfl⟩ := (treeOfI_free_iff env url lines hni hres tops).mp ht; rw [importsOK_items]; exact hs, hfree]
  cases hT : treeOf env url lines with
  | error e => rfl
  | ok items => exact denoteI_items conv pkgs s items hs (treeOf_low env url lines items hT)

end ZCV.Conf
