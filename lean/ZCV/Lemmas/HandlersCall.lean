import ZCV.Model.Datatypes
/-!
A small pure model of `CompositeHandler.__call__` (`ZConfig/loader.py`), HAND-WRITTEN HERE, in the proof files:

```python
def __call__(self, handlermap):
    d = {}
    for name, callback in handlermap.items():
        n = self._convert(name)                      # basic-key
        if n in d:
            raise ZConfig.ConfigurationError("handler name not unique when converted to a basic-key: " + repr(name))
        d[n] = callback
    L = []
    for handler, value in self._handlers:
        if handler not in d:
            L.append(handler)
    if L:
        raise ZConfig.ConfigurationError("undefined handlers: " + ", ".join(L))
    for handler, value in self._handlers:
        f = d[handler]
        if f is not None:
            f(value)
```

Tie to the code: the driver op `hcall` runs `callHandlers`, and the C16 check (`harness/zcv/props/c16.py`) compares verdict and
sequence of callables called with the real handler object on random maps (complete, incomplete, with None, case variants,
duplicates, names that are no basic keys) on every run.

The handler map is a list of `(name, callable)` items in iteration order; a callable is `some id` (identified by a
number) or `none` (Python `None`).  A Python `dict` has pairwise distinct names; the model does not need that.  The
result is the outcome (`err`) together with the LOG of calls `(callable id, value)` made up to that point, in order —
so that "raised without having called anything" is a statement about the result.  Callables are assumed not to raise.
-/
namespace ZCV.Call
open ZCV

inductive CallErr
  | badName (name : Str) (e : ConvErr)   -- `basic-key` raised on a supplied name (a ValueError, passed through)
  | notUnique (name : Str)               -- ConfigurationError: handler name not unique when converted to a basic-key
  | undefined (names : List Str)         -- ConfigurationError: undefined handlers: …
deriving Repr

def CallErr.isCfg : CallErr → Bool
  | .badName _ _ => false
  | _ => true

structure CallResult where
  err : Option CallErr
  log : List (Nat × Val)

abbrev HMap := List (Str × Option Nat)

/-- the first loop: fill `d` with normalised names, refusing a name already there -/
def normMap : HMap → HMap → Except CallErr HMap
  | d, [] => .ok d
  | d, (name, cb) :: rest =>
    match DT.basicKey name with
    | .error e => .error (.badName name e)
    | .ok n => if d.any (·.1 == n) then .error (.notUnique name) else normMap (d ++ [(n, cb)]) rest

/-- `d[h]` -/
def dget (d : HMap) (h : Str) : Option (Option Nat) := (d.find? (·.1 == h)).map (·.2)

/-- `CompositeHandler.__call__` on the handler list `hs` -/
def callHandlers (hs : List (Str × Val)) (hm : HMap) : CallResult :=
  match normMap [] hm with
  | .error e => { err := some e, log := [] }
  | .ok d =>
    let L := hs.filterMap fun e => if d.any (·.1 == e.1) then none else some e.1
    if !L.isEmpty then { err := some (.undefined L), log := [] }
    else { err := none, log := hs.filterMap fun e => match dget d e.1 with | some (some f) => some (f, e.2) | _ => none }

def Valid (hm : HMap) : Prop := ∀ p ∈ hm, ∃ n, DT.basicKey p.1 = .ok n

/-- the supplied items under their normalised names -/
def keyed (hm : HMap) : HMap :=
  hm.filterMap fun p => match DT.basicKey p.1 with | .ok n => some (n, p.2) | .error _ => none

theorem keyed_cons_ok (name : Str) (cb : Option Nat) (rest : HMap) (n : Str) (h : DT.basicKey name = .ok n) :
    keyed ((name, cb) :: rest) = (n, cb) :: keyed rest := by
  unfold keyed
  rw [List.filterMap_cons]
  simp only [h]

theorem any_false_iff (d : HMap) (n : Str) : d.any (·.1 == n) = false ↔ ∀ x ∈ d, x.1 ≠ n := by
  rw [Bool.eq_false_iff]
  simp only [ne_eq, List.any_eq_true, beq_iff_eq, not_exists, not_and]

theorem normMap_ok : ∀ (hm d d' : HMap), normMap d hm = .ok d' →
    d' = d ++ keyed hm ∧ Valid hm ∧ (∀ x ∈ d, ∀ y ∈ keyed hm, x.1 ≠ y.1) ∧ ((keyed hm).map (·.1)).Nodup := by
  intro hm
  induction hm with
  | nil =>
    intro d d' h
    rw [normMap] at h
    cases h
    refine ⟨by simp [keyed], ?_, ?_, by simp [keyed]⟩
    · intro p hp; cases hp
    · intro x _ y hy; simp [keyed] at hy
  | cons p rest ih =>
    intro d d' h
    obtain ⟨name, cb⟩ := p
    rw [normMap] at h
    cases hk : DT.basicKey name with
    | error e => rw [hk] at h; cases h
    | ok n =>
      rw [hk] at h
      simp only at h
      by_cases ha : d.any (·.1 == n) = true
      · rw [if_pos ha] at h; cases h
      · rw [if_neg ha] at h
        have ha' : ∀ x ∈ d, x.1 ≠ n := (any_false_iff d n).mp (Bool.eq_false_iff.mpr ha)
        obtain ⟨h1, h2, h3, h4⟩ := ih _ _ h
        rw [keyed_cons_ok name cb rest n hk]
        refine ⟨by rw [h1]; simp, ?_, ?_, ?_⟩
        · intro q hq
          rcases List.mem_cons.mp hq with rfl | hq
          · exact ⟨n, hk⟩
          · exact h2 q hq
        · intro x hx y hy
          rcases List.mem_cons.mp hy with rfl | hy
          · exact ha' x hx
          · exact h3 x (List.mem_append_left _ hx) y hy
        · rw [List.map_cons, List.nodup_cons]
          refine ⟨?_, h4⟩
          intro hmem
          obtain ⟨y, hy, hyn⟩ := List.mem_map.mp hmem
          exact h3 (n, cb) (List.mem_append_right _ (List.mem_singleton.mpr rfl)) y hy hyn.symm

theorem normMap_of_valid : ∀ (hm d : HMap), Valid hm → (∀ x ∈ d, ∀ y ∈ keyed hm, x.1 ≠ y.1) →
    ((keyed hm).map (·.1)).Nodup → normMap d hm = .ok (d ++ keyed hm) := by
  intro hm
  induction hm with
  | nil => intro d _ _ _; rw [normMap]; simp [keyed]
  | cons p rest ih =>
    intro d hv hd hn
    obtain ⟨name, cb⟩ := p
    obtain ⟨n, hk⟩ := hv (name, cb) List.mem_cons_self
    rw [keyed_cons_ok name cb rest n hk] at hd hn ⊢
    rw [List.map_cons, List.nodup_cons] at hn
    rw [normMap, hk]
    simp only
    have ha : d.any (·.1 == n) = false :=
      (any_false_iff d n).mpr fun x hx => hd x hx (n, cb) List.mem_cons_self
    rw [ha]
    simp only [Bool.false_eq_true, if_false]
    rw [ih (d ++ [(n, cb)]) (fun q hq => hv q (List.mem_cons_of_mem _ hq)) ?_ hn.2]
    · simp
    · intro x hx y hy
      rcases List.mem_append.mp hx with hx | hx
      · exact hd x hx y (List.mem_cons_of_mem _ hy)
      · rw [List.mem_singleton.mp hx]
        intro he
        apply hn.1
        rw [he]
        exact List.mem_map_of_mem hy

theorem normMap_error_valid : ∀ (hm d : HMap) (e : CallErr), Valid hm → normMap d hm = .error e →
    ∃ p ∈ hm, e = .notUnique p.1 := by
  intro hm
  induction hm with
  | nil => intro d e _ h; rw [normMap] at h; cases h
  | cons p rest ih =>
    intro d e hv h
    obtain ⟨name, cb⟩ := p
    obtain ⟨n, hk⟩ := hv (name, cb) List.mem_cons_self
    rw [normMap, hk] at h
    simp only at h
    by_cases ha : d.any (·.1 == n) = true
    · rw [if_pos ha] at h
      cases h
      exact ⟨(name, cb), List.mem_cons_self, rfl⟩
    · rw [if_neg ha] at h
      obtain ⟨q, hq, he⟩ := ih _ e (fun q hq => hv q (List.mem_cons_of_mem _ hq)) h
      exact ⟨q, List.mem_cons_of_mem _ hq, he⟩

theorem normMap_nil_iff (hm d : HMap) :
    normMap [] hm = .ok d ↔ Valid hm ∧ ((keyed hm).map (·.1)).Nodup ∧ d = keyed hm := by
  constructor
  · intro h
    obtain ⟨h1, h2, _, h4⟩ := normMap_ok hm [] d h
    exact ⟨h2, h4, by simpa using h1⟩
  · intro ⟨h1, h2, h3⟩
    rw [h3, normMap_of_valid hm [] h1 (fun x hx => by cases hx) h2]
    simp

theorem mem_keyed (hm : HMap) (n : Str) (cb : Option Nat) :
    (n, cb) ∈ keyed hm ↔ ∃ p ∈ hm, DT.basicKey p.1 = .ok n ∧ p.2 = cb := by
  unfold keyed
  rw [List.mem_filterMap]
  constructor
  · intro ⟨p, hp, h⟩
    cases hk : DT.basicKey p.1 with
    | error e => rw [hk] at h; cases h
    | ok n' =>
      rw [hk] at h
      simp only [Option.some.injEq, Prod.mk.injEq] at h
      exact ⟨p, hp, by rw [hk, h.1], h.2⟩
  · intro ⟨p, hp, h1, h2⟩
    exact ⟨p, hp, by rw [h1, h2]⟩

theorem dget_of_mem : ∀ (d : HMap) (n : Str) (cb : Option Nat), (d.map (·.1)).Nodup → (n, cb) ∈ d →
    dget d n = some cb := by
  intro d
  induction d with
  | nil => intro n cb _ h; cases h
  | cons x d ih =>
    intro n cb hn hm
    rw [List.map_cons, List.nodup_cons] at hn
    unfold dget
    rw [List.find?_cons]
    rcases List.mem_cons.mp hm with rfl | hm
    · simp
    · have hne : (x.1 == n) = false := by
        rw [beq_eq_false_iff_ne]
        intro he
        apply hn.1
        rw [he]
        exact List.mem_map_of_mem (f := (·.1)) hm
      rw [hne]
      exact ih n cb hn.2 hm

theorem missing_nil_iff (hs : List (Str × Val)) (d : HMap) :
    (hs.filterMap fun e => if d.any (·.1 == e.1) then none else some e.1) = [] ↔ ∀ e ∈ hs, e.1 ∈ d.map (·.1) := by
  rw [List.filterMap_eq_nil_iff]
  constructor
  · intro h e he
    have := h e he
    by_cases hany : d.any (·.1 == e.1) = true
    · obtain ⟨x, hx, hxe⟩ := List.any_eq_true.mp hany
      rw [← beq_iff_eq.mp hxe]
      exact List.mem_map_of_mem hx
    · rw [if_neg hany] at this
      cases this
  · intro h e he
    obtain ⟨x, hx, hxe⟩ := List.mem_map.mp (h e he)
    rw [if_pos (List.any_eq_true.mpr ⟨x, hx, by rw [hxe]; exact beq_self_eq_true _⟩)]

/-! ### the three outcomes of a call

`missing` and `calls` name the two lists that `callHandlers` builds inline (its text follows the Python line by line). -/

/-- the handler names of `hs` that `d` does not supply -/
def missing (hs : List (Str × Val)) (d : HMap) : List Str :=
  hs.filterMap fun e => if d.any (·.1 == e.1) then none else some e.1

/-- the calls made: every entry whose name maps to a callable, in list order -/
def calls (hs : List (Str × Val)) (d : HMap) : List (Nat × Val) :=
  hs.filterMap fun e => match dget d e.1 with | some (some f) => some (f, e.2) | _ => none

/-- a call raises in the first loop (a name is no basic-key, or two names normalise alike), or reports the missing
    names, or delivers; in the last two cases the names are valid and distinct and `d` is `keyed hm` -/
theorem callHandlers_cases (hs : List (Str × Val)) (hm : HMap) :
    (∃ e, normMap [] hm = .error e ∧ callHandlers hs hm = { err := some e, log := [] }) ∨
    (Valid hm ∧ ((keyed hm).map (·.1)).Nodup ∧
      ((missing hs (keyed hm) ≠ [] ∧
          callHandlers hs hm = { err := some (.undefined (missing hs (keyed hm))), log := [] }) ∨
       ((∀ e ∈ hs, e.1 ∈ (keyed hm).map (·.1)) ∧
          callHandlers hs hm = { err := none, log := calls hs (keyed hm) }))) := by
  cases hnm : normMap [] hm with
  | error e => exact .inl ⟨e, rfl, by unfold callHandlers; rw [hnm]⟩
  | ok d =>
    obtain ⟨hv, hn, rfl⟩ := (normMap_nil_iff hm d).mp hnm
    have hc : callHandlers hs hm =
        if (!(missing hs (keyed hm)).isEmpty) = true then { err := some (.undefined (missing hs (keyed hm))), log := [] }
        else { err := none, log := calls hs (keyed hm) } := by
      unfold callHandlers
      rw [hnm]
      rfl
    refine .inr ⟨hv, hn, ?_⟩
    cases hL : missing hs (keyed hm) with
    | nil => exact .inr ⟨(missing_nil_iff hs (keyed hm)).mp hL, by rw [hc, hL]; rfl⟩
    | cons x l => exact .inl ⟨List.cons_ne_nil x l, by rw [hc, hL]; rfl⟩

theorem normMap_ok_of_valid (hm : HMap) (hv : Valid hm) (hn : ((keyed hm).map (·.1)).Nodup) (e : CallErr) :
    normMap [] hm ≠ .error e := by
  rw [(normMap_nil_iff hm (keyed hm)).mpr ⟨hv, hn, rfl⟩]
  exact fun h => nomatch h

end ZCV.Call
