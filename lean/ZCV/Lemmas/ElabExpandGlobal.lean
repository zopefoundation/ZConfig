import ZCV.Lemmas.ElabExpand
/-!
C11, "a section type that extends another equals the type with the base's keys and sections written out first", for one
document (`C11_extends_partial`): loading a schema document and loading its written-out form (`expandExtends`,
`Spec/Expand.lean`) give the very same result, error or schema.  Proved for documents (`expandableDoc`) without `<import>`
directly below `<schema>` (`<schema extends=…>` is allowed: base schemas come through the hooks), without `prefix` on a
`<sectiontype>`, in which every `extends` names an earlier `<sectiontype>` of the document and a type that `extends` has no
`keytype` of its own (with one, re-reading the base's elements normalises fixed names differently: entry
`C11-inherited-fixed-name` of `/verif/known_findings.json`).  The table of section types seen so far (`XTable`) is tied to
the loader state by `TableHist`; one child of `<schema>` keeps that tie (`TopStep`, `TableHist.remember`);
`expandChildren_eq` walks the children, using `sectiontype_extends_eq_expanded` at each `<sectiontype extends=…>`.
-/
namespace ZCV.Elab
open ZCV ZCV.Cfg

/-- `expandableDoc` on the children of `<schema>`, given the table `tbl` of section types seen -/
def expandable (tbl : XTable) : List Node → Bool
  | [] => true
  | .elem t a c :: r =>
    if t == "sectiontype".toList then
      (attr a "prefix").isNone &&
      (match attr a "extends" with
       | none => true
       | some b => (attr a "keytype").isNone &&
          (match DTSpec.basicKey b with
           | .ok nb => (tbl.find? (·.1 == nb)).isSome
           | .error _ => false)) &&
      expandable (remember tbl (expandType tbl a c).1 (expandType tbl a c).2) r
    else t != "import".toList && expandable tbl r
  | .text _ :: r => expandable tbl r

/-- the entry `e` of the table (normalised name, written-out attributes and children of an earlier `<sectiontype>`) is
    true of the state `st`: the type is there under that name, its children are what reading `e`'s child elements on a
    fresh type produced (`BaseHistory`), its key type and datatype are what `e`'s attributes give -/
def EntryHist (env : Env) (h : Hooks) (d : DocKind) (st : PSt) (e : Str × Attrs × List Node) : Prop :=
  ∃ q base, st.es.gettype e.1 = some (q, .concrete base) ∧ BaseHistory env h d st base e.2.2 ∧
    ∀ st1 : PSt, st1.prefixes.head? = st.prefixes.head? →
      getDatatype env st1 e.2.1 "keytype" "basic-key" none = .ok base.keytype ∧
      getDatatype env st1 e.2.1 "datatype" "null" none = .ok base.datatype

/-- what the table of section types seen so far knows about the current state: every entry is true of it -/
def TableHist (env : Env) (h : Hooks) (d : DocKind) (tbl : XTable) (st : PSt) : Prop :=
  ∀ e ∈ tbl, EntryHist env h d st e

theorem EntryHist.step {env : Env} {h : Hooks} {d : DocKind} {st st' : PSt} {e : Str × Attrs × List Node}
    (he : EntryHist env h d st e) (hs : TopStep st st') : EntryHist env h d st' e := by
  obtain ⟨q, base, hg, hH, hdt⟩ := he
  refine ⟨q, base, ?_, ?_, ?_⟩
  · unfold ES.gettype at hg ⊢
    exact hs.frozen _ q base hg
  · obtain ⟨sbH, sbH', h1, h2, h3, h4, h5, h6, h7⟩ := hH.run
    exact ⟨sbH, sbH', h1, h2, h3, h4, h5, by rw [hs.prefixes]; exact h6, h7.trans hs.grows⟩
  · intro st1 hp
    exact hdt st1 (by rw [hp, hs.prefixes])

theorem TableHist.step {env : Env} {h : Hooks} {d : DocKind} {tbl : XTable} {st st' : PSt}
    (ht : TableHist env h d tbl st) (hs : TopStep st st') : TableHist env h d tbl st' :=
  fun e he => (ht e he).step hs

theorem newEntry_hist {env : Env} {h : Hooks} {d : DocKind} {st st' : PSt} {a : Attrs} {c : List Node}
    (hnt : NewType env h d st st' a c) (hstep : TopStep st st') (hnp : attr a "prefix" = none) (hpre : st.prefixes ≠ [])
    {nm nn : Str} (hnm : attr a "name" = some nm) (hnn : DTSpec.basicKey nm = .ok nn) :
    EntryHist env h d st' (nn, a, c) := by
  obtain ⟨name, nm', st1, s', s2, kt, dt, hnm', hbk, hpp, hti, hstack, hpre', hfresh, hgrow, hch, hrun, hes⟩ := hnt.ex
  rw [hnm] at hnm'
  injection hnm' with hnm'
  subst hnm'
  have hname : name = nn := by
    have := basicKeyE_spec hnn
    rw [hbk] at this
    injection this
  subst hname
  obtain ⟨htop', hkt', hdt'⟩ := hfresh.topOf st.stack
  have hst2 : s2.stack = .stype name :: st.stack := by rw [hrun.stack]; exact hstack
  have hkt2 : ktOf s2.es (.stype name :: st.stack) = .ok kt := by
    have := hrun.kt; rw [hstack] at this; rw [this]; exact hkt'
  have hdt2 : dtOf s2.es (.stype name :: st.stack) = .ok dt := by
    have := hrun.dt; rw [hstack] at this; rw [this]; exact hdt'
  obtain ⟨q, t, hfind, htop2, ht2, ht3⟩ := entry_of_top hkt2 hdt2
  have hhead : st1.prefixes.head? = st.prefixes.head? := pushPrefix_noattr hnp hpre hpp
  refine ⟨q, t, ?_, ⟨s', s2, hch, ⟨name, st.stack, hstack⟩, by rw [hstack]; exact htop', ?_, ?_, ?_, ?_⟩, ?_⟩
  · unfold ES.gettype
    rw [lower_basicKeyE hbk, hes]
    exact hfind
  · rw [hstack, ht2]; exact hkt'
  · rw [hst2]; exact htop2
  · rw [hpre', hhead, hstep.prefixes]
  · rw [hes]; exact hrun.grows
  · intro st1' hp
    obtain ⟨h1, _, h2⟩ := getSectTypeinfo_ok hti
    have hp' : st1'.prefixes.head? = st1.prefixes.head? := by rw [hp, hstep.prefixes, hhead]
    rw [getDatatype_congr hp', getDatatype_congr hp', ht2, ht3]
    exact ⟨h1, h2⟩

/-- a child element of `<schema>` other than `<sectiontype>` / `<import>` -/
theorem topOther_step {env : Env} {h : Hooks} {d : DocKind} {p t : Str} {a : Attrs} {c : List Node} {st st' : PSt}
    (hp : pkOfB (isComp d) p = some .topS) (hs : st.stack = [.schema]) (hnst : (t == "sectiontype".toList) = false)
    (hni : (t != "import".toList) = true) (hv : visitElem env h d (some p) st (.elem t a c) = .ok st') :
    TopStep st st' := by
  rcases child_cases (visitElem_ok_nesting hv) hp with ⟨hin, _⟩ | ⟨rfl | rfl | rfl, _⟩ | hcd
  · exact topContainer_step hin hs hv
  · rw [beq_self_eq_true] at hnst; cases hnst
  · exact abstracttypeElem_step hv
  · rw [bne_self_eq_false] at hni; cases hni
  · rw [hcd, bind_ok] at hv
    obtain ⟨data, _, hcht⟩ := hv
    exact schemaCdata_step hs hcht

/-- `expandType` by cases: no `extends` — unchanged; `extends` resolved in the table — `expandedAttrs` and the base's
    inherited elements in front; not resolved — unchanged -/
theorem expandType_cases (tbl : XTable) (a : Attrs) (c : List Node) :
    (attr a "extends" = none ∧ expandType tbl a c = (a, c)) ∨
    (∃ b nb n ba bc, attr a "extends" = some b ∧ DTSpec.basicKey b = .ok nb ∧ tbl.find? (·.1 == nb) = some (n, ba, bc) ∧
      expandType tbl a c = (expandedAttrs a ba, inheritedChildren bc ++ c)) ∨
    (∃ b, attr a "extends" = some b ∧ expandType tbl a c = (a, c) ∧
      (match DTSpec.basicKey b with | .ok nb => (tbl.find? (·.1 == nb)).isSome | .error _ => false) = false) := by
  unfold expandType
  cases hext : attr a "extends" with
  | none => exact Or.inl ⟨rfl, rfl⟩
  | some b =>
    right
    cases hb : DTSpec.basicKey b with
    | error e => exact Or.inr ⟨b, rfl, by simp only [hb], by simp only [hb]⟩
    | ok nb =>
      cases hf : tbl.find? (·.1 == nb) with
      | none => exact Or.inr ⟨b, rfl, by simp only [hb, hf], by simp only [hb, hf, Option.isSome_none]⟩
      | some e =>
        obtain ⟨n, ba, bc⟩ := e
        exact Or.inl ⟨b, nb, n, ba, bc, rfl, hb, hf, by simp only [hb, hf]; rfl⟩

theorem TableHist.remember {env : Env} {h : Hooks} {d : DocKind} {tbl : XTable} {st st' : PSt} {a : Attrs} {c : List Node}
    (ht : TableHist env h d tbl st) (hstep : TopStep st st') (hnt : NewType env h d st st' a c)
    (hnp : attr a "prefix" = none) (hpre : st.prefixes ≠ []) : TableHist env h d (remember tbl a c) st' := by
  unfold Elab.remember
  cases hnm : attr a "name" with
  | none => exact ht.step hstep
  | some nm =>
    cases hnn : DTSpec.basicKey nm with
    | error e => simp only [hnn]; exact ht.step hstep
    | ok nn =>
      simp only [hnn]
      intro e he
      rcases List.mem_append.mp he with he | he
      · exact (ht e he).step hstep
      · simp only [List.mem_singleton] at he
        subst he
        exact newEntry_hist hnt hstep hnp hpre hnm hnn

/-- **The children of `<schema>`, original and written out, are read with the same outcome.** -/
theorem expandChildren_eq {env : Env} {h : Hooks} {d : DocKind} {p : Str} (hp : pkOfB (isComp d) p = some .topS) :
    ∀ (c : List Node) (tbl : XTable) (st : PSt), expandable tbl c = true → TableHist env h d tbl st →
      st.stack = [.schema] → st.prefixes ≠ [] →
      visitChildren env h d p st c = visitChildren env h d p st (expandChildren tbl c)
  | [], tbl, st, _, _, _, _ => by unfold expandChildren; rfl
  | .text s :: r, tbl, st, hex, ht, hs, hpre => by
    unfold expandable at hex
    unfold expandChildren
    rw [visitChildren_text, visitChildren_text, expandChildren_eq hp r tbl st hex ht hs hpre]
  | .elem t a c0 :: r, tbl, st, hex, ht, hs, hpre => by
    unfold expandable at hex
    unfold expandChildren
    by_cases htag : (t == "sectiontype".toList) = true
    · simp only [htag, ↓reduceIte, Bool.and_eq_true, Option.isNone_iff_eq_none] at hex ⊢
      obtain ⟨⟨hnp, hm⟩, hrest⟩ := hex
      have htt : t = "sectiontype".toList := by simpa using htag
      subst htt
      have key : visitElem env h d (some p) st (.elem "sectiontype".toList a c0) =
            visitElem env h d (some p) st (.elem "sectiontype".toList (expandType tbl a c0).1 (expandType tbl a c0).2) ∧
          attr (expandType tbl a c0).1 "extends" = none ∧ attr (expandType tbl a c0).1 "prefix" = none := by
        rcases expandType_cases tbl a c0 with ⟨hext, hac⟩ | ⟨b, nb, n, ba, bc, hext, hb, hf, hac⟩ | ⟨b, hext, _, hun⟩
        · rw [hac]; exact ⟨rfl, hext, hnp⟩
        · rw [hac]
          simp only [hext, hb, hf, Option.isSome_some, Bool.and_true, Option.isNone_iff_eq_none] at hm
          have hmem := List.mem_of_find?_eq_some hf
          have hn : n = nb := by simpa using List.find?_some hf
          subst hn
          obtain ⟨q, base, hg, hH, hdt⟩ := ht _ hmem
          refine ⟨?_, attr_expanded_extends a ba, ?_⟩
          · refine sectiontype_extends_eq_expanded hext hb hg hm hnp hpre ?_ ?_ hH
            · intro st1 hpp; exact (hdt st1 (pushPrefix_noattr hnp hpre hpp)).1
            · intro st1 hpp; exact (hdt st1 (pushPrefix_noattr hnp hpre hpp)).2
          · rw [attr_expanded_prefix]; exact hnp
        · simp only [hext, hun, Bool.and_false, Bool.false_eq_true] at hm
      obtain ⟨hE, hext', hnp'⟩ := key
      rw [visitChildren_elem, visitChildren_elem, hE]
      cases hR : visitElem env h d (some p) st (.elem "sectiontype".toList (expandType tbl a c0).1 (expandType tbl a c0).2) with
      | error e => rfl
      | ok st' =>
        simp only [bind, Except.bind]
        obtain ⟨hstep, hnt⟩ := sectiontypeElem_step hext' hR
        exact expandChildren_eq hp r _ st' hrest (ht.remember hstep hnt hnp' hpre) (by rw [hstep.stack]; exact hs)
          (by rw [hstep.prefixes]; exact hpre)
    · have htag' : (t == "sectiontype".toList) = false := by simpa using htag
      simp only [htag', Bool.false_eq_true, ↓reduceIte, Bool.and_eq_true] at hex ⊢
      rw [visitChildren_elem, visitChildren_elem]
      cases hR : visitElem env h d (some p) st (.elem t a c0) with
      | error e => rfl
      | ok st' =>
        simp only [bind, Except.bind]
        have hstep := topOther_step hp hs htag' hex.1 hR
        exact expandChildren_eq hp r tbl st' hex.2 (ht.step hstep) (by rw [hstep.stack]; exact hs)
          (by rw [hstep.prefixes]; exact hpre)

/-- the documents for which `C11_extends_partial` is proved -/
def expandableDoc : Node → Bool
  | .elem _ _ c => expandable [] c
  | .text _ => true

/-- **C11, `extends` = written-out expansion (one document).**  Loading a schema document and loading its
    written-out form — every `<sectiontype name=d extends=b …>` replaced by the type with `b`'s `keytype` / `datatype`
    attributes (unless `d` has its own) and `b`'s `<key>` / `<multikey>` / `<section>` / `<multisection>` elements in
    front of `d`'s own children, without `extends`, keeping `d`'s `implements` only — give the SAME result: the same
    schema object, or the same error.  This holds for every environment and fuel (base schemas named by
    `<schema extends=…>` included: they come through the loader's hooks), for documents such that (`expandableDoc`): no `<import>` directly below `<schema>`;
    no `prefix` attribute on a `<sectiontype>`; every `extends` names an earlier `<sectiontype>` of the same document;
    a type with `extends` has no `keytype` of its own.
    What is missing for the full statement: `<import>` (the imported component can be shown not to touch existing
    types, by the same `TopStep` argument through the hooks), `prefix` on section types, and extending a type that comes
    from a base schema or component.  The last hypothesis cannot be dropped: see `ExpandExample.inheritedFixedName` (ElabExpandEx.lean). -/
theorem C11_extends_partial (env : Env) (fuel : Nat) (t : Node) (hx : expandableDoc t = true) :
    elabSchema env fuel t = elabSchema env fuel (expandExtends t) := by
  cases t with
  | text s => rfl
  | elem tg a c =>
    unfold elabSchema elabES expandExtends
    congr 2
    by_cases htg : tg = (DocKind.schema none).topLevel
    · rw [visitElem_root_eq htg, visitElem_root_eq htg]
      dsimp only
      cases hs : startSchema env (hooks env fuel) none { es := emptyES } a with
      | error e => rfl
      | ok st1 =>
        simp only [bind, Except.bind]
        obtain ⟨hstack, x, hpre⟩ := startSchema_frame hs
        have hp : pkOfB (isComp (DocKind.schema none)) tg = some .topS := by rw [htg]; decide
        rw [expandChildren_eq hp c [] st1 hx (by intro e he; cases he) hstack (by rw [hpre]; exact List.cons_ne_nil _ _)]
    · rw [visitElem_root_other htg, visitElem_root_other htg]

end ZCV.Elab
