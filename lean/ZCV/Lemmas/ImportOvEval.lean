import ZCV.Lemmas.ImportLoadEval
import ZCV.Spec.EditImport
import ZCV.Lemmas.OverrideSim
/-!
A load with `%import` lines and command-line overrides, seen from the top matcher and the schema (`evalTopsH`, which the
loader state follows: `runTops_evalH`).  Evaluating with a bag = evaluating, without one, the items edited against `S`
(`simTopsS`): the simulation of `OverrideSim` carried along the top level, the schema growing on the way.
-/
namespace ZCV.Conf
open ZCV ZCV.Cfg

def afterT (h : List (Str × Val)) (x : Schema × RH) : Schema × RH := (x.1, after h x.2)

theorem evalTopsH_append (conv : Conv) (pkgs : Str → Pkg) (S : Schema) :
    ∀ (l r : List TopItem) (s : Schema) (m : Matcher),
      evalTopsH conv pkgs S s m (l ++ r) =
        (evalTopsH conv pkgs S s m l).bind fun x => (evalTopsH conv pkgs S x.1 x.2.1 r).map (afterT x.2.2)
  | [], r, s, m => by
    rw [List.nil_append, evalTopsH, Option.bind_some]
    cases evalTopsH conv pkgs S s m r with
    | none => rfl
    | some x => simp only [Option.map_some, afterT, after, List.nil_append]
  | .item i :: l, r, s, m => by
    rw [List.cons_append, evalTopsH, evalTopsH]
    cases evalH conv S s m i with
    | error e => rfl
    | ok a =>
      dsimp only
      rw [evalTopsH_append conv pkgs S l r s a.1]
      cases evalTopsH conv pkgs S s a.1 l with
      | none => rfl
      | some x =>
        simp only [Option.bind_some, Option.map_some, after]
        cases evalTopsH conv pkgs S x.1 x.2.1 r with
        | none => rfl
        | some y => simp only [Option.map_some, afterT, after, List.append_assoc]
  | .imp p :: l, r, s, m => by
    rw [List.cons_append, evalTopsH, evalTopsH]
    cases extend s (pkgs p) with
    | none => rfl
    | some s' => exact evalTopsH_append conv pkgs S l r s' m

theorem evalTopsH_items (conv : Conv) (pkgs : Str → Pkg) (S : Schema) (s : Schema) :
    ∀ (l : List Item) (m : Matcher),
      evalTopsH conv pkgs S s m (l.map .item) = (evalsH conv S s m l).toOption.map fun a => (s, a)
  | [], m => by rw [List.map_nil, evalTopsH, evalsH_nil]; rfl
  | i :: l, m => by
    rw [List.map_cons, evalTopsH, evalsH_cons]
    cases evalH conv S s m i with
    | error e => rfl
    | ok a =>
      dsimp only
      rw [evalTopsH_items conv pkgs S s l a.1, ok_bind]
      cases evalsH conv S s a.1 l <;> rfl

def rebagT (B : Option Bag) (x : Schema × RH) : Schema × RH := (x.1, rebagH B x.2)

theorem evalTopsH_pres (conv : Conv) (pkgs : Str → Pkg) (S : Schema) :
    ∀ (tops : List TopItem) (s : Schema) (m : Matcher) (x : Schema × RH), m.bag = none →
      evalTopsH conv pkgs S s m tops = some x → x.2.1.ty = m.ty ∧ x.2.1.bag = none
  | [], s, m, x, hb, h => by
    rw [evalTopsH] at h
    cases h
    exact ⟨rfl, hb⟩
  | .imp p :: r, s, m, x, hb, h => by
    rw [evalTopsH] at h
    cases he : extend s (pkgs p) with
    | none => rw [he] at h; cases h
    | some s' => rw [he] at h; exact evalTopsH_pres conv pkgs S r s' m x hb h
  | .item i :: r, s, m, x, hb, h => by
    rw [evalTopsH] at h
    cases he : evalH conv S s m i with
    | error e => rw [he] at h; cases h
    | ok a =>
      rw [he] at h
      obtain ⟨y, hy, rfl⟩ := Option.map_eq_some_iff.mp h
      rw [← evalsH_single] at he
      obtain ⟨h1, h2⟩ := evalsH_pres conv S s [i] m a hb he
      obtain ⟨h3, h4⟩ := evalTopsH_pres conv pkgs S r s a.1 y h2 hy
      exact ⟨h3.trans h1, h4⟩

theorem SubSchema_extend {S s s' : Schema} (h : SubSchema S s) (pkg : Pkg) (he : extend s pkg = some s') : SubSchema S s' :=
  fun ty t hg => (Grow_of_extend s s' pkg he).conc ty t (h ty t hg)

theorem map_afterT_rebagT (x : Option (Schema × RH)) (B : Option Bag) (h : List (Str × Val)) :
    (x.map (rebagT B)).map (afterT h) = (x.map (afterT h)).map (rebagT B) := by
  cases x <;> rfl

theorem simTopsS (conv : Conv) (pkgs : Str → Pkg) (S : Schema) (asGiven : Bool) (hsp : SpellOK conv S asGiven) :
    ∀ (tops : List TopItem) (s : Schema), importsOK pkgs s tops = true → lowTops tops = true → SubSchema S s →
      ∀ (m : Matcher) (kp : List (Str × List Str)) (pend : List OptItem), m.bag = none → PendOK pend →
        match editTops conv S asGiven (conv.key m.ty.keytype) (kp.map (·.1)) tops pend with
        | .error _ => evalTopsH conv pkgs S s (withBag m (some { keypairs := kp, sectitems := pend })) tops = none
        | .ok (tops', pend') =>
          evalTopsH conv pkgs S s (withBag m (some { keypairs := kp, sectitems := pend })) tops =
            (evalTopsH conv pkgs S s m tops').map (rebagT (some { keypairs := kp, sectitems := pend' }))
  | [], s, _, _, _, m, kp, pend, _, _ => by
    rw [editTops]
    simp only
    rw [evalTopsH, evalTopsH]
    rfl
  | .imp p :: r, s, hok, hl, hSs, m, kp, pend, hb, hpend => by
    rw [lowTops] at hl
    rw [editTops]
    cases hx : extend s (pkgs p) with
    | none =>
      cases hed : editTops conv S asGiven (conv.key m.ty.keytype) (kp.map (·.1)) r pend with
      | error e =>
        simp only
        rw [evalTopsH, hx]
      | ok q =>
        simp only
        rw [evalTopsH, evalTopsH, hx]
        rfl
    | some s' =>
      have ih := simTopsS conv pkgs S asGiven hsp r s' (importsOK_imp pkgs p r s s' hok hx) hl
        (SubSchema_extend hSs _ hx) m kp pend hb hpend
      cases hed : editTops conv S asGiven (conv.key m.ty.keytype) (kp.map (·.1)) r pend with
      | error e =>
        rw [hed] at ih
        simp only at ih ⊢
        rw [evalTopsH, hx]
        exact ih
      | ok q =>
        rw [hed] at ih
        simp only at ih ⊢
        rw [evalTopsH, evalTopsH, hx]
        exact ih
  | .item i :: r, s, hok, hl, hSs, m, kp, pend, hb, hpend => by
    have hs := importsOK_head pkgs _ s hok
    rw [importsOK] at hok
    rw [lowTops, Bool.and_eq_true] at hl
    have hcan : tyCanon s [i] = true := tyCanon_of_low s hs [i] (by rw [lowItems, hl.1, lowItems]; rfl)
    have h1 := simItemS conv S s asGiven hsp hSs i hcan m kp pend hb hpend
    rw [editTops, evalTopsH]
    cases hed : editItem conv S asGiven (conv.key m.ty.keytype) (kp.map (·.1)) i pend with
    | error e =>
      rw [hed] at h1
      obtain ⟨e1, he1⟩ := h1
      simp only
      rw [he1]
    | ok q =>
      obtain ⟨is, pend1⟩ := q
      rw [hed] at h1
      have hp1 : PendOK pend1 := fun o ho => hpend o (editItem_pend_sub hed o ho)
      rw [show evalH conv S s (withBag m _) i = _ from h1]
      simp only
      cases hev : evalsH conv S s m is with
      | error e =>
        cases editTops conv S asGiven (conv.key m.ty.keytype) (kp.map (·.1)) r pend1 with
        | error e2 => rfl
        | ok q2 =>
          simp only
          rw [evalTopsH_append, evalTopsH_items, hev]
          rfl
      | ok a =>
        obtain ⟨hty, hb1⟩ := evalsH_pres conv S s is m a hb hev
        have h2 := simTopsS conv pkgs S asGiven hsp r s hok hl.2 hSs a.1 kp pend1 hb1 hp1
        rw [hty] at h2
        cases hed2 : editTops conv S asGiven (conv.key m.ty.keytype) (kp.map (·.1)) r pend1 with
        | error e2 =>
          rw [hed2] at h2
          show (evalTopsH conv pkgs S s (withBag a.1 _) r).map _ = none
          rw [h2]
          rfl
        | ok q2 =>
          rw [hed2] at h2
          simp only at h2 ⊢
          show (evalTopsH conv pkgs S s (withBag a.1 _) r).map _ = _
          rw [h2, evalTopsH_append, evalTopsH_items, hev]
          exact map_afterT_rebagT _ _ _

end ZCV.Conf
