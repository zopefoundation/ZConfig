import ZCV.Lemmas.OverrideBag
import ZCV.Lemmas.TextLoad
import ZCV.Lemmas.Datatypes
/-!
The simulation behind C14: running a tree with a bag of overrides (`evalH conv S s`: the matcher reached and the handler
entries appended) = running, without a bag, the tree edited against `S` (`editItem conv S`).  The bags consult the schema `S`
the load started with (`OptionBag.schema`), while sections are checked and finished against a schema `s` that `%import` lines
may have extended; all that is needed between the two is `SubSchema S s`: a section whose type `S` does not know cannot be
addressed, the edit is impossible and the evaluation fails.  `simItemS` / `simItemsS` follow the three places where a bag
acts — a key line (`addValue_bag_eq`), a section header (`sect_skip`, `sect_into`), the end of a container (`closeH_emptied`,
`closeH_left`) — and `body_of_simS` is the statement for a whole container: value, entries and errors alike.  A load without
`%import` is the case `S = s` (`simItem`); for whole loads it reads `loadTreeOv` against `editBody` (`loadTreeOv_editBody`).
-/
namespace ZCV.Conf
open ZCV ZCV.Cfg

/-- every path component that has to select a section is a basic key (an identifier-like word) -/
def OvsOK (ovs : List OptItem) : Prop := ∀ o ∈ ovs, ∀ c ∈ o.path.dropLast, ∃ r, DT.basicKey c = .ok r

theorem ovsOK_of_all {ovs : List OptItem}
    (h : (ovs.all fun o => o.path.dropLast.all fun c => DTSpec.isBasicKey c) = true) : OvsOK ovs := by
  intro o ho c hc
  have := List.all_eq_true.mp (List.all_eq_true.mp h o ho) c hc
  exact ⟨_, by rw [DT.basicKey_eq_spec]; unfold DTSpec.basicKey; rw [if_pos this]⟩

def KeyIdem (conv : Conv) : Prop := ∀ kt k r, conv.key kt k = .ok r → conv.key kt r = .ok r

def InSchema (s : Schema) (t : SType) : Prop := t = s.top ∨ ∃ ty, s.gettype ty = some (.concrete t)

def KeyIdemOn (conv : Conv) (s : Schema) : Prop :=
  ∀ t, InSchema s t → ∀ k r, conv.key t.keytype k = .ok r → conv.key t.keytype r = .ok r

theorem KeyIdem.on {conv : Conv} (h : KeyIdem conv) (s : Schema) : KeyIdemOn conv s :=
  fun t _ k r hk => h t.keytype k r hk

/-- supplied lines may carry the key as given only when the key types in use are idempotent -/
def SpellOK (conv : Conv) (s : Schema) (asGiven : Bool) : Prop := asGiven = true → KeyIdemOn conv s

/-- the concrete types of `S` are concrete types of `s`, unchanged -/
def SubSchema (S s : Schema) : Prop := ∀ ty t, S.gettype ty = some (.concrete t) → s.gettype ty = some (.concrete t)

theorem SubSchema.refl (s : Schema) : SubSchema s s := fun _ _ h => h

theorem hdrOK_name (s : Schema) (ty : Str) (t : SType) (hh : hdrOK s ty = true) (hg : s.gettype ty = some (.concrete t)) :
    t.name.getD [] = ty := by
  unfold hdrOK at hh
  rw [hg] at hh
  simp only [beq_iff_eq] at hh
  rw [hh]
  rfl

theorem tyCanon_single_sect (s : Schema) (ty : Str) (nm : Option Str) (sub : List Item)
    (h : tyCanon s [.sect ty nm sub] = true) : hdrOK s ty = true ∧ tyCanon s sub = true := by
  rw [tyCanon_sect] at h
  simp only [Bool.and_eq_true] at h
  exact ⟨h.1.1, h.1.2⟩

theorem bagStep_withBag (conv : Conv) (s : Schema) (m : Matcher) (b : Bag) (ty : Str) (nm : Option Str) :
    bagStep conv s (withBag m (some b)) ty nm =
      match bagSectionInfo conv s b ty nm with
      | .error e => .error e
      | .ok bc => .ok (withBag m (some bc.1), bc.2) := by
  unfold bagStep
  show (match bagSectionInfo conv s b ty nm with
    | .error e => _
    | .ok (b', cb) => _) = _
  cases bagSectionInfo conv s b ty nm <;> rfl

theorem newMatcher_withBag (t : SType) (nm : Option Str) (cb : Option Bag) :
    newMatcher t nm cb = withBag (newMatcher t nm none) cb := rfl

/-! ### a section on a matcher with a bag -/

/-- the bag handed to a section `<ty nm>` that pending overrides address, made of these overrides without their first
    component.  The type of the section is looked up in `S`, not in the schema in force. -/
def childBag (conv : Conv) (S : Schema) (pend : List OptItem) (ty : Str) (nm : Option Str) : M Bag :=
  match S.gettype ty with
  | some (.concrete tS) => mkBag conv tS ((pend.filter (addresses · ty nm)).map dropHead)
  | none => .error (.cfg { kind := .schema, tag := "unknown type name" })
  | _ => .error (.internal "AttributeError")

theorem bagStep_bag (conv : Conv) (S : Schema) (m : Matcher) (kp : List (Str × List Str)) (pend : List OptItem)
    (hp : PendOK pend) (ty : Str) (nm : Option Str) :
    bagStep conv S (withBag m (some { keypairs := kp, sectitems := pend })) ty nm =
      if (pend.filter (addresses · ty nm)).isEmpty then .ok (withBag m (some { keypairs := kp, sectitems := pend }), none)
      else childBag conv S pend ty nm >>= fun child =>
        .ok (withBag m (some { keypairs := kp, sectitems := pend.filter (fun o => !addresses o ty nm) }), some child) := by
  rw [bagStep_withBag, bagSectionInfo_spec conv S _ ty nm hp.heads]
  unfold childBag
  dsimp only
  by_cases he : (pend.filter (addresses · ty nm)).isEmpty = true
  · rw [if_pos he, if_pos he]
  · rw [if_neg he, if_neg he]
    cases S.gettype ty with
    | none => rfl
    | some te =>
      cases te with
      | abstract_ n subs => rfl
      | concrete tS =>
        dsimp only
        cases mkBag conv tS ((pend.filter (addresses · ty nm)).map dropHead) <;> rfl

theorem map_pair_rebag (x : M Matcher) (B : Option Bag) (h : List (Str × Val)) :
    (x.map (withBag · B)).map (·, h) = (x.map (·, h)).map (rebagH B) := by
  cases x <;> rfl

/-- a section that no pending override addresses: the bag stays where it is -/
theorem sect_skip (conv : Conv) (S s : Schema) (m : Matcher) (kp : List (Str × List Str)) (pend : List OptItem)
    (hp : PendOK pend) (ty : Str) (nm : Option Str) (sub : List Item) (hh : hdrOK s ty = true) (hb : m.bag = none)
    (he : (pend.filter (addresses · ty nm)).isEmpty = true) :
    evalH conv S s (withBag m (some { keypairs := kp, sectitems := pend })) (.sect ty nm sub) =
      (evalH conv S s m (.sect ty nm sub)).map (rebagH (some { keypairs := kp, sectitems := pend })) := by
  rw [evalH_sect, evalH_sect, ← bind_map]
  refine bind_congr_ok fun t hsc => ?_
  rw [hdrOK_name s ty t hh ((sectCheck_ok_inv hsc).1), bagStep_bag conv S m kp pend hp, if_pos he,
    bagStep_nobag conv S m hb, ok_bind, ok_bind, ← bind_map]
  simp only [addSection_withBag, map_pair_rebag]

/-- a section addressed by pending overrides: they leave the parent's bag and make the bag of the child -/
theorem sect_into (conv : Conv) (S s : Schema) (m : Matcher) (kp : List (Str × List Str)) (pend : List OptItem)
    (hp : PendOK pend) (ty : Str) (nm : Option Str) (sub : List Item) (hh : hdrOK s ty = true)
    (he : ¬ (pend.filter (addresses · ty nm)).isEmpty = true) :
    evalH conv S s (withBag m (some { keypairs := kp, sectitems := pend })) (.sect ty nm sub) =
      (sectCheck s m.ty ty nm >>= fun t =>
        (childBag conv S pend ty nm >>= fun child => bodyH conv S s (withBag (newMatcher t nm none) (some child)) sub) >>= fun vr =>
        (addSection s m ty nm vr.1).map (·, vr.2)).map
        (rebagH (some { keypairs := kp, sectitems := pend.filter (fun o => !addresses o ty nm) })) := by
  rw [evalH_sect, ← bind_map]
  refine bind_congr_ok fun t hsc => ?_
  rw [hdrOK_name s ty t hh ((sectCheck_ok_inv hsc).1), bagStep_bag conv S m kp pend hp, if_neg he, ← bind_map]
  cases childBag conv S pend ty nm with
  | error e => rfl
  | ok child =>
    simp only [ok_bind, addSection_withBag, map_pair_rebag]
    rfl

theorem pendOK_of_ovsOK (ovs ss : List OptItem) (h : OvsOK ovs) (hss : ∀ o ∈ ss, o ∈ ovs ∧ 2 ≤ o.path.length) :
    PendOK ss := fun o ho => ⟨(hss o ho).2, h o (hss o ho).1⟩

theorem groupsOK_of (conv : Conv) (s : Schema) (asGiven : Bool) (hsp : SpellOK conv s asGiven) (t : SType)
    (hin : InSchema s t) (ks : List KeyOv)
    (hks : ∀ x ∈ ks, conv.key t.keytype x.key = .ok x.norm) : GroupsOK conv asGiven t.keytype (groupsOf ks) := by
  intro ha g hg kv hkv
  have h1 := groupsOf_norm (conv.key t.keytype) ks hks g hg kv hkv
  exact ⟨h1, hsp ha t hin kv.1 g.1 h1⟩

/-! ### the simulation -/

def SimH (conv : Conv) (S s : Schema) (m : Matcher) (kp : List (Str × List Str))
    (ed : Except Reject (List Item × List OptItem)) (x : M RH) : Prop :=
  match ed with
  | .error _ => ∃ e, x = .error e
  | .ok (is, pend') => x = (evalsH conv S s m is).map (rebagH (some { keypairs := kp, sectitems := pend' }))

def SimItemS (conv : Conv) (S s : Schema) (asGiven : Bool) (i : Item) : Prop :=
  ∀ (m : Matcher) (kp : List (Str × List Str)) (pend : List OptItem), m.bag = none → PendOK pend →
    SimH conv S s m kp (editItem conv S asGiven (conv.key m.ty.keytype) (kp.map (·.1)) i pend)
      (evalH conv S s (withBag m (some { keypairs := kp, sectitems := pend })) i)

def SimItemsS (conv : Conv) (S s : Schema) (asGiven : Bool) (l : List Item) : Prop :=
  ∀ (m : Matcher) (kp : List (Str × List Str)) (pend : List OptItem), m.bag = none → PendOK pend →
    SimH conv S s m kp (editItems conv S asGiven (conv.key m.ty.keytype) (kp.map (·.1)) l pend)
      (evalsH conv S s (withBag m (some { keypairs := kp, sectitems := pend })) l)

/-- the body of a container under the bag made of `ovs` -/
def bodyOvS (conv : Conv) (S s : Schema) (m : Matcher) (items : List Item) (ovs : List OptItem) : M (Val × List (Str × Val)) :=
  mkBag conv m.ty ovs >>= fun child => bodyH conv S s (withBag m (some child)) items

def BodyStmtS (conv : Conv) (S s : Schema) (asGiven : Bool) (items : List Item) : Prop :=
  ∀ (m : Matcher) (ovs : List OptItem), m.bag = none → InSchema S m.ty → OvsOK ovs →
    match editBody conv S asGiven m.ty.keytype items ovs with
    | .error _ => ∃ e, bodyOvS conv S s m items ovs = .error e
    | .ok items' => bodyOvS conv S s m items ovs = bodyH conv S s m items'

theorem hItemsBS_kvs (conv : Conv) (S s : Schema) : ∀ (l : List Item), (∀ i ∈ l, ∃ k v p, i = .kv k v p) → ∀ m,
    hItemsBS conv S s m l = []
  | [], _, _ => hItemsBS_nil conv S s _
  | i :: r, h, m => by
    obtain ⟨k, v, p, rfl⟩ := h i List.mem_cons_self
    rw [hItemsBS_cons, hItemBS, List.nil_append]
    cases evalItemBS conv S s m (.kv k v p) with
    | error e => rfl
    | ok m' => exact hItemsBS_kvs conv S s r (fun j hj => h j (List.mem_cons_of_mem _ hj)) m'

/-- a bag that has met all its sections supplies its lines: finishing with it = evaluating the supplied lines, then
    finishing without one -/
theorem finish_emptied (conv : Conv) (s : Schema) (asGiven : Bool) (ks : List KeyOv) (m : Matcher) (hb : m.bag = none)
    (hG : GroupsOK conv asGiven m.ty.keytype (groupsOf ks)) :
    finishMatcher conv s (withBag m (some { keypairs := strip (groupsOf ks), sectitems := [] })) =
      evalItemsB conv s m (newLines asGiven (groupsOf ks)) >>= finishMatcher conv s := by
  rw [finishMatcher_eq_bag, finishBag_groups conv s asGiven (groupsOf ks) [] m hb hG]
  cases hnl : evalItemsB conv s m (newLines asGiven (groupsOf ks)) with
  | error e => rfl
  | ok m3 =>
    show finishMatcher' conv s m3 = finishMatcher conv s m3
    rw [finishMatcher_nobag conv s m3 ((evalItemsB_pres conv s _ m m3 hnl).2 hb)]

theorem closeH_emptied (conv : Conv) (S s : Schema) (asGiven : Bool) (ks : List KeyOv) (a : RH) (hb : a.1.bag = none)
    (hG : GroupsOK conv asGiven a.1.ty.keytype (groupsOf ks)) :
    closeH conv s (rebagH (some { keypairs := strip (groupsOf ks), sectitems := [] }) a) =
      (evalsH conv S s a.1 (newLines asGiven (groupsOf ks))).map (after a.2) >>= closeH conv s := by
  unfold closeH rebagH
  dsimp only
  rw [finish_emptied conv s asGiven ks a.1 hb hG, evalItemsB_nobag conv s _ a.1 hb, ← evalItemsBS_eval conv S s _ a.1 hb]
  unfold evalsH
  rw [hItemsBS_kvs conv S s _ (newLines_kv asGiven _)]
  cases evalItemsBS conv S s a.1 (newLines asGiven (groupsOf ks)) with
  | error e => rfl
  | ok m3 => simp only [Except.map, after, List.append_nil, ok_bind]


theorem closeH_left (conv : Conv) (s : Schema) (kp : List (Str × List Str)) (o : OptItem) (left : List OptItem) (a : RH) :
    ∃ e, closeH conv s (rebagH (some { keypairs := kp, sectitems := o :: left }) a) = .error e := by
  unfold closeH rebagH
  dsimp only
  rw [finishMatcher_eq_bag, finishBag_some conv _ { keypairs := kp, sectitems := o :: left } rfl]
  cases List.foldlM (bagOuter conv) (withBag a.1 (some { keypairs := kp, sectitems := o :: left })) kp with
  | error e => exact ⟨e, rfl⟩
  | ok v => exact ⟨_, rfl⟩

theorem body_of_simS (conv : Conv) (S s : Schema) (asGiven : Bool) (hsp : SpellOK conv S asGiven) (items : List Item)
    (hsim : SimItemsS conv S s asGiven items) : BodyStmtS conv S s asGiven items := by
  intro m ovs hb hin hovs
  unfold editBody bodyOvS
  have hmk := mkBag_spec conv m.ty ovs
  cases hsp' : splitOvs (conv.key m.ty.keytype) ovs with
  | error r =>
    rw [hsp'] at hmk
    obtain ⟨e, he⟩ := hmk
    exact ⟨e, by rw [he]; rfl⟩
  | ok p =>
    obtain ⟨ks, ss⟩ := p
    rw [hsp'] at hmk
    simp only at hmk ⊢
    rw [hmk, ok_bind]
    have hinv := splitOvs_inv _ ovs ks ss hsp'
    have hG := groupsOK_of conv S asGiven hsp m.ty hin ks hinv.1
    have h := hsim m (strip (groupsOf ks)) ss hb (pendOK_of_ovsOK ovs ss hovs hinv.2)
    rw [strip_keys] at h
    unfold bodyH
    cases hed : editItems conv S asGiven (conv.key m.ty.keytype) ((groupsOf ks).map (·.1)) items ss with
    | error r =>
      rw [hed] at h
      obtain ⟨e, he⟩ := h
      exact ⟨e, by rw [he]; rfl⟩
    | ok p =>
      obtain ⟨is, left⟩ := p
      rw [hed] at h
      rw [show evalsH conv S s (withBag m _) items = _ from h]
      cases left with
      | cons o left =>
        cases evalsH conv S s m is with
        | error e => exact ⟨e, rfl⟩
        | ok a => exact closeH_left conv s _ o left a
      | nil =>
        show _ = evalsH conv S s m (is ++ newLines asGiven (groupsOf ks)) >>= closeH conv s
        rw [evalsH_append]
        cases hev : evalsH conv S s m is with
        | error e => rfl
        | ok a =>
          obtain ⟨hty, hb2⟩ := evalsH_pres conv S s is m a hb hev
          exact closeH_emptied conv S s asGiven ks a hb2 (by rw [hty]; exact hG)


theorem ovsOK_dropHead (pend : List OptItem) (hpend : PendOK pend) (ty : Str) (nm : Option Str) :
    OvsOK ((pend.filter (addresses · ty nm)).map dropHead) := by
  intro o ho c hc
  rw [List.mem_map] at ho
  obtain ⟨o0, ho0, rfl⟩ := ho
  have h0 := hpend o0 (List.mem_filter.mp ho0).1
  apply h0.2 c
  unfold dropHead at hc
  simp only at hc
  cases hp0 : o0.path with
  | nil => rw [hp0] at hc; simp at hc
  | cons c0 rest =>
    rw [hp0] at hc
    simp only [List.drop_one, List.tail_cons] at hc
    cases rest with
    | nil => simp at hc
    | cons c1 rest => rw [List.dropLast_cons_cons]; exact List.mem_cons_of_mem _ hc

theorem map_after_rebag (x : M RH) (B : Option Bag) (h : List (Str × Val)) :
    (x.map (rebagH B)).map (after h) = (x.map (after h)).map (rebagH B) := by
  cases x <;> rfl

mutual
theorem simItemS (conv : Conv) (S s : Schema) (asGiven : Bool) (hsp : SpellOK conv S asGiven) (hSs : SubSchema S s) :
    ∀ (i : Item), tyCanon s [i] = true → SimItemS conv S s asGiven i
  | .kv k v p, _ => by
    intro m kp pend hb _
    rw [editItem_kv, evalH_kv, addValue_bag_eq]
    unfold overridden SimH
    dsimp only
    cases hk : conv.key m.ty.keytype k with
    | error e =>
      simp only [Bool.false_eq_true, if_false]
      rw [evalsH_single, evalH_kv, addValue_nobag conv m hb, hk]
      rfl
    | ok rk =>
      simp only [← any_fst_eq]
      by_cases ho : kp.any (·.1 == rk) = true
      · rw [if_pos ho, if_pos ho, evalsH_nil]
        rfl
      · rw [if_neg ho, if_neg ho, evalsH_single, evalH_kv, addValue_nobag conv m hb, hk]
        exact map_pair_rebag _ _ _
  | .sect ty nm sub, hcan => by
    intro m kp pend hb hpend
    obtain ⟨hh, hcsub⟩ := tyCanon_single_sect s ty nm sub hcan
    rw [editItem_sect]
    by_cases he : (pend.filter (addresses · ty nm)).isEmpty = true
    · rw [if_pos he]
      unfold SimH
      dsimp only
      rw [sect_skip conv S s m kp pend hpend ty nm sub hh hb he, evalsH_single]
    · rw [if_neg he, sect_into conv S s m kp pend hpend ty nm sub hh he]
      have hno : ∀ te, S.gettype ty = te → (∀ t, te ≠ some (.concrete t)) →
          ∃ e, childBag conv S pend ty nm = .error e := by
        intro te hg hne
        unfold childBag
        rw [hg]
        rcases te with _ | ⟨_ | _⟩
        · exact ⟨_, rfl⟩
        · exact absurd rfl (hne _)
        · exact ⟨_, rfl⟩
      cases hg : S.gettype ty with
      | none =>
        obtain ⟨e, he'⟩ := hno _ hg (fun t h => nomatch h)
        exact bind_all_error _ _ _ fun t _ => ⟨e, by rw [he']; rfl⟩
      | some te =>
        cases te with
        | abstract_ n subs =>
          obtain ⟨e, he'⟩ := hno _ hg (fun t h => nomatch h)
          exact bind_all_error _ _ _ fun t _ => ⟨e, by rw [he']; rfl⟩
        | concrete t =>
          dsimp only
          have hchild : childBag conv S pend ty nm = mkBag conv t ((pend.filter (addresses · ty nm)).map dropHead) := by
            unfold childBag
            rw [hg]
          -- the body of the section, by the induction hypothesis on its items
          have hb2 := body_of_simS conv S s asGiven hsp sub (simItemsS conv S s asGiven hsp hSs sub hcsub)
            (newMatcher t nm none) _ rfl (Or.inr ⟨ty, hg⟩) (ovsOK_dropHead pend hpend ty nm)
          unfold bodyOvS at hb2
          have ht : ∀ t', sectCheck s m.ty ty nm = .ok t' → t' = t := fun t' hsc => by
            have := (sectCheck_ok_inv hsc).1
            rw [hSs ty t hg] at this
            cases this
            rfl
          rw [show (newMatcher t nm none).ty.keytype = t.keytype from rfl] at hb2
          cases hed : editBody conv S asGiven t.keytype sub ((pend.filter (addresses · ty nm)).map dropHead) with
          | error r =>
            rw [hed] at hb2
            obtain ⟨e, he2⟩ := hb2
            refine bind_all_error _ _ _ fun t' hsc => ⟨e, ?_⟩
            rw [ht t' hsc, hchild]
            show ((mkBag conv (newMatcher t nm none).ty _ >>= _) >>= _) = _
            rw [he2]
            rfl
          | ok sub' =>
            rw [hed] at hb2
            unfold SimH
            dsimp only at hb2 ⊢
            rw [evalsH_single, evalH_sect]
            congr 1
            refine bind_congr_ok fun t' hsc => ?_
            rw [ht t' hsc, hchild, bagStep_nobag conv S m hb]
            show ((mkBag conv (newMatcher t nm none).ty _ >>= _) >>= _) = _
            rw [hb2]
            rfl
theorem simItemsS (conv : Conv) (S s : Schema) (asGiven : Bool) (hsp : SpellOK conv S asGiven) (hSs : SubSchema S s) :
    ∀ (l : List Item), tyCanon s l = true → SimItemsS conv S s asGiven l
  | [], _ => by
    intro m kp pend _ _
    rw [editItems_nil, evalsH_nil]
    unfold SimH
    dsimp only
    rw [evalsH_nil]
    rfl
  | i :: r, hcan => by
    intro m kp pend hb hpend
    rw [tyCanon_cons, Bool.and_eq_true] at hcan
    have h1 := simItemS conv S s asGiven hsp hSs i hcan.1 m kp pend hb hpend
    rw [editItems, evalsH_cons]
    cases hed : editItem conv S asGiven (conv.key m.ty.keytype) (kp.map (·.1)) i pend with
    | error e =>
      rw [hed] at h1
      obtain ⟨e1, he1⟩ := h1
      exact ⟨e1, by rw [he1]; rfl⟩
    | ok p =>
      obtain ⟨is, pend1⟩ := p
      rw [hed] at h1
      have hp1 : PendOK pend1 := fun o ho => hpend o (editItem_pend_sub hed o ho)
      rw [show evalH conv S s (withBag m _) i = _ from h1]
      dsimp only
      cases hev : evalsH conv S s m is with
      | error e =>
        cases editItems conv S asGiven (conv.key m.ty.keytype) (kp.map (·.1)) r pend1 with
        | error e2 => exact ⟨e, rfl⟩
        | ok p2 =>
          show _ = (evalsH conv S s m (is ++ p2.1)).map _
          rw [evalsH_append, hev]
          rfl
      | ok a =>
        obtain ⟨hty, hb1⟩ := evalsH_pres conv S s is m a hb hev
        have h2 := simItemsS conv S s asGiven hsp hSs r hcan.2 a.1 kp pend1 hb1 hp1
        rw [hty] at h2
        cases hed2 : editItems conv S asGiven (conv.key m.ty.keytype) (kp.map (·.1)) r pend1 with
        | error e2 =>
          rw [hed2] at h2
          obtain ⟨e, he⟩ := h2
          exact ⟨e, by show (evalsH conv S s (withBag a.1 _) r).map _ = _; rw [he]; rfl⟩
        | ok p2 =>
          rw [hed2] at h2
          show (evalsH conv S s (withBag a.1 _) r).map _ = (evalsH conv S s m (is ++ p2.1)).map _
          rw [show evalsH conv S s (withBag a.1 _) r = _ from h2, evalsH_append, hev, map_after_rebag]
          rfl
end


/-! ### without `%import`: the bags consult the schema in force -/

def SimItem (conv : Conv) (s : Schema) (asGiven : Bool) (i : Item) : Prop :=
  ∀ (m : Matcher) (kp : List (Str × List Str)) (pend : List OptItem), m.bag = none → PendOK pend →
    match editItem conv s asGiven (conv.key m.ty.keytype) (kp.map (·.1)) i pend with
    | .error _ => ∃ e, evalItemB conv s (withBag m (some { keypairs := kp, sectitems := pend })) i = .error e
    | .ok (is, pend') =>
      evalItemB conv s (withBag m (some { keypairs := kp, sectitems := pend })) i =
        (evalItemsB conv s m is).map (withBag · (some { keypairs := kp, sectitems := pend' })) ∧
      ∀ o ∈ pend', o ∈ pend

theorem map_rebag_fst (x : M RH) (B : Option Bag) : (x.map (rebagH B)).map (·.1) = (x.map (·.1)).map (withBag · B) := by
  cases x <;> rfl

theorem simItem (conv : Conv) (s : Schema) (asGiven : Bool) (hsp : SpellOK conv s asGiven) :
    ∀ (i : Item), tyCanon s [i] = true → SimItem conv s asGiven i := by
  intro i hcan m kp pend hb hpend
  have h := simItemS conv s s asGiven hsp (SubSchema.refl s) i hcan m kp pend hb hpend
  cases hed : editItem conv s asGiven (conv.key m.ty.keytype) (kp.map (·.1)) i pend with
  | error r =>
    rw [hed] at h
    obtain ⟨e, he⟩ := h
    exact ⟨e, by rw [← evalItemBS_self, ← evalH_fst, he]; rfl⟩
  | ok p =>
    rw [hed] at h
    refine ⟨?_, editItem_pend_sub hed⟩
    rw [← evalItemBS_self, ← evalH_fst, show evalH conv s s (withBag m _) i = _ from h, map_rebag_fst, evalsH_fst,
      evalItemsBS_self]

/-! ### whole loads: `loadTreeOv` against `editBody` -/

/-! ### editing without pending overrides only drops the overridden key lines -/

/-- is this item kept when the keys `keys` of its section are overridden? -/
def keptItem (norm : Str → Except ConvErr Str) (keys : List Str) : Item → Bool
  | .kv k _ _ => !overridden norm keys k
  | .sect _ _ _ => true

theorem editItems_nopend (conv : Conv) (s : Schema) (asGiven : Bool) (norm : Str → Except ConvErr Str) (keys : List Str) :
    ∀ (l : List Item), editItems conv s asGiven norm keys l [] = .ok (l.filter (keptItem norm keys), [])
  | [] => by rw [editItems]; rfl
  | .kv k v p :: r => by
    rw [editItems, editItem]
    simp only
    rw [editItems_nopend conv s asGiven norm keys r, List.filter_cons]
    have hk : keptItem norm keys (.kv k v p) = !overridden norm keys k := rfl
    rw [hk]
    cases overridden norm keys k <;> rfl
  | .sect ty nm sub :: r => by
    rw [editItems, editItem]
    simp only [List.filter_nil, List.isEmpty_nil, if_true]
    rw [editItems_nopend conv s asGiven norm keys r, List.filter_cons]
    rfl

theorem overridden_nil (norm : Str → Except ConvErr Str) (k : Str) : overridden norm [] k = false := by
  unfold overridden
  cases norm k <;> rfl

theorem filter_kept_nil (norm : Str → Except ConvErr Str) (l : List Item) : l.filter (keptItem norm []) = l := by
  rw [List.filter_eq_self]
  intro i _
  cases i with
  | kv k v p =>
    show (!overridden norm [] k) = true
    rw [overridden_nil]; rfl
  | sect ty nm sub => rfl

theorem editBody_nil (conv : Conv) (s : Schema) (asGiven : Bool) (kt : Str) (items : List Item) :
    editBody conv s asGiven kt items [] = .ok items := by
  unfold editBody
  rw [splitOvs]
  simp only
  rw [show groupsOf [] = [] from rfl, List.map_nil, editItems_nopend, filter_kept_nil]
  show Except.ok (items ++ newLines asGiven []) = _
  rw [show newLines asGiven [] = [] from rfl, List.append_nil]

/-- what follows `finishMatcher` at the end of a load -/
def topPost (conv : Conv) (s : Schema) (r : Val × List (Str × Val)) : M Val :=
  match conv.sect s.top.datatype r.1 with
  | .ok v => .ok v
  | .error e => .error (convFail e none { line := -1, url := none } "schema datatype")

theorem topFin_eq (conv : Conv) (s : Schema) (m : Matcher) :
    topFin conv s m = finishMatcher conv s m >>= topPost conv s := rfl

/-- only the value of a container's run reaches the end of a load -/
theorem bodyH_topPost (conv : Conv) (S s : Schema) (m : Matcher) (items : List Item) :
    bodyH conv S s m items >>= topPost conv s = evalItemsBS conv S s m items >>= topFin conv s := by
  unfold bodyH closeH evalsH
  cases evalItemsBS conv S s m items with
  | error e => rfl
  | ok c =>
    show ((finishMatcher conv s c).map _ >>= topPost conv s) = finishMatcher conv s c >>= topPost conv s
    cases finishMatcher conv s c <;> rfl

theorem loadTreeOv_body (conv : Conv) (s : Schema) (items : List Item) (o : OptItem) (ovs : List OptItem) :
    loadTreeOv conv s items (o :: ovs) =
      bodyOvS conv s s (newMatcher s.top none none) items (o :: ovs) >>= topPost conv s := by
  rw [loadTreeOv_eq]
  unfold bagOf bodyOvS
  show ((mkBag conv s.top (o :: ovs)).map some >>= _) =
    (mkBag conv s.top (o :: ovs) >>= fun child =>
      bodyH conv s s (withBag (newMatcher s.top none none) (some child)) items) >>= topPost conv s
  cases mkBag conv s.top (o :: ovs) with
  | error e => rfl
  | ok b =>
    show (evalItemsB conv s (newMatcher s.top none (some b)) items >>= topFin conv s) =
      bodyH conv s s (withBag (newMatcher s.top none none) (some b)) items >>= topPost conv s
    rw [bodyH_topPost, ← newMatcher_withBag, evalItemsBS_self]

/-- **Overrides = edit, then load** (both spellings of the supplied keys) -/
theorem loadTreeOv_editBody (conv : Conv) (s : Schema) (asGiven : Bool) (hsp : SpellOK conv s asGiven) (items : List Item)
    (ovs : List OptItem) (hcan : tyCanon s items = true) (hovs : OvsOK ovs) :
    match editBody conv s asGiven s.top.keytype items ovs with
    | .error _ => ∃ e, loadTreeOv conv s items ovs = .error e
    | .ok items' => loadTreeOv conv s items ovs = loadTree conv s items' := by
  cases ovs with
  | nil =>
    rw [editBody_nil]
    exact loadTreeOv_nil conv s items
  | cons o ovs =>
    have hbody := body_of_simS conv s s asGiven hsp items (simItemsS conv s s asGiven hsp (SubSchema.refl s) items hcan)
      (newMatcher s.top none none) (o :: ovs) rfl (Or.inl rfl) hovs
    rw [show (newMatcher s.top none none).ty.keytype = s.top.keytype from rfl] at hbody
    rw [loadTreeOv_body]
    cases hed : editBody conv s asGiven s.top.keytype items (o :: ovs) with
    | error r =>
      rw [hed] at hbody
      obtain ⟨e, he⟩ := hbody
      exact ⟨e, by rw [he]; rfl⟩
    | ok items' =>
      rw [hed] at hbody
      simp only at hbody ⊢
      rw [hbody, loadTree_evalB, bodyH_topPost, evalItemsBS_self]

end ZCV.Conf
