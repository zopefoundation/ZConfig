/-! Generic lemmas about `Except`: `List.mapM`, `map` under `if` and `>>=`, inversion of `>>=` and `map`, acceptance (`toOption`, `isSome`). -/
namespace ZCV

theorem mapM_ok_cons {ε α β} (f : α → Except ε β) (a : α) (l : List α) (r : List β)
    (h : (a :: l).mapM f = .ok r) : ∃ b bs, f a = .ok b ∧ l.mapM f = .ok bs ∧ r = b :: bs := by
  rw [List.mapM_cons] at h
  cases hfa : f a with
  | error e => simp [hfa, bind, Except.bind] at h
  | ok b =>
    cases hl : l.mapM f with
    | error e => simp [hfa, hl, bind, Except.bind] at h
    | ok bs =>
      simp [hfa, hl, bind, Except.bind, pure, Except.pure] at h
      exact ⟨b, bs, rfl, rfl, h.symm⟩

theorem mapM_ok_map {ε α β γ} (f : α → Except ε β) (p : β → γ) (g : α → γ)
    (hf : ∀ a b, f a = .ok b → p b = g a) :
    ∀ (l : List α) (r : List β), l.mapM f = .ok r → r.map p = l.map g := by
  intro l
  induction l with
  | nil => intro r h; simp [pure, Except.pure] at h; subst h; rfl
  | cons a l ih =>
    intro r h
    obtain ⟨b, bs, h1, h2, h3⟩ := mapM_ok_cons f a l r h
    subst h3
    simp [hf a b h1, ih bs h2]

theorem mapM_ok_length {ε α β} (f : α → Except ε β) :
    ∀ (l : List α) (r : List β), l.mapM f = .ok r → r.length = l.length := by
  intro l
  induction l with
  | nil => intro r h; simp [pure, Except.pure] at h; subst h; rfl
  | cons a l ih =>
    intro r h
    obtain ⟨b, bs, _, h2, h3⟩ := mapM_ok_cons f a l r h
    subst h3; simp [ih bs h2]

theorem map_ite {ε α β} (f : α → β) (c : Prop) [Decidable c] (a b : Except ε α) :
    (if c then a else b).map f = if c then a.map f else b.map f := by
  split <;> rfl

theorem bind_map {ε α β γ} (x : Except ε α) (f : α → Except ε β) (g : β → γ) :
    (x >>= fun a => (f a).map g) = (x >>= f).map g := by
  cases x <;> rfl

theorem bind_congr_ok {ε α β} {x : Except ε α} {f g : α → Except ε β} (h : ∀ a, x = .ok a → f a = g a) :
    x >>= f = x >>= g := by
  cases x with
  | error e => rfl
  | ok a => exact h a rfl

theorem bind_all_error {ε α β γ} (x : Except ε α) (f : α → Except ε β) (g : β → γ)
    (h : ∀ a, x = .ok a → ∃ e, f a = .error e) : ∃ e, (x >>= f).map g = .error e := by
  cases x with
  | error e => exact ⟨e, rfl⟩
  | ok a =>
    obtain ⟨e, he⟩ := h a rfl
    exact ⟨e, by show (f a).map g = _; rw [he]; rfl⟩

theorem bind_ok_inv {ε α β} {x : Except ε α} {f : α → Except ε β} {b : β}
    (h : (x >>= f) = .ok b) : ∃ a, x = .ok a ∧ f a = .ok b := by
  cases x with
  | error e => cases h
  | ok a => exact ⟨a, rfl, h⟩

theorem ok_bind {ε α β} (a : α) (f : α → Except ε β) : (Except.ok a >>= f) = f a := rfl

theorem map_ok_inv {ε α β} {x : Except ε α} {f : α → β} {b : β}
    (h : x.map f = .ok b) : ∃ a, x = .ok a ∧ f a = b := by
  cases x with
  | error e => cases h
  | ok a => simp [Except.map] at h; exact ⟨a, rfl, h⟩

theorem map_error_inv {ε α β} {x : Except ε α} {f : α → β} {e : ε} (h : x.map f = .error e) : x = .error e := by
  cases x with
  | error e' => cases h; rfl
  | ok a => cases h

theorem mapError_ok_iff {ε ε' α} {f : ε → ε'} {x : Except ε α} {a : α} : x.mapError f = .ok a ↔ x = .ok a := by
  cases x <;> simp [Except.mapError]

theorem toOption_bind {ε α β} (x : Except ε α) (f : α → Except ε β) :
    (x >>= f).toOption = x.toOption.bind (fun a => (f a).toOption) := by
  cases x <;> rfl

theorem toOption_map {ε α β} (x : Except ε α) (f : α → β) :
    (x.map f).toOption = x.toOption.map f := by
  cases x <;> rfl

theorem option_bind_congr {α β} {x : Option α} {f g : α → Option β} (h : ∀ a, x = some a → f a = g a) :
    x.bind f = x.bind g := by
  cases x with
  | none => rfl
  | some a => exact h a rfl

theorem option_bind_eq_map {α β} {x : Option α} {f : α → Option β} {g : α → β}
    (h : ∀ a, x = some a → f a = some (g a)) : x.bind f = x.map g := by
  cases x with
  | none => rfl
  | some a => exact h a rfl

theorem ok_iff_isSome {ε α β : Type} {x : Except ε α} {o : Option β} {f : α → β} (h : x.toOption.map f = o) :
    (∃ r, x = .ok r) ↔ o.isSome = true := by
  subst h
  cases x <;> simp [Except.toOption]

theorem error_iff_none {ε α β : Type} {x : Except ε α} {o : Option β} {f : α → β} (h : x.toOption.map f = o) :
    (∃ e, x = .error e) ↔ o = none := by
  subst h
  cases x <;> simp [Except.toOption]

theorem bind_isSome_iff {ε α β : Type} (x : Except ε α) (g : α → Option β) :
    (x.toOption.bind g).isSome = true ↔ ∃ a, x = .ok a ∧ (g a).isSome = true := by
  cases x <;> simp [Except.toOption]

theorem unit_of_isOk {ε} {x : Except ε Unit} (h : x.isOk = true) : x = .ok () := by
  cases x with
  | ok u => rfl
  | error e => cases h

end ZCV
