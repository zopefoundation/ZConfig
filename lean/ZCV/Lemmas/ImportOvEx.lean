import ZCV.Lemmas.Datatypes
import ZCV.Lemmas.OverrideSim
import ZCV.Lemmas.SlotsEx
import ZCV.Spec.EditImport
import ZCV.Spec.HandlersImport
/-!
A closed world for the theorems on loads with `%import` lines AND command-line overrides.

Schema: abstract type `ab`, a `*` multisection for it (attribute `s`, handler `hs`), a top-level key `plain`, a static
implementer `st` with a key `k` (handler `hk`), schema-level handler `hall`.  Package `p`: a component with the
implementer `leak` (key `k`).  Text:

    %import p
    <leak a>
    k 1
    </leak>
    <st b>
    k 1
    </st>

* overrides `b/k=2`, `plain=x` (into a section of a STATIC type, and a top-level key): accepted, = the edited text;
* override `a/k=2` (into the section of the `%import`-ed type): the edit against the initial schema is impossible and
  the load is REJECTED, although the text edited by hand is accepted — what the code does
  (`OptionBag.schema` is the application schema; known finding `C14-override-into-imported-type`).
-/
namespace ZCV.Cfg.ExOv
open ZCV ZCV.Cfg ZCV.Conf

def conv : Conv := Ex.conv
def env : Env := Ex.env

def keyK : Option Str × Info :=
  (some ['k'], .key { name := ['k'], attr := ['k'], multi := false, minOccurs := 0, dt := "string".toList,
                      dflt := .none, handler := some "hk".toList })
def keyPlain : Option Str × Info :=
  (some "plain".toList, .key { name := "plain".toList, attr := "plain".toList, multi := false, minOccurs := 0,
                               dt := "string".toList, dflt := .none, handler := none })
def slot : SectInfo :=
  { name := ['*'], attr := "s".toList, multi := true, minOccurs := 0, ty := "ab".toList, handler := some "hs".toList }
def top : SType :=
  { name := none, keytype := "basic-key".toList, datatype := "null".toList, children := [(none, .sect slot), keyPlain] }
def stT : SType := { name := some "st".toList, keytype := "basic-key".toList, datatype := "null".toList, children := [keyK] }
def leakT : SType := { name := some "leak".toList, keytype := "basic-key".toList, datatype := "null".toList, children := [keyK] }
def schema : Schema :=
  { types := [("ab".toList, .abstract_ "ab".toList ["st".toList]), ("st".toList, .concrete stT)], top := top,
    handler := some "hall".toList, components := [] }
def pkgs : Str → Pkg := fun n =>
  if n == "p".toList then .component "u".toList [("leak".toList, .concrete leakT)] [("leak".toList, "ab".toList)]
  else .notImportable

def lines (c : Char) : List Str :=
  ["%import p".toList, "<leak a>".toList, ['k', ' ', c], "</leak>".toList, "<st b>".toList, "k 1".toList, "</st>".toList]
def tops (c : Char) : List TopItem :=
  [.imp "p".toList,
   .item (.sect "leak".toList (some ['a']) [.kv ['k'] [c] { line := 3, url := none }]),
   .item (.sect "st".toList (some ['b']) [.kv ['k'] ['1'] { line := 6, url := none }])]

/-! ### the parse, line by line, for the structure-recording context -/

theorem shape_leakA : lineShape (strip "<leak a>".toList) = .open_ "leak".toList (some ['a']) false :=
  lineShape_of_classify _ (by char_lits; decide +kernel) (.open_ "leak".toList (some ['a']) false) (by char_lits; decide +kernel) nofun
theorem shape_stB : lineShape (strip "<st b>".toList) = .open_ "st".toList (some ['b']) false :=
  lineShape_of_classify _ (by char_lits; decide +kernel) (.open_ "st".toList (some ['b']) false) (by char_lits; decide +kernel) nofun
theorem shape_k1 : lineShape (strip "k 1".toList) = .kv ['k'] ['1'] :=
  lineShape_of_classify _ (by char_lits; decide +kernel) (.kv ['k'] ['1']) (by char_lits; decide +kernel) nofun
theorem shape_k2 : lineShape (strip "k 2".toList) = .kv ['k'] ['2'] :=
  lineShape_of_classify _ (by char_lits; decide +kernel) (.kv ['k'] ['2']) (by char_lits; decide +kernel) nofun
theorem shape_cLeak : lineShape (strip "</leak>".toList) = .close "leak".toList :=
  lineShape_of_classify _ (by char_lits; decide +kernel) (.close "leak".toList) (by char_lits; decide +kernel) nofun
theorem shape_cSt : lineShape (strip "</st>".toList) = .close "st".toList :=
  lineShape_of_classify _ (by char_lits; decide +kernel) (.close "st".toList) (by char_lits; decide +kernel) nofun

/-- the seven lines, for the third line `k c` -/
theorem parse_lines (c : Char) (hs : lineShape (strip ['k', ' ', c]) = .kv ['k'] [c]) (hd : '$' ∉ [c]) :
    parseI env none (lines c) =
      .ok { ctx := { tops := (tops c).reverse, stack := [], nested := false }, stack := [], defs := [] } :=
  parse_cons (StepOk.step (.import_ Ex.shape_import (replace_closed ⟨by decide, by decide⟩) rfl))
    (parse_cons (StepOk.step (.open_ shape_leakA rfl))
      (parse_cons (StepOk.step (.kv hs (replace_nodollar _ _ _ _ _ hd) rfl))
        (parse_cons (StepOk.step (.close shape_cLeak rfl rfl))
          (parse_cons (StepOk.step (.open_ shape_stB rfl))
            (parse_cons (StepOk.step (.kv shape_k1 (replace_nodollar _ _ _ _ _ (by decide)) rfl))
              (parse_cons (StepOk.step (.close shape_cSt rfl rfl)) (parse_nil rfl)))))))

theorem tree_lines (c : Char) (hs : lineShape (strip ['k', ' ', c]) = .kv ['k'] [c]) (hd : '$' ∉ [c]) :
    treeOfI env none (lines c) = .ok (tops c) := by
  unfold treeOfI
  rw [parse_lines c hs hd]
  simp only [Except.map, List.reverse_reverse]

theorem atTop_lines (c : Char) (hs : lineShape (strip ['k', ' ', c]) = .kv ['k'] [c]) (hd : '$' ∉ [c]) :
    importsAtTop env none (lines c) := by
  intro ps h
  rw [parse_lines c hs hd] at h
  cases h
  rfl

theorem tree1 : treeOfI env none (lines '1') = .ok (tops '1') := tree_lines '1' shape_k1 (by decide)
theorem tree2 : treeOfI env none (lines '2') = .ok (tops '2') := tree_lines '2' shape_k2 (by decide)
theorem atTop1 : importsAtTop env none (lines '1') := atTop_lines '1' shape_k1 (by decide)
theorem atTop2 : importsAtTop env none (lines '2') := atTop_lines '2' shape_k2 (by decide)

/-! ### the hypotheses of the theorems -/

theorem ok1 : ∀ t, treeOfI env none (lines '1') = .ok t → importsOK pkgs schema t = true := by
  intro t h; rw [tree1] at h; cases h; decide +kernel
theorem ok2 : ∀ t, treeOfI env none (lines '2') = .ok t → importsOK pkgs schema t = true := by
  intro t h; rw [tree2] at h; cases h; decide +kernel

theorem idem : KeyIdemOn conv schema := by
  intro t _ k r hk
  cases hk
  rfl

/-- `b/k=2` (into the section NAMED `b`, of the static type `st`) and `plain=x` (a top-level key) -/
def specsGood : List Str := ["b/k=2".toList, "plain=x".toList]
def ovsGood : List OptItem := [{ path := [['b'], ['k']], val := ['2'] }, { path := ["plain".toList], val := ['x'] }]
/-- `a/k=2`: into the section named `a`, whose type `leak` is defined by the component the text imports -/
def specsBad : List Str := ["a/k=2".toList]
def ovsBad : List OptItem := [{ path := [['a'], ['k']], val := ['2'] }]

theorem split_good : specsGood.mapM addOption = .ok ovsGood := by unfold specsGood ovsGood; char_lits; rfl
theorem split_bad : specsBad.mapM addOption = .ok ovsBad := by unfold specsBad ovsBad; char_lits; rfl

theorem ovsGood_ok : ∀ ovs, specsGood.mapM addOption = .ok ovs → OvsOK ovs := by
  intro ovs h
  rw [split_good] at h
  cases h
  exact ovsOK_of_all (by decide)

theorem ovsBad_ok : ∀ ovs, specsBad.mapM addOption = .ok ovs → OvsOK ovs := by
  intro ovs h
  rw [split_bad] at h
  cases h
  exact ovsOK_of_all (by decide)

/-- the text edited by hand as `specsGood` asks: `k 1` of section `b` replaced, `plain x` supplied at the end -/
def topsGood : List TopItem :=
  [.imp "p".toList,
   .item (.sect "leak".toList (some ['a']) [.kv ['k'] ['1'] { line := 3, url := none }]),
   .item (.sect "st".toList (some ['b']) [.kv ['k'] ['2'] cmdPos]),
   .item (.kv "plain".toList ['x'] cmdPos)]

theorem edit_good : editI conv schema (tops '1') ovsGood = .ok topsGood := by rfl
theorem edit_bad : editI conv schema (tops '1') ovsBad = .error (.unknownType "leak".toList) := by rfl

def vLeak (c : Char) : Val := .sect "leak".toList (some ['a']) [(['k'], .str [c])]
def vSt (c : Char) : Val := .sect "st".toList (some ['b']) [(['k'], .str [c])]
def vGood : Val := .sect [] none [("s".toList, .list [vLeak '1', vSt '2']), ("plain".toList, .str ['x'])]

theorem denote_good : denoteI conv schema pkgs topsGood = some vGood := by rfl
theorem denote_tops2 : conformsI conv schema pkgs (tops '2') = true := by decide +kernel

theorem handlers_good : docHandlersI conv schema pkgs topsGood =
    [("hk".toList, .str ['1']), ("hk".toList, .str ['2']), ("hs".toList, .list [vLeak '1', vSt '2']),
     ("hall".toList, vGood)] := by rfl

end ZCV.Cfg.ExOv
