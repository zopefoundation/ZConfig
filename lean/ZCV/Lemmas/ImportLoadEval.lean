import ZCV.Lemmas.ImportLoadGrow
import ZCV.Lemmas.ImportLoadReplay
/-!
The tree-driven loader on top-level items with `%import`s (`loadTops`) against the declarative `denoteI`.  The loader is seen
from the top matcher, the schema and the handler list, whatever the bag of the matcher (`runTops_evalH` for `evalTopsH`: an
item by `evalH`, the option bags consulting the schema `S` the load started with; a `%import` by extending the schema in
force); `runTops_eval` is the case without a bag, the entries dropped.  If every header names a type known at
its position, evaluating the items one after the other against the schema in force is evaluating them all against the FINAL
schema, and otherwise the load fails (`evalTopsH_final`); so the load and `denoteI` can each be written with the fully
extended schema alone (`loadTops_eq_final`, `denoteI_eq_final`), and they meet in `loadTops_eq_denoteI`.  `evalItem_sect_ok`
and `acceptsTops` give the acceptance of closed examples premise by premise.
-/
namespace ZCV.Conf
open ZCV ZCV.Cfg

/-! ### the loader seen from the top matcher and the schema -/

/-- the top-level items evaluated one after the other on the document's matcher: the schema in force at the end, the
    matcher reached, the handler entries appended on the way -/
def evalTopsH (conv : Conv) (pkgs : Str → Pkg) (S : Schema) : Schema → Matcher → List TopItem → Option (Schema × RH)
  | s, m, [] => some (s, m, [])
  | s, m, .item i :: r =>
    match evalH conv S s m i with
    | .ok a => (evalTopsH conv pkgs S s a.1 r).map fun x => (x.1, after a.2 x.2)
    | .error _ => none
  | s, m, .imp p :: r =>
    match extend s (pkgs p) with
    | some s' => evalTopsH conv pkgs S s' m r
    | none => none

theorem runTops_evalH (conv : Conv) (pkgs : Str → Pkg) (S : Schema) :
    ∀ (tops : List TopItem) (st : LS) (m : Matcher), st.stack = [m] → st.conv = conv → st.pkgs = pkgs →
      (m.bag = none ∨ st.bagSchema = some S) →
      match evalTopsH conv pkgs S st.schema m tops with
      | some (sF, a) => ∃ st', runTops st tops = .ok st' ∧ st'.stack = [a.1] ∧ st'.schema = sF ∧
          st'.handlers = st.handlers ++ a.2
      | none => ∃ e, runTops st tops = .error e
  | [], st, m, hst, _, _, _ => by
    rw [evalTopsH, runTops]
    exact ⟨st, rfl, hst, rfl, by rw [List.append_nil]⟩
  | .item i :: r, st, m, hst, hconv, hpk, hbs => by
    rw [evalTopsH, runTops]
    have h1 := runItem_evalBS conv S st.schema i st m [] hst rfl hconv (hbs.imp id fun h => by rw [h]; rfl)
    simp only [runTop]
    unfold evalH
    cases he : evalItemBS conv S st.schema m i with
    | error e =>
      rw [he] at h1
      rw [h1]
      exact ⟨e, rfl⟩
    | ok m' =>
      rw [he] at h1
      rw [h1]
      have ih := runTops_evalH conv pkgs S r (withTop st m' [] (st.handlers ++ hItemBS conv S st.schema m i)) m' rfl hconv hpk
        (hbs.imp (fun hb => (evalItemBS_pres conv S st.schema m m' i he).2 hb) id)
      simp only [withTop] at ih ⊢
      simp only [Except.map, ok_bind]
      cases hr : evalTopsH conv pkgs S st.schema m' r with
      | none =>
        rw [hr] at ih
        exact ih
      | some p =>
        rw [hr] at ih
        obtain ⟨st', h2, h3, h4, h5⟩ := ih
        exact ⟨st', h2, h3, h4, by rw [h5, List.append_assoc]; rfl⟩
  | .imp p :: r, st, m, hst, hconv, hpk, hbs => by
    cases hpk
    rw [evalTopsH, runTops]
    simp only [runTop]
    have h1 := lsImport_toOption st p
    cases he : extend st.schema (st.pkgs p) with
    | none =>
      rw [he] at h1
      cases hi : lsImport st p with
      | error e => exact ⟨e, rfl⟩
      | ok x => rw [hi] at h1; cases h1
    | some s' =>
      rw [he] at h1
      simp only [Option.map_some] at h1
      rw [toOption_eq_some] at h1
      rw [h1]
      exact runTops_evalH conv st.pkgs S r { st with schema := s', privateSchema := true } m hst hconv rfl hbs

theorem evalH_nobag_fst (conv : Conv) (S s : Schema) (m : Matcher) (hb : m.bag = none) (i : Item) :
    (evalH conv S s m i).map (·.1) = evalItem conv s m i := by
  rw [evalH_fst, evalItemBS_eval conv S s i m hb]

theorem evalTopsH_schema (conv : Conv) (pkgs : Str → Pkg) (S : Schema) :
    ∀ (tops : List TopItem) (s : Schema) (m : Matcher) (x : Schema × RH),
      evalTopsH conv pkgs S s m tops = some x → extendBy pkgs s tops = some x.1
  | [], s, m, x, h => by
    rw [evalTopsH] at h
    cases h
    rfl
  | .item i :: r, s, m, x, h => by
    rw [evalTopsH] at h
    rw [extendBy]
    cases he : evalH conv S s m i with
    | error e => rw [he] at h; cases h
    | ok a =>
      rw [he] at h
      obtain ⟨y, hy, rfl⟩ := Option.map_eq_some_iff.mp h
      exact evalTopsH_schema conv pkgs S r s a.1 y hy
  | .imp p :: r, s, m, x, h => by
    rw [evalTopsH] at h
    rw [extendBy]
    cases he : extend s (pkgs p) with
    | none => rw [he] at h; cases h
    | some s' => rw [he] at h; exact evalTopsH_schema conv pkgs S r s' m x h

theorem runTops_eval (conv : Conv) (pkgs : Str → Pkg) :
    ∀ (tops : List TopItem) (st : LS) (m : Matcher), st.stack = [m] → st.conv = conv → st.pkgs = pkgs → m.bag = none →
      match (evalTopsH conv pkgs st.schema st.schema m tops).map (fun x => (x.1, x.2.1)) with
      | some (sF, m') => ∃ st', runTops st tops = .ok st' ∧ st'.stack = [m'] ∧ st'.schema = sF
      | none => ∃ e, runTops st tops = .error e := by
  intro tops st m hst hconv hpk hb
  have h := runTops_evalH conv pkgs st.schema tops st m hst hconv hpk (.inl hb)
  cases he : evalTopsH conv pkgs st.schema st.schema m tops with
  | none => rw [he] at h; exact h
  | some x =>
    rw [he] at h
    obtain ⟨st', h1, h2, h3, _⟩ := h
    exact ⟨st', h1, h2, h3⟩

/-! ### the matcher keeps its type and stays without a bag -/

theorem evalItem_pres (conv : Conv) (s : Schema) (m m' : Matcher) (i : Item) (hb : m.bag = none)
    (h : evalItem conv s m i = .ok m') : m'.ty = m.ty ∧ m'.bag = none :=
  (evalItemBS_pres conv s s m m' i ((evalItemBS_eval conv s s i m hb).trans h)).imp_right (· hb)

/-! ### well-formedness along the imports -/

theorem importsOK_head (pkgs : Str → Pkg) : ∀ (tops : List TopItem) (s : Schema), importsOK pkgs s tops = true →
    schemaOK s = true
  | [], s, h => by rw [importsOK] at h; exact h
  | .item _ :: r, s, h => by rw [importsOK] at h; exact importsOK_head pkgs r s h
  | .imp p :: r, s, h => by rw [importsOK, Bool.and_eq_true] at h; exact h.1

theorem importsOK_imp (pkgs : Str → Pkg) (p : Str) (r : List TopItem) (s s1 : Schema)
    (h : importsOK pkgs s (.imp p :: r) = true) (he : extend s (pkgs p) = some s1) : importsOK pkgs s1 r = true := by
  rw [importsOK, Bool.and_eq_true, he] at h
  exact h.2

theorem importsOK_final (pkgs : Str → Pkg) : ∀ (tops : List TopItem) (s sF : Schema), importsOK pkgs s tops = true →
    extendBy pkgs s tops = some sF → schemaOK sF = true
  | [], s, sF, h, he => by rw [extendBy] at he; cases he; rw [importsOK] at h; exact h
  | .item _ :: r, s, sF, h, he => by
    rw [importsOK] at h; rw [extendBy] at he
    exact importsOK_final pkgs r s sF h he
  | .imp p :: r, s, sF, h, he => by
    obtain ⟨s1, hx, he⟩ := extendBy_imp he
    exact importsOK_final pkgs r s1 sF (importsOK_imp pkgs p r s s1 h hx) he

/-! ### item by item against the schema in force = all items against the final schema -/

theorem evalTopsH_none (conv : Conv) (pkgs : Str → Pkg) (S : Schema) (tops : List TopItem) (s : Schema) (m : Matcher)
    (h : extendBy pkgs s tops = none) : evalTopsH conv pkgs S s m tops = none := by
  cases he : evalTopsH conv pkgs S s m tops with
  | none => rfl
  | some x => rw [evalTopsH_schema conv pkgs S tops s m x he] at h; cases h

theorem evalTopsH_final (conv : Conv) (pkgs : Str → Pkg) (S sF : Schema) :
    ∀ (tops : List TopItem) (s : Schema) (m : Matcher), importsOK pkgs s tops = true → lowTops tops = true →
      extendBy pkgs s tops = some sF → m.ty = s.top → m.bag = none →
      (evalTopsH conv pkgs S s m tops).map (fun x => (x.1, x.2.1)) =
        if knownAt pkgs s tops then (evalItems conv sF m (itemsOf tops)).toOption.map (fun m' => (sF, m')) else none := by
  intro tops
  induction tops with
  | nil =>
    intro s m _ _ he _ _
    rw [extendBy] at he
    cases he
    rw [evalTopsH, knownAt, itemsOf, evalItems]
    rfl
  | cons t r ih =>
    intro s m hok hl he hm hb
    cases t with
    | imp p =>
      obtain ⟨s1, hx, he⟩ := extendBy_imp he
      rw [lowTops] at hl
      rw [evalTopsH, knownAt, itemsOf, hx]
      exact ih s1 m (importsOK_imp pkgs p r s s1 hok hx) hl he (by rw [hm, (Grow_of_extend s s1 _ hx).top]) hb
    | item i =>
      have hs := importsOK_head pkgs _ s hok
      have hsF := importsOK_final pkgs _ s sF hok he
      have hg := Grow_of_extendBy pkgs _ s sF he
      rw [extendBy] at he
      rw [importsOK] at hok
      rw [lowTops, Bool.and_eq_true] at hl
      rw [evalTopsH, knownAt, itemsOf, evalItems]
      have hfst := evalH_nobag_fst conv S s m hb i
      cases hk : knownItem s i with
      | false =>
        have := evalItem_unknown conv s i m hk
        rw [← hfst] at this
        cases hev : evalH conv S s m i with
        | error e => rfl
        | ok a => rw [hev] at this; cases this
      | true =>
        have hTop : stypeOK s m.ty = true := by rw [hm]; exact schemaOK_top s hs
        have h1 := evalItem_grow conv hs hsF hg m (stypeOK_slotsKnown s _ hTop) i hl.1 hk
        rw [← hfst] at h1
        cases hev : evalH conv S s m i with
        | error e =>
          rw [hev] at h1
          cases hev' : evalItem conv sF m i with
          | ok x => rw [hev'] at h1; cases h1
          | error e' =>
            simp only [toOption_error, Option.map_none]
            split <;> rfl
        | ok a =>
          rw [hev] at h1 hfst
          simp only [Except.map, toOption_ok] at h1
          rw [toOption_eq_some] at h1
          rw [h1]
          simp only [Bool.true_and, Option.map_map]
          have p := evalItem_pres conv s m a.1 i hb hfst.symm
          exact ih s a.1 hok hl.2 he (by rw [p.1, hm]) p.2

/-! ### the whole load -/

theorem lowTops_items : ∀ (l : List Item), lowTops (l.map .item) = lowItems l
  | [] => by rw [List.map_nil, lowTops, lowItems]
  | i :: r => by rw [List.map_cons, lowTops, lowItems, lowTops_items r]

theorem itemsOf_low : ∀ (tops : List TopItem), lowTops tops = true → lowItems (itemsOf tops) = true
  | [], _ => by rw [itemsOf, lowItems]
  | .item i :: r, h => by
    rw [lowTops, Bool.and_eq_true] at h
    rw [itemsOf, lowItems, h.1, itemsOf_low r h.2]
    rfl
  | .imp _ :: r, h => by
    rw [lowTops] at h
    rw [itemsOf]
    exact itemsOf_low r h

theorem loadTops_eq_final (conv : Conv) (pkgs : Str → Pkg) (s : Schema) (tops : List TopItem)
    (hok : importsOK pkgs s tops = true) (hl : lowTops tops = true) :
    (loadTops conv pkgs s tops).toOption =
      (extendBy pkgs s tops).bind fun sF =>
        if knownAt pkgs s tops then (denote conv sF (itemsOf tops)).map (fun v => (v, sF)) else none := by
  have hrun := runTops_eval conv pkgs tops (loadSt0 conv pkgs s) (newMatcher s.top none none) rfl rfl rfl rfl
  unfold loadTops
  rw [toOption_bind]
  cases he : extendBy pkgs s tops with
  | none =>
    rw [show (loadSt0 conv pkgs s).schema = s from rfl, evalTopsH_none conv pkgs s tops s _ he] at hrun
    obtain ⟨e, hr⟩ := hrun
    rw [hr]
    rfl
  | some sF =>
    have hsF := importsOK_final pkgs tops s sF hok he
    have htop : sF.top = s.top := (Grow_of_extendBy pkgs tops s sF he).top
    rw [show (loadSt0 conv pkgs s).schema = s from rfl,
      evalTopsH_final conv pkgs s sF tops s _ hok hl he rfl rfl] at hrun
    simp only [Option.bind_some]
    cases hk : knownAt pkgs s tops with
    | false =>
      rw [hk] at hrun
      simp only [Bool.false_eq_true, if_false] at hrun ⊢
      obtain ⟨e, hr⟩ := hrun
      rw [hr]
      rfl
    | true =>
      rw [hk] at hrun
      simp only [if_true] at hrun ⊢
      rw [← fin_eq_denote conv sF hsF (itemsOf tops) (tyCanon_of_low sF hsF _ (itemsOf_low tops hl)), htop]
      cases hev : evalItems conv sF (newMatcher s.top none none) (itemsOf tops) with
      | error e =>
        rw [hev] at hrun
        obtain ⟨e', hr⟩ := hrun
        rw [hr]
        rfl
      | ok m' =>
        rw [hev] at hrun
        obtain ⟨st', hr, hstk, hsch⟩ := hrun
        rw [hr]
        simp only [toOption_ok, Option.bind_some]
        unfold topsFin
        rw [hstk, hsch]
        simp only
        cases finishMatcher conv sF m' with
        | error e => rfl
        | ok vh =>
          obtain ⟨v, hs⟩ := vh
          simp only
          cases conv.sect s.top.datatype v <;> rfl

/-! ### `denoteI` in terms of the final schema -/

theorem topVals_known (conv : Conv) (pkgs : Str → Pkg) (sF : Schema) :
    ∀ (tops : List TopItem) (s : Schema), importsOK pkgs s tops = true → lowTops tops = true →
      extendBy pkgs s tops = some sF → knownAt pkgs s tops = true →
      topVals conv pkgs s tops = itemVals conv sF (itemsOf tops) := by
  intro tops
  induction tops with
  | nil => intro s _ _ _ _; rw [topVals, itemsOf, itemVals]
  | cons t r ih =>
    intro s hok hl he hk
    cases t with
    | imp p =>
      obtain ⟨s1, hx, he⟩ := extendBy_imp he
      rw [lowTops] at hl
      rw [knownAt, hx] at hk
      rw [topVals, itemsOf, hx]
      exact ih s1 (importsOK_imp pkgs p r s s1 hok hx) hl he hk
    | item i =>
      have hs := importsOK_head pkgs _ s hok
      have hg := Grow_of_extendBy pkgs _ s sF he
      rw [extendBy] at he
      rw [importsOK] at hok
      rw [lowTops, Bool.and_eq_true] at hl
      rw [knownAt, Bool.and_eq_true] at hk
      rw [topVals, itemsOf, itemVals, itemVal_grow conv hs hg i hl.1 hk.1, ih s hok hl.2 he hk.2]

theorem topVals_unknown (conv : Conv) (pkgs : Str → Pkg) (sF : Schema) :
    ∀ (tops : List TopItem) (s : Schema), extendBy pkgs s tops = some sF → knownAt pkgs s tops = false →
      ∃ sb ∈ subsOf (itemsOf tops) (topVals conv pkgs s tops), sb.val = none := by
  intro tops
  induction tops with
  | nil => intro s _ hk; rw [knownAt] at hk; cases hk
  | cons t r ih =>
    intro s he hk
    cases t with
    | imp p =>
      obtain ⟨s1, hx, he⟩ := extendBy_imp he
      rw [knownAt, hx] at hk
      rw [topVals, itemsOf, hx]
      exact ih s1 he hk
    | item i =>
      rw [extendBy] at he
      rw [knownAt, Bool.and_eq_false_iff] at hk
      rw [topVals, itemsOf]
      cases i with
      | kv k v p =>
        rcases hk with hk | hk
        · rw [knownItem] at hk; cases hk
        · obtain ⟨sb, hsb, hv⟩ := ih s he hk
          exact ⟨sb, by rw [subsOf]; exact hsb, hv⟩
      | sect ty nm sub =>
        rw [subsOf]
        rcases hk with hk | hk
        · exact ⟨_, List.mem_cons_self, itemVal_unknown conv s _ hk⟩
        · obtain ⟨sb, hsb, hv⟩ := ih s he hk
          exact ⟨sb, List.mem_cons_of_mem _ hsb, hv⟩

theorem schemaAt_length (s : Schema) (pkgs : Str → Pkg) (tops : List TopItem) :
    schemaAt s pkgs tops tops.length = extendBy pkgs s tops := by
  unfold schemaAt
  rw [List.take_length]

theorem denoteI_eq_final (conv : Conv) (pkgs : Str → Pkg) (s : Schema) (tops : List TopItem)
    (hok : importsOK pkgs s tops = true) (hl : lowTops tops = true) :
    denoteI conv s pkgs tops =
      (extendBy pkgs s tops).bind fun sF =>
        if knownAt pkgs s tops then denote conv sF (itemsOf tops) else none := by
  unfold denoteI
  rw [schemaAt_length]
  cases he : extendBy pkgs s tops with
  | none => rfl
  | some sF =>
    have htop : sF.top = s.top := (Grow_of_extendBy pkgs tops s sF he).top
    simp only [Option.bind_some]
    cases hk : knownAt pkgs s tops with
    | true =>
      rw [topVals_known conv pkgs sF tops s hok hl he hk]
      simp only [if_true]
      unfold denote
      rw [htop]
      rfl
    | false =>
      rw [containerVal_none_of_sub conv sF s.top none _ _ (topVals_unknown conv pkgs sF tops s he hk)]
      rfl

theorem loadTops_eq_denoteI (conv : Conv) (pkgs : Str → Pkg) (s : Schema) (tops : List TopItem)
    (hok : importsOK pkgs s tops = true) (hl : lowTops tops = true) :
    (loadTops conv pkgs s tops).toOption.map (·.1) = denoteI conv s pkgs tops := by
  rw [loadTops_eq_final conv pkgs s tops hok hl, denoteI_eq_final conv pkgs s tops hok hl]
  cases extendBy pkgs s tops with
  | none => rfl
  | some sF =>
    simp only [Option.bind_some]
    split
    · cases denote conv sF (itemsOf tops) <;> rfl
    · rfl

theorem loadTops_schema (conv : Conv) (pkgs : Str → Pkg) (s : Schema) (tops : List TopItem)
    (hok : importsOK pkgs s tops = true) (hl : lowTops tops = true) (v : Val) (sA : Schema)
    (h : loadTops conv pkgs s tops = .ok (v, sA)) : extendBy pkgs s tops = some sA := by
  have := loadTops_eq_final conv pkgs s tops hok hl
  rw [h] at this
  cases he : extendBy pkgs s tops with
  | none => rw [he] at this; cases this
  | some sF =>
    rw [he] at this
    simp only [toOption_ok, Option.bind_some] at this
    split at this
    · cases hd : denote conv sF (itemsOf tops) with
      | none => rw [hd] at this; cases this
      | some v' =>
        rw [hd] at this
        simp only [Option.map_some, Option.some.injEq, Prod.mk.injEq] at this
        rw [this.2]
    · cases this

/-- an accepted section, premise by premise (for closed examples) -/
theorem evalItem_sect_ok {conv : Conv} {s : Schema} {m m' child : Matcher} {ty : Str} {nm : Option Str} {sub : List Item}
    {t : SType} {ci : SectInfo} {v : Val} {hs : List (Str × Val)}
    (hg : s.gettype ty = some (.concrete t)) (hgi : getsectioninfo s m.ty (t.name.getD []) nm = .ok ci)
    (hname : isAllowedName ci nm = true) (hun : (nm.isSome || allowUnnamed ci) = true)
    (hsub : evalItems conv s (newMatcher t nm none) sub = .ok child) (hfin : finishMatcher conv s child = .ok (v, hs))
    (hadd : addSection s m ty nm v = .ok m') : evalItem conv s m (.sect ty nm sub) = .ok m' := by
  rw [evalItem, hg]
  simp only [hgi, hname, hun, hsub, hfin, Bool.not_true, Bool.false_eq_true, if_false]
  exact hadd

theorem evalItems_one {conv : Conv} {s : Schema} {m m' : Matcher} {i : Item} (h : evalItem conv s m i = .ok m') :
    evalItems conv s m [i] = .ok m' := by
  rw [evalItems, h]; simp only; rw [evalItems]

/-! ### a computable acceptance check (for closed examples: `runItem` does not reduce in the kernel, `evalItem` does) -/

def acceptsTops (conv : Conv) (pkgs : Str → Pkg) (s : Schema) (tops : List TopItem) : Bool :=
  match evalTopsH conv pkgs s s (newMatcher s.top none none) tops with
  | some (sF, m', _) =>
    (match finishMatcher conv sF m' with
     | .ok (v, _) => (conv.sect s.top.datatype v).toOption.isSome
     | .error _ => false)
  | none => false

theorem loadTops_of_accepts (conv : Conv) (pkgs : Str → Pkg) (s : Schema) (tops : List TopItem)
    (h : acceptsTops conv pkgs s tops = true) : ∃ r, loadTops conv pkgs s tops = .ok r := by
  have hrun := runTops_evalH conv pkgs s tops (loadSt0 conv pkgs s) (newMatcher s.top none none) rfl rfl rfl (.inl rfl)
  unfold acceptsTops at h
  rw [show (loadSt0 conv pkgs s).schema = s from rfl] at hrun
  cases he : evalTopsH conv pkgs s s (newMatcher s.top none none) tops with
  | none => rw [he] at h; cases h
  | some p =>
    obtain ⟨sF, m', hh⟩ := p
    rw [he] at h hrun
    obtain ⟨st', hr, hstk, hsch, _⟩ := hrun
    unfold loadTops
    rw [hr]
    show ∃ r, topsFin conv s st' = .ok r
    unfold topsFin
    rw [hstk, hsch]
    simp only at h ⊢
    cases hf : finishMatcher conv sF m' with
    | error e => rw [hf] at h; cases h
    | ok vh =>
      obtain ⟨v, hs⟩ := vh
      rw [hf] at h
      simp only at h ⊢
      cases hc : conv.sect s.top.datatype v with
      | error e => rw [hc] at h; cases h
      | ok r => exact ⟨_, rfl⟩

end ZCV.Conf
