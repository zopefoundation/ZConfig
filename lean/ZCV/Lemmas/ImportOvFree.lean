import ZCV.Lemmas.ImportOvFinal
import ZCV.Lemmas.ImportLoadFree
/-!
The notions for texts with `%import` lines (`editI`, `denoteI`, `docHandlersI`) on a text WITHOUT `%import` lines are the
notions of C14 / C02 / C16 (`edit`, `denote`, `docHandlers`), and the loader on such a text is the tree-driven loader on
the tree of the text (`load_eq_loadTreeOv`, `load_ok_loadTreeH`): the theorems for texts with `%import` lines specialise.
-/
namespace ZCV.Conf
open ZCV ZCV.Cfg

theorem editTops_items (conv : Conv) (S : Schema) (asGiven : Bool) (norm : Str → Except ConvErr Str) (keys : List Str) :
    ∀ (l : List Item) (pend : List OptItem),
      editTops conv S asGiven norm keys (l.map .item) pend =
        (editItems conv S asGiven norm keys l pend).map fun x => (x.1.map .item, x.2)
  | [], pend => by rw [List.map_nil, editTops, editItems]; rfl
  | i :: r, pend => by
    rw [List.map_cons, editTops, editItems]
    cases editItem conv S asGiven norm keys i pend with
    | error e => rfl
    | ok q =>
      obtain ⟨is, pend1⟩ := q
      simp only
      rw [editTops_items conv S asGiven norm keys r pend1]
      cases editItems conv S asGiven norm keys r pend1 with
      | error e => rfl
      | ok q2 =>
        obtain ⟨rs, pend2⟩ := q2
        simp only [Except.map, List.map_append]

theorem editBodyI_items (conv : Conv) (S : Schema) (asGiven : Bool) (its : List Item) (ovs : List OptItem) :
    editBodyI conv S asGiven (its.map .item) ovs = (editBody conv S asGiven S.top.keytype its ovs).map (List.map .item) := by
  unfold editBodyI editBody
  cases splitOvs (conv.key S.top.keytype) ovs with
  | error e => rfl
  | ok p =>
    obtain ⟨ks, ss⟩ := p
    simp only
    rw [editTops_items]
    cases editItems conv S asGiven (conv.key S.top.keytype) ((groupsOf ks).map (·.1)) its ss with
    | error e => rfl
    | ok q =>
      obtain ⟨is, left⟩ := q
      cases left with
      | nil =>
        show (Except.ok (is.map TopItem.item ++ (newLines asGiven (groupsOf ks)).map TopItem.item) :
            Except Reject (List TopItem)) =
          Except.ok ((is ++ newLines asGiven (groupsOf ks)).map TopItem.item)
        rw [List.map_append]
      | cons o left => rfl

theorem topVals_items (conv : Conv) (pkgs : Str → Pkg) (s : Schema) : ∀ (its : List Item),
    topVals conv pkgs s (its.map .item) = itemVals conv s its
  | [] => by rw [List.map_nil, topVals, itemVals]
  | i :: r => by rw [List.map_cons, topVals, itemVals, topVals_items conv pkgs s r]

theorem docHandlersI_items (conv : Conv) (pkgs : Str → Pkg) (s : Schema) (its : List Item)
    (hs : schemaOK s = true) (hl : lowItems its = true) :
    docHandlersI conv s pkgs (its.map .item) = docHandlers conv s its := by
  unfold docHandlersI docHandlers handlersOf
  have h1 := topHandlers_items_append conv pkgs s its []
  rw [List.append_nil] at h1
  rw [h1, topHandlers, List.append_nil, denoteI_items conv pkgs s its hs hl]
  congr 2
  unfold ownHandlersI ownHandlers
  rw [schemaAt_length, (items_shape pkgs s its).1, (items_shape pkgs s its).2.1, topVals_items]
  simp only
  apply filterMap_congr'
  intro c _
  cases c.2.handler <;>
    cases childVal conv s s.top (keyLines conv s.top its) (subsOf its (itemVals conv s its)) c <;> rfl

/-! ### the loader on a text without `%import` lines -/

theorem loadFin_value (conv : Conv) (s : Schema) (x : M LS) :
    (x >>= loadFin conv s).toOption.map (·.value) = (x >>= treeFinB conv s).toOption := by
  cases x with
  | error e => rfl
  | ok st =>
    show (loadFin conv s st).toOption.map (·.value) = (treeFinB conv s st).toOption
    rw [← topsFin_fst, toOption_map, ← loadFin_topsFin, Option.map_map]
    rfl

/-- **Text with overrides = tree with overrides.**  For a text without `%import` (here and in everything it can include):
    loading the lines with the override specifiers = splitting the specifiers (`addOption`), building the tree of
    the lines, then loading the tree with the overrides. -/
theorem load_eq_loadTreeOv (conv : Conv) (env : Env) (pkgs : Str → Pkg) (s : Schema) (url : Option Str) (lines : List Str)
    (specs : List Str)
    (hni : ∀ l ∈ lines, NoImportLine l)
    (hres : ∀ u ls, env.res u = some ls → ∀ l ∈ ls, NoImportLine l) :
    (load conv env pkgs s url lines specs).toOption.map (·.value) =
      (specs.mapM addOption).toOption.bind fun ovs =>
        (treeOf env url lines).toOption.bind fun items => (loadTreeOv conv s items ovs).toOption := by
  obtain ⟨hfree, htop⟩ := treeOfI_import_free env url lines hni hres
  have h := congrArg (Option.map (·.value)) (load_eq_runTopsOv conv env pkgs s url lines specs htop)
  rw [h, hfree]
  cases specs.mapM addOption with
  | error e => rfl
  | ok ovs =>
    simp only [toOption_ok, Option.bind_some]
    unfold loadTreeOv
    cases bagOf conv s ovs with
    | error e => cases (treeOf env url lines).toOption <;> rfl
    | ok bag =>
      cases (treeOf env url lines).toOption with
      | none => rfl
      | some items =>
        show ((runTops (stOv conv pkgs s bag) (items.map .item) >>= loadFin conv s).toOption.map (·.value)) =
          (runItems (stOv conv (fun _ => .notImportable) s bag) items >>= treeFinB conv s).toOption
        rw [runTops_items, loadFin_value, run_fin_eq, run_fin_eq]

/-- **text to tree, with the handler list.**  For a text without `%import` (here and in everything it can include) and
    without overrides, loaded under a well-formed schema: the configuration and the handler list `load` returns are
    those `loadTreeH` returns on the tree of the text. -/
theorem load_ok_loadTreeH (conv : Conv) (env : Env) (pkgs : Str → Pkg) (s : Schema) (url : Option Str) (lines : List Str)
    (hs : schemaOK s = true) (hni : ∀ l ∈ lines, NoImportLine l)
    (hres : ∀ u ls, env.res u = some ls → ∀ l ∈ ls, NoImportLine l) (r : LoadResult)
    (h : load conv env pkgs s url lines [] = .ok r) :
    ∃ items, treeOf env url lines = .ok items ∧ tyCanon s items = true ∧
      loadTreeH conv s items = .ok (r.value, r.handlers) := by
  have hitems := treeOfI_free_iff env url lines hni hres
  obtain ⟨tops, h2, h4, h5, _⟩ := load_result_nil conv env pkgs s url lines (treeOfI_import_free env url lines hni hres).2
    (fun tops ht => by obtain ⟨items, _, rfl⟩ := (hitems tops).mp ht; rw [importsOK_items]; exact hs) r h
  obtain ⟨items, hT, rfl⟩ := (hitems tops).mp h2
  have hl := treeOf_low env url lines items hT
  have hc := tyCanon_of_low s hs items hl
  refine ⟨items, hT, hc, toOption_eq_some.mp ?_⟩
  rw [denoteI_items conv pkgs s items hs hl] at h4
  rw [docHandlersI_items conv pkgs s items hs hl] at h5
  rw [loadTreeH_eq conv s items hs hc, h4, h5]
  rfl

end ZCV.Conf
