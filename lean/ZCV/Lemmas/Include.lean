import ZCV.Lemmas.ParseInv
/-!
The vocabulary of C06 (`%include` = textual inclusion of a balanced fragment): the stream of position-free events the parser
delivers to the recording context `rec0`, balanced fragments, outcomes; how the stack of open sections moves line by line; and
that substitution, the first stage of `%include` and `%define` succeed alike, with the same result, under any URL and line number.
-/
namespace ZCV.Cfg
open ZCV

/-- events without positions -/
inductive Ev0
  | start (ty : Str) (nm : Option Str)
  | stop (ty : Str) (nm : Option Str)
  | value (key value : Str)
  | imp (pkg : Str)
deriving Repr, DecidableEq

/-- the recording context: every operation succeeds and is logged; positions are dropped -/
def rec0 : PCtx (List Ev0) :=
  { start := fun s t n => .ok (s ++ [.start t n]), stop := fun s t n => .ok (s ++ [.stop t n]),
    value := fun s k v _ => .ok (s ++ [.value k v]), imp := fun s p => .ok (s ++ [.imp p]),
    canInclude := true, canDefine := true }

/-- net nesting effect of one physical line, as the parser classifies it -/
def lineDelta (l : Str) : Int :=
  match lineShape (strip l) with
  | .open_ _ _ false => 1
  | .close _ => -1
  | _ => 0

/-- never closes what it did not open … -/
def neverBelow : List Str → Int → Bool
  | [], _ => true
  | l :: r, d => let d' := d + lineDelta l; decide (0 ≤ d') && neverBelow r d'
/-- … and leaves nothing open -/
def Balanced (f : List Str) : Prop := neverBelow f 0 = true ∧ (f.map lineDelta).sum = 0

def NoInclude (f : List Str) : Prop := ∀ l ∈ f, ∀ a, lineShape (strip l) ≠ .include_ a

/-- what a successful parse leaves behind, positions aside -/
def outcome (r : M (PS (List Ev0))) : Option (List Ev0 × List (Str × Str) × List (Str × Option Str)) :=
  match r with
  | .ok p => some (p.ctx, p.defs, p.stack)
  | .error _ => none

theorem replace_toOption (env : Env) (defs) (url : Option Str) (line : Nat) (t : Str) :
    (replace env defs url line t).toOption = (Subst.substitute (lookupDef defs) env.getenv t).toOption := by
  unfold replace
  generalize Subst.substitute (lookupDef defs) env.getenv t = r
  cases r with
  | ok v => rfl
  | error e => cases e <;> rfl

theorem replace_indep (env : Env) (defs) (url url' : Option Str) (line line' : Nat) (t : Str) :
    (replace env defs url line t).toOption = (replace env defs url' line' t).toOption := by
  rw [replace_toOption, replace_toOption]

/-- the first stage does not depend on the line number, and on the URL only through `resolve` (successes compared) -/
theorem incgen_target_indep {σ} (env : Env) (c : PCtx σ) (url url' : Option Str) (line line' : Nat) (arg : Str)
    (defs : List (Str × Str)) (hrel : ∀ a, env.resolve url a = env.resolve url' a) :
    (incgenTarget env c url line arg defs).toOption = (incgenTarget env c url' line' arg defs).toOption := by
  unfold incgenTarget
  rw [toOption_bind, toOption_bind, replace_indep env defs url url' line line']
  apply option_bind_congr
  intro a _
  rw [hrel a]

theorem define_indep (env : Env) (url url' : Option Str) (line line' : Nat) (rest : Str) (defs : List (Str × Str)) :
    (define env url line rest defs).toOption = (define env url' line' rest defs).toOption := by
  unfold define
  split
  · rfl
  · rename_i p0 more _
    unfold replace
    dsimp only
    generalize Subst.substitute (lookupDef defs) env.getenv (defValue more) = r
    generalize lookupDef defs (lower p0) = o
    generalize (!Subst.isname (lower p0)) = b
    cases r with
    | ok v =>
      cases o with
      | none => cases b <;> rfl
      | some cur =>
        generalize hc : (cur != v) = b2
        cases b2 <;> cases b <;> simp [hc, bind, Except.bind, pure, Except.pure, throw, throwThe, MonadExceptOf.throw]
    | error e =>
      cases e <;> cases o <;> cases b <;> rfl

/-- put `S` under the parser's own stack of open sections -/
def addStack {σ} (S : List (Str × Option Str)) (st : PS σ) : PS σ := { st with stack := st.stack ++ S }

theorem closeSection_rec0 (url : Option Str) (line : Nat) (ty : Str) (st : PS (List Ev0)) :
    closeSection rec0 url line ty st =
      match st.stack with
      | [] => .error (synErr url line "unexpected section end")
      | (ot, name) :: T =>
        if ty != ot then .error (synErr url line "unbalanced section end")
        else .ok { st with ctx := st.ctx ++ [.stop ty name], stack := T } :=
  closeSection_eq rec0 url line ty st

theorem openSection_rec0 (url : Option Str) (line : Nat) (ty : Str) (nm : Option Str) (e : Bool) (st : PS (List Ev0)) :
    openSection rec0 url line ty nm e st =
      .ok (if e then { st with ctx := st.ctx ++ [.start ty nm] ++ [.stop ty nm] }
           else { st with ctx := st.ctx ++ [.start ty nm], stack := (ty, nm) :: st.stack }) := by
  rw [openSection_eq]
  cases e <;> rfl

theorem kvCore_rec0 (url : Option Str) (line : Nat) (k v : Str) (st : PS (List Ev0)) :
    kvCore rec0 url line k v st = .ok { st with ctx := st.ctx ++ [.value k v] } := rfl

theorem step_len {σ} {fuel : Nat} {env : Env} {c : PCtx σ} {active : List Str} {url : Option Str} {line : Nat} {l : Str}
    {st st' : PS σ} (h : stepLine fuel env c active url line (strip l) st = .ok st') :
    (st'.stack.length : Int) = st.stack.length + lineDelta l := by
  unfold lineDelta
  cases stepLine_ok h with
  | skip hs => rw [hs]; simp
  | close hs hst _ => rw [hs, hst]; simp; omega
  | open_ hs _ => rw [hs]; simp
  | empty hs _ _ => rw [hs]; simp
  | kv hs _ _ => rw [hs]; simp
  | define hs _ _ => rw [hs]; simp
  | import_ hs _ _ => rw [hs]; simp
  | include_ hs => rw [hs]; simp

theorem run_len {σ} {fuel : Nat} {env : Env} {c : PCtx σ} {active : List Str} {url : Option Str} :
    ∀ (F : List Str) (n : Nat) (st st' : PS σ), runLines fuel env c active url F n st = .ok st' →
      (st'.stack.length : Int) = st.stack.length + (F.map lineDelta).sum := by
  intro F
  induction F with
  | nil => intro n st st' h; cases h; simp
  | cons l rest ih =>
    intro n st st' h
    simp only [runLines] at h
    obtain ⟨s, hs, h⟩ := bind_ok_inv h
    rw [ih _ s st' h, step_len hs, List.map_cons, List.sum_cons]
    omega

theorem outcome_eq (r : M (PS (List Ev0))) : outcome r = r.toOption.map (fun p => (p.ctx, p.defs, p.stack)) := by
  cases r <;> rfl

/-! ### lines other than `%import` lines -/

def NoImportLine (l : Str) : Prop := ∀ a, lineShape (strip l) ≠ .import_ a

end ZCV.Cfg
