import ZCV.Model.Schema
/-!
The type table under `addsubtype` calls.  The pieces of `ConfigLoader.importSchemaComponent` (`lsImport`): a component's
types are appended one by one (`addStep`), each followed by the registrations its `implements` attribute asks for (`regAll` /
`regImpl` / `regEntry`).  `regEntries regs p` is one entry of a type table after the calls `regs`: a concrete entry never
changes; an abstract entry keeps key and name and lists a name afterwards iff it did or a call carrying the entry's key
asked for it (`regEntries_abstract_mem`; `regEntries_abstract`: its table grows at the end, by names that were not there).
The calls over a whole table are `regEntries` on every entry (`foldl_regImpl_eq`).
-/
namespace ZCV.Cfg
open ZCV

/-- `AbstractType.addsubtype` on the table entry `p`, for the pair `ia = (concrete, abstract)` -/
def regEntry (ia : Str × Str) (p : Str × TypeEntry) : Str × TypeEntry :=
  match p.2 with
  | .abstract_ n subs => if p.1 == ia.2 && !subs.contains ia.1 then (p.1, .abstract_ n (subs ++ [ia.1])) else p
  | _ => p

def regImpl (sc : Schema) (ia : Str × Str) : Schema := { sc with types := sc.types.map (regEntry ia) }

def regAll (impls : List (Str × Str)) (n : Str) (sc1 : Schema) : Schema :=
  impls.foldl (fun sc ia => if ia.1 == n then regImpl sc ia else sc) sc1

/-- one `<sectiontype>` / `<abstracttype>` of the component -/
def addStep (impls : List (Str × Str)) (sc : Schema) (te : Str × TypeEntry) : M Schema :=
  if sc.types.any (·.1 == te.1) then .error (.cfg { kind := .schema, tag := "type name cannot be redefined" })
  else .ok (regAll impls te.1 { sc with types := sc.types ++ [te] })

theorem regEntry_fst (ia : Str × Str) (p : Str × TypeEntry) : (regEntry ia p).1 = p.1 := by
  unfold regEntry
  split
  · split <;> rfl
  · rfl

/-! ### one entry -/

def regEntries (regs : List (Str × Str)) (p : Str × TypeEntry) : Str × TypeEntry :=
  regs.foldl (fun p ia => regEntry ia p) p

theorem regEntries_nil (p : Str × TypeEntry) : regEntries [] p = p := rfl

theorem regEntries_nil_fun : regEntries [] = id := rfl

theorem regEntries_cons (ia : Str × Str) (rest : List (Str × Str)) (p : Str × TypeEntry) :
    regEntries (ia :: rest) p = regEntries rest (regEntry ia p) := rfl

theorem regEntries_append (a b : List (Str × Str)) (p : Str × TypeEntry) :
    regEntries (a ++ b) p = regEntries b (regEntries a p) := by
  unfold regEntries
  rw [List.foldl_append]

theorem regEntry_concrete (ia : Str × Str) (k : Str) (t : SType) : regEntry ia (k, .concrete t) = (k, .concrete t) := rfl

theorem regEntries_concrete (regs : List (Str × Str)) (k : Str) (t : SType) :
    regEntries regs (k, .concrete t) = (k, .concrete t) := by
  induction regs with
  | nil => rfl
  | cons ia rest ih => rw [regEntries_cons, regEntry_concrete, ih]

theorem regEntry_abstract (ia : Str × Str) (k n : Str) (subs : List Str) :
    regEntry ia (k, .abstract_ n subs) =
      if k == ia.2 && !subs.contains ia.1 then (k, .abstract_ n (subs ++ [ia.1])) else (k, .abstract_ n subs) := rfl

theorem regEntry_abstract_mem (ia : Str × Str) (k n : Str) (subs : List Str) :
    ∃ subs₂, regEntry ia (k, .abstract_ n subs) = (k, .abstract_ n subs₂) ∧
      ∀ x, x ∈ subs₂ ↔ x ∈ subs ∨ (k = ia.2 ∧ x = ia.1) := by
  rw [regEntry_abstract]
  cases hk : k == ia.2 with
  | false =>
    have hne : k ≠ ia.2 := beq_eq_false_iff_ne.mp hk
    exact ⟨subs, by simp only [Bool.false_and, Bool.false_eq_true, if_false],
      fun x => ⟨.inl, fun h => h.elim id fun h => absurd h.1 hne⟩⟩
  | true =>
    have hke : k = ia.2 := eq_of_beq hk
    cases hs : subs.contains ia.1 with
    | true =>
      have hm : ia.1 ∈ subs := List.contains_iff_mem.mp hs
      exact ⟨subs, by simp only [Bool.not_true, Bool.and_false, Bool.false_eq_true, if_false],
        fun x => ⟨.inl, fun h => h.elim id fun h => h.2 ▸ hm⟩⟩
    | false =>
      refine ⟨subs ++ [ia.1], by simp only [Bool.not_false, Bool.and_self, if_true], fun x => ?_⟩
      rw [List.mem_append, List.mem_singleton]
      exact or_congr_right ⟨fun h => ⟨hke, h⟩, fun h => h.2⟩

theorem regEntries_abstract_mem (regs : List (Str × Str)) (k n : Str) :
    ∀ (subs : List Str), ∃ subs', regEntries regs (k, .abstract_ n subs) = (k, .abstract_ n subs') ∧
      ∀ c, c ∈ subs' ↔ c ∈ subs ∨ (c, k) ∈ regs := by
  induction regs with
  | nil => intro subs; exact ⟨subs, rfl, fun c => ⟨.inl, fun h => h.elim id fun h => nomatch h⟩⟩
  | cons ia rest ih =>
    intro subs
    obtain ⟨s₂, e, m⟩ := regEntry_abstract_mem ia k n subs
    obtain ⟨s', e', m'⟩ := ih s₂
    refine ⟨s', by rw [regEntries_cons, e, e'], fun c => ?_⟩
    rw [m', m, List.mem_cons, or_assoc]
    refine or_congr_right (or_congr_left ⟨fun ⟨h1, h2⟩ => ?_, fun h => ?_⟩)
    · rw [h1, h2]
    · rw [← h]; exact ⟨rfl, rfl⟩

theorem regEntries_abstract (regs : List (Str × Str)) (k n : Str) :
    ∀ (subs : List Str), ∃ add, regEntries regs (k, .abstract_ n subs) = (k, .abstract_ n (subs ++ add)) ∧
      (∀ c ∈ add, c ∉ subs ∧ (c, k) ∈ regs) ∧ (∀ c, (c, k) ∈ regs → c ∈ subs ++ add) ∧ add.Nodup := by
  induction regs with
  | nil => intro subs; exact ⟨[], by simp [regEntries_nil], by simp, by simp, List.nodup_nil⟩
  | cons ia rest ih =>
    intro subs
    rw [regEntries_cons, regEntry_abstract]
    by_cases hc : (k == ia.2 && !subs.contains ia.1) = true
    · simp only [hc, if_true]
      obtain ⟨add, he, h1, h2, h3⟩ := ih (subs ++ [ia.1])
      simp only [Bool.and_eq_true, beq_iff_eq, Bool.not_eq_true', List.contains_eq_mem, decide_eq_false_iff_not] at hc
      obtain ⟨hk, hnot⟩ := hc
      refine ⟨ia.1 :: add, by rw [he]; simp, ?_, ?_, ?_⟩
      · intro c hcm
        rcases List.mem_cons.mp hcm with rfl | hcm
        · refine ⟨hnot, ?_⟩
          rw [hk]
          exact List.mem_cons_self
        · obtain ⟨hn, hm⟩ := h1 c hcm
          exact ⟨fun h => hn (List.mem_append_left _ h), List.mem_cons_of_mem _ hm⟩
      · intro c hcm
        rcases List.mem_cons.mp hcm with h | h
        · have : c = ia.1 := by rw [← h]
          subst this
          simp
        · have := h2 c h
          simpa [List.append_assoc] using this
      · refine List.nodup_cons.mpr ⟨?_, h3⟩
        intro hm
        exact (h1 _ hm).1 (by simp)
    · simp only [hc, Bool.false_eq_true, if_false]
      obtain ⟨add, he, h1, h2, h3⟩ := ih subs
      refine ⟨add, he, fun c hcm => ⟨(h1 c hcm).1, List.mem_cons_of_mem _ (h1 c hcm).2⟩, ?_, h3⟩
      intro c hcm
      rcases List.mem_cons.mp hcm with h | h
      · have hk : k = ia.2 := by rw [← h]
        have hc1 : c = ia.1 := by rw [← h]
        subst hc1
        have : subs.contains ia.1 = true := by
          cases hcc : subs.contains ia.1 with
          | true => rfl
          | false => exact absurd (by rw [hcc, hk]; simp) hc
        exact List.mem_append_left _ (by simpa using this)
      · exact h2 c h

theorem regEntries_fst (regs : List (Str × Str)) (p : Str × TypeEntry) : (regEntries regs p).1 = p.1 := by
  induction regs generalizing p with
  | nil => rfl
  | cons ia rest ih => rw [regEntries_cons, ih, regEntry_fst]

theorem regEntries_ne_of_mem (regs : List (Str × Str)) (ia : Str × Str) (p : Str × TypeEntry) (hm : ia ∈ regs)
    (hne : regEntry ia p ≠ p) : regEntries regs p ≠ p := by
  obtain ⟨k, te⟩ := p
  cases te with
  | concrete t => exact absurd (regEntry_concrete ia k t) hne
  | abstract_ n subs =>
    rw [regEntry_abstract] at hne
    by_cases hc : (k == ia.2 && !subs.contains ia.1) = true
    · simp only [Bool.and_eq_true, beq_iff_eq, Bool.not_eq_true', List.contains_eq_mem, decide_eq_false_iff_not] at hc
      obtain ⟨hk, hnot⟩ := hc
      obtain ⟨add, he, _, h2, _⟩ := regEntries_abstract regs k n subs
      intro heq
      rw [he] at heq
      have hadd : add = [] := by
        have : subs ++ add = subs := by
          have := congrArg (fun e : Str × TypeEntry => match e.2 with | .abstract_ _ s => s | _ => []) heq
          simpa using this
        simpa using this
      have := h2 ia.1 (by rw [hk]; exact hm)
      rw [hadd, List.append_nil] at this
      exact hnot this
    · simp only [hc, Bool.false_eq_true, if_false] at hne
      exact absurd rfl hne

theorem regEntries_eq_of_all (regs : List (Str × Str)) (p : Str × TypeEntry) (h : ∀ ia ∈ regs, regEntry ia p = p) :
    regEntries regs p = p := by
  induction regs with
  | nil => rfl
  | cons ia rest ih =>
    rw [regEntries_cons, h ia List.mem_cons_self]
    exact ih (fun x hx => h x (List.mem_cons_of_mem _ hx))

/-! ### a whole table -/

theorem foldl_regImpl_eq (regs : List (Str × Str)) :
    ∀ (s : Schema), regs.foldl regImpl s = { s with types := s.types.map (regEntries regs) } := by
  induction regs with
  | nil => intro s; rw [List.foldl_nil, regEntries_nil_fun, List.map_id]
  | cons ia rest ih =>
    intro s
    rw [List.foldl_cons, ih]
    simp only [regImpl, List.map_map]
    congr 1

/-- looking a name up in "the table after calls, plus new entries at the end": the shape of `withComponent`, of
    `withImplementers` (no new entries) and of `Traced` -/
theorem gettype_regs_append (s s' : Schema) (regs : List (Str × Str)) (new : List (Str × TypeEntry))
    (ht : s'.types = s.types.map (regEntries regs) ++ new) (x : Str) :
    s'.gettype x = ((s.gettype x).map fun e => (regEntries regs (lower x, e)).2).or
      ((new.find? (·.1 == lower x)).map (·.2)) := by
  have hcomp : ((fun p : Str × TypeEntry => p.1 == lower x) ∘ regEntries regs) = fun p => p.1 == lower x := by
    funext p; simp only [Function.comp, regEntries_fst]
  unfold Schema.gettype
  rw [ht, List.find?_append, List.find?_map, hcomp]
  cases hf : s.types.find? (·.1 == lower x) with
  | none => simp
  | some p =>
    obtain ⟨k, e⟩ := p
    have hk : k = lower x := by simpa using List.find?_some hf
    subst hk
    simp

/-- `q` is `p` with, at most, another implementer list -/
def EntRel (p q : Str × TypeEntry) : Prop :=
  q.1 = p.1 ∧
    match p.2 with
    | .concrete t => q.2 = .concrete t
    | .abstract_ n _ => ∃ subs', q.2 = .abstract_ n subs'

theorem EntRel_regEntries (regs : List (Str × Str)) (p : Str × TypeEntry) : EntRel p (regEntries regs p) := by
  obtain ⟨k, te⟩ := p
  cases te with
  | concrete t => rw [regEntries_concrete]; exact ⟨rfl, rfl⟩
  | abstract_ n subs =>
    obtain ⟨subs', he, _⟩ := regEntries_abstract_mem regs k n subs
    rw [he]
    exact ⟨rfl, _, rfl⟩

end ZCV.Cfg
