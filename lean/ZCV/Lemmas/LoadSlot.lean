import ZCV.Lemmas.LoadEval
import ZCV.Model.TreeLoad
/-!
Step 1 of `loadTree_eq_denote`: slot selection.  `getsectioninfo` (operational, first claiming child decides, error as
soon as it refuses) computes the spec's `slotOf`; `isAllowedName` is `nameOK`.  Plus what `stypeOK` says per child, and what `schemaOK` says of
the top type and of a type that `gettype` finds (`schemaOK_top`, `schemaOK_type`).
-/
namespace ZCV.Conf
open ZCV ZCV.Cfg

@[simp] theorem toOption_ok {ε α} (a : α) : (Except.ok a : Except ε α).toOption = some a := rfl
@[simp] theorem toOption_error {ε α} (e : ε) : (Except.error e : Except ε α).toOption = none := rfl
theorem nodupB_iff (l : List Str) : nodupB l = true ↔ l.Nodup := by
  induction l with
  | nil => simp [nodupB]
  | cons a t ih => simp [nodupB, ih]

/-! ### what `stypeOK` says -/

/-- a child as the schema loader shapes them: a stored key is never empty, a child without key is a section -/
def keyShapeOK (c : Option Str × Info) : Prop :=
  (∀ k, c.1 = some k → k ≠ []) ∧ (c.1 = none → ∃ si, c.2 = .sect si) ∧ (∀ ki, c.2 = .key ki → c.1 = some ki.name)

structure STypeOK (t : SType) : Prop where
  attrs : (t.children.map (·.2.attr)).Nodup
  keys : (t.children.filterMap (·.1)).Nodup
  shape : ∀ c ∈ t.children, keyShapeOK c

theorem stypeOK_prop (s : Schema) (t : SType) (h : stypeOK s t = true) : STypeOK t := by
  unfold stypeOK distinctB at h
  simp only [Bool.and_eq_true, nodupB_iff, List.all_eq_true] at h
  obtain ⟨⟨⟨h1, h2⟩, _⟩, h4⟩ := h
  refine ⟨h1, h2, ?_⟩
  intro c hc
  have := h4 c hc
  obtain ⟨k, info⟩ := c
  cases info with
  | key ki =>
    simp only [Bool.and_eq_true, beq_iff_eq, Bool.not_eq_true', List.isEmpty_eq_false_iff] at this
    obtain ⟨⟨hk, hne⟩, _⟩ := this
    subst hk
    refine ⟨?_, ?_, ?_⟩
    · intro k hk; cases hk; exact hne
    · intro h; cases h
    · intro ki' h; cases h; rfl
  | sect si =>
    simp only [Bool.and_eq_true] at this
    obtain ⟨⟨hk, _⟩, _⟩ := this
    refine ⟨?_, ?_, ?_⟩
    · intro k' hk'
      simp only at hk'
      subst hk'
      split at hk
      · simp at hk
      · simp only [Bool.and_eq_true, beq_iff_eq, Bool.not_eq_true', List.isEmpty_eq_false_iff, Option.some.injEq] at hk
        rw [hk.1]; exact hk.2
    · intro _; exact ⟨si, rfl⟩
    · intro ki h; cases h

/-! ### the types of a well-formed schema -/

theorem gettype_mem (s : Schema) (ty : Str) (te : TypeEntry) (h : s.gettype ty = some te) :
    ∃ n, (n, te) ∈ s.types ∧ n = lower ty := by
  unfold Schema.gettype at h
  cases hf : s.types.find? (·.1 == lower ty) with
  | none => rw [hf] at h; cases h
  | some p =>
    rw [hf] at h
    simp only [Option.map_some, Option.some.injEq] at h
    obtain ⟨n, te'⟩ := p
    simp only at h
    subst h
    have hm := List.mem_of_find?_eq_some hf
    have hp := List.find?_some hf
    exact ⟨n, hm, by simpa using hp⟩

theorem schemaOK_type (s : Schema) (h : schemaOK s = true) (ty : Str) (t : SType)
    (hg : s.gettype ty = some (.concrete t)) : stypeOK s t = true ∧ t.name = some (lower ty) := by
  obtain ⟨n, hm, hn⟩ := gettype_mem s ty _ hg
  unfold schemaOK at h
  simp only [Bool.and_eq_true, List.all_eq_true] at h
  have := h.2 _ hm
  simp only [Bool.and_eq_true, beq_iff_eq] at this
  exact ⟨this.2, by rw [this.1, hn]⟩

theorem schemaOK_top (s : Schema) (h : schemaOK s = true) : stypeOK s s.top = true := by
  unfold schemaOK at h
  simp only [Bool.and_eq_true] at h
  exact h.1.1

/-! ### `getsectioninfo` = `slotOf` -/

theorem isAbstract_eq (s : Schema) (a : Str) : isAbstract s a = isAbs s a := rfl

theorem isSubtype_eq (s : Schema) (a ty : Str) : isSubtype s a ty = (implementers s a).contains ty := by
  unfold isSubtype implementers
  split <;> simp_all

theorem find?_congr_mem {α} {p q : α → Bool} : ∀ {l : List α}, (∀ x ∈ l, p x = q x) → l.find? p = l.find? q
  | [], _ => rfl
  | a :: l, h => by
    rw [List.find?_cons, List.find?_cons, h a List.mem_cons_self,
      find?_congr_mem (fun x hx => h x (List.mem_cons_of_mem _ hx))]


theorem stopsAt_eq_claims (s : Schema) (ty : Str) (nm : Option Str) (c : Option Str × Info) (h : keyShapeOK c) :
    stopsAt s ty nm c = claims s ty nm c := by
  obtain ⟨key, info⟩ := c
  obtain ⟨h1, h2, _⟩ := h
  cases key with
  | none => obtain ⟨si, rfl⟩ := h2 rfl; simp only [stopsAt, effKey, claims, isAbstract_eq, isSubtype_eq]
  | some k =>
    have hk : (k != []) = true := by simpa using h1 k rfl
    simp only [stopsAt, effKey, hk, if_true, claims, Bool.true_and]

theorem answerAt_toOption (s : Schema) (ty : Str) (nm : Option Str) (c : Option Str × Info) (h : keyShapeOK c) :
    (answerAt s ty nm c).toOption = admits s ty nm c := by
  obtain ⟨key, info⟩ := c
  obtain ⟨h1, h2, _⟩ := h
  cases key with
  | none =>
    obtain ⟨si, rfl⟩ := h2 rfl
    simp only [answerAt, effKey, admits, allowUnnamed]
    split
    · split <;> rename_i hc <;> simp only [hc, ↓reduceIte] <;> rfl
    · rfl
  | some k =>
    have hk : (k != []) = true := by simpa using h1 k rfl
    cases info with
    | key ki => simp only [answerAt, effKey, hk, if_true, admits]; rfl
    | sect si =>
      simp only [answerAt, effKey, hk, if_true, admits, isAbstract_eq, isSubtype_eq]
      by_cases h2 : isAbs s si.ty = true
      · simp only [h2, if_true]; split <;> rfl
      · simp only [h2, Bool.false_eq_true, if_false]
        cases h3 : si.ty == ty <;> simp only [bne, h3, Bool.not_true, Bool.not_false, Bool.false_eq_true, if_true, if_false] <;> rfl

theorem go_eq_slot (s : Schema) (ty : Str) (nm : Option Str) (l : List (Option Str × Info)) (hsh : ∀ c ∈ l, keyShapeOK c) :
    (getsectioninfo.go s ty nm l).toOption =
      match l.find? (claims s ty nm) with
      | some c => admits s ty nm c
      | none => none := by
  rw [go_eq_answerAt, find?_congr_mem fun c hc => stopsAt_eq_claims s ty nm c (hsh c hc)]
  cases hf : l.find? (claims s ty nm) with
  | none => rfl
  | some c => exact answerAt_toOption s ty nm c (hsh c (List.mem_of_find?_eq_some hf))

theorem getsectioninfo_eq_slotOf (s : Schema) (t : SType) (ty : Str) (nm : Option Str) (ht : STypeOK t) :
    (getsectioninfo s t ty nm).toOption = slotOf s t ty nm :=
  go_eq_slot s ty nm t.children ht.shape

theorem getsectioninfo_congr (s s' : Schema) (t : SType) (ty : Str) (nm : Option Str)
    (h : ∀ c ∈ t.children, ∀ si, c.2 = .sect si →
      isAbstract s' si.ty = isAbstract s si.ty ∧ isSubtype s' si.ty ty = isSubtype s si.ty ty) :
    getsectioninfo s' t ty nm = getsectioninfo s t ty nm := by
  have hstop : ∀ c ∈ t.children, stopsAt s' ty nm c = stopsAt s ty nm c := by
    intro c hc
    obtain ⟨k, info⟩ := c
    cases info with
    | key ki => rfl
    | sect si => simp only [stopsAt, (h _ hc si rfl).1, (h _ hc si rfl).2]
  have hans : ∀ c ∈ t.children, answerAt s' ty nm c = answerAt s ty nm c := by
    intro c hc
    obtain ⟨k, info⟩ := c
    unfold answerAt
    cases info with
    | key ki => cases effKey (k, Info.key ki) <;> rfl
    | sect si => obtain ⟨h1, h2⟩ := h _ hc si rfl; cases effKey (k, Info.sect si) <;> simp only [h1, h2]
  rw [getsectioninfo_eq_answerAt, getsectioninfo_eq_answerAt, find?_congr_mem hstop]
  cases hf : t.children.find? (stopsAt s ty nm) with
  | none => rfl
  | some c => exact hans c (List.mem_of_find?_eq_some hf)

theorem slotOf_mem (s : Schema) (t : SType) (ty : Str) (nm : Option Str) (si : SectInfo)
    (h : slotOf s t ty nm = some si) : ∃ k, (k, Info.sect si) ∈ t.children := by
  unfold slotOf at h
  split at h
  · rename_i c hc
    have hm := List.mem_of_find?_eq_some hc
    obtain ⟨k, info⟩ := c
    unfold admits at h
    cases info with
    | key ki => simp at h
    | sect si' =>
      have : si' = si := by
        simp only at h
        split_hyp h
        all_goals first | (cases h; rfl) | cases h
      subst this
      exact ⟨k, hm⟩
  · cases h

theorem isAllowedName_eq_nameOK (si : SectInfo) (nm : Option Str) : isAllowedName si nm = nameOK si nm := by
  unfold isAllowedName nameOK
  by_cases h1 : nm = some ['*']
  · simp [h1]
  · by_cases h2 : nm = some ['+']
    · simp [h2]
    · simp [h1, h2]

end ZCV.Conf
