import ZCV.Model.Regex
/-! Character classes: a test `k.test c` is reduced to linear arithmetic on the code point (`cls_arith`); the classes that several live
    patterns share are defined here once. -/
namespace ZCV

theorem ceq (c d : Char) : (c == d) = (c.toNat == d.toNat) := by
  rw [Bool.eq_iff_iff]; simp only [beq_iff_eq]
  constructor
  · intro h; rw [h]
  · intro h; rw [← Char.ofNat_toNat c, ← Char.ofNat_toNat d, h]

theorem char_ext (a b : Char) (h : a.toNat = b.toNat) : a = b := by
  rw [← Char.ofNat_toNat a, ← Char.ofNat_toNat b, h]

theorem asciiDigit_pyDigit (c : Char) (h : isAsciiDigit c = true) : pyDigit c = true := by
  unfold pyDigit pyDigitVal
  rw [Option.isSome_map, List.find?_isSome]
  refine ⟨(48, 57), by unfold Gen.digitRanges; exact List.mem_cons_self, ?_⟩
  simpa [isAsciiDigit, inRange] using h

theorem cne (c d : Char) : (c != d) = (c.toNat != d.toNat) := by
  simp only [bne, ceq]

theorem toNat_ofNat_valid (m : Nat) (h : m < 55296 ∨ (57343 < m ∧ m < 1114112)) : (Char.ofNat m).toNat = m := by
  have hv : m.isValidChar := h
  simp [Char.ofNat, hv, Char.toNat, Char.ofNatAux]

theorem char_le_toNat (a b : Char) : a ≤ b ↔ a.toNat ≤ b.toNat := by
  rw [Char.le_def, UInt32.le_iff_toNat_le]; rfl

theorem asciiLowerChar_toNat (c : Char) :
    (asciiLowerChar c).toNat = if 65 ≤ c.toNat ∧ c.toNat ≤ 90 then c.toNat + 32 else c.toNat := by
  unfold asciiLowerChar
  simp only [char_le_toNat, Char.reduceToNat]
  split
  · rw [toNat_ofNat_valid _ (.inl (by omega))]
  · rfl

/-- closes goals `k.test c = <boolean combination of inRange / == on c>` for literal classes -/
macro "cls_arith" : tactic => `(tactic| (
  simp only [Rx.Cls.test, Rx.Item.test, inRange, isAsciiLetter, isAsciiDigit, ceq, cne,
    List.any_cons, List.any_nil, Char.reduceToNat]
  generalize Char.toNat _ = n
  rw [Bool.eq_iff_iff]
  simp
  try omega))

namespace Rx

theorem Cls.test_cons (i : Item) (is : List Item) (c : Char) :
    Cls.test ⟨false, i :: is⟩ c = (i.test c || Cls.test ⟨false, is⟩ c) := by
  simp only [Cls.test, List.any_cons, Bool.bne_false]

theorem Item.test_single (c d : Char) : Item.test c (.range d.toNat d.toNat) = (c == d) := by
  rw [Bool.eq_iff_iff]
  simp only [Item.test, ceq, Bool.and_eq_true, decide_eq_true_eq, beq_iff_eq]
  omega

/-- `[A-Za-z_]`, the first character of every kind of name -/
def nameStartK : Cls := ⟨false, [.range 65 90, .range 95 95, .range 97 122]⟩
/-- `[A-Za-z0-9_]` -/
def nameCharK : Cls := ⟨false, [.range 48 57, .range 65 90, .range 95 95, .range 97 122]⟩
/-- `[A-Za-z]` -/
def letterK : Cls := ⟨false, [.range 65 90, .range 97 122]⟩
/-- `[-.A-Za-z0-9_]` -/
def keyCharK : Cls := ⟨false, [.range 45 46, .range 48 57, .range 65 90, .range 95 95, .range 97 122]⟩

theorem nameStartK_test (c : Char) : nameStartK.test c = (isAsciiLetter c || c == '_') := by
  unfold nameStartK; cls_arith

theorem nameCharK_test (c : Char) : nameCharK.test c = (isAsciiLetter c || isAsciiDigit c || c == '_') := by
  rw [nameCharK, Cls.test_cons, ← nameStartK, nameStartK_test]
  show (isAsciiDigit c || (isAsciiLetter c || c == '_')) = _
  rw [Bool.or_left_comm, ← Bool.or_assoc]

theorem letterK_test (c : Char) : letterK.test c = isAsciiLetter c := by
  unfold letterK; cls_arith

theorem range_dash_dot (c : Char) : Item.test c (.range 45 46) = (c == '-' || c == '.') := by
  cls_arith

theorem keyCharK_test (c : Char) :
    keyCharK.test c = (isAsciiLetter c || isAsciiDigit c || c == '-' || c == '.' || c == '_') := by
  rw [keyCharK, Cls.test_cons, ← nameCharK, nameCharK_test, range_dash_dot]
  simp only [Bool.or_assoc, Bool.or_comm, Bool.or_left_comm]

end Rx
end ZCV
