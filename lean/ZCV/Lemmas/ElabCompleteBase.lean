import ZCV.Spec.SchemaRules
import ZCV.Lemmas.ElabRulesDoc
/-!
C10, "a document is accepted exactly when it satisfies the rules": the helpers of the loader model that read the
attributes of a start tag.  Each succeeds exactly when the attribute-level rules of `ZCV/Spec/SchemaRules.lean` hold, and
then returns the value the signature functions of the specification predict: `helper … = .ok r ↔ rules ∧ r = value` (for
`pushPrefix`: the state it leaves), the form `Accepts.of_iff` takes.
-/
namespace ZCV.SchemaRules
open ZCV ZCV.Elab
open ZCV.Cfg (VI SectInfo Default)

/-! ### datatype names -/

theorem regGet_ok_iff {env : Env} {name c : Str} : regGet env name = .ok c ↔ resolve env name = some c := by
  rw [regGet_eq]
  unfold resolve
  by_cases hd : name.contains '.' = true
  · rw [if_pos hd, if_pos hd]
    cases env.dotted name <;> simp only [Except.ok.injEq, Option.some.injEq, reduceCtorEq]
  · rw [if_neg hd, if_neg hd]
    cases DTSpec.isBasicKey name <;> cases Gen.stockNames.contains (asciiLower name) <;>
      simp only [Bool.false_and, Bool.and_false, Bool.and_self, Bool.false_eq_true, ↓reduceIte, reduceCtorEq,
        Except.ok.injEq, Option.some.injEq]

theorem getClassname_eq {st : PSt} {pfx : Str} {ps : List Str} (hp : st.prefixes = pfx :: ps) (v : Str) :
    getClassname st v = .ok (classname pfx v) := by
  unfold getClassname classname
  rw [hp]
  split <;> rfl

/-- the value `get_datatype` returns for a rule-abiding attribute -/
def dtValue (env : Env) (pfx : Str) (a : Attrs) (k : String) (fallback : Str) : Str :=
  match attr a k with
  | some v => (resolve env (classname pfx v)).getD []
  | none => fallback

theorem getDatatype_ok_iff {env : Env} {st : PSt} {pfx : Str} {ps : List Str} {a : Attrs} {k dflt : String}
    {d r : Str} (base : Option Str) (hp : st.prefixes = pfx :: ps) (hd : regGet env dflt.toList = .ok d) :
    getDatatype env st a k dflt base = .ok r ↔
      dtAttrOK env pfx a k = true ∧ r = dtValue env pfx a k (base.getD d) := by
  unfold getDatatype dtAttrOK dtValue
  cases attr a k with
  | none =>
    cases base with
    | none => simp only [hd, Except.ok.injEq, Option.getD_none, true_and]; exact eq_comm
    | some b => simp only [Except.ok.injEq, Option.getD_some, true_and]; exact eq_comm
  | some v =>
    simp only [getClassname_eq hp, bind, Except.bind, regGet_ok_iff]
    cases resolve env (classname pfx v) with
    | none => simp only [reduceCtorEq, Option.isSome_none, Bool.false_eq_true, false_and]
    | some c => simp only [Option.some.injEq, Option.isSome_some, Option.getD_some, true_and]; exact eq_comm

theorem keytypeOf_eq (env : Env) (pfx : Str) (a : Attrs) (base : Option Str) :
    keytypeOf env pfx a base = dtValue env pfx a "keytype" (base.getD "basic-key".toList) := rfl

theorem getSectTypeinfo_ok_iff {env : Env} {st : PSt} {pfx : Str} {ps : List Str} {a : Attrs} {r : Str × Str}
    (base : Option (Str × Str)) (hp : st.prefixes = pfx :: ps) :
    getSectTypeinfo env st a base = .ok r ↔
      (dtAttrOK env pfx a "keytype" = true ∧ dtAttrOK env pfx a "valuetype" = true ∧
        dtAttrOK env pfx a "datatype" = true) ∧
      r = (keytypeOf env pfx a (base.map (·.1)),
        dtValue env pfx a "datatype" ((base.map (·.2)).getD "null".toList)) := by
  unfold getSectTypeinfo
  simp only [bind_ok, getDatatype_ok_iff _ hp (regGet_basicKey env), getDatatype_ok_iff _ hp (regGet_string env),
    getDatatype_ok_iff _ hp (regGet_null env), pure, Except.pure, Except.ok.injEq]
  constructor
  · rintro ⟨kt, ⟨h1, rfl⟩, vt, ⟨h2, _⟩, dt, ⟨h3, rfl⟩, rfl⟩
    exact ⟨⟨h1, h2, h3⟩, rfl⟩
  · rintro ⟨⟨h1, h2, h3⟩, rfl⟩
    exact ⟨_, ⟨h1, rfl⟩, _, ⟨h2, rfl⟩, _, ⟨h3, rfl⟩, rfl⟩

/-! ### `handler`, `required` -/

def handlerOf (a : Attrs) : Option Str := (attr a "handler").map asciiLower

theorem getHandler_ok_iff {a : Attrs} {r : Option Str} : getHandler a = .ok r ↔ handlerOK a = true ∧ r = handlerOf a := by
  unfold getHandler handlerOK handlerOf
  cases attr a "handler" with
  | none => simp only [Except.ok.injEq, Option.map_none, true_and]; exact eq_comm
  | some v =>
    simp only [basicKeyE_eq, Option.map_some]
    cases DTSpec.isBasicKey v with
    | false => simp only [Bool.false_eq_true, ↓reduceIte, Except.map, reduceCtorEq, false_and]
    | true => simp only [↓reduceIte, Except.map, Except.ok.injEq, true_and]; exact eq_comm

theorem getRequired_ok_iff {a : Attrs} {r : Bool} : getRequired a = .ok r ↔ requiredOK a = true ∧ r = isRequired a := by
  rw [getRequired_eq]
  unfold requiredOK isRequired
  cases attr a "required" with
  | none => exact ⟨fun h => ⟨rfl, (Except.ok.inj h).symm⟩, fun h => by rw [h.2]; rfl⟩
  | some v =>
    by_cases h1 : v = "yes".toList
    · subst h1
      simp only [↓reduceIte, Except.ok.injEq, beq_self_eq_true, Bool.true_or, true_and]
      exact eq_comm
    · have h3 : (some v == some "yes".toList) = false := by
        simp only [beq_eq_false_iff_ne, ne_eq, Option.some.injEq]; exact h1
      by_cases h2 : v = "no".toList
      · simp only [if_neg h1, if_pos h2, h3]
        simp only [h2, Except.ok.injEq, beq_self_eq_true, Bool.or_true, true_and]
        exact eq_comm
      · simp only [h1, h2, ↓reduceIte, reduceCtorEq, beq_iff_eq, or_self, false_and, Bool.or_eq_true]

/-! ### prefixes -/

theorem pushPrefix_ok_iff_top {st st1 : PSt} {a : Attrs} (hp : st.prefixes = []) :
    pushPrefix st a = .ok st1 ↔ prefixOK none a = true ∧ st1 = { st with prefixes := [prefixOf none a] } := by
  rw [pushPrefix_eq]
  unfold prefixOK prefixOf
  rcases attr a "prefix" with _ | _ | ⟨c, cs⟩
  · simp only [hp, List.head?_nil, Option.getD_none, Except.ok.injEq, true_and]; exact eq_comm
  · simp only [hp, List.head?_nil, Option.getD_none, Except.ok.injEq, true_and]; exact eq_comm
  · simp only [hp, List.isEmpty_nil, ↓reduceIte, Option.isNone_none, List.head?_nil, Option.getD_none, List.nil_append]
    cases hv : DTSpec.isDottedName (c :: cs) with
    | false => simp only [Bool.false_eq_true, ↓reduceIte, reduceCtorEq, false_and]
    | true =>
      have hc : (c == '.') = false := by simpa using isDottedName_head hv
      simp only [↓reduceIte, isDottedName_head hv, hc, Bool.false_eq_true, Except.ok.injEq, true_and]; exact eq_comm

theorem pushPrefix_ok_iff_inner {st st1 : PSt} {a : Attrs} {p : Str} {ps : List Str} (hp : st.prefixes = p :: ps) :
    pushPrefix st a = .ok st1 ↔
      prefixOK (some p) a = true ∧ st1 = { st with prefixes := prefixOf (some p) a :: st.prefixes } := by
  rw [pushPrefix_eq]
  unfold prefixOK prefixOf
  rcases attr a "prefix" with _ | _ | ⟨c, cs⟩
  · simp only [hp, List.head?_cons, Option.getD_some, Except.ok.injEq, true_and]; exact eq_comm
  · simp only [hp, List.head?_cons, Option.getD_some, Except.ok.injEq, true_and]; exact eq_comm
  · simp only [hp, List.isEmpty_cons, Bool.false_eq_true, ↓reduceIte, Option.isNone_some, List.head?_cons,
      Option.getD_some]
    cases DTSpec.isDottedSuffix (c :: cs) with
    | false => simp only [Bool.false_eq_true, ↓reduceIte, reduceCtorEq, false_and]
    | true =>
      by_cases hc : c = '.'
      · subst hc
        simp only [↓reduceIte, beq_self_eq_true, Except.ok.injEq, true_and]; exact eq_comm
      · have hc' : (c == '.') = false := by simpa using hc
        simp only [↓reduceIte, hc, hc', Bool.false_eq_true, Except.ok.injEq, true_and]; exact eq_comm

/-! ### names -/

theorem isWild_iff (n : Str) : isWild n = true ↔ n = ['*'] ∨ n = ['+'] := anyNames_iff n

theorem attrNameE_ok_iff {a : Attrs} {o : Option Str} : attrNameE a = .ok o ↔ attributeWF a = true ∧ o = givenAttr a := by
  unfold attributeWF attrNameE givenAttr
  cases attr a "attribute" with
  | none => exact ⟨fun h => ⟨rfl, (Except.ok.inj h).symm⟩, fun h => by rw [h.2]⟩
  | some v =>
    cases v with
    | nil => exact ⟨fun h => ⟨rfl, (Except.ok.inj h).symm⟩, fun h => by rw [h.2]⟩
    | cons c cs =>
      cases h1 : DTSpec.isIdent (c :: cs) <;> cases h2 : startsWith (c :: cs) Gen.reservedAttrPrefix <;>
        simp only [h1, h2, serr, Bool.false_eq_true, ↓reduceIte, reduceCtorEq, Except.ok.injEq, Bool.not_true,
          Bool.not_false, Bool.and_self, Bool.and_false, Bool.false_and, false_and, true_and]
      exact eq_comm


theorem givenAttr_ne_nil {a : Attrs} {x : Str} (h : givenAttr a = some x) : x ≠ [] := by
  unfold givenAttr at h
  split at h
  · injection h with h; subst h; simp
  · cases h

/-- the result of `get_name_info` for a rule-abiding element -/
def nameInfoOf (env : Env) (kt : Str) (a : Attrs) (dflt : Option Str) : Option Str × Option Str × Option Str :=
  let n := nameOf a dflt
  let nm := (storedName env kt n).getD []
  if isWild n then (some n, none, some (attrOf a nm)) else (none, some nm, some (attrOf a nm))

/-- `derivedAttr` without the lower-casing: `derivedAttr nm = derivedAttr' (asciiLower nm)` -/
abbrev derivedAttr' (b : Str) : Str := b.map fun ch => if ch == '-' then '_' else ch

theorem convKeyName_ok_iff {env : Env} {kt n nm : Str} (hw : isWild n = false) :
    convKeyName env kt n = .ok nm ↔ storedName env kt n = some nm := by
  unfold storedName convKeyName
  rw [hw]
  cases env.conv.key kt n with
  | ok r => simp only [Except.ok.injEq, Bool.false_eq_true, ↓reduceIte, Option.some.injEq]
  | error e => cases e <;> simp only [serr, reduceCtorEq, Bool.false_eq_true, ↓reduceIte]

theorem nameTail_given (env : Env) (st : PSt) (n : Str) (a : Attrs) :
    nameTail env st n (givenAttr a) =
      if Gen.anyNames.contains n then
        match givenAttr a with
        | some x => pure (some n, none, some x)
        | none => serr "container attribute must be specified"
      else topKeytype st >>= fun kt => convKeyName env kt n >>= fun nm =>
        match givenAttr a with
        | some x => pure (none, some nm, some x)
        | none => basicKeyE nm >>= fun b => identifierE (derivedAttr' b) >>= fun x => pure (none, some nm, some x) := by
  unfold nameTail givenAttr
  rcases attr a "attribute" with _ | _ | ⟨d, ds⟩ <;> rfl

theorem getNameInfo_ok_iff {env : Env} {st : PSt} {kt : Str} {a : Attrs} {dflt : Option Str}
    {r : Option Str × Option Str × Option Str} (hkt : topKeytype st = .ok kt) :
    getNameInfo env st a dflt = .ok r ↔
      (nameGiven a dflt = true ∧ attributeWF a = true ∧ wildHasAttr a (nameOf a dflt) = true ∧
        fixedNameOK env kt a (nameOf a dflt) = true) ∧ r = nameInfoOf env kt a dflt := by
  have hn : effName a dflt = some (nameOf a dflt) ∨ (effName a dflt = none ∧ nameOf a dflt = []) := by
    unfold effName nameOf
    cases attr a "name" <;> cases dflt <;> simp
  rw [getNameInfo_nf]
  unfold nameGiven nameInfoOf wildHasAttr fixedNameOK attrOf
  generalize nameOf a dflt = n at hn ⊢
  rcases hn with hn | ⟨hn, rfl⟩
  · rw [hn]
    cases n with
    | nil => simp [serr]
    | cons c cs =>
      simp only [bind_ok, attrNameE_ok_iff, and_assoc, exists_and_left, exists_eq_left, List.isEmpty_cons, Bool.not_false,
        true_and]
      refine and_congr_right fun _ => ?_
      rw [nameTail_given]
      by_cases hw : isWild (c :: cs) = true
      · have hw' : Gen.anyNames.contains (c :: cs) = true := hw
        simp only [hw, hw', ↓reduceIte, Bool.not_true, Bool.false_or, Bool.true_or, true_and]
        cases givenAttr a with
        | none => exact ⟨fun h => (nomatch h), fun h => nomatch h.1⟩
        | some x => exact ⟨fun h => ⟨rfl, (Except.ok.inj h).symm⟩, fun h => by rw [h.2]; rfl⟩
      · have hw0 : isWild (c :: cs) = false := by simpa using hw
        have hw' : Gen.anyNames.contains (c :: cs) = false := hw0
        simp only [hw0, hw', Bool.false_eq_true, ↓reduceIte, Bool.not_false, Bool.true_or, Bool.false_or, true_and, hkt,
          bind_ok, Except.ok.injEq, exists_eq_left', convKeyName_ok_iff hw0]
        cases storedName env kt (c :: cs) with
        | none => exact ⟨fun ⟨_, h, _⟩ => (nomatch h), fun h => nomatch h.1⟩
        | some nm =>
          simp only [Option.some.injEq, exists_eq_left', Option.getD_some]
          cases givenAttr a with
          | some x => exact ⟨fun h => ⟨rfl, (Except.ok.inj h).symm⟩, fun h => by rw [h.2]; rfl⟩
          | none =>
            simp only [Option.isSome_none, Bool.false_or, Bool.and_eq_true, Option.getD_none]
            rw [basicKeyE_eq]
            by_cases hb : DTSpec.isBasicKey nm = true
            · rw [if_pos hb]
              show (identifierE (derivedAttr nm) >>= fun x => pure (none, some nm, some x)) = .ok r ↔ _
              rw [identifierE_eq]
              by_cases hi : DTSpec.isIdent (derivedAttr nm) = true
              · rw [if_pos hi]
                exact ⟨fun h => ⟨⟨hb, hi⟩, (Except.ok.inj h).symm⟩, fun h => by rw [h.2]; rfl⟩
              · rw [if_neg hi]
                exact ⟨fun h => (nomatch h), fun h => absurd h.1.2 hi⟩
            · rw [if_neg hb]
              exact ⟨fun h => (nomatch h), fun h => absurd h.1.1 hb⟩
  · rw [hn]
    simp [serr]

theorem attrOf_ne_nil {env : Env} {kt : Str} {a : Attrs} {n : Str}
    (h3 : wildHasAttr a n = true) (h4 : fixedNameOK env kt a n = true) :
    attrOf a ((storedName env kt n).getD []) ≠ [] := by
  unfold attrOf
  cases hg : givenAttr a with
  | some x => simpa using givenAttr_ne_nil hg
  | none =>
    simp only [Option.getD_none]
    unfold wildHasAttr at h3
    rw [hg] at h3
    simp only [Option.isSome_none, Bool.or_false, Bool.not_eq_true'] at h3
    unfold fixedNameOK at h4
    rw [h3, hg] at h4
    simp only [Bool.false_or] at h4
    cases hs : storedName env kt n with
    | none => rw [hs] at h4; cases h4
    | some nm =>
      rw [hs] at h4
      simp only [Option.isSome_none, Bool.false_or, Bool.and_eq_true] at h4
      exact isIdent_ne_nil h4.2

end ZCV.SchemaRules
