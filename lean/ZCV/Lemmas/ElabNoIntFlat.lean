import ZCV.Lemmas.ElabNoInt
import ZCV.Lemmas.ElabRulesDoc
/-!
C10, no internal errors: documents that pull in no other document (no `<import>`, no `extends` on the root)
never use the hooks: the walk over them is the same under any two `Hooks` (`visitRoot_hooks_indep`), in particular under
`refusingHooks`, which take no fuel.
-/
namespace ZCV.Elab
open ZCV ZCV.Cfg

mutual
def noImportElem : Node → Bool
  | .text _ => true
  | .elem t _ c => t != "import".toList && noImportElemL c
def noImportElemL : List Node → Bool
  | [] => true
  | n :: r => noImportElem n && noImportElemL r
end

/-- a schema document that pulls in no other document: no `<import>` anywhere, no `extends` on the root element -/
def flatDoc : Node → Bool
  | .text _ => true
  | .elem t a c => (attr a "extends").isNone && noImportElem (.elem t a c)

mutual
theorem noImportElem_noSrc : ∀ n : Node, noImportElem n = true → noImportSrc n = true
  | .text _, _ => by rw [noImportSrc]
  | .elem t a c, h => by
    rw [noImportElem] at h
    rw [noImportSrc]
    simp only [Bool.and_eq_true] at h ⊢
    exact ⟨by rw [h.1, Bool.true_or], noImportElemL_noSrc c h.2⟩

theorem noImportElemL_noSrc : ∀ l : List Node, noImportElemL l = true → noImportSrcL l = true
  | [], _ => by rw [noImportSrcL]
  | n :: r, h => by
    rw [noImportElemL] at h
    rw [noImportSrcL]
    simp only [Bool.and_eq_true] at h ⊢
    exact ⟨noImportElem_noSrc n h.1, noImportElemL_noSrc r h.2⟩
end

theorem nesting_not_top {d : DocKind} {p t : Str} (h : nestingCheck p t = .ok ()) : (t == d.topLevel) = false :=
  beq_eq_false_iff_ne.2 fun e => nestingCheck_topLevel d p (e ▸ h)

theorem startHandled_hooks_indep {env : Env} (h h' : Hooks) {t : Str} (a : Attrs) (st : PSt)
    (ht : (t != "import".toList) = true) : startHandled env h t a st = startHandled env h' t a st := by
  unfold startHandled
  have : (t == "import".toList) = false := by simpa using ht
  simp only [this, Bool.false_eq_true, ↓reduceIte]

mutual
/-- below the root, the hooks are only used by `<import>` -/
theorem visitElem_hooks_indep {env : Env} (h h' : Hooks) {d : DocKind} :
    ∀ (n : Node) (p : Str) (st : PSt), noImportElem n = true →
      visitElem env h d (some p) st n = visitElem env h' d (some p) st n
  | .text _, p, st, _ => by rw [visitElem_text, visitElem_text]
  | .elem t a c, p, st, hn => by
    rw [noImportElem] at hn
    simp only [Bool.and_eq_true] at hn
    cases hchk : nestingCheck p t with
    | error e => rw [visitElem_nest_err hchk, visitElem_nest_err hchk]
    | ok u =>
      have htop := nesting_not_top (d := d) hchk
      unfold visitElem
      simp only [hchk, htop, Bool.false_eq_true, ↓reduceIte]
      by_cases hh : d.handled.contains t = true
      · simp only [hh, ↓reduceIte]
        rw [startHandled_hooks_indep h h' a st hn.1]
        cases startHandled env h' t a st with
        | error e => rfl
        | ok st1 =>
          simp only
          rw [visitChildren_hooks_indep h h' c t st1 hn.2]
      · simp only [hh, Bool.false_eq_true, ↓reduceIte]

theorem visitChildren_hooks_indep {env : Env} (h h' : Hooks) {d : DocKind} :
    ∀ (l : List Node) (p : Str) (st : PSt), noImportElemL l = true →
      visitChildren env h d p st l = visitChildren env h' d p st l
  | [], p, st, _ => by unfold visitChildren; rfl
  | .text s :: r, p, st, hn => by
    rw [noImportElemL] at hn
    simp only [Bool.and_eq_true] at hn
    unfold visitChildren
    rw [visitChildren_hooks_indep h h' r p st hn.2]
  | .elem t a c :: r, p, st, hn => by
    rw [noImportElemL] at hn
    simp only [Bool.and_eq_true] at hn
    unfold visitChildren
    rw [visitElem_hooks_indep h h' (.elem t a c) p st hn.1]
    cases visitElem env h' d (some p) st (.elem t a c) with
    | error e => rfl
    | ok st1 =>
      simp only
      rw [visitChildren_hooks_indep h h' r p st1 hn.2]
end

theorem startSchema_hooks_indep {env : Env} (h h' : Hooks) (ext : Option ES) (st : PSt) {a : Attrs}
    (ha : attr a "extends" = none) : startSchema env h ext st a = startSchema env h' ext st a := by
  unfold startSchema
  simp only [ha]

theorem visitRoot_hooks_indep {env : Env} (h h' : Hooks) (ext : Option ES) (st : PSt) (n : Node) (hn : flatDoc n = true) :
    visitElem env h (.schema ext) none st n = visitElem env h' (.schema ext) none st n := by
  cases n with
  | text s => rw [visitElem_text, visitElem_text]
  | elem t a c =>
    simp only [flatDoc, noImportElem, Bool.and_eq_true, Option.isNone_iff_eq_none] at hn
    obtain ⟨hn1, _, hn2⟩ := hn
    have hn : attr a "extends" = none ∧ noImportElemL c = true := ⟨hn1, hn2⟩
    by_cases ht : t = (DocKind.schema ext).topLevel
    · rw [visitElem_root_eq ht, visitElem_root_eq ht]
      dsimp only
      rw [startSchema_hooks_indep h h' ext st hn.1]
      cases startSchema env h' ext st a with
      | error e => rfl
      | ok st1 =>
        simp only [bind, Except.bind]
        rw [visitChildren_hooks_indep h h' c t st1 hn.2]
    · rw [visitElem_root_other ht, visitElem_root_other ht]

/-- hooks that refuse every nested document with a schema error -/
def refusingHooks : Hooks :=
  { loadComponent := fun _ _ => .error (.schema "refused"), extendSchema := fun _ _ => .error (.schema "refused") }

theorem refusingHooks_ni : HooksNI (fun _ => False) (fun _ => True) refusingHooks :=
  ⟨fun _ _ _ _ => NIx.schema _, fun _ _ _ _ _ h => (by cases h), fun _ _ _ _ => NIx.schema _, fun _ _ _ _ _ h => (by cases h)⟩

end ZCV.Elab
