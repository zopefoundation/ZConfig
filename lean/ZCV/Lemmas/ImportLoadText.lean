import ZCV.Lemmas.ImportLoadEval
/-!
Configuration TEXT with `%import` lines against `denoteI`.  The parser delivers lower-cased section headers (`treeOfI_low`, read
off the calls it makes), so `Cfg.load` on the lines is `denoteI` of the top-level items of the lines (`load_eq_denoteI`).  Then
the hypothesis `importsOK` from one that does not mention the text, a text whose `%import`s all come first, and `knownAt`
position by position.
-/
namespace ZCV.Conf
open ZCV ZCV.Cfg

/-! ### the parser lower-cases section headers -/

mutual
theorem lowItem_of_calls : ∀ (i : Item), (∀ ty nm, Call.start ty nm ∈ callsOf i → lower ty = ty) → lowItem i = true
  | .kv _ _ _, _ => by rw [lowItem]
  | .sect ty nm items, h => by
    rw [lowItem, Bool.and_eq_true]
    exact ⟨by simpa using h ty nm (by simp [callsOf]),
      lowItems_of_calls items fun ty' nm' hm => h ty' nm' (by simp [callsOf, hm])⟩
theorem lowItems_of_calls : ∀ (l : List Item), (∀ ty nm, Call.start ty nm ∈ callsOfs l → lower ty = ty) → lowItems l = true
  | [], _ => by rw [lowItems]
  | i :: r, h => by
    rw [lowItems, Bool.and_eq_true]
    exact ⟨lowItem_of_calls i fun ty nm hm => h ty nm (by simp [callsOfs, hm]),
      lowItems_of_calls r fun ty nm hm => h ty nm (by simp [callsOfs, hm])⟩
end

theorem lowTops_of_calls : ∀ (tops : List TopItem), (∀ ty nm, Call.start ty nm ∈ callsOfTops tops → lower ty = ty) →
    lowTops tops = true
  | [], _ => by rw [lowTops]
  | .item i :: r, h => by
    rw [lowTops, Bool.and_eq_true]
    exact ⟨lowItem_of_calls i fun ty nm hm => h ty nm (by simp [callsOfTops, callsOfTop, hm]),
      lowTops_of_calls r fun ty nm hm => h ty nm (by simp only [callsOfTops, List.flatMap_cons, List.mem_append]; exact .inr hm)⟩
  | .imp p :: r, h => by
    rw [lowTops]
    exact lowTops_of_calls r fun ty nm hm => h ty nm (by simp only [callsOfTops, List.flatMap_cons, List.mem_append]; exact .inr hm)

theorem recP_low : LineInv recP (fun _ => True) (fun _ calls => ∀ ty nm, Call.start ty nm ∈ calls → lower ty = ty) where
  start := by
    intro _ a l ty nm0 e a' _ hs hj h ty' nm' hm
    obtain ⟨ty0, rfl⟩ := lineShape_open_lower _ _ _ _ hs
    cases h
    rcases List.mem_append.1 hm with hm | hm
    · exact hj _ _ hm
    · simp only [List.mem_singleton, Call.start.injEq] at hm
      rw [hm.1]
      exact ZCV.lower_idem ty0
  stop := by
    intro _ a ty nm a' hj h ty' nm' hm
    cases h
    exact (List.mem_append.1 hm).elim (hj _ _) (by simp)
  value := by
    intro _ a k v p a' hj h ty' nm' hm
    cases h
    exact (List.mem_append.1 hm).elim (hj _ _) (by simp)
  imp := by
    intro _ a l arg pkg a' _ _ hj h ty' nm' hm
    cases h
    exact (List.mem_append.1 hm).elim (hj _ _) (by simp)

theorem treeOfI_low (env : Env) (url : Option Str) (lines : List Str) (tops : List TopItem)
    (h : treeOfI env url lines = .ok tops) : lowTops tops = true := by
  unfold treeOfI at h
  obtain ⟨ps, hps, rfl⟩ := map_ok_inv h
  rw [parseI_eq] at hps
  have hT := parseI_built env url lines
  rw [parseI_eq, hps] at hT
  cases hR : parseLines 64 env recP (activeOf url) url lines 0 { ctx := [], stack := [], defs := [] } with
  | error e => rw [hR] at hT; exact hT.elim
  | ok r =>
    rw [hR] at hT
    have hlow := parse_lineInv recP_low env (fun _ _ _ _ _ _ _ _ _ => trivial) 64 (activeOf url) url lines 0 _ r [] (fun _ _ => trivial)
      (fun _ _ h => (List.not_mem_nil h).elim) hR
    exact lowTops_of_calls _ fun ty nm hm => hlow ty nm (hT.1.2.2.2.1 _ (List.mem_append_left _ hm))

/-! ### text against `denoteI` -/

/-- **C01 + C02 + C12 in one equation, for TEXT with `%import` lines.**  For a text that meets no `%import` inside a
    section, whose imports keep the schema of the load well-formed, loaded without overrides: the loader returns a
    configuration iff the parser accepts the text and `denoteI` is defined on its top-level items, and then it returns
    exactly that value. -/
theorem load_eq_denoteI (conv : Conv) (env : Env) (pkgs : Str → Pkg) (s : Schema) (url : Option Str) (lines : List Str)
    (htop : importsAtTop env url lines)
    (hok : ∀ tops, treeOfI env url lines = .ok tops → importsOK pkgs s tops = true) :
    (load conv env pkgs s url lines []).toOption.map (·.value) =
      (treeOfI env url lines).toOption.bind (denoteI conv s pkgs) := by
  have h := load_eq_loadTops conv env pkgs s url lines htop
  have h' := congrArg (Option.map (·.1)) h
  rw [Option.map_map] at h'
  rw [show ((fun r : LoadResult => r.value) = (fun x : Val × Schema => x.1) ∘ fun r => (r.value, r.schemaAfter)) from rfl, h']
  cases ht : treeOfI env url lines with
  | error e => rfl
  | ok tops =>
    simp only [toOption_ok, Option.bind_some]
    exact loadTops_eq_denoteI conv pkgs s tops (hok tops ht) (treeOfI_low env url lines tops ht)

/-! ### well-formedness along the imports, from a text-independent hypothesis -/

theorem importsOK_of_closed (pkgs : Str → Pkg) : ∀ (tops : List TopItem) (s : Schema),
    (∀ (ps : List Str) (sc : Schema), extendBy pkgs s (ps.map .imp) = some sc → schemaOK sc = true) →
    importsOK pkgs s tops = true
  | [], s, h => by rw [importsOK]; exact h [] s rfl
  | .item _ :: r, s, h => by rw [importsOK]; exact importsOK_of_closed pkgs r s h
  | .imp p :: r, s, h => by
    rw [importsOK, Bool.and_eq_true]
    refine ⟨h [] s rfl, ?_⟩
    cases hx : extend s (pkgs p) with
    | none => rfl
    | some s1 =>
      simp only
      apply importsOK_of_closed pkgs r s1
      intro ps sc hsc
      apply h (p :: ps) sc
      rw [List.map_cons, extendBy, hx]
      exact hsc

/-! ### a text whose `%import`s all come first -/

theorem items_shape (pkgs : Str → Pkg) (s : Schema) : ∀ (its : List Item),
    extendBy pkgs s (its.map .item) = some s ∧ itemsOf (its.map .item) = its ∧
      knownAt pkgs s (its.map .item) = knownItems s its
  | [] => ⟨rfl, rfl, by rw [List.map_nil, knownAt, knownItems]⟩
  | i :: r => by
    obtain ⟨h1, h2, h3⟩ := items_shape pkgs s r
    refine ⟨?_, ?_, ?_⟩
    · rw [List.map_cons, extendBy]; exact h1
    · rw [List.map_cons, itemsOf, h2]
    · rw [List.map_cons, knownAt, knownItems, h3]

theorem first_shape (pkgs : Str → Pkg) (its : List Item) : ∀ (imps : List Str) (s : Schema),
    extendBy pkgs s (imps.map .imp ++ its.map .item) = extendBy pkgs s (imps.map .imp) ∧
      itemsOf (imps.map .imp ++ its.map .item) = its ∧
      lowTops (imps.map .imp ++ its.map .item) = lowItems its ∧
      ∀ s', extendBy pkgs s (imps.map .imp) = some s' →
        knownAt pkgs s (imps.map .imp ++ its.map .item) = knownItems s' its
  | [], s => by
    obtain ⟨h1, h2, h3⟩ := items_shape pkgs s its
    refine ⟨by rw [List.map_nil, List.nil_append, h1]; rfl, by rw [List.map_nil, List.nil_append, h2],
      by rw [List.map_nil, List.nil_append, lowTops_items], ?_⟩
    intro s' hs'
    rw [List.map_nil, extendBy] at hs'
    cases hs'
    rw [List.map_nil, List.nil_append, h3]
  | p :: r, s => by
    simp only [List.map_cons, List.cons_append, extendBy, itemsOf, knownAt, lowTops]
    cases hx : extend s (pkgs p) with
    | none =>
      refine ⟨rfl, (first_shape pkgs its r s).2.1, (first_shape pkgs its r s).2.2.1, ?_⟩
      intro s' hs'
      cases hs'
    | some s1 =>
      obtain ⟨h1, h2, h3, h4⟩ := first_shape pkgs its r s1
      exact ⟨h1, h2, h3, h4⟩

theorem denote_unknown (conv : Conv) (s : Schema) (its : List Item) (h : knownItems s its = false) :
    denote conv s its = none := by
  unfold denote
  rw [containerVal_none_of_sub conv s s.top none its _ (itemVals_unknown conv s its h)]

theorem denoteI_imports_first (conv : Conv) (pkgs : Str → Pkg) (s : Schema) (imps : List Str) (its : List Item)
    (hok : importsOK pkgs s (imps.map .imp ++ its.map .item) = true) (hl : lowItems its = true) :
    denoteI conv s pkgs (imps.map .imp ++ its.map .item) =
      (extendBy pkgs s (imps.map .imp)).bind fun s' => denote conv s' its := by
  obtain ⟨h1, h2, h3, h4⟩ := first_shape pkgs its imps s
  rw [denoteI_eq_final conv pkgs s _ hok (by rw [h3]; exact hl), h1, h2]
  cases he : extendBy pkgs s (imps.map .imp) with
  | none => rfl
  | some s' =>
    simp only [Option.bind_some]
    rw [h4 s' he]
    cases hk : knownItems s' its with
    | true => rfl
    | false => rw [denote_unknown conv s' its hk]; rfl

theorem importsOK_items (pkgs : Str → Pkg) (s : Schema) : ∀ (its : List Item), importsOK pkgs s (its.map .item) = schemaOK s
  | [] => rfl
  | i :: r => by rw [List.map_cons, importsOK]; exact importsOK_items pkgs s r

theorem denoteI_items (conv : Conv) (pkgs : Str → Pkg) (s : Schema) (its : List Item)
    (hs : schemaOK s = true) (hl : lowItems its = true) : denoteI conv s pkgs (its.map .item) = denote conv s its := by
  have hok : importsOK pkgs s (its.map .item) = true := by rw [importsOK_items]; exact hs
  have := denoteI_imports_first conv pkgs s [] its (by simpa using hok) hl
  simpa [extendBy] using this

/-! ### positions -/

theorem knownAt_pos (pkgs : Str → Pkg) : ∀ (tops : List TopItem) (s : Schema), knownAt pkgs s tops = true →
    ∀ (k : Nat) (i : Item), tops[k]? = some (.item i) → ∃ sk, schemaAt s pkgs tops k = some sk ∧ knownItem sk i = true
  | [], _, _, k, i, h => by simp at h
  | .item j :: r, s, hk, k, i, h => by
    rw [knownAt, Bool.and_eq_true] at hk
    cases k with
    | zero =>
      simp only [List.getElem?_cons_zero, Option.some.injEq, TopItem.item.injEq] at h
      subst h
      exact ⟨s, rfl, hk.1⟩
    | succ k =>
      simp only [List.getElem?_cons_succ] at h
      obtain ⟨sk, h1, h2⟩ := knownAt_pos pkgs r s hk.2 k i h
      refine ⟨sk, ?_, h2⟩
      unfold schemaAt at h1 ⊢
      rw [List.take_succ_cons, extendBy]
      exact h1
  | .imp p :: r, s, hk, k, i, h => by
    rw [knownAt] at hk
    cases hx : extend s (pkgs p) with
    | none => rw [hx] at hk; cases hk
    | some s1 =>
      rw [hx] at hk
      cases k with
      | zero => simp at h
      | succ k =>
        simp only [List.getElem?_cons_succ] at h
        obtain ⟨sk, h1, h2⟩ := knownAt_pos pkgs r s1 hk k i h
        refine ⟨sk, ?_, h2⟩
        unfold schemaAt at h1 ⊢
        rw [List.take_succ_cons, extendBy, hx]
        exact h1

end ZCV.Conf
