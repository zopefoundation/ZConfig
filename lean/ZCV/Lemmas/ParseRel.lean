import ZCV.Lemmas.Include
/-!
Two runs of the parser, compared.  The parser does three things with an operation of its context: it calls it, rewrites its
failure by a function of the position (`startErr`, `closeErr`, `valueErr`, through `Except.mapError`) and stores the new state; so
whatever relates the results of the operations of two contexts relates the two runs (`run_lineRel`, `parse_lineRel`).
`RelM R D X` says how two results are related: both accept, with values related by `R`; both refuse (with the same failure, if
`X`); or the first refuses and the second goes on in a state of `D`, a "dead" state from which it goes on alone, never to be
compared again.  `LineRel c₁ c₂ L R D X Q` asks this of the four operations, each on the lines of the class `L` that call it; `R` is
indexed by the sections open at that moment, innermost first, those of the including resources last; `Q`: both runs hand the same
positions to `addValue` (otherwise they may number their lines differently, and read the resource under two names that `resolve`
does not tell apart on its `%include` lines: `SameBase`).  The instances are of three kinds: two contexts up to
acceptance (`X = False`, `Q = True`, dead states where the first refuses what the second takes), one context from related states
under other line numbers (`X = Q = False`), one context with the same failures (`X = Q = True`).  The last section is the first
kind for any context against the recorder of its calls: a text is accepted for a context exactly when it is accepted for the
recorder and the context accepts the recorded calls (`parse_replay`).
-/
namespace ZCV.Cfg
open ZCV

/-! ### related results -/

def RelM {α β : Type} (R : α → β → Prop) (D : β → Prop) (X : Prop) : M α → M β → Prop
  | .ok a, .ok b => R a b
  | .error e, .error f => X → e = f
  | .error _, .ok b => D b
  | .ok _, .error _ => False

namespace RelM
variable {α β α' β' : Type} {R : α → β → Prop} {D : β → Prop} {R' : α' → β' → Prop} {D' : β' → Prop} {X : Prop}
  {x : M α} {y : M β}

theorem refused {e f : Fail} (h : X → e = f) : RelM R D X (.error e : M α) (.error f : M β) := h

theorem bind {f : α → M α'} {g : β → M β'} (h : RelM R D X x y) (hf : ∀ a b, R a b → RelM R' D' X (f a) (g b))
    (hd : ∀ e b, D b → RelM R' D' X (.error e) (g b)) : RelM R' D' X (x >>= f) (y >>= g) := by
  cases x <;> cases y
  · exact h
  · exact hd _ _ h
  · exact h.elim
  · exact hf _ _ h

theorem map {f : α → α'} {g : β → β'} (h : RelM R D X x y) (hf : ∀ a b, R a b → R' (f a) (g b))
    (hd : ∀ b, D b → D' (g b)) : RelM R' D' X (x.map f) (y.map g) := by
  cases x <;> cases y
  · exact h
  · exact hd _ h
  · exact h.elim
  · exact hf _ _ h

/-- without dead states both runs accept or both refuse: what is read off the two results agrees -/
theorem toOption_bind {γ : Type} {f : α → Option γ} {g : β → Option γ} (h : RelM R (fun _ => False) X x y)
    (hfg : ∀ a b, x = .ok a → y = .ok b → R a b → f a = g b) : x.toOption.bind f = y.toOption.bind g := by
  cases x <;> cases y
  · rfl
  · exact h.elim
  · exact h.elim
  · exact hfg _ _ rfl rfl h

theorem mapError {f g : Fail → Fail} (h : RelM R D X x y) (hfg : X → f = g) :
    RelM R D X (x.mapError f) (y.mapError g) := by
  cases x <;> cases y
  · exact fun hx => by rw [h hx, hfg hx]
  · exact h
  · exact h.elim
  · exact h

/-- both sides start with the same computation, up to what `X` compares -/
theorem bind_same {γ : Type} {u v : M γ} {f : γ → M α'} {g : γ → M β'} (h : RelM Eq (fun _ => False) X u v)
    (hf : ∀ a, RelM R' D' X (f a) (g a)) : RelM R' D' X (u >>= f) (v >>= g) :=
  h.bind (fun a _ hab => hab ▸ hf a) fun _ _ hd => hd.elim

theorem of_indep {γ : Type} {u v : M γ} (h : u.toOption = v.toOption) (hX : X → u = v) : RelM Eq (fun _ => False) X u v := by
  cases u <;> cases v
  · exact fun hx => Except.error.inj (hX hx)
  · cases h
  · cases h
  · exact Option.some.inj h

/-- the first run has refused, the second goes on from a dead state -/
theorem of_dead {e : Fail} (hX : ¬ X) (h : ∀ b, y = .ok b → D b) : RelM R D X (.error e : M α) y := by
  cases y
  · exact fun hx => absurd hx hX
  · exact h _ rfl

end RelM

/-! ### the hypotheses, and the relation on parser states -/

abbrev Frames := List (Str × Option Str)

/-- what is asked of the operations of two contexts, on the lines of `L` that call them.  `X`: refusals are compared too; `Q`: the
    two runs hand the same position to `value`; `D`: the states in which the second run goes on alone.  In use are
    `X = False`, `Q = True` (two contexts up to acceptance); `X = Q = False` and `X = Q = True` (one context against itself, where
    no state is dead: `D = fun _ => False`, `LineInv.of_false`). -/
structure LineRel {σ₁ σ₂ : Type} (c₁ : PCtx σ₁) (c₂ : PCtx σ₂) (L : Str → Prop) (R : Frames → σ₁ → σ₂ → Prop)
    (D : σ₂ → Prop) (X Q : Prop) : Prop where
  canInc : c₁.canInclude = c₂.canInclude
  canDef : c₁.canDefine = c₂.canDefine
  start : ∀ {l ty nm e F a b}, L l → lineShape (strip l) = .open_ ty nm e → R F a b →
    RelM (R ((ty, nm) :: F)) D X (c₁.start a ty nm) (c₂.start b ty nm)
  stop : ∀ {l ty nm F a b}, L l → (lineShape (strip l) = .close ty ∨ lineShape (strip l) = .open_ ty nm true) →
    R ((ty, nm) :: F) a b → RelM (R F) D X (c₁.stop a ty nm) (c₂.stop b ty nm)
  value : ∀ {l k raw v p₁ p₂ F a b}, L l → lineShape (strip l) = .kv k raw → (Q → p₁ = p₂) → R F a b →
    RelM (R F) D X (c₁.value a k v p₁) (c₂.value b k v p₂)
  imp : ∀ {l arg pkg F a b}, L l → lineShape (strip l) = .import_ arg → R F a b →
    RelM (R F) D X (c₁.imp a pkg) (c₂.imp b pkg)
  /-- a dead state stays dead, and nothing is compared once there is one -/
  dead : LineInv c₂ L fun _ b => D b
  deadX : ∀ b, D b → ¬ X

def PRel {σ₁ σ₂ : Type} (R : Frames → σ₁ → σ₂ → Prop) (S : Frames) (a : PS σ₁) (b : PS σ₂) : Prop :=
  a.stack = b.stack ∧ a.defs = b.defs ∧ R (a.stack ++ S) a.ctx b.ctx

def PDead {σ₂ : Type} (D : σ₂ → Prop) (b : PS σ₂) : Prop := D b.ctx

/-! ### one line, a prefix of a resource, a resource -/

section rel
variable {σ₁ σ₂ : Type} {c₁ : PCtx σ₁} {c₂ : PCtx σ₂} {L : Str → Prop} {R : Frames → σ₁ → σ₂ → Prop} {D : σ₂ → Prop}
  {X Q : Prop}

/-- the resource is read under two names that `resolve` does not tell apart on its `%include` lines -/
def SameBase (env : Env) (url url' : Option Str) (X Q : Prop) (lines : List Str) : Prop :=
  (X ∨ Q → url = url') ∧ ∀ l ∈ lines, ∀ arg, lineShape (strip l) = .include_ arg → ∀ a, env.resolve url a = env.resolve url' a

theorem SameBase.rfl' {env : Env} {url : Option Str} {lines : List Str} : SameBase env url url X Q lines :=
  ⟨fun _ => rfl, fun _ _ _ _ _ => rfl⟩

/-- one line; the `%include` arm needs the statement for the included resource, with less fuel -/
theorem stepLine_lineRel (hC : LineRel c₁ c₂ L R D X Q) (env : Env)
    (hres : ∀ l a u ls, L l → lineShape (strip l) = .include_ a → env.res u = some ls → ∀ l' ∈ ls, L l') (fuel : Nat)
    (ih : ∀ f, fuel = f + 1 → ∀ (active : List Str) (url : Option Str) (lines : List Str) (st₁ : PS σ₁) (st₂ : PS σ₂)
      (S : Frames), (∀ l ∈ lines, L l) → PRel R S st₁ st₂ →
      RelM (fun a b => PRel R S a b ∧ a.stack = []) (PDead D) X
        (parseLines f env c₁ active url lines 0 st₁) (parseLines f env c₂ active url lines 0 st₂))
    (active : List Str) (url url' : Option Str) (n₁ n₂ : Nat) (hn : X ∨ Q → n₁ = n₂) (l : Str) (hl : L l)
    (hu : SameBase env url url' X Q [l])
    (st₁ : PS σ₁) (st₂ : PS σ₂) (S : Frames) (h : PRel R S st₁ st₂) :
    RelM (PRel R S) (PDead D) X (stepLine fuel env c₁ active url n₁ (strip l) st₁)
      (stepLine fuel env c₂ active url' n₂ (strip l) st₂) := by
  obtain ⟨hstk, hdefs, hR⟩ := h
  have hX : ∀ {γ : Type} (f : Option Str → Nat → γ), X → f url n₁ = f url' n₂ := fun f hx => by rw [hn (.inl hx), hu.1 (.inl hx)]
  have rep : ∀ t, RelM Eq (fun _ => False) X (replace env st₁.defs url n₁ t) (replace env st₂.defs url' n₂ t) :=
    fun t => hdefs ▸ .of_indep (replace_indep ..) (hX fun u n => replace env st₁.defs u n t)
  -- the second context goes on alone from a dead state
  have stopD : ∀ {e : Fail} {b ty nm n} {g : σ₂ → PS σ₂}, D b → (∀ b', (g b').ctx = b') →
      RelM (PRel R S) (PDead D) X (.error e) (((c₂.stop b ty nm).mapError (closeErr url' n)).map g) := by
    intro e b ty nm n g hb hg
    refine .of_dead (hC.deadX b hb) fun b' hb' => ?_
    obtain ⟨b2, h2, rfl⟩ := map_ok_inv hb'
    cases hs : c₂.stop b ty nm with
    | error f => rw [hs] at h2; cases h2
    | ok b3 =>
      rw [hs] at h2
      obtain rfl : b3 = b2 := Except.ok.inj h2
      show D (g b3).ctx
      rw [hg]
      exact hC.dead.stop (F := []) hb hs
  cases hs : lineShape (strip l) with
  | skip => rw [stepLine_of_skip hs, stepLine_of_skip hs]; exact ⟨hstk, hdefs, hR⟩
  | bad t => rw [stepLine_of_bad hs, stepLine_of_bad hs]; exact .refused (hX fun u n => synErr u n t)
  | internal t => exact absurd hs (lineShape_no_internal _ t)
  | close ty =>
    rw [stepLine_of_close hs, stepLine_of_close hs, closeSection_eq, closeSection_eq, ← hstk]
    cases hst : st₁.stack with
    | nil => exact .refused (hX fun u n => synErr u n "unexpected section end")
    | cons p T =>
      obtain ⟨ot, nm⟩ := p
      dsimp only
      split
      · exact .refused (hX fun u n => synErr u n "unbalanced section end")
      · rename_i hne
        cases (by simpa using hne : ty = ot)
        rw [hst] at hR
        exact ((hC.stop hl (.inl hs) hR).mapError (hX closeErr)).map (fun a b hab => ⟨rfl, hdefs, hab⟩) fun _ hb => hb
  | open_ ty nm e =>
    rw [stepLine_of_open hs, stepLine_of_open hs, openSection_eq, openSection_eq]
    refine ((hC.start hl hs hR).mapError (hX startErr)).bind (fun a b hab => ?_) fun e' b hb => ?_
    · cases e
      · exact ⟨by simp only [hstk], hdefs, hab⟩
      · exact ((hC.stop hl (.inr hs) hab).mapError (hX closeErr)).map (fun a' b' hab' => ⟨hstk, hdefs, hab'⟩)
          fun _ hb => hb
    · cases e
      · exact hb
      · exact stopD hb fun _ => rfl
  | kv k raw =>
    rw [stepLine_of_kv hs, stepLine_of_kv hs]
    refine (rep raw).bind_same fun v => ?_
    rw [kvCore_eq, kvCore_eq]
    exact ((hC.value hl hs (fun hq => by rw [hn (.inr hq), hu.1 (.inr hq)]) hR).mapError (hX valueErr)).map
      (fun a b hab => ⟨hstk, hdefs, hab⟩) fun _ hb => hb
  | define a =>
    rw [stepLine_define _ _ _ _ _ _ _ _ _ hs, stepLine_define _ _ _ _ _ _ _ _ _ hs]
    unfold defStep
    rw [← hC.canDef, ← hdefs]
    split
    · exact fun _ => rfl
    · exact (RelM.of_indep (define_indep ..) (hX fun u n => define env u n a st₁.defs)).map
        (fun d d' hd => hd ▸ ⟨hstk, rfl, hR⟩) fun _ hb => hb.elim
  | import_ a =>
    rw [stepLine_import _ _ _ _ _ _ _ _ _ hs, stepLine_import _ _ _ _ _ _ _ _ _ hs]
    unfold impStep
    exact (rep _).bind_same fun pkg => (hC.imp hl hs hR).map (fun a b hab => ⟨hstk, hdefs, hab⟩) fun _ hb => hb
  | include_ a =>
    rw [incgen_stepLine_include _ _ _ _ _ _ _ _ _ hs, incgen_stepLine_include _ _ _ _ _ _ _ _ _ hs,
      ← incgenTarget_ctx env c₁ c₂ hC.canInc, ← hdefs]
    refine RelM.bind (R := fun p q => p = q ∧ env.res p.1 = some p.2) (D := fun _ => False) ?_ ?_ fun _ _ hd => hd.elim
    · have := RelM.of_indep (X := X)
        (incgen_target_indep env c₁ url url' n₁ n₂ a st₁.defs (hu.2 l List.mem_cons_self a hs))
        (hX fun u n => incgenTarget env c₁ u n a st₁.defs)
      cases h1 : incgenTarget env c₁ url n₁ a st₁.defs <;>
        cases h2 : incgenTarget env c₁ url' n₂ a st₁.defs <;> rw [h1, h2] at this
      · exact this
      · exact this
      · exact this
      · obtain ⟨_, _, _, _, hp⟩ := incgen_target_ok_inv _ _ _ _ _ _ _ h1
        exact ⟨this, hp⟩
    · rintro p _ ⟨rfl, hp⟩
      unfold incgenEnter
      split
      · exact fun _ => rfl
      · cases fuel with
        | zero => exact fun _ => rfl
        | succ f =>
          refine (ih f rfl _ (some p.1) _ (subState st₁) (subState st₂) (st₁.stack ++ S) (hres _ _ _ _ hl hs hp)
            ⟨rfl, hdefs, by simpa [subState] using hR⟩).bind ?_ ?_
          · rintro sa sb ⟨⟨_, hd', hR'⟩, hnil⟩
            rw [hnil] at hR'
            exact ⟨hstk, hd', by simpa using hR'⟩
          · intro e b hb
            exact hb

/-- the statement about a whole resource, at a given fuel -/
def ParseRelAt (c₁ : PCtx σ₁) (c₂ : PCtx σ₂) (L : Str → Prop) (R : Frames → σ₁ → σ₂ → Prop) (D : σ₂ → Prop) (X Q : Prop)
    (env : Env) (fuel : Nat) : Prop :=
  ∀ (active : List Str) (url url' : Option Str) (lines : List Str) (n₁ n₂ : Nat) (st₁ : PS σ₁) (st₂ : PS σ₂) (S : Frames),
    (X ∨ Q → n₁ = n₂) → SameBase env url url' X Q lines → (∀ l ∈ lines, L l) → PRel R S st₁ st₂ →
    RelM (fun a b => PRel R S a b ∧ a.stack = []) (PDead D) X
      (parseLines fuel env c₁ active url lines n₁ st₁) (parseLines fuel env c₂ active url' lines n₂ st₂)

/-- a prefix of a resource, given the statement for the resources it includes, which are read with less fuel -/
theorem run_lineRel_of (hC : LineRel c₁ c₂ L R D X Q) (env : Env)
    (hres : ∀ l a u ls, L l → lineShape (strip l) = .include_ a → env.res u = some ls → ∀ l' ∈ ls, L l')
    (fuel : Nat) (ih : ∀ f < fuel, ParseRelAt c₁ c₂ L R D X Q env f) (active : List Str) (url url' : Option Str) :
    ∀ (lines : List Str) (n₁ n₂ : Nat) (st₁ : PS σ₁) (st₂ : PS σ₂) (S : Frames),
      (X ∨ Q → n₁ = n₂) → SameBase env url url' X Q lines → (∀ l ∈ lines, L l) → PRel R S st₁ st₂ →
      RelM (PRel R S) (PDead D) X (runLines fuel env c₁ active url lines n₁ st₁)
        (runLines fuel env c₂ active url' lines n₂ st₂) := by
  intro lines
  induction lines with
  | nil => intro n₁ n₂ st₁ st₂ S _ _ _ h; exact h
  | cons l rest ihl =>
    intro n₁ n₂ st₁ st₂ S hn hu hl h
    have hrest := fun x hx => hl x (List.mem_cons_of_mem _ hx)
    have hn' : X ∨ Q → n₁ + 1 = n₂ + 1 := fun hxq => by rw [hn hxq]
    refine (stepLine_lineRel hC env hres fuel
      (fun f hf a u ls s₁ s₂ S' => ih f (by omega) a u u ls 0 0 s₁ s₂ S' (fun _ => rfl) .rfl')
      active url url' _ _ hn' l (hl l List.mem_cons_self) ⟨hu.1, fun x hx => hu.2 x (by cases List.mem_singleton.1 hx; exact List.mem_cons_self)⟩
      st₁ st₂ S h).bind
      (fun a b hab => ihl _ _ a b S hn' ⟨hu.1, fun x hx => hu.2 x (List.mem_cons_of_mem _ hx)⟩ hrest hab) ?_
    intro e b hb
    exact .of_dead (hC.deadX _ hb) fun b' hb' => run_lineInv hC.dead env hres fuel active url' rest _ b b' [] hrest hb hb'

theorem parse_lineRel (hC : LineRel c₁ c₂ L R D X Q) (env : Env)
    (hres : ∀ l a u ls, L l → lineShape (strip l) = .include_ a → env.res u = some ls → ∀ l' ∈ ls, L l') :
    ∀ fuel, ParseRelAt c₁ c₂ L R D X Q env fuel := by
  intro fuel
  induction fuel using Nat.strongRecOn with
  | _ fuel ihf =>
    intro active url url' lines n₁ n₂ st₁ st₂ S hn hu hl h
    rw [parseLines_eq_run, parseLines_eq_run]
    refine (run_lineRel_of hC env hres fuel ihf active url url' lines n₁ n₂ st₁ st₂ S hn hu hl h).bind (fun a b hab => ?_) ?_
    · unfold finish
      rw [← hab.1]
      split
      · exact .refused fun hx => by rw [hn (.inl hx), hu.1 (.inl hx)]
      · rename_i hne
        exact ⟨hab, by simpa using hne⟩
    · intro e b hb
      refine .of_dead (hC.deadX _ hb) fun b' hb' => ?_
      rw [(finish_inv hb').1]
      exact hb

theorem run_lineRel (hC : LineRel c₁ c₂ L R D X Q) (env : Env)
    (hres : ∀ l a u ls, L l → lineShape (strip l) = .include_ a → env.res u = some ls → ∀ l' ∈ ls, L l')
    (fuel : Nat) (active : List Str) (url url' : Option Str) (lines : List Str) (n₁ n₂ : Nat) (st₁ : PS σ₁) (st₂ : PS σ₂)
    (S : Frames) (hn : X ∨ Q → n₁ = n₂) (hu : SameBase env url url' X Q lines) (hl : ∀ l ∈ lines, L l) (h : PRel R S st₁ st₂) :
    RelM (PRel R S) (PDead D) X (runLines fuel env c₁ active url lines n₁ st₁)
      (runLines fuel env c₂ active url' lines n₂ st₂) :=
  run_lineRel_of hC env hres fuel (fun f _ => parse_lineRel hC env hres f) active url url' lines n₁ n₂ st₁ st₂ S hn hu hl h

end rel

/-! ### any context against the recorder of its calls

What the parser makes a context do is the list of calls it makes: the parser accepts a text for a context exactly when it accepts
it for the recorder and the context accepts the recorded calls, one after the other.  A statement that compares what two
contexts are made to do by the same text is then a statement about lists of calls. -/

inductive Call
  | start (ty : Str) (nm : Option Str)
  | stop (ty : Str) (nm : Option Str)
  | value (key value : Str) (pos : Pos)
  | imp (pkg : Str)

/-- the context that records the calls and refuses none -/
def recP : PCtx (List Call) :=
  { start := fun s t n => .ok (s ++ [.start t n]), stop := fun s t n => .ok (s ++ [.stop t n]),
    value := fun s k v p => .ok (s ++ [.value k v p]), imp := fun s p => .ok (s ++ [.imp p]),
    canInclude := true, canDefine := true }

def PCtx.call {σ} (c : PCtx σ) (a : σ) : Call → M σ
  | .start ty nm => c.start a ty nm
  | .stop ty nm => c.stop a ty nm
  | .value k v p => c.value a k v p
  | .imp pkg => c.imp a pkg

def PCtx.replay {σ} (c : PCtx σ) (a : σ) (calls : List Call) : M σ := calls.foldlM c.call a

theorem PCtx.replay_append {σ} (c : PCtx σ) (a : σ) (xs ys : List Call) :
    c.replay a (xs ++ ys) = c.replay a xs >>= fun b => c.replay b ys := by
  unfold PCtx.replay
  rw [List.foldlM_append]

theorem PCtx.replay_cons {σ} (c : PCtx σ) (a : σ) (x : Call) (ys : List Call) :
    c.replay a (x :: ys) = c.call a x >>= fun b => c.replay b ys := by
  unfold PCtx.replay
  rw [List.foldlM_cons]

theorem PCtx.replay_one {σ} (c : PCtx σ) (a : σ) (x : Call) : c.replay a [x] = c.call a x := by
  rw [c.replay_cons]
  cases c.call a x <;> rfl

section replay
variable {σ : Type} (c : PCtx σ) (a₀ : σ)

/-- the calls recorded so far bring the context from `a₀` to `a` -/
def Replays (a : σ) (calls : List Call) : Prop := c.replay a₀ calls = .ok a
/-- … or are refused by it -/
def Refused (calls : List Call) : Prop := ∃ e, c.replay a₀ calls = .error e

theorem replays_call {a : σ} {calls : List Call} (x : Call) (h : Replays c a₀ a calls) :
    RelM (Replays c a₀) (Refused c a₀) False (c.call a x) (.ok (calls ++ [x])) := by
  have := c.replay_append a₀ calls [x]
  rw [h, ok_bind, c.replay_one] at this
  cases hx : c.call a x with
  | ok b => exact this.trans hx
  | error e => exact ⟨e, this.trans hx⟩

theorem refused_call {calls : List Call} (x : Call) (h : Refused c a₀ calls) : Refused c a₀ (calls ++ [x]) := by
  obtain ⟨e, he⟩ := h
  exact ⟨e, by rw [c.replay_append, he]; rfl⟩

theorem replay_lineRel (hi : c.canInclude = true) (hd : c.canDefine = true) :
    LineRel c recP (fun _ => True) (fun _ => Replays c a₀) (Refused c a₀) False True where
  canInc := hi
  canDef := hd
  start _ _ h := replays_call c a₀ (.start _ _) h
  stop _ _ h := replays_call c a₀ (.stop _ _) h
  value _ _ hp h := hp trivial ▸ replays_call c a₀ (.value _ _ _) h
  imp _ _ h := replays_call c a₀ (.imp _) h
  dead := ⟨fun _ _ hj h => by cases h; exact refused_call c a₀ _ hj, fun hj h => by cases h; exact refused_call c a₀ _ hj,
    fun hj h => by cases h; exact refused_call c a₀ _ hj, fun _ _ hj h => by cases h; exact refused_call c a₀ _ hj⟩
  deadX _ _ := id

/-- **what a context is made to do by a text is the recorded calls, replayed**: accepted for `c` ⇔ accepted for the recorder
    and the calls accepted by `c`; then the same definitions, and the state the calls lead to -/
theorem parse_replay (hi : c.canInclude = true) (hd : c.canDefine = true) (env : Env) (fuel : Nat) (active : List Str)
    (url : Option Str) (lines : List Str) (n : Nat) (stack : List (Str × Option Str)) (defs : List (Str × Str)) :
    (parseLines fuel env c active url lines n { ctx := a₀, stack := stack, defs := defs }).toOption.map (fun p => (p.ctx, p.defs)) =
      (parseLines fuel env recP active url lines n { ctx := [], stack := stack, defs := defs }).toOption.bind fun r =>
        (c.replay a₀ r.ctx).toOption.map fun a => (a, r.defs) := by
  have h := parse_lineRel (replay_lineRel c a₀ hi hd) env (fun _ _ _ _ _ _ _ _ _ => trivial) fuel active url url lines n n
    { ctx := a₀, stack := stack, defs := defs } { ctx := [], stack := stack, defs := defs } [] (fun _ => rfl) .rfl'
    (fun _ _ => trivial) ⟨rfl, rfl, rfl⟩
  cases h1 : parseLines fuel env c active url lines n { ctx := a₀, stack := stack, defs := defs } <;>
    cases h2 : parseLines fuel env recP active url lines n { ctx := [], stack := stack, defs := defs } <;> rw [h1, h2] at h
  · rfl
  · obtain ⟨e, he⟩ := h
    simp only [toOption_error, toOption_ok, Option.map_none, Option.bind_some, he]
  · exact h.elim
  · obtain ⟨⟨_, hdefs, hr⟩, _⟩ := h
    have hr : c.replay a₀ _ = _ := hr
    simp only [toOption_ok, Option.map_some, Option.bind_some, hr, hdefs]

end replay

end ZCV.Cfg
