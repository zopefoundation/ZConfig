import ZCV.Lemmas.Regex
import ZCV.Lemmas.Chars
import ZCV.Lemmas.LineView
import ZCV.Spec.Grammar
import ZCV.Lemmas.Lists
import ZCV.Lemmas.RoundtripDefs
/-! The two generated cfgparser patterns and the dispatch of `parse` against `ZCV.Grammar`.  First, what a result of
`Grammar.keyValue` / `Grammar.header` says of its parts (`keyValue_inv`, `header_inv`, in the round trip's `wordTok`). -/

/-! ### `Grammar.keyValue` and `Grammar.header` read backwards -/
namespace ZCV.Roundtrip
open ZCV ZCV.Cfg ZCV.Rx

theorem wordTok_ne {s : Str} (h : wordTok s = true) : s ≠ [] := by
  unfold wordTok at h
  intro e; subst e; simp at h

theorem wordTok_takeWhile (s : Str) (h : s.takeWhile Grammar.isWord ≠ []) : wordTok (s.takeWhile Grammar.isWord) = true := by
  unfold wordTok
  rw [Bool.and_eq_true, List.all_eq_true]
  refine ⟨?_, fun _ hc => mem_takeWhile_imp hc⟩
  cases hs : s.takeWhile Grammar.isWord with
  | nil => exact absurd hs h
  | cons _ _ => rfl

theorem keyValue_inv {s k : Str} {v? : Option Str} (h : Grammar.keyValue s = some (k, v?)) :
    wordTok k = true ∧ k <+: s ∧
      ∀ v, v? = some v → v ≠ [] ∧ v <:+ s ∧ ∀ c, v.head? = some c → pySpace c = false := by
  unfold Grammar.keyValue at h
  dsimp only at h
  split at h
  · cases h
  · rename_i hk
    split at h <;> cases h
    · exact ⟨wordTok_takeWhile s hk, List.takeWhile_prefix _, fun v hv => by cases hv⟩
    · rename_i hr
      refine ⟨wordTok_takeWhile s hk, List.takeWhile_prefix _, fun v hv => ?_⟩
      cases hv
      refine ⟨hr, (List.dropWhile_suffix _).trans (List.dropWhile_suffix _), fun c hc => ?_⟩
      cases hd : (s.dropWhile Grammar.isWord).dropWhile pySpace with
      | nil => exact absurd hd hr
      | cons x xs =>
        rw [hd] at hc
        cases hc
        exact dropWhile_head_not _ _ _ _ hd

theorem header_inv {s ty : Str} {nm : Option Str} (h : Grammar.header s = some (ty, nm)) :
    wordTok ty = true ∧ ty <+: s ∧ ∀ n, nm = some n → wordTok n = true := by
  unfold Grammar.header at h
  dsimp only at h
  have hpre : s.takeWhile Grammar.isWord <+: s := List.takeWhile_prefix _
  by_cases h1 : s.takeWhile Grammar.isWord = []
  · rw [if_pos h1] at h; cases h
  rw [if_neg h1] at h
  by_cases h2 : s.dropWhile Grammar.isWord = []
  · rw [if_pos h2] at h
    cases h
    exact ⟨wordTok_takeWhile s h1, hpre, fun n hn => by cases hn⟩
  rw [if_neg h2] at h
  split at h
  · cases h
  by_cases h3 : ((s.dropWhile Grammar.isWord).dropWhile pySpace).takeWhile Grammar.isWord = []
  · rw [if_pos h3] at h; cases h
  rw [if_neg h3] at h
  split at h
  · cases h
    exact ⟨wordTok_takeWhile s h1, hpre, fun n hn => by cases hn; exact wordTok_takeWhile _ h3⟩
  · cases h

end ZCV.Roundtrip

namespace ZCV.Cfg
open ZCV ZCV.Rx

/-- the model's classification in the spec's vocabulary -/
def toSpec : LineShape → Grammar.Shape
  | .skip => .skip
  | .open_ ty nm e => .open_ ty nm e
  | .close ty => .close ty
  | .define a => .define a
  | .import_ a => .import_ a
  | .include_ a => .include_ a
  | .kv k v => .kv k v
  | .bad _ => .bad
  | .internal _ => .bad

/-! ### the classes and the shape of the two generated terms -/

def keyCls : Cls := ⟨true, [.range 40 41, .space]⟩
def spCls : Cls := ⟨false, [.space]⟩
def nspCls : Cls := ⟨true, [.space]⟩
/-- `(?P<i>[^\s()]+)` -/
def wordGrp (i : Nat) : RE := .cap i (.seq (.cls keyCls) (.star (.cls keyCls)))
/-- `\s*(?P<value>[^\s].*)?$` -/
def kvTail : RE := .seq (.star (.cls spCls)) (.seq (.opt (.cap 2 (.seq (.cls nspCls) (.star .any)))) .eol)
/-- `(?:\s+(?P<name>[^\s()]+))?$` -/
def hdrTail : RE := .seq (.opt (.seq (.seq (.cls spCls) (.star (.cls spCls))) (wordGrp 2))) .eol

/-! the two obligations an edit of the patterns breaks -/

theorem keyvalueRx_shape : Gen.keyvalueRx = .seq (wordGrp 1) kvTail := rfl
theorem sectionStartRx_shape : Gen.sectionStartRx = .seq (wordGrp 1) hdrTail := rfl

theorem spCls_test (c : Char) : spCls.test c = pySpace c := by
  simp [spCls, Cls.test, Item.test]
theorem nspCls_test (c : Char) : nspCls.test c = !pySpace c := by
  simp [nspCls, Cls.test, Item.test]
theorem keyCls_test (c : Char) : keyCls.test c = Grammar.isWord c := by
  cases hsp : pySpace c
  · simp only [keyCls, Grammar.isWord, Cls.test, Item.test, List.any_cons, List.any_nil, hsp, cne,
      Char.reduceToNat]
    generalize c.toNat = n
    rw [Bool.eq_iff_iff]
    simp
    omega
  · simp [keyCls, Grammar.isWord, Cls.test, Item.test, hsp]

theorem pySpace_nl : pySpace '\n' = true := by decide

theorem isWord_not_space {c : Char} (h : Grammar.isWord c = true) : pySpace c = false := by
  unfold Grammar.isWord at h
  cases hsp : pySpace c <;> simp_all

theorem not_space_ne_nl {c : Char} (h : pySpace c = false) : c ≠ '\n' := by
  intro e; subst e; rw [pySpace_nl] at h; cases h

theorem eol_nonl (w f : Nat) (s : Str) (cs : Caps) (hn : '\n' ∉ s) :
    m w .eol f (s, cs) = if s = [] then [(s, cs)] else [] := by
  cases s with
  | nil => simp [m]
  | cons c t =>
    have : ¬ (c = '\n' ∧ t = []) := by
      rintro ⟨rfl, _⟩; exact hn (List.mem_cons_self)
    simp [m, this]

/-! ### `_keyvalue_rx` -/

theorem kvTail_head (w f : Nat) (r1 : Str) (cs : Caps) (hf : r1.length ≤ f) (hn : '\n' ∉ r1) :
    (m w kvTail f (r1, cs)).head? =
      some ([], if r1.dropWhile pySpace = [] then cs else (2, r1.dropWhile pySpace) :: cs) := by
  unfold kvTail
  simp only [m]
  have h1 := star_cls_head w spCls cs f r1 hf
  rw [dropWhile_congr spCls_test] at h1
  refine head_flatMap h1 ?_
  generalize hr2 : r1.dropWhile pySpace = r2
  have hlen : r2.length ≤ f := by
    rw [← hr2]; exact Nat.le_trans (length_dropWhile_le _ _) hf
  cases r2 with
  | nil => simp [m]
  | cons x xs =>
    have hx : pySpace x = false := dropWhile_head_not _ _ _ _ hr2
    have hnx : '\n' ∉ xs := by
      intro h; apply hn; apply mem_of_dropWhile (p := pySpace); rw [hr2]; exact List.mem_cons_of_mem _ h
    have hstar := star_any_head w cs f xs (by simp at hlen; omega) hnx
    simp only [m]
    refine head_flatMap (x := ([], (2, x :: xs) :: cs)) ?_ (by simp [m])
    apply head_append
    simp only [nspCls_test, hx, Bool.not_false, ↓reduceIte, List.flatMap_cons, List.flatMap_nil,
      List.append_nil, List.head?_map]
    rw [hstar]; simp

theorem kvMatch_eq_keyValue (s : Str) (hn : '\n' ∉ s) : kvMatch s = Grammar.keyValue s := by
  unfold kvMatch Grammar.keyValue pyMatch
  rw [keyvalueRx_shape, m]
  have hkey := capplus_head s.length 1 keyCls [] s.length s (Nat.le_refl _)
  unfold wordGrp
  rw [takeWhile_congr keyCls_test, dropWhile_congr keyCls_test] at hkey
  by_cases hk : s.takeWhile Grammar.isWord = []
  · rw [if_pos hk, List.head?_eq_none_iff] at hkey
    simp [hkey, hk]
  · rw [if_neg hk] at hkey
    have hn1 : '\n' ∉ s.dropWhile Grammar.isWord := fun h => hn (mem_of_dropWhile h)
    have htail := kvTail_head s.length s.length (s.dropWhile Grammar.isWord)
      [(1, s.takeWhile Grammar.isWord)] (length_dropWhile_le _ _) hn1
    rw [head_flatMap hkey htail]
    simp only [hk, ↓reduceIte, Option.map_some]
    by_cases hr : List.dropWhile pySpace (List.dropWhile Grammar.isWord s) = []
    · simp [hr, group, Gen.keyvalueRx_key, Gen.keyvalueRx_value]
    · simp [hr, group, Gen.keyvalueRx_key, Gen.keyvalueRx_value]

/-! ### `_section_start_rx` -/

theorem eol_word (w f : Nat) (c : Char) (t : Str) (cs : Caps) (hc : keyCls.test c = true) :
    m w .eol f (c :: t, cs) = [] := by
  rw [keyCls_test] at hc
  have := not_space_ne_nl (isWord_not_space hc)
  simp [m, this]

/-- `(?P<i>[^\s()]+)$` from `r` -/
theorem word_eol (w i f : Nat) (r : Str) (cs : Caps) (hf : r.length ≤ f) (hn : '\n' ∉ r) :
    (m w (wordGrp i) f (r, cs)).flatMap (m w .eol f) =
      if r.takeWhile Grammar.isWord = [] then []
      else if r.dropWhile Grammar.isWord = [] then [([], (i, r.takeWhile Grammar.isWord) :: cs)]
      else [] := by
  unfold wordGrp
  rw [capplus_flatMap w i keyCls cs f r hf (m w .eol f) (fun c t cs' hc _ => eol_word w f c t cs' hc),
    takeWhile_congr keyCls_test, dropWhile_congr keyCls_test,
    eol_nonl _ _ _ _ (fun h => hn (mem_of_dropWhile h))]
  by_cases h1 : r.takeWhile Grammar.isWord = []
  · simp [h1]
  · by_cases h2 : r.dropWhile Grammar.isWord = []
    · simp [h1, h2]
    · simp [h1, h2]

/-- everything `(?:\s+(?P<name>[^\s()]+))?$` can do from `r` -/
theorem hdrTail_all (w f : Nat) (r : Str) (cs : Caps) (hf : r.length ≤ f) (hn : '\n' ∉ r) :
    m w hdrTail f (r, cs) =
      if r = [] then [([], cs)]
      else if r.takeWhile pySpace = [] then []
      else
        let r2 := r.dropWhile pySpace
        if r2.takeWhile Grammar.isWord = [] then []
        else if r2.dropWhile Grammar.isWord = [] then [([], (2, r2.takeWhile Grammar.isWord) :: cs)]
        else [] := by
  cases r with
  | nil => simp [hdrTail, m]
  | cons x xs =>
    have hE : m w .eol f (x :: xs, cs) = [] := by rw [eol_nonl _ _ _ _ hn]; simp
    have hg : ∀ c t, spCls.test c = true → (c :: t).length ≤ (x :: xs).length →
        (fun st => (m w (wordGrp 2) f st).flatMap (m w .eol f)) (c :: t, cs) = [] := by
      intro c t hc hl
      have hcw : keyCls.test c = false := by
        rw [spCls_test] at hc
        rw [keyCls_test]; unfold Grammar.isWord; simp [hc]
      show (m w (wordGrp 2) f (c :: t, cs)).flatMap (m w .eol f) = []
      unfold wordGrp
      rw [capplus_flatMap w 2 keyCls cs f (c :: t) (Nat.le_trans hl hf) (m w .eol f)
        (fun c t cs' hc _ => eol_word w f c t cs' hc)]
      simp [hcw]
    have hA : (m w (.seq (.seq (.cls spCls) (.star (.cls spCls))) (wordGrp 2)) f (x :: xs, cs)).flatMap
        (m w .eol f) =
        if (x :: xs).takeWhile pySpace = [] then []
        else
          let r2 := (x :: xs).dropWhile pySpace
          if r2.takeWhile Grammar.isWord = [] then []
          else if r2.dropWhile Grammar.isWord = [] then [([], (2, r2.takeWhile Grammar.isWord) :: cs)]
          else [] := by
      rw [m_seq, List.flatMap_assoc, plus_flatMap w spCls cs f (x :: xs) hf _ hg,
        takeWhile_congr spCls_test, dropWhile_congr spCls_test]
      by_cases hs : (x :: xs).takeWhile pySpace = []
      · rw [if_pos hs, if_pos hs]
      · rw [if_neg hs, if_neg hs]
        exact word_eol w 2 f _ cs (Nat.le_trans (length_dropWhile_le _ _) hf)
          (fun h => hn (mem_of_dropWhile h))
    unfold hdrTail
    rw [m_seq, m_opt, List.flatMap_append, hA]
    simp [hE]

theorem hdrTail_word (w f : Nat) (c : Char) (t : Str) (cs : Caps) (hc : keyCls.test c = true) :
    m w hdrTail f (c :: t, cs) = [] := by
  have hE := eol_word w f c t cs hc
  rw [keyCls_test] at hc
  have hsp := isWord_not_space hc
  unfold hdrTail
  rw [m_seq, m_opt, List.flatMap_append]
  simp [m, spCls_test, hsp, hE]

theorem hdrMatch_eq_header (s : Str) (hn : '\n' ∉ s) : hdrMatch s = Grammar.header s := by
  unfold hdrMatch Grammar.header pyMatch
  rw [sectionStartRx_shape, m_seq]
  unfold wordGrp
  rw [capplus_flatMap s.length 1 keyCls [] s.length s (Nat.le_refl _) (m s.length hdrTail s.length)
    (fun c t cs' hc _ => hdrTail_word _ _ c t cs' hc),
    takeWhile_congr keyCls_test, dropWhile_congr keyCls_test]
  by_cases hk : s.takeWhile Grammar.isWord = []
  · simp [hk]
  · rw [if_neg hk, hdrTail_all _ _ _ _ (length_dropWhile_le _ _) (fun h => hn (mem_of_dropWhile h))]
    simp only [hk, ↓reduceIte]
    generalize s.dropWhile Grammar.isWord = r
    generalize s.takeWhile Grammar.isWord = ty
    by_cases hr : r = []
    · simp [hr, group, Gen.sectionStartRx_type, Gen.sectionStartRx_name]
    · simp only [hr, ↓reduceIte]
      have hlen := len_take_drop pySpace r
      by_cases hs : r.takeWhile pySpace = []
      · have : (r.dropWhile pySpace).length = r.length := by
          rw [hs] at hlen; simpa using hlen
        simp [hs, this]
      · have : (r.dropWhile pySpace).length ≠ r.length := by
          have : (r.takeWhile pySpace).length ≠ 0 := by simpa using hs
          omega
        simp only [hs, this, ↓reduceIte]
        generalize r.dropWhile pySpace = r2
        by_cases h1 : r2.takeWhile Grammar.isWord = []
        · simp [h1]
        · by_cases h2 : r2.dropWhile Grammar.isWord = []
          · simp [h1, h2, group, Gen.sectionStartRx_type, Gen.sectionStartRx_name]
          · simp [h1, h2]

/-! ### the dispatch of `parse` -/

theorem mem_rstrip {a : Char} {s : Str} (h : a ∈ rstrip s) : a ∈ s := by
  unfold rstrip at h
  rw [List.mem_reverse] at h
  simpa using mem_of_dropWhile h
theorem mem_strip {a : Char} {s : Str} (h : a ∈ strip s) : a ∈ s :=
  mem_of_dropWhile (mem_rstrip h)
theorem mem_dropLast {a : Char} {s : Str} (h : a ∈ Grammar.dropLast s) : a ∈ s :=
  List.mem_of_mem_take h

theorem dropLastN_one (x : Str) : dropLastN x 1 = Grammar.dropLast x := rfl

theorem lastN_one (l : Str) : lastN l 1 = l.getLast?.toList := by
  rcases List.eq_nil_or_concat l with rfl | ⟨L, b, rfl⟩
  · simp [lastN]
  · simp [lastN]

theorem lastN_one_beq (l : Str) (c : Char) : (lastN l 1 == [c]) = decide (l.getLast? = some c) := by
  rw [lastN_one, Bool.eq_iff_iff]; cases l.getLast? <;> simp

theorem lastN_one_bne (l : Str) (c : Char) : (lastN l 1 != [c]) = !decide (l.getLast? = some c) := by
  rw [bne, lastN_one_beq]

theorem getLast_cons_ne (a c : Char) (l : Str) (h : a ≠ c) :
    ((a :: l).getLast? = some c) ↔ (l.getLast? = some c) := by
  cases l with
  | nil => simp [h]
  | cons b t => rw [List.getLast?_cons_cons]

theorem lineShape_eq_classify (line : Str) (hn : '\n' ∉ line) :
    toSpec (lineShape (strip line)) = Grammar.classify line := by
  have hl : '\n' ∉ strip line := fun h => hn (mem_strip h)
  unfold Grammar.classify
  simp only []
  generalize strip line = l at hl ⊢
  split
  · simp [lineShape, toSpec]
  · simp [lineShape, toSpec]
  · rename_i rest
    have e : (('/' :: rest).getLast? = some '>') ↔ (rest.getLast? = some '>') :=
      getLast_cons_ne _ _ _ (by decide)
    by_cases h : rest.getLast? = some '>'
    · simp [lineShape, toSpec, lastN_one_bne, e, h, dropLastN_one]
    · simp [lineShape, toSpec, lastN_one_bne, e, h]
  · rename_i rest hne
    have hr : '\n' ∉ rest := fun h => hl (List.mem_cons_of_mem _ h)
    have ht : rest.take 1 ≠ ['/'] := by
      cases rest with
      | nil => simp
      | cons d u =>
        have : d ≠ '/' := fun e => hne u (by rw [e])
        simp [this]
    have e : (('<' :: rest).getLast? = some '>') ↔ (rest.getLast? = some '>') :=
      getLast_cons_ne _ _ _ (by decide)
    by_cases h : rest.getLast? = some '>'
    · by_cases hempty : (Grammar.dropLast rest).getLast? = some '/'
      · simp [lineShape, lastN_one_bne, lastN_one_beq, e, h, dropLastN_one, ht, hempty]
        have hnt : '\n' ∉ rstrip (Grammar.dropLast (Grammar.dropLast rest)) :=
          fun h => hr (mem_dropLast (mem_dropLast (mem_rstrip h)))
        rw [hdrMatch_eq_header _ hnt]
        generalize hh : Grammar.header (rstrip (Grammar.dropLast (Grammar.dropLast rest))) = o
        cases o with
        | none => simp [toSpec]
        | some p =>
          obtain ⟨ty, nm⟩ := p
          cases nm with
          | none => simp [toSpec]
          | some n => have := Roundtrip.wordTok_ne ((Roundtrip.header_inv hh).2.2 n rfl); simp [toSpec, this]
      · simp [lineShape, lastN_one_bne, lastN_one_beq, e, h, dropLastN_one, ht, hempty]
        have hnt : '\n' ∉ rstrip (Grammar.dropLast rest) :=
          fun h => hr (mem_dropLast (mem_rstrip h))
        rw [hdrMatch_eq_header _ hnt]
        generalize hh : Grammar.header (rstrip (Grammar.dropLast rest)) = o
        cases o with
        | none => simp [toSpec]
        | some p =>
          obtain ⟨ty, nm⟩ := p
          cases nm with
          | none => simp [toSpec]
          | some n => have := Roundtrip.wordTok_ne ((Roundtrip.header_inv hh).2.2 n rfl); simp [toSpec, this]
    · simp [lineShape, toSpec, lastN_one_bne, e, h, ht]
  · rename_i rest
    have hr : '\n' ∉ rest := fun h => hl (List.mem_cons_of_mem _ h)
    rw [lineShape_directiveArm, directives_eq, kvMatch_eq_keyValue rest hr]
    generalize "define".toList = sd
    generalize "import".toList = si
    generalize "include".toList = sn
    generalize hk : Grammar.keyValue rest = o
    cases o with
    | none => simp [toSpec]
    | some p =>
      obtain ⟨name, a⟩ := p
      cases a with
      | none =>
        by_cases h0 : ¬name = sd ∧ ¬name = si ∧ ¬name = sn
        · simp [toSpec, h0]
        · simp [toSpec, h0]
      | some arg =>
        have := ((Roundtrip.keyValue_inv hk).2.2 arg rfl).1
        by_cases h1 : name = sd
        · subst h1; simp [toSpec, this]
        · by_cases h2 : name = si
          · subst h2; simp [toSpec, this, h1]
          · by_cases h3 : name = sn
            · subst h3; simp [toSpec, this, h1, h2]
            · simp [toSpec, h1, h2, h3]
  · rename_i x1 x2 _ x4 x5
    cases l with
    | nil => exact (x1 rfl).elim
    | cons c t =>
      rw [lineShape_dataArm c t (fun e => x2 t (by rw [e])) (fun e => x4 t (by rw [e])) (fun e => x5 t (by rw [e])),
        kvMatch_eq_keyValue _ hl]
      generalize Grammar.keyValue (c :: t) = o
      cases o with
      | none => rfl
      | some p => obtain ⟨key, v⟩ := p; cases v <;> rfl

/-- whatever `Grammar.classify` says of a line other than `bad`, the parser model says of the stripped line
    (`classify` evaluates; `lineShape` runs the generated patterns through the regex engine) -/
theorem lineShape_of_classify (line : Str) (hn : '\n' ∉ line) (sh : LineShape)
    (hs : Grammar.classify line = toSpec sh) (hb : toSpec sh ≠ .bad) : lineShape (strip line) = sh := by
  have h := lineShape_eq_classify line hn
  rw [hs] at h
  generalize lineShape (strip line) = x at h
  cases sh <;> first
    | exact absurd rfl hb
    | (cases x <;> first | (cases h; rfl) | cases h)

end ZCV.Cfg
