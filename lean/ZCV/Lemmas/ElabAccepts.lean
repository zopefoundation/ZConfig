import ZCV.Lemmas.ElabRules
import ZCV.Lemmas.Ends
/-!
`Accepts x P Q`: the step `x` of the schema loader succeeds exactly when the rule `P` holds, and then with a result
satisfying `Q`.  One statement of this form says both "the rules make the step succeed, with the predicted state" and
"if it succeeds the rules hold"; it is the triple `Ends` whose failure side is `¬ P`, and the rules for `>>=` below
follow a `do` block, so a handler is walked through once.  `Ends.ite` serves as it is.
-/
namespace ZCV.Elab
open ZCV

def Accepts {α : Type} (x : EM α) (P : Prop) (Q : α → Prop) : Prop := Ends x (fun v => P ∧ Q v) fun _ => ¬ P

namespace Accepts
variable {α β : Type} {x : EM α} {P P' : Prop} {Q Q' : α → Prop}

theorem ends (h : Accepts x P Q) : Ends x (fun v => P ∧ Q v) fun _ => ¬ P := h

theorem of_ends (h : Ends x (fun v => P ∧ Q v) fun _ => ¬ P) : Accepts x P Q := h

theorem of_ok {v : α} (h : Accepts x P Q) (hx : x = .ok v) : P ∧ Q v := h.ends.of_ok hx

theorem run (h : Accepts x P Q) (hP : P) : ∃ v, x = .ok v ∧ Q v := by
  cases x with
  | ok v => exact ⟨v, rfl, (h.of_ok rfl).2⟩
  | error e => exact absurd hP (h.ends.of_error rfl)

theorem intro (h1 : P → ∃ v, x = .ok v ∧ Q v) (h2 : ∀ v, x = .ok v → P) : Accepts x P Q :=
  of_ends (Ends.intro
    (fun v hv => by
      obtain ⟨w, hw, hq⟩ := h1 (h2 v hv)
      cases hv.symm.trans hw
      exact ⟨h2 v hv, hq⟩)
    fun _ he hP => by
      obtain ⟨w, hw, _⟩ := h1 hP
      cases he.symm.trans hw)

theorem ok {v : α} (hP : P) (hQ : Q v) : Accepts (.ok v) P Q := of_ends (Ends.ok ⟨hP, hQ⟩)

theorem error {e : EFail} (hP : ¬ P) : Accepts (.error e : EM α) P Q := of_ends (Ends.error hP)

theorem of_iff {v : α} (h : ∀ r, x = .ok r ↔ P ∧ r = v) : Accepts x P (· = v) :=
  of_ends (Ends.intro (fun r hr => (h r).1 hr) fun _ he hP => nomatch he.symm.trans ((h v).2 ⟨hP, rfl⟩))

theorem congr (h : Accepts x P Q) (hP : P' ↔ P) : Accepts x P' Q :=
  of_ends (h.ends.mono (fun _ hv => ⟨hP.2 hv.1, hv.2⟩) fun _ hn hP' => hn (hP.1 hP'))

theorem mono (h : Accepts x P Q) (hQ : ∀ v, P → Q v → Q' v) : Accepts x P Q' :=
  of_ends (h.ends.weaken fun v hv => ⟨hv.1, hQ v hv.1 hv.2⟩)

theorem bind {f : α → EM β} {R : β → Prop} (hx : Accepts x P Q) (hf : ∀ v, P → Q v → Accepts (f v) P' R) :
    Accepts (x >>= f) (P ∧ P') R :=
  of_ends ((hx.ends.fails fun _ hn h => hn h.1).bind fun v hv =>
    (hf v hv.1 hv.2).ends.mono (fun _ hw => ⟨⟨hv.1, hw.1⟩, hw.2⟩) fun _ hn h => hn h.2)

theorem bind_eq {f : α → EM β} {R : β → Prop} {v : α} (hx : Accepts x P (· = v)) (hf : P → Accepts (f v) P' R) :
    Accepts (x >>= f) (P ∧ P') R :=
  hx.bind fun _ hP hv => hv ▸ hf hP

theorem bind_pure {g : α → β} {R : β → Prop} (hx : Accepts x P Q) (hR : ∀ v, P → Q v → R (g v)) :
    Accepts (x >>= fun v => (pure (g v) : EM β)) P R :=
  of_ends (hx.ends.bind fun v hv => Ends.pure ⟨hv.1, hR v hv.1 hv.2⟩)

theorem map {g : α → β} {R : β → Prop} (hx : Accepts x P fun v => R (g v)) : Accepts (x.map g) P R :=
  of_ends (Ends.map (P' := fun w => P ∧ R w) hx.ends)

theorem mapM {α β γ : Type} {f : β → EM γ} {R : α → β → Prop} {P : α → Prop} {Q : α → γ → Prop}
    (hf : ∀ a b, R a b → Accepts (f b) (P a) (Q a)) :
    ∀ {l : List α} {l' : List β}, Pointwise R l l' → Accepts (l'.mapM f) (∀ a ∈ l, P a) (Pointwise Q l)
  | _, _, .nil => .ok (fun _ h => nomatch h) .nil
  | a :: l, b :: l', .cons hab hl => by
    rw [List.mapM_cons]
    exact ((hf a b hab).bind fun c _ hc =>
      (mapM hf hl).bind_pure (g := (c :: ·)) (R := Pointwise Q (a :: l)) fun cs _ hcs => .cons hc hcs).congr
        List.forall_mem_cons

end Accepts
end ZCV.Elab
