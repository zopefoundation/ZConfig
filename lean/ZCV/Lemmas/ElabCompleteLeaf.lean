import ZCV.Lemmas.ElabAccepts
import ZCV.Lemmas.ElabElem
/-!
C10: the children of `<key>`, `<multikey>`, `<section>`, `<multisection>` (character-data elements and blank text).  They
only act on the frame their element has pushed (`leafBodyE`); `<description>`, `<example>` and `<metadefault>` do the
same to every frame (`noteFlags`), and the rule "at most one `<description>` / `<example>`" is read one element at a time
(`onceLeft_cons`, `OnceIf.cons`).  The body of a key element (`keyRun`) and of a section element (`sectRun`) is read
exactly when it obeys the rules, and then only changes its frame in the way the specification predicts (the keys of the
`<default>` elements are collected as written).
-/
namespace ZCV.SchemaRules
open ZCV ZCV.Elab
open ZCV.Cfg (VI SectInfo Default)

/-! ### the nesting table, character-data elements -/

theorem nestingCheck_accepts (parent t : Str) : Accepts (nestingCheck parent t) (nestingOK parent t = true) fun _ => True :=
  .intro (fun h => ⟨(), nestingOK_check h, trivial⟩) fun _ h => check_nestingOK h

theorem nested {env : Env} {h : Hooks} {d : DocKind} {parent : Str} {st : PSt} {t : Str} {a : Attrs} {c : List Node}
    {P : Prop} {Q : PSt → Prop}
    (hx : nestingOK parent t = true → Accepts (visitElem env h d (some parent) st (.elem t a c)) P Q) :
    Accepts (visitElem env h d (some parent) st (.elem t a c)) (nestingOK parent t = true ∧ P) Q := by
  cases hn : nestingOK parent t with
  | true => exact (hx hn).congr ⟨fun h => h.2, fun h => ⟨rfl, h⟩⟩
  | false =>
    cases hc : nestingCheck parent t with
    | error e => rw [visitElem_nest_err hc]; exact .error fun h => nomatch h.1
    | ok u => rw [check_nestingOK hc] at hn; cases hn

theorem noteTag_notMember {t : Str} (h : isNoteTag t = true) : isKeyTag t = false ∧ isSectTag t = false := by
  unfold isKeyTag isSectTag
  rcases isNoteTag_cases h with rfl | rfl <;> (char_lits; decide +kernel)

theorem memberTag_notNote {t : Str} (h : isKeyTag t = true ∨ isSectTag t = true) : isNoteTag t = false := by
  unfold isNoteTag
  rcases h with h | h
  · rcases isKeyTag_cases h with rfl | rfl <;> (char_lits; decide +kernel)
  · rcases isSectTag_cases h with rfl | rfl <;> (char_lits; decide +kernel)

theorem ne_description_of_notNote {t : Str} (h : isNoteTag t = false) : t ≠ "description".toList := by
  rintro rfl
  simp only [isNoteTag, beq_self_eq_true, Bool.true_or, Bool.true_eq_false] at h

theorem ne_example_of_notNote {t : Str} (h : isNoteTag t = false) : t ≠ "example".toList := by
  rintro rfl
  simp only [isNoteTag, beq_self_eq_true, Bool.or_true, Bool.true_eq_false] at h

theorem cdata_description : Gen.cdataTags.contains "description".toList = true := by char_lits; decide +kernel
theorem cdata_example : Gen.cdataTags.contains "example".toList = true := by char_lits; decide +kernel

theorem cdataTag_dispatch (d : DocKind) {t : Str} (h : Gen.cdataTags.contains t = true) :
    t ≠ d.topLevel ∧ d.handled.contains t = false := by
  have ht := List.contains_iff_mem.mp h
  cases d with
  | schema ext =>
    exact (by decide +kernel :
      ∀ t ∈ Gen.cdataTags, t ≠ Gen.schemaTopLevel ∧ Gen.schemaHandledTags.contains t = false) t ht
  | component =>
    exact (by decide +kernel :
      ∀ t ∈ Gen.cdataTags, t ≠ Gen.componentTopLevel ∧ Gen.componentHandledTags.contains t = false) t ht

/-! ### parents that only hold character-data elements -/

abbrev leafParent (parent : Str) : Prop := ChildrenAll (Gen.cdataTags.contains · = true) parent

theorem leafParent_of_pk {comp : Bool} {p : Str} {pk : PK} (hpk : pkOfB comp p = some pk)
    (hleaf : pk = .key ∨ pk = .sect ∨ pk = .atype) : leafParent p :=
  childrenAll_of_pk hpk fun t ck hmem hc => by
    refine ((ckTable_kinds _ hmem).2.2 ?_ ?_).1 <;>
      (rcases hleaf with rfl | rfl | rfl <;> cases ck <;> first | rfl | cases hc)

theorem leafParent_abstracttype : leafParent "abstracttype".toList :=
  leafParent_of_pk (pkOfB_abstracttype false) (.inr (.inr rfl))

def textOf : List Node → Str
  | [] => []
  | .text s :: r => s ++ textOf r
  | .elem _ _ _ :: r => textOf r

theorem collectText_of_text (parent : Str) : ∀ c : List Node, c.all isText = true → collectText parent c = .ok (textOf c)
  | [], _ => rfl
  | .text s :: r, h => by
    simp only [List.all_cons, isText, Bool.true_and] at h
    rw [collectText, collectText_of_text parent r h]
    rfl
  | .elem t a c :: r, h => by simp [isText] at h

theorem collectText_ok_all {parent : Str} {l : List Node} {s : Str} (h : collectText parent l = .ok s) :
    l.all isText = true := by
  rw [List.all_eq_true]
  intro n hn
  obtain ⟨x, rfl⟩ := collectText_ok_text h n hn
  rfl

theorem collectText_accepts (parent : Str) (c : List Node) :
    Accepts (collectText parent c) (c.all isText = true) (· = textOf c) :=
  .intro (fun h => ⟨_, collectText_of_text parent c h, rfl⟩) fun _ h => collectText_ok_all h

theorem leafBodyOK_text {parent s : Str} {r : List Node} :
    leafBodyOK parent (.text s :: r) = true ↔ (strip s).isEmpty = true ∧ leafBodyOK parent r = true := by
  simp only [leafBodyOK, List.all_cons, Bool.and_eq_true]
  rfl

theorem leafBodyOK_elem {parent t : Str} {a : Attrs} {c r : List Node} :
    leafBodyOK parent (.elem t a c :: r) = true ↔
      ((nestingOK parent t = true ∧ Gen.cdataTags.contains t = true) ∧ c.all isText = true) ∧
        leafBodyOK parent r = true := by
  simp only [leafBodyOK, List.all_cons, Bool.and_eq_true, cdataOK]

/-- under `leafParent` the second conjunct of `cdataOK` follows from the first -/
theorem leafBodyOK_cons {parent t : Str} {a : Attrs} {c r : List Node} (hl : leafParent parent) :
    leafBodyOK parent (.elem t a c :: r) = true ↔
      (nestingOK parent t = true ∧ c.all isText = true) ∧ leafBodyOK parent r = true := by
  rw [leafBodyOK_elem]
  exact ⟨fun h => ⟨⟨h.1.1.1, h.1.2⟩, h.2⟩, fun h => ⟨⟨⟨h.1.1, hl _ h.1.1⟩, h.1.2⟩, h.2⟩⟩

/-! ### counting `<description>` / `<example>` -/

/-- the rule "at most one" seen from the middle of a body: `flag` says one has been read already -/
def onceLeft (flag : Bool) (tag : Str) (c : List Node) : Prop :=
  if flag then countTag tag c = 0 else countTag tag c ≤ 1

theorem countTag_text (tag s : Str) (r : List Node) : countTag tag (.text s :: r) = countTag tag r := by
  simp [countTag]

theorem countTag_elem (tag t : Str) (a : Attrs) (c r : List Node) :
    countTag tag (.elem t a c :: r) = countTag tag r + if t == tag then 1 else 0 := by
  simp [countTag, List.countP_cons]

theorem onceLeft_nil (flag : Bool) (tag : Str) : onceLeft flag tag [] := by
  unfold onceLeft countTag
  cases flag <;> simp

theorem onceLeft_text {flag : Bool} {tag s : Str} {r : List Node} :
    onceLeft flag tag (.text s :: r) ↔ onceLeft flag tag r := by
  unfold onceLeft
  rw [countTag_text]

theorem onceLeft_other {flag : Bool} {tag t : Str} {a : Attrs} {c r : List Node} (ht : t ≠ tag) :
    onceLeft flag tag (.elem t a c :: r) ↔ onceLeft flag tag r := by
  have : (t == tag) = false := by simpa using ht
  unfold onceLeft
  rw [countTag_elem, this]
  rfl

theorem onceLeft_same {flag : Bool} {tag : Str} {a : Attrs} {c r : List Node} :
    onceLeft flag tag (.elem tag a c :: r) ↔ flag = false ∧ onceLeft true tag r := by
  unfold onceLeft
  rw [countTag_elem]
  cases flag <;> simp

/-- "at most one `<tag>`" to the extent the loader enforces it: nothing in a component (`isC`), otherwise `onceLeft` -/
def OnceIf (isC flag : Bool) (tag : Str) (c : List Node) : Prop := isC = false → onceLeft flag tag c

theorem OnceIf.nil (isC flag : Bool) (tag : Str) : OnceIf isC flag tag [] := fun _ => onceLeft_nil _ _

theorem OnceIf.text {isC flag : Bool} {tag s : Str} {r : List Node} :
    OnceIf isC flag tag (.text s :: r) ↔ OnceIf isC flag tag r := by
  unfold OnceIf
  rw [onceLeft_text]

theorem OnceIf.other {isC flag : Bool} {tag t : Str} {a : Attrs} {c r : List Node} (ht : t ≠ tag) :
    OnceIf isC flag tag (.elem t a c :: r) ↔ OnceIf isC flag tag r := by
  unfold OnceIf
  rw [onceLeft_other ht]

theorem OnceIf.same {isC flag : Bool} {tag : Str} {a : Attrs} {c r : List Node} :
    OnceIf isC flag tag (.elem tag a c :: r) ↔ (flag && !isC) = false ∧ OnceIf isC true tag r := by
  unfold OnceIf
  rw [onceLeft_same]
  cases isC <;> simp

theorem onceLeft_cons {flag : Bool} {tag t : Str} {a : Attrs} {c r : List Node} :
    onceLeft flag tag (.elem t a c :: r) ↔ (t = tag → flag = false) ∧ onceLeft (flag || t == tag) tag r := by
  by_cases ht : t = tag
  · subst ht
    rw [onceLeft_same, beq_self_eq_true, Bool.or_true]
    exact ⟨fun h => ⟨fun _ => h.1, h.2⟩, fun h => ⟨h.1 rfl, h.2⟩⟩
  · have hb : (t == tag) = false := by simpa using ht
    rw [onceLeft_other ht, hb, Bool.or_false]
    exact ⟨fun h => ⟨fun e => absurd e ht, h⟩, fun h => h.2⟩

theorem OnceIf.cons {isC flag : Bool} {tag t : Str} {a : Attrs} {c r : List Node} :
    OnceIf isC flag tag (.elem t a c :: r) ↔
      (t = tag → (flag && !isC) = false) ∧ OnceIf isC (flag || t == tag) tag r := by
  by_cases ht : t = tag
  · subst ht
    rw [OnceIf.same, beq_self_eq_true, Bool.or_true]
    exact ⟨fun h => ⟨fun _ => h.1, h.2⟩, fun h => ⟨h.1 rfl, h.2⟩⟩
  · have hb : (t == tag) = false := by simpa using ht
    rw [OnceIf.other ht, hb, Bool.or_false]
    exact ⟨fun h => ⟨fun e => absurd e ht, h⟩, fun h => h.2⟩

theorem descOnce_iff {isC : Bool} {c : List Node} :
    descOnce (!isC) c = true ↔ OnceIf isC false "description".toList c := by
  unfold descOnce OnceIf onceLeft
  cases isC
  · simp only [Bool.not_false, Bool.not_true, Bool.false_or, decide_eq_true_eq, Bool.false_eq_true, ↓reduceIte,
      forall_const]
  · simp only [Bool.not_true, Bool.not_false, Bool.true_or, Bool.true_eq_false, false_imp_iff]

theorem onceOK_iff {isC : Bool} {c : List Node} :
    onceOK (!isC) c = true ↔ OnceIf isC false "description".toList c ∧ onceLeft false "example".toList c := by
  unfold onceOK
  rw [Bool.and_eq_true, descOnce_iff]
  unfold onceLeft
  simp only [decide_eq_true_eq, Bool.false_eq_true, ↓reduceIte]

/-! ### `<default>` children -/

theorem defaultElems_text (s : Str) (r : List Node) : defaultElems (.text s :: r) = defaultElems r := by
  unfold defaultElems
  rw [List.filterMap_cons]

theorem defaultElems_default (a : Attrs) (c r : List Node) :
    defaultElems (.elem "default".toList a c :: r) = a :: defaultElems r := by
  unfold defaultElems
  rw [List.filterMap_cons]
  simp only [beq_self_eq_true, ↓reduceIte]

theorem defaultElems_other {t : Str} (a : Attrs) (c r : List Node) (ht : t ≠ "default".toList) :
    defaultElems (.elem t a c :: r) = defaultElems r := by
  have : (t == "default".toList) = false := by simpa using ht
  unfold defaultElems
  rw [List.filterMap_cons]
  simp only [this, Bool.false_eq_true, ↓reduceIte]

theorem defaultKeys_eq (c : List Node) : defaultKeys c = (defaultElems c).map fun a => attr a "key" := rfl

theorem plusKeys_eq (c : List Node) : plusKeys c = ((defaultElems c).map fun a => attr a "key").filterMap id := rfl

theorem plusKeys_nil : plusKeys [] = [] := rfl

theorem plusKeys_congr {c c' : List Node} (h : defaultElems c = defaultElems c') : plusKeys c = plusKeys c' := by
  rw [plusKeys_eq, plusKeys_eq, h]

theorem defaultKeys_congr {c c' : List Node} (h : defaultElems c = defaultElems c') : defaultKeys c = defaultKeys c' := by
  rw [defaultKeys_eq, defaultKeys_eq, h]

theorem addValueInfo_multi_keys (k : EKey) (vi : VI) (kk : Str) (m : List (Str × List VI)) (hm : k.multi = true)
    (hn : k.name = ['+']) (hd : k.dflt = .keyedMany m) :
    ∃ m', addValueInfo k vi (some kk) = .ok { k with dflt := .keyedMany m' } ∧
      ∀ x, x ∈ m'.map (·.1) ↔ x ∈ m.map (·.1) ∨ x = kk := by
  unfold addValueInfo
  simp only [hm, ↓reduceIte, hn, beq_self_eq_true, hd, Option.getD_some]
  by_cases hany : m.any (·.1 == kk) = true
  · rw [if_pos hany]
    refine ⟨_, rfl, ?_⟩
    intro x
    have hmap : (m.map fun (p : Str × List VI) => if p.1 == kk then (p.1, p.2 ++ [vi]) else (p.1, p.2)).map (·.1) =
        m.map (·.1) := by
      rw [List.map_map]
      apply List.map_congr_left
      intro p _
      simp only [Function.comp]
      split <;> rfl
    rw [hmap]
    constructor
    · exact Or.inl
    · rintro (h | h)
      · exact h
      · subst h; exact (any_fst_beq m x).1 hany
  · rw [if_neg hany]
    refine ⟨_, rfl, ?_⟩
    intro x
    simp [List.map_append]

/-! ### the body of a key element -/

/-- what the body of a `<key>` / `<multikey>` element may still contain, given the key object `k` read so far -/
structure KeyBodyPre (isC : Bool) (k : EKey) (c : List Node) : Prop where
  desc : OnceIf isC k.hasDesc "description".toList c
  ex : onceLeft k.hasEx "example".toList c
  open_ : defaultElems c ≠ [] → k.minOccurs = 0 ∧ k.finished = false
  keyed : k.name = ['+'] → (defaultKeys c).all Option.isSome = true
  unkeyed : k.name ≠ ['+'] → (defaultKeys c).all Option.isNone = true
  single : k.name = ['+'] → k.multi = false → ∃ m, k.dflt = .keyed m ∧ (m.map (·.1) ++ plusKeys c).Nodup
  multi : k.name = ['+'] → k.multi = true → ∃ m, k.dflt = .keyedMany m
  fixedMulti : k.name ≠ ['+'] → k.multi = true → ∃ l, k.dflt = .many l
  fixedSingle : k.name ≠ ['+'] → k.multi = false → defaultElems c = []

/-- how the defaults of the key object have changed when the body `c` has been read -/
def DfltAfter (k : EKey) (c : List Node) (d' : Default) : Prop :=
  (k.name = ['+'] → k.multi = false → ∀ m, k.dflt = .keyed m →
      ∃ m', d' = .keyed m' ∧ m'.map (·.1) = m.map (·.1) ++ plusKeys c) ∧
  (k.name = ['+'] → k.multi = true → ∀ m, k.dflt = .keyedMany m →
      ∃ m', d' = .keyedMany m' ∧ ∀ x, x ∈ m'.map (·.1) ↔ x ∈ m.map (·.1) ∨ x ∈ plusKeys c)

/-- what `<description>`, `<example>` and `<metadefault>` do to the two flags "a description / an example has been read"
of the element they stand in (`characters_description`, `characters_example`) -/
def noteFlags (isC : Bool) (t : Str) (d e : Bool) : EM (Bool × Bool) :=
  if t == "description".toList then
    if d && !isC then serr "at most one <description> may be used for each element" else .ok (true, e)
  else if t == "example".toList then
    if e then serr "at most one <example> may be used for each element" else .ok (d, true)
  else .ok (d, e)

theorem description_ne_example : "description".toList ≠ "example".toList := by char_lits; decide +kernel
theorem default_ne_description : "default".toList ≠ "description".toList := by char_lits; decide +kernel
theorem default_ne_example : "default".toList ≠ "example".toList := by char_lits; decide +kernel

theorem noteFlags_ok_iff {isC : Bool} {t : Str} {d e : Bool} {p : Bool × Bool} :
    noteFlags isC t d e = .ok p ↔
      ((t = "description".toList → (d && !isC) = false) ∧ (t = "example".toList → e = false)) ∧
        p = (d || t == "description".toList, e || t == "example".toList) := by
  have hne := description_ne_example
  unfold noteFlags
  -- nothing below looks inside the two tags
  generalize "description".toList = D at hne ⊢
  generalize "example".toList = E at hne ⊢
  by_cases h1 : t = D
  · have h2 : t ≠ E := h1 ▸ hne
    rw [if_pos (beq_iff_eq.2 h1), beq_eq_false_iff_ne.2 h2, Bool.or_false, beq_iff_eq.2 h1, Bool.or_true]
    cases (d && !isC)
    · exact ⟨fun h => ⟨⟨fun _ => rfl, fun hx => absurd hx h2⟩, (Except.ok.inj h).symm⟩, fun h => by rw [h.2]; rfl⟩
    · exact ⟨fun h => (nomatch h), fun h => (nomatch h.1.1 h1)⟩
  · rw [beq_eq_false_iff_ne.2 h1, Bool.or_false, if_neg (by decide)]
    by_cases h2 : t = E
    · rw [if_pos (beq_iff_eq.2 h2), beq_iff_eq.2 h2, Bool.or_true]
      cases e
      · exact ⟨fun h => ⟨⟨fun hx => absurd hx h1, fun _ => rfl⟩, (Except.ok.inj h).symm⟩, fun h => by rw [h.2]; rfl⟩
      · exact ⟨fun h => (nomatch h), fun h => (nomatch h.1.2 h2)⟩
    · rw [beq_eq_false_iff_ne.2 h2, Bool.or_false, if_neg (by decide)]
      exact ⟨fun h => ⟨⟨fun hx => absurd hx h1, fun hx => absurd hx h2⟩, (Except.ok.inj h).symm⟩, fun h => by rw [h.2]⟩

theorem noteFlags_map_ok_iff {β : Type} {isC : Bool} {t : Str} {d e : Bool} {g : Bool × Bool → β} {y : β} :
    (noteFlags isC t d e).map g = .ok y ↔
      ((t = "description".toList → (d && !isC) = false) ∧ (t = "example".toList → e = false)) ∧
        y = g (d || t == "description".toList, e || t == "example".toList) := by
  cases hnf : noteFlags isC t d e with
  | error e' => exact ⟨fun h => (nomatch h), fun h => by rw [noteFlags_ok_iff.2 ⟨h.1, rfl⟩] at hnf; cases hnf⟩
  | ok p =>
    obtain ⟨hf, rfl⟩ := noteFlags_ok_iff.1 hnf
    exact ⟨fun h => ⟨hf, (Except.ok.inj h).symm⟩, fun h => by rw [h.2]; rfl⟩

/-- a character-data tag other than `default` falls through the `description` / `example` tests to `metadefault` -/
theorem cdataTag_note {t : Str} (hc : Gen.cdataTags.contains t = true) (hd : t ≠ "default".toList)
    (h1 : (t == "description".toList) = false) (h2 : (t == "example".toList) = false) :
    (t == "metadefault".toList) = true := by
  rcases cdataTags_cases hc with h | h | h | h
  · rw [beq_iff_eq.2 h] at h1; cases h1
  · exact beq_iff_eq.2 h
  · rw [beq_iff_eq.2 h] at h2; cases h2
  · exact absurd h hd

theorem localStep_key_note {isC : Bool} {t : Str} (a : Attrs) (data : Str) (k : EKey)
    (hc : Gen.cdataTags.contains t = true) (hd : t ≠ "default".toList) :
    localStep isC t a data (.key k) =
      (noteFlags isC t k.hasDesc k.hasEx).map fun p => .key { k with hasDesc := p.1, hasEx := p.2 } := by
  have b0 : (t == "default".toList) = false := by simpa using hd
  unfold localStep noteFlags
  simp only [b0, Bool.false_eq_true, ↓reduceIte]
  cases h1 : t == "description".toList
  · cases h2 : t == "example".toList
    · simp only [Bool.false_eq_true, ↓reduceIte, cdataTag_note hc hd h1 h2]
      rfl
    · simp only [Bool.false_eq_true, ↓reduceIte]
      cases k.hasEx <;> rfl
  · simp only [↓reduceIte]
    cases (k.hasDesc && !isC) <;> rfl

theorem localStep_key_note_ok_iff {isC : Bool} {t : Str} {a : Attrs} {data : Str} {k : EKey} {f' : Frame}
    (hc : Gen.cdataTags.contains t = true) (hd : t ≠ "default".toList) :
    localStep isC t a data (.key k) = .ok f' ↔
      ((t = "description".toList → (k.hasDesc && !isC) = false) ∧ (t = "example".toList → k.hasEx = false)) ∧
        f' = .key { k with hasDesc := k.hasDesc || t == "description".toList,
                           hasEx := k.hasEx || t == "example".toList } := by
  rw [localStep_key_note a data k hc hd]
  exact noteFlags_map_ok_iff

theorem localStep_key_default (isC : Bool) (a : Attrs) (data : Str) (k : EKey) :
    localStep isC "default".toList a data (.key k) =
      if k.minOccurs != 0 then serr "required key cannot have default values"
      else (addDefault k data (attr a "key")).map Frame.key := by
  unfold localStep
  simp only [beq_self_eq_true, ↓reduceIte]

theorem KeyBodyPre.skip {isC : Bool} {k k' : EKey} {c r : List Node} (hp : KeyBodyPre isC k c)
    (hde : defaultElems c = defaultElems r)
    (h1 : k'.minOccurs = k.minOccurs) (h2 : k'.finished = k.finished) (h3 : k'.name = k.name) (h4 : k'.multi = k.multi)
    (h5 : k'.dflt = k.dflt) (hd : OnceIf isC k'.hasDesc "description".toList r)
    (he : onceLeft k'.hasEx "example".toList r) :
    KeyBodyPre isC k' r :=
  { desc := hd, ex := he,
    open_ := by rw [← hde, h1, h2]; exact hp.open_,
    keyed := by rw [← defaultKeys_congr hde, h3]; exact hp.keyed,
    unkeyed := by rw [← defaultKeys_congr hde, h3]; exact hp.unkeyed,
    single := by rw [← plusKeys_congr hde, h3, h4, h5]; exact hp.single,
    multi := by rw [h3, h4, h5]; exact hp.multi,
    fixedMulti := by rw [h3, h4, h5]; exact hp.fixedMulti,
    fixedSingle := by rw [← hde, h3, h4]; exact hp.fixedSingle }

theorem DfltAfter.skip {k k' : EKey} {c r : List Node} {d' : Default} (hde : defaultElems c = defaultElems r)
    (h3 : k'.name = k.name) (h4 : k'.multi = k.multi) (h5 : k'.dflt = k.dflt) (h : DfltAfter k' r d') :
    DfltAfter k c d' := by
  unfold DfltAfter at h ⊢
  rw [h3, h4, h5] at h
  rw [plusKeys_congr hde]
  exact h

theorem DfltAfter.nil (k : EKey) : DfltAfter k [] k.dflt :=
  ⟨fun _ _ m hm => ⟨m, hm, by rw [plusKeys_nil, List.append_nil]⟩,
   fun _ _ m hm => ⟨m, hm, fun x => by rw [plusKeys_nil]; simp⟩⟩

theorem keyBody_default_step {isC : Bool} {k : EKey} {a : Attrs} {c0 r : List Node} (data : Str)
    (hp : KeyBodyPre isC k (.elem "default".toList a c0 :: r)) :
    ∃ d1, addDefault k data (attr a "key") = .ok { k with dflt := d1 } ∧ KeyBodyPre isC { k with dflt := d1 } r ∧
      ∀ d', DfltAfter { k with dflt := d1 } r d' → DfltAfter k (.elem "default".toList a c0 :: r) d' := by
  have hde : defaultElems (.elem "default".toList a c0 :: r) = a :: defaultElems r := defaultElems_default a c0 r
  obtain ⟨hmin, hfin⟩ := hp.open_ (by rw [hde]; exact List.cons_ne_nil _ _)
  have hdesc := (OnceIf.other default_ne_description).1 hp.desc
  have hex := (onceLeft_other default_ne_example).1 hp.ex
  by_cases hplus : k.name = ['+']
  · have hk := hp.keyed hplus
    rw [defaultKeys_eq, hde] at hk
    simp only [List.map_cons, List.all_cons, Bool.and_eq_true] at hk
    obtain ⟨hk0, hkr⟩ := hk
    cases hkey : attr a "key" with
    | none => rw [hkey] at hk0; cases hk0
    | some kk =>
      have hpk : plusKeys (.elem "default".toList a c0 :: r) = kk :: plusKeys r := by
        rw [plusKeys_eq, plusKeys_eq, hde, List.map_cons, List.filterMap_cons, hkey]
        rfl
      rw [addDefault_wellkeyed k _ (some kk) hfin (by simp [hplus])]
      by_cases hmt : k.multi = true
      case neg =>
        have hmulti : k.multi = false := by simpa using hmt
        obtain ⟨m, hm, hnd⟩ := hp.single hplus hmulti
        rw [hpk] at hnd
        have hnew : kk ∉ m.map (·.1) := by
          intro hc
          exact (List.nodup_append.1 hnd).2.2 kk hc kk (List.mem_cons_self) rfl
        rw [addValueInfo_single_new k _ kk m hmulti hplus hm hnew]
        refine ⟨_, rfl, ?_, ?_⟩
        · exact
            { desc := hdesc, ex := hex,
              open_ := fun _ => ⟨hmin, hfin⟩,
              keyed := fun _ => by rw [defaultKeys_eq]; exact hkr,
              unkeyed := fun hc => absurd hplus hc,
              single := fun _ _ => ⟨_, rfl, by
                rw [List.map_append, List.append_assoc]
                exact hnd⟩,
              multi := fun _ hc => (by rw [hmulti] at hc; cases hc),
              fixedMulti := fun hc => absurd hplus hc,
              fixedSingle := fun hc => absurd hplus hc }
        · intro d' h2
          refine ⟨?_, fun _ hc => (by rw [hmulti] at hc; cases hc)⟩
          intro _ _ m0 hm0
          rw [hm] at hm0
          injection hm0 with hm0
          subst hm0
          obtain ⟨m', e1, e2⟩ := h2.1 hplus hmulti _ rfl
          refine ⟨m', e1, ?_⟩
          rw [e2, hpk, List.map_append, List.append_assoc]
          rfl
      case pos =>
        have hmulti := hmt
        obtain ⟨m, hm⟩ := hp.multi hplus hmulti
        obtain ⟨m1, e1, e2⟩ := addValueInfo_multi_keys k { value := data, pos := defaultPos } kk m hmulti hplus hm
        rw [e1]
        refine ⟨_, rfl, ?_, ?_⟩
        · exact
            { desc := hdesc, ex := hex,
              open_ := fun _ => ⟨hmin, hfin⟩,
              keyed := fun _ => by rw [defaultKeys_eq]; exact hkr,
              unkeyed := fun hc => absurd hplus hc,
              single := fun _ hc => (by rw [hmulti] at hc; cases hc),
              multi := fun _ _ => ⟨_, rfl⟩,
              fixedMulti := fun hc => absurd hplus hc,
              fixedSingle := fun hc => absurd hplus hc }
        · intro d' h2
          refine ⟨fun _ hc => (by rw [hmulti] at hc; cases hc), ?_⟩
          intro _ _ m0 hm0
          rw [hm] at hm0
          injection hm0 with hm0
          subst hm0
          obtain ⟨m', e3, e4⟩ := h2.2 hplus hmulti _ rfl
          refine ⟨m', e3, ?_⟩
          intro x
          rw [e4, e2, hpk, List.mem_cons]
          constructor
          · rintro ((h | h) | h)
            · exact Or.inl h
            · exact Or.inr (Or.inl h)
            · exact Or.inr (Or.inr h)
          · rintro (h | h | h)
            · exact Or.inl (Or.inl h)
            · exact Or.inl (Or.inr h)
            · exact Or.inr h
  · have hk := hp.unkeyed hplus
    rw [defaultKeys_eq, hde] at hk
    simp only [List.map_cons, List.all_cons, Bool.and_eq_true] at hk
    obtain ⟨hk0, hkr⟩ := hk
    have hkey : attr a "key" = none := by
      cases hx : attr a "key" with
      | none => rfl
      | some kk => rw [hx] at hk0; cases hk0
    rw [hkey, addDefault_wellkeyed k _ none hfin (by simp [hplus])]
    by_cases hmt : k.multi = true
    case neg =>
      have hmulti : k.multi = false := by simpa using hmt
      have := hp.fixedSingle hplus hmulti
      rw [hde] at this
      cases this
    case pos =>
      have hmulti := hmt
      obtain ⟨l, hl⟩ := hp.fixedMulti hplus hmulti
      have hav : addValueInfo k { value := data, pos := defaultPos } none =
          .ok { k with dflt := .many (l ++ [{ value := data, pos := defaultPos }]) } := by
        unfold addValueInfo
        have : (k.name == ['+']) = false := by simpa using hplus
        simp only [hmulti, ↓reduceIte, this, Bool.false_eq_true, hl]
      rw [hav]
      refine ⟨_, rfl, ?_, ?_⟩
      · exact
          { desc := hdesc, ex := hex,
            open_ := fun _ => ⟨hmin, hfin⟩,
            keyed := fun hc => absurd hc hplus,
            unkeyed := fun _ => by rw [defaultKeys_eq]; exact hkr,
            single := fun hc => absurd hc hplus,
            multi := fun hc => absurd hc hplus,
            fixedMulti := fun _ _ => ⟨_, rfl⟩,
            fixedSingle := fun _ hc => (by rw [hmulti] at hc; cases hc) }
      · intro d' _
        exact ⟨fun hc => absurd hc hplus, fun hc => absurd hc hplus⟩

/-! ### the key object's defaults -/

/-- the kind of default a key object holds while its element is open -/
structure DfltShape (k : EKey) : Prop where
  single : k.name = ['+'] → k.multi = false → ∃ m, k.dflt = .keyed m ∧ (m.map (·.1)).Nodup
  multi : k.name = ['+'] → k.multi = true → ∃ m, k.dflt = .keyedMany m
  fixedMulti : k.name ≠ ['+'] → k.multi = true → ∃ l, k.dflt = .many l

theorem addDefault_inv {k k1 : EKey} {data : Str} {key : Option Str} (hs : DfltShape k)
    (hfs : k.name ≠ ['+'] → k.multi = false → k.finished = true) (h : addDefault k data key = .ok k1) :
    k.finished = false ∧ (k.name = ['+'] ↔ key.isSome = true) ∧
      ∃ d1, k1 = { k with dflt := d1 } ∧ DfltShape { k with dflt := d1 } ∧
        (k.name = ['+'] → k.multi = false → ∀ m, k.dflt = .keyed m →
          ∃ kk vi, key = some kk ∧ kk ∉ m.map (·.1) ∧ d1 = .keyed (m ++ [(kk, vi)])) := by
  obtain ⟨hfin, hkeyed, hav⟩ := addDefault_ok h
  refine ⟨hfin, hkeyed, ?_⟩
  obtain ⟨d1, rfl⟩ := addValueInfo_ok hav
  refine ⟨d1, rfl, ?_, ?_⟩
  · by_cases hplus : k.name = ['+']
    · by_cases hmulti : k.multi = true
      · obtain ⟨m, hm⟩ := hs.multi hplus hmulti
        obtain ⟨kk, hkk⟩ := Option.isSome_iff_exists.1 (hkeyed.1 hplus)
        subst hkk
        obtain ⟨m', e1, _⟩ := addValueInfo_multi_keys k { value := data, pos := defaultPos } kk m hmulti hplus hm
        rw [e1] at hav
        injection hav with hav
        have hd : d1 = .keyedMany m' := by
          have := congrArg EKey.dflt hav
          exact this.symm
        exact ⟨fun _ hc => (by rw [show ({ k with dflt := d1 } : EKey).multi = k.multi from rfl, hmulti] at hc; cases hc),
          fun _ _ => ⟨m', hd⟩, fun hc => absurd hplus hc⟩
      · have hmulti' : k.multi = false := by simpa using hmulti
        obtain ⟨m, hm, hnd⟩ := hs.single hplus hmulti'
        obtain ⟨kk, hkk⟩ := Option.isSome_iff_exists.1 (hkeyed.1 hplus)
        subst hkk
        by_cases hin : kk ∈ m.map (·.1)
        · rw [addValueInfo_single_dup k _ kk m hmulti' hplus hm hin] at hav; cases hav
        · rw [addValueInfo_single_new k _ kk m hmulti' hplus hm hin] at hav
          injection hav with hav
          have hd : d1 = .keyed (m ++ [(kk, { value := data, pos := defaultPos })]) :=
            (congrArg EKey.dflt hav).symm
          refine ⟨fun _ _ => ⟨_, hd, ?_⟩,
            fun _ hc => (by rw [show ({ k with dflt := d1 } : EKey).multi = k.multi from rfl, hmulti'] at hc; cases hc),
            fun hc => absurd hplus hc⟩
          rw [List.map_append, List.nodup_append]
          refine ⟨hnd, by simp, ?_⟩
          intro x hx y hy
          simp only [List.map_cons, List.map_nil, List.mem_singleton] at hy
          subst hy
          intro e; subst e
          exact hin hx
    · by_cases hmulti : k.multi = true
      · obtain ⟨l, hl⟩ := hs.fixedMulti hplus hmulti
        have hkn : key = none := by
          cases key with
          | none => rfl
          | some kk => exact absurd (hkeyed.2 rfl) hplus
        subst hkn
        have hav2 : addValueInfo k { value := data, pos := defaultPos } none =
            .ok { k with dflt := .many (l ++ [{ value := data, pos := defaultPos }]) } := by
          unfold addValueInfo
          have : (k.name == ['+']) = false := by simpa using hplus
          simp only [hmulti, ↓reduceIte, this, Bool.false_eq_true, hl]
        rw [hav2] at hav
        injection hav with hav
        have hd : d1 = .many (l ++ [{ value := data, pos := defaultPos }]) := (congrArg EKey.dflt hav).symm
        exact ⟨fun hc => absurd hc hplus, fun hc => absurd hc hplus, fun _ _ => ⟨_, hd⟩⟩
      · have hmulti' : k.multi = false := by simpa using hmulti
        have := hfs hplus hmulti'
        rw [hfin] at this; cases this
  · intro hplus hmulti m hm
    obtain ⟨kk, hkk⟩ := Option.isSome_iff_exists.1 (hkeyed.1 hplus)
    subst hkk
    by_cases hin : kk ∈ m.map (·.1)
    · rw [addValueInfo_single_dup k _ kk m hmulti hplus hm hin] at hav; cases hav
    · rw [addValueInfo_single_new k _ kk m hmulti hplus hm hin] at hav
      injection hav with hav
      exact ⟨kk, _, rfl, hin, (congrArg EKey.dflt hav).symm⟩

theorem KeyBodyPre.cons_default {isC : Bool} {k : EKey} {a : Attrs} {c0 r : List Node} {data : Str} {k1 : EKey}
    (hs : DfltShape k) (hfs : k.name ≠ ['+'] → k.multi = false → k.finished = true) (hmin : k.minOccurs = 0)
    (had : addDefault k data (attr a "key") = .ok k1) (hp : KeyBodyPre isC k1 r) :
    KeyBodyPre isC k (.elem "default".toList a c0 :: r) := by
  obtain ⟨hfin, hkeyed, d1, rfl, _, hstep⟩ := addDefault_inv hs hfs had
  have hde : defaultElems (.elem "default".toList a c0 :: r) = a :: defaultElems r := defaultElems_default a c0 r
  refine
    { desc := (OnceIf.other default_ne_description).2 hp.desc,
      ex := (onceLeft_other default_ne_example).2 hp.ex,
      open_ := fun _ => ⟨hmin, hfin⟩,
      keyed := ?_, unkeyed := ?_, single := ?_,
      multi := hs.multi, fixedMulti := hs.fixedMulti, fixedSingle := ?_ }
  · intro hplus
    rw [defaultKeys_eq, hde, List.map_cons, List.all_cons, hkeyed.1 hplus, Bool.true_and, ← defaultKeys_eq]
    exact hp.keyed hplus
  · intro hplus
    have hk : attr a "key" = none := by
      cases hx : attr a "key" with
      | none => rfl
      | some kk => exact absurd (hkeyed.2 (by rw [hx]; rfl)) hplus
    rw [defaultKeys_eq, hde, List.map_cons, List.all_cons, hk, ← defaultKeys_eq]
    exact hp.unkeyed hplus
  · intro hplus hmulti
    obtain ⟨m, hm, _⟩ := hs.single hplus hmulti
    obtain ⟨kk, vi, hk, _, hd1⟩ := hstep hplus hmulti m hm
    obtain ⟨m1, hm1, hnd⟩ := hp.single hplus hmulti
    have : m1 = m ++ [(kk, vi)] := by
      have h1 : ({ k with dflt := d1 } : EKey).dflt = .keyed m1 := hm1
      rw [show ({ k with dflt := d1 } : EKey).dflt = d1 from rfl, hd1] at h1
      injection h1 with h1
      exact h1.symm
    subst this
    refine ⟨m, hm, ?_⟩
    have hpk : plusKeys (.elem "default".toList a c0 :: r) = kk :: plusKeys r := by
      rw [plusKeys_eq, plusKeys_eq, hde, List.map_cons, List.filterMap_cons, hk]
      rfl
    rw [hpk]
    rw [List.map_append, List.append_assoc] at hnd
    exact hnd
  · intro hplus hmulti
    have := hfs hplus hmulti
    rw [hfin] at this; cases this

theorem KeyBodyPre.nil {isC : Bool} {k : EKey} (hs : DfltShape k) : KeyBodyPre isC k [] :=
  { desc := OnceIf.nil _ _ _, ex := onceLeft_nil _ _,
    open_ := fun h => absurd rfl h,
    keyed := fun _ => rfl, unkeyed := fun _ => rfl,
    single := fun h1 h2 => by
      obtain ⟨m, hm, hnd⟩ := hs.single h1 h2
      exact ⟨m, hm, by rw [plusKeys_nil, List.append_nil]; exact hnd⟩,
    multi := hs.multi, fixedMulti := hs.fixedMulti,
    fixedSingle := fun _ _ => rfl }

theorem KeyBodyPre.text {isC : Bool} {k : EKey} {s : Str} {r : List Node} :
    KeyBodyPre isC k (.text s :: r) ↔ KeyBodyPre isC k r :=
  ⟨fun h => h.skip (defaultElems_text s r) rfl rfl rfl rfl rfl (OnceIf.text.1 h.desc) (onceLeft_text.1 h.ex),
   fun h => h.skip (defaultElems_text s r).symm rfl rfl rfl rfl rfl (OnceIf.text.2 h.desc) (onceLeft_text.2 h.ex)⟩

theorem KeyBodyPre.note {isC : Bool} {k : EKey} {t : Str} {a : Attrs} {c0 r : List Node} (ht : t ≠ "default".toList) :
    KeyBodyPre isC k (.elem t a c0 :: r) ↔
      ((t = "description".toList → (k.hasDesc && !isC) = false) ∧ (t = "example".toList → k.hasEx = false)) ∧
      KeyBodyPre isC { k with hasDesc := k.hasDesc || t == "description".toList,
                              hasEx := k.hasEx || t == "example".toList } r := by
  have hde := defaultElems_other a c0 r ht
  constructor
  · intro h
    exact ⟨⟨(OnceIf.cons.1 h.desc).1, (onceLeft_cons.1 h.ex).1⟩,
      h.skip hde rfl rfl rfl rfl rfl (OnceIf.cons.1 h.desc).2 (onceLeft_cons.1 h.ex).2⟩
  · rintro ⟨⟨h1, h2⟩, h⟩
    exact h.skip hde.symm rfl rfl rfl rfl rfl (OnceIf.cons.2 ⟨h1, h.desc⟩) (onceLeft_cons.2 ⟨h2, h.ex⟩)

theorem keyRun {isC : Bool} {parent : Str} (hl : leafParent parent) :
    ∀ (c : List Node) (k : EKey), DfltShape k → (k.name ≠ ['+'] → k.multi = false → k.finished = true) →
      Accepts (leafBodyE isC parent c (.key k)) (leafBodyOK parent c = true ∧ KeyBodyPre isC k c)
        (fun f' => ∃ hd he d', f' = .key { k with hasDesc := hd, hasEx := he, dflt := d' } ∧ DfltAfter k c d')
  | [], k, hs, _ => .ok ⟨rfl, KeyBodyPre.nil hs⟩ ⟨k.hasDesc, k.hasEx, k.dflt, rfl, DfltAfter.nil k⟩
  | .text s :: r, k, hs, hfs => by
    rw [leafBodyE]
    by_cases hb : (strip s).isEmpty = true
    · rw [if_pos hb]
      refine ((keyRun hl r k hs hfs).mono fun f' _ ⟨hd, he, d', hf, hd'⟩ =>
        ⟨hd, he, d', hf, hd'.skip (defaultElems_text s r) rfl rfl rfl⟩).congr ?_
      rw [leafBodyOK_text, KeyBodyPre.text]
      exact ⟨fun h => ⟨h.1.2, h.2⟩, fun h => ⟨⟨hb, h.1⟩, h.2⟩⟩
    · rw [if_neg hb]
      exact .error fun h => hb (leafBodyOK_text.1 h.1).1
  | .elem t a c0 :: r, k, hs, hfs => by
    rw [leafBodyE]
    have pre : Accepts (nestingCheck parent t >>= fun _ => collectText t c0)
        (nestingOK parent t = true ∧ c0.all isText = true) (· = textOf c0) :=
      (nestingCheck_accepts parent t).bind fun _ _ _ => collectText_accepts t c0
    by_cases ht : t = "default".toList
    · subst ht
      rw [← bind_assoc]
      -- the `<default>` step: `keyBody_default_step` one way, `addDefault_inv` and `KeyBodyPre.cons_default` the other
      refine (pre.bind_eq (P' := KeyBodyPre isC k (.elem "default".toList a c0 :: r) ∧ leafBodyOK parent r = true)
        fun _ => ?_).congr (by rw [leafBodyOK_cons hl]; exact ⟨fun h => ⟨h.1.1, h.2, h.1.2⟩, fun h => ⟨⟨h.1, h.2.2⟩, h.2.1⟩⟩)
      rw [localStep_key_default]
      by_cases hm : (k.minOccurs != 0) = true
      · rw [if_pos hm]
        refine .error fun h => ?_
        have := (h.1.open_ (by rw [defaultElems_default]; exact List.cons_ne_nil _ _)).1
        rw [this] at hm; cases hm
      · rw [if_neg hm]
        have hmin : k.minOccurs = 0 := by simpa using hm
        cases had : addDefault k (strip (textOf c0)) (attr a "key") with
        | error e =>
          refine .error fun h => ?_
          obtain ⟨d1, e1, _⟩ := keyBody_default_step (strip (textOf c0)) h.1
          rw [e1] at had; cases had
        | ok k1 =>
          obtain ⟨_, _, d1, rfl, hs1, _⟩ := addDefault_inv hs hfs had
          show Accepts (leafBodyE isC parent r (.key { k with dflt := d1 })) _ _
          have back : KeyBodyPre isC k (.elem "default".toList a c0 :: r) →
              KeyBodyPre isC { k with dflt := d1 } r ∧
              ∀ d', DfltAfter { k with dflt := d1 } r d' → DfltAfter k (.elem "default".toList a c0 :: r) d' := by
            intro hp
            obtain ⟨d1', e1, hp', hb⟩ := keyBody_default_step (strip (textOf c0)) hp
            rw [had] at e1
            have : d1 = d1' := congrArg EKey.dflt (Except.ok.inj e1)
            subst this
            exact ⟨hp', hb⟩
          refine ((keyRun hl r _ hs1 hfs).congr ⟨fun h => ⟨h.2, (back h.1).1⟩,
            fun h => ⟨KeyBodyPre.cons_default hs hfs hmin had h.2, h.1⟩⟩).mono ?_
          rintro f' hP ⟨hd, he, d', hf, hd'⟩
          exact ⟨hd, he, d', hf, (back hP.1).2 d' hd'⟩
    · refine (((nestingCheck_accepts parent t).bind fun _ hn _ => (collectText_accepts t c0).bind_eq fun _ =>
        (Accepts.of_iff fun f' => localStep_key_note_ok_iff (hl _ hn) ht).bind_eq fun _ =>
          keyRun hl r _ ⟨hs.single, hs.multi, hs.fixedMulti⟩ hfs).mono ?_).congr ?_
      · rintro f' _ ⟨hd, he, d', hf, hd'⟩
        exact ⟨hd, he, d', hf, DfltAfter.skip (defaultElems_other a c0 r ht) rfl rfl rfl hd'⟩
      · rw [leafBodyOK_cons hl, KeyBodyPre.note ht]
        exact ⟨fun h => ⟨h.1.1.1, h.1.1.2, h.2.1, h.1.2, h.2.2⟩, fun h => ⟨⟨⟨h.1, h.2.1⟩, h.2.2.2.1⟩, h.2.2.1, h.2.2.2.2⟩⟩

/-! ### the body of a section element -/

theorem nestingOK_section_default : nestingOK "section".toList "default".toList = false := by char_lits; decide +kernel
theorem nestingOK_multisection_default : nestingOK "multisection".toList "default".toList = false := by char_lits; decide +kernel

theorem localStep_sect_note {isC : Bool} {t : Str} (a : Attrs) (data : Str) (d e : Bool)
    (hc : Gen.cdataTags.contains t = true) (hd : t ≠ "default".toList) :
    localStep isC t a data (.sect d e) = (noteFlags isC t d e).map fun p => .sect p.1 p.2 := by
  have b0 : (t == "default".toList) = false := by simpa using hd
  unfold localStep noteFlags
  simp only [b0, Bool.false_eq_true, ↓reduceIte]
  cases h1 : t == "description".toList
  · cases h2 : t == "example".toList
    · simp only [Bool.false_eq_true, ↓reduceIte, cdataTag_note hc hd h1 h2]
      rfl
    · simp only [Bool.false_eq_true, ↓reduceIte]
      cases e <;> rfl
  · simp only [↓reduceIte]
    cases (d && !isC) <;> rfl

theorem localStep_sect_note_ok_iff {isC : Bool} {t : Str} {a : Attrs} {data : Str} {d e : Bool} {f' : Frame}
    (hc : Gen.cdataTags.contains t = true) (hd : t ≠ "default".toList) :
    localStep isC t a data (.sect d e) = .ok f' ↔
      ((t = "description".toList → (d && !isC) = false) ∧ (t = "example".toList → e = false)) ∧
        f' = .sect (d || t == "description".toList) (e || t == "example".toList) := by
  rw [localStep_sect_note a data d e hc hd]
  exact noteFlags_map_ok_iff

theorem sectRun {isC : Bool} {parent : Str} (hl : leafParent parent)
    (hpar : nestingOK parent "default".toList = false) :
    ∀ (c : List Node) (d e : Bool),
      Accepts (leafBodyE isC parent c (.sect d e))
        (leafBodyOK parent c = true ∧ OnceIf isC d "description".toList c ∧ onceLeft e "example".toList c)
        (fun _ => True)
  | [], d, e => .ok ⟨rfl, OnceIf.nil _ _ _, onceLeft_nil _ _⟩ trivial
  | .text s :: r, d, e => by
    rw [leafBodyE]
    by_cases hb : (strip s).isEmpty = true
    · rw [if_pos hb]
      refine (sectRun hl hpar r d e).congr ?_
      rw [leafBodyOK_text, OnceIf.text, onceLeft_text]
      exact ⟨fun h => ⟨h.1.2, h.2⟩, fun h => ⟨⟨hb, h.1⟩, h.2⟩⟩
    · rw [if_neg hb]
      exact .error fun h => hb (leafBodyOK_text.1 h.1).1
  | .elem t a c0 :: r, d, e => by
    rw [leafBodyE]
    refine ((nestingCheck_accepts parent t).bind fun _ hn _ => (collectText_accepts t c0).bind_eq fun _ =>
      (Accepts.of_iff fun f' => localStep_sect_note_ok_iff (hl _ hn)
        (by rintro rfl; rw [hpar] at hn; cases hn)).bind_eq fun _ => sectRun hl hpar r _ _).congr ?_
    rw [leafBodyOK_cons hl, OnceIf.cons, onceLeft_cons]
    exact ⟨fun h => ⟨h.1.1.1, h.1.1.2, ⟨h.2.1.1, h.2.2.1⟩, h.1.2, h.2.1.2, h.2.2.2⟩,
      fun h => ⟨⟨⟨h.1, h.2.1⟩, h.2.2.2.1⟩, ⟨h.2.2.1.1, h.2.2.2.2.1⟩, h.2.2.1.2, h.2.2.2.2.2⟩⟩

end ZCV.SchemaRules
