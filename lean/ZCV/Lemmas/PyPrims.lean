import ZCV.Py
import ZCV.Lemmas.Regex
/-!
Lemmas about the Python primitives of `ZCV/Py.lean`: how `Py.slice`, `Py.find1`, `Py.rsplit1`, `Py.startsWithAt`, `Py.reMatchAt`
relate to the `List.take/drop` arithmetic the hand-written models use.
-/
namespace ZCV.Py
open ZCV ZCV.Rx

theorem pyMatchAt_length_le (r : RE) (s : Str) (p : Nat) (st : St) (h : pyMatchAt r s p = some st) :
    st.1.length ≤ (s.drop p).length := by
  unfold pyMatchAt at h
  exact m_length_le _ _ _ _ st (List.mem_of_head? h)

/-! ## slices, `len`, `s[-1]`, `rsplit` -/

theorem sliceIdx_ofNat (n a : Nat) : sliceIdx n (a : Int) = min a n := by
  unfold sliceIdx
  have : ¬ ((a : Int) < 0) := by omega
  simp [this]

theorem sliceIdx_neg (n k : Nat) (hk : 0 < k) : sliceIdx n (-(k : Int)) = n - k := by
  unfold sliceIdx
  have : (-(k : Int) < 0) := by omega
  simp only [this, ↓reduceIte]
  omega

theorem take_clamp (s : Str) (b : Nat) : s.take (min b s.length) = s.take b := by
  by_cases hb : b ≤ s.length
  · rw [Nat.min_eq_left hb]
  · rw [Nat.min_eq_right (by omega), List.take_length, List.take_of_length_le (by omega)]

theorem take_drop_clamp (s : Str) (a b : Nat) :
    (s.take (min b s.length)).drop (min a s.length) = (s.take b).drop a := by
  rw [take_clamp]
  by_cases ha : a ≤ s.length
  · rw [Nat.min_eq_left ha]
  · -- both ends lie behind the text
    rw [Nat.min_eq_right (by omega), List.drop_eq_nil_of_le (by rw [List.length_take]; omega),
      List.drop_eq_nil_of_le (by rw [List.length_take]; omega)]

/-! a bound that is a natural number, as an `Int` expression (`i + 1`, `m.end() + 1 - 1` …) with a side condition `x = ↑a` that `omega` closes -/

theorem slice_nat' (s : Str) (x y : Int) (a b : Nat) (hx : x = a) (hy : y = b) :
    slice s (some x) (some y) = (s.drop a).take (b - a) := by
  subst hx hy; simp only [slice, sliceIdx_ofNat]; rw [take_drop_clamp, List.drop_take]

theorem slice_from_nat' (s : Str) (x : Int) (a : Nat) (hx : x = a) : slice s (some x) none = s.drop a := by
  subst hx; simpa only [slice, sliceIdx_ofNat, Nat.min_self, List.take_length] using take_drop_clamp s a s.length

theorem slice_to_nat' (s : Str) (y : Int) (b : Nat) (hy : y = b) : slice s none (some y) = s.take b := by
  subst hy; simp only [slice, sliceIdx_ofNat, List.drop_zero]; exact take_clamp s b

/-- `s[-k:]`, any `k` (`-0` is `0`: the whole text) -/
theorem slice_neg_from (s : Str) (k : Nat) : slice s (some (-(k : Int))) none = if k = 0 then s else lastN s k := by
  cases k with
  | zero => simpa using slice_from_nat' s (-((0 : Nat) : Int)) 0 (by simp)
  | succ k => simp only [Nat.add_one_ne_zero, ↓reduceIte, slice, lastN, sliceIdx_neg _ _ (Nat.succ_pos k), List.take_length]

/-- `s[:-k]`, any `k` (`s[:-0]` is `s[:0]`: nothing) -/
theorem slice_neg_to (s : Str) (k : Nat) : slice s none (some (-(k : Int))) = if k = 0 then [] else dropLastN s k := by
  cases k with
  | zero => simpa using slice_to_nat' s (-((0 : Nat) : Int)) 0 (by simp)
  | succ k => simp only [Nat.add_one_ne_zero, ↓reduceIte, slice, dropLastN, sliceIdx_neg _ _ (Nat.succ_pos k), List.drop_zero]

theorem slice_nat_neg (s : Str) (a k : Nat) (hk : 0 < k) :
    slice s (some (a : Int)) (some (-(k : Int))) = (s.drop a).take (s.length - k - a) := by
  have := take_drop_clamp s a (s.length - k)
  rw [Nat.min_eq_left (Nat.sub_le _ _)] at this
  simp only [slice, sliceIdx_ofNat, sliceIdx_neg _ _ hk]
  rw [this, List.drop_take]

theorem rsplit1_of_contains (s : Str) (c : Char) (h : s.contains c = true) :
    Py.rsplit1 s c = [(ZCV.rsplit1 s c).1, (ZCV.rsplit1 s c).2] := by
  unfold Py.rsplit1; simp only [h, ↓reduceIte]

theorem len_ne_one {α} (xs : List α) : (Py.len xs != (1 : Int)) = (xs.length != 1) := by
  unfold Py.len
  rw [Bool.eq_iff_iff]; simp only [bne_iff_ne, ne_eq]
  omega

theorem index_neg_one (s : Str) :
    Py.index s (-1 : Int) = match s.getLast? with | some c => .ok [c] | none => .error .IndexError := by
  unfold Py.index
  cases s with
  | nil => rfl
  | cons a t =>
    have hk : ¬ (((a :: t).length : Int) + -1 < 0) := by simp only [List.length_cons]; omega
    have hn : (((a :: t).length : Int) + -1).toNat = (a :: t).length - 1 := by simp only [List.length_cons]; omega
    simp only [show ((-1 : Int) < 0) from by decide, ↓reduceIte, hk, hn, ← List.getLast?_eq_getElem?]
    cases (a :: t).getLast? <;> rfl

theorem slice_dropLast_one (s : Str) : Py.slice s none (some (-(1 : Int))) = s.dropLast := by
  have := slice_neg_to s 1
  rw [List.dropLast_eq_take]
  simpa [dropLastN] using this

/-! ## match objects -/

theorem take_beq_self (s : Str) (n : Nat) : (s.take n == s) = decide (s.length ≤ n) := by
  by_cases h : s.length ≤ n
  · simp [List.take_of_length_le h, h]
  · have : s.take n ≠ s := by
      intro e
      have := congrArg List.length e
      simp at this; omega
    simp [h, this]

theorem reMatch_eq (r : RE) (s : Str) :
    reMatch r s = (pyMatch r s).map fun st => { subject := s, start := 0, stop := s.length - st.1.length, caps := st.2 } := by
  unfold reMatch reMatchAt pyMatch pyMatchAt
  simp

/-- `m = rx.match(v)`; `m and m.group() == v` is the model's `matchesWhole` -/
theorem reMatch_whole (r : RE) (s : Str) :
    (match reMatch r s with | none => false | some m => m.group == s) = matchesWhole r s := by
  rw [reMatch_eq]
  unfold matchesWhole
  cases h : pyMatch r s with
  | none => rfl
  | some st =>
    have hl : st.1.length ≤ s.length := by
      have := pyMatchAt_length_le r s 0 st (by unfold pyMatchAt; unfold pyMatch at h; simpa using h)
      simpa using this
    simp only [Option.map_some, Match.group, List.drop_zero, Nat.sub_zero, take_beq_self]
    by_cases h0 : st.1 = []
    · simp [h0]
    · have : st.1.length ≠ 0 := by simpa using h0
      have h1 : ¬ (s.length ≤ s.length - st.1.length) := by omega
      simp [h0, h1]

/-! ## index EXPRESSIONS (`i + 1`, `m.end() + 1 - 1` …): `find`, `startswith`, `rx.match(s, pos)` for an index that is an `Int`
    expression, with a side condition `x = ↑a` that `omega` closes (as the slice lemmas above) -/

theorem find1_of_contains (s : Str) (c : Char) (h : s.contains c = true) : find1 s c = ((s.findIdx (· == c) : Nat) : Int) := by
  unfold find1; simp only [h, ↓reduceIte]

theorem startsWithAt_one (s : Str) (c : Char) (x : Int) (k : Nat) (hx : x = k) :
    startsWithAt s [c] x = ((s.drop k).take 1 == [c]) := by
  subst hx
  unfold startsWithAt
  have h0 : ¬ ((k : Int) < 0) := by omega
  simp only [h0, ↓reduceIte, Int.toNat_natCast, List.length_cons, List.length_nil, Nat.zero_add]
  by_cases hk : k + 1 ≤ s.length
  · simp only [hk, ↓reduceIte]
  · simp only [hk, ↓reduceIte]
    have : s.drop k = [] := List.drop_eq_nil_of_le (by omega)
    rw [this]; rfl

/-- `rx.match(s, pos)` for `pos ≥ 0`, as the pair (matched text, end) the models work with -/
theorem reMatchAt_pair (r : RE) (s : Str) (x : Int) (pos : Nat) (hx : x = pos) :
    (reMatchAt r s x).map (fun m => (m.group, m.stop)) =
      (pyMatchAt r s pos).map fun st => ((s.drop pos).take (s.length - st.1.length - pos), s.length - st.1.length) := by
  subst hx
  unfold reMatchAt
  have h0 : ¬ ((pos : Int) < 0) := by omega
  simp only [h0, ↓reduceIte, Int.toNat_natCast, Option.map_map]
  by_cases hp : pos ≤ s.length
  · rw [Nat.min_eq_left hp]; rfl
  · have hp' : s.length ≤ pos := by omega
    rw [Nat.min_eq_right hp']
    have e1 : pyMatchAt r s s.length = pyMatchAt r s pos := by
      unfold pyMatchAt
      rw [List.drop_eq_nil_of_le (Nat.le_refl _), List.drop_eq_nil_of_le hp']
    rw [e1]
    cases pyMatchAt r s pos with
    | none => rfl
    | some st =>
      simp only [Option.map_some, Function.comp, Match.group, Option.some.injEq, Prod.mk.injEq, and_true]
      rw [List.drop_eq_nil_of_le (Nat.le_refl _), List.drop_eq_nil_of_le hp', List.take_nil, List.take_nil]

end ZCV.Py
