import ZCV.Lemmas.LogRecordKeys
import ZCV.Lemmas.Lists
/-!
Lemmas for the classic log format model (C20): evaluation of one conversion specifier, the link between the sample
record of `FormatterFactory` and the kind table of the specification, acceptance and safety of item lists.
-/
namespace ZCV.LogFormatLemmas
open ZCV ZCV.LogFormat ZCV.LogFormatSpec

/-- the pending argument between items: the mapping itself (`ok` = its `repr()` works) until the first conversion
    specifier, nothing afterwards -/
def stOf (ok first : Bool) : Option Arg := if first then some (.mapping ok) else none

/-- the argument a specifier formats: the value of its key, or the pending argument -/
def argOf (d : Dict) (st : Option Arg) : Option Str → Option Arg
  | none => st
  | some k => (d k).map Arg.val

def precOf : Spec → Option Nat
  | .num n => some n
  | _ => none

theorem lf_evalWidth_of_ok {st st2 : Option Arg} {w : Spec} (h : evalWidth st w = .ok st2) :
    (SpecOk ssizeMax w ∧ st2 = st) ∨ st2 = none := by
  cases w with
  | absent => simp_all [evalWidth, SpecOk]
  | num n =>
    simp only [evalWidth] at h
    split at h
    · cases h
    · left; simp_all [SpecOk]
  | star =>
    right
    simp only [evalWidth] at h
    cases h2 : evalStar st (-(ssizeMax : Int) - 1) ssizeMax <;> simp_all [Except.map]

theorem lf_evalWidth_specOk {st : Option Arg} {w : Spec} (h : SpecOk ssizeMax w) : evalWidth st w = .ok st := by
  cases w with
  | absent => rfl
  | num n => simp only [SpecOk] at h; simp only [evalWidth]; rw [if_neg (by omega)]
  | star => cases h

theorem lf_evalPrec_of_ok {st : Option Arg} {p : Spec} {r : Option Arg × Option Nat} (h : evalPrec st p = .ok r) :
    (SpecOk cIntMax p ∧ r = (st, precOf p)) ∨ r.1 = none := by
  cases p with
  | absent => simp_all [evalPrec, SpecOk, precOf]
  | num n =>
    simp only [evalPrec] at h
    split at h
    · cases h
    · left; simp_all [SpecOk, precOf]
  | star =>
    right
    simp only [evalPrec] at h
    cases h2 : evalStar st (-(cIntMax : Int) - 1) cIntMax <;> simp_all [Except.map]
    rw [← h]

theorem lf_evalPrec_specOk {st : Option Arg} {p : Spec} (h : SpecOk cIntMax p) :
    evalPrec st p = .ok (st, precOf p) := by
  cases p with
  | absent => rfl
  | num n => simp only [SpecOk] at h; simp only [evalPrec, precOf]; rw [if_neg (by omega)]
  | star => cases h

/-- `evalItem` on a specifier, with the key lookup factored out -/
def evalTail (st1 : Option Arg) (w p : Spec) (conv : Option Char) : Except PyErr (Option Arg) :=
  match evalWidth st1 w with
  | .error e => .error e
  | .ok st2 =>
    match evalPrec st2 p with
    | .error e => .error e
    | .ok (st3, pv) =>
      match conv with
      | none => .error .valueError
      | some c =>
        match st3 with
        | none => .error .typeError
        | some v =>
          match argCheck c pv v with
          | .error e => .error e
          | .ok _ => .ok none

theorem lf_evalTail_ok (st1 : Option Arg) (w p : Spec) (conv : Option Char) (st' : Option Arg) :
    evalTail st1 w p conv = .ok st' ↔
      st' = none ∧ SpecOk ssizeMax w ∧ SpecOk cIntMax p ∧
      ∃ c v, conv = some c ∧ st1 = some v ∧ argCheck c (precOf p) v = .ok () := by
  constructor
  · intro h
    unfold evalTail at h
    split at h
    · cases h
    · rename_i st2 hw
      split at h
      · cases h
      · rename_i st3 pv hp
        split at h
        · cases h
        · rename_i c
          split at h
          · cases h
          · rename_i v
            split at h
            · cases h
            · rename_i hc
              rcases lf_evalPrec_of_ok hp with ⟨hpo, hr⟩ | hr
              · simp only [Prod.mk.injEq] at hr
                obtain ⟨hr1, hr2⟩ := hr
                rcases lf_evalWidth_of_ok hw with ⟨hwo, hs⟩ | hs
                · subst hs hr1 hr2
                  simp only [Except.ok.injEq] at h
                  exact ⟨h.symm, hwo, hpo, c, v, rfl, rfl, hc⟩
                · subst hs; cases hr1
              · cases hr
  · rintro ⟨rfl, hw, hp, c, v, rfl, rfl, hc⟩
    unfold evalTail
    rw [lf_evalWidth_specOk hw]
    simp only [lf_evalPrec_specOk hp, hc]

theorem lf_evalItem_field (d : Dict) (st : Option Arg) (key : Option Str) (fl : Str) (w p : Spec)
    (lm : Option Char) (conv : Option Char) :
    evalItem d st (.field key fl w p lm conv) =
      match key with
      | none => evalTail st w p conv
      | some k => match d k with
                  | none => .error .keyError
                  | some v => evalTail (some (.val v)) w p conv := by
  cases key with
  | none => rfl
  | some k =>
    simp only [evalItem]
    cases d k <;> rfl

theorem lf_evalItem_field_ok (d : Dict) (st : Option Arg) (key : Option Str) (fl : Str) (w p : Spec)
    (lm : Option Char) (conv : Option Char) (st' : Option Arg) :
    evalItem d st (.field key fl w p lm conv) = .ok st' ↔
      st' = none ∧ SpecOk ssizeMax w ∧ SpecOk cIntMax p ∧
      ∃ c v, conv = some c ∧ argOf d st key = some v ∧ argCheck c (precOf p) v = .ok () := by
  rw [lf_evalItem_field]
  cases key with
  | none => exact lf_evalTail_ok st w p conv st'
  | some k =>
    simp only [argOf]
    cases hd : d k with
    | none => simp
    | some v => exact lf_evalTail_ok (some (.val v)) w p conv st'

/-! ## The sample record and the kind table -/

def kindOfValue : Value → Kind
  | .str _ => .text
  | .int n => if 0 ≤ n ∧ n ≤ maxUnicode then .smallInt else .bigInt
  | .float _ => .real
  | .none => .object
  | .other => .object

/-- what makes a sample value representative of its kind: a `str` sample is not a single character (so `%c` is
    refused), an `int` sample converts to `float`, a `float` sample is finite -/
def goodSample : Value → Bool
  | .str s => s.length != 1
  | .int n => decide (-floatLimit < n ∧ n < floatLimit)
  | .float k => k == .finite
  | _ => true

/-- (the two tables are unfolded and compared entry by entry: the keys are the same literals, nothing is decoded) -/
theorem lf_fieldKinds_of_sample : fieldKinds = sampleVars.map (fun p => (p.1, kindOfValue p.2)) := by
  simp only [fieldKinds, sampleVars, List.map]
  rfl

theorem lf_sample_good : ∀ p ∈ sampleVars, goodSample p.2 = true := by
  rw [LogRecord.sampleVars_eq]
  decide +kernel

theorem lf_sample_keys_nodup : (sampleVars.map (·.1)).Nodup := by
  rw [LogRecord.sampleVars_keys]
  decide +kernel

theorem lf_lookup_mem {tbl : List (Str × Value)} {k : Str} {v : Value} (h : lookup tbl k = some v) : (k, v) ∈ tbl := by
  unfold lookup at h
  obtain ⟨p, hf, rfl⟩ := Option.map_eq_some_iff.mp h
  obtain ⟨rfl, hm⟩ := find_fst_some _ _ _ hf
  exact hm

theorem lf_lookup_of_mem {tbl : List (Str × Value)} {k : Str} {v : Value} (hn : (tbl.map (·.1)).Nodup)
    (h : (k, v) ∈ tbl) : lookup tbl k = some v := by
  unfold lookup
  rw [find_fst_of_mem tbl hn (k, v) h]; rfl

theorem lf_sample_iff (k : Str) (v : Value) : sampleDict k = some v ↔ (k, v) ∈ sampleVars :=
  ⟨lf_lookup_mem, lf_lookup_of_mem lf_sample_keys_nodup⟩

theorem lf_fieldKinds_mem (k : Str) (kind : Kind) :
    (k, kind) ∈ fieldKinds ↔ ∃ v, sampleDict k = some v ∧ kindOfValue v = kind := by
  rw [lf_fieldKinds_of_sample, List.mem_map]
  constructor
  · rintro ⟨⟨k', v⟩, hm, he⟩
    simp only [Prod.mk.injEq] at he
    obtain ⟨rfl, rfl⟩ := he
    exact ⟨v, (lf_sample_iff _ _).mpr hm, rfl⟩
  · rintro ⟨v, hs, rfl⟩
    exact ⟨(k, v), (lf_sample_iff _ _).mp hs, rfl⟩

theorem lf_sample_good_of (k : Str) (v : Value) (h : sampleDict k = some v) : goodSample v = true :=
  lf_sample_good (k, v) ((lf_sample_iff k v).mp h)

/-- explicit precision bound for the integer conversions, on the evaluated precision -/
def PrecFitsV (cls : ConvClass) (prec : Option Nat) : Prop :=
  (cls = .dec ∨ cls = .radix) → ∀ n, prec = some n → n ≤ cIntMax - 3

theorem lf_precFits_iff (cls : ConvClass) (p : Spec) : PrecFitsV cls (precOf p) ↔ PrecFits cls p := by
  unfold PrecFitsV PrecFits
  cases p <;> simp [precOf]

theorem lf_precCheck_ok (prec : Option Nat) : precCheck prec = .ok () ↔ ∀ n, prec = some n → n ≤ cIntMax - 3 := by
  cases prec with
  | none => simp [precCheck]
  | some p =>
    simp only [precCheck, Option.some.injEq, forall_eq']
    split <;> simp <;> omega

theorem lf_strCheck_int (n : Int) : strCheck (.int n) = .ok () ↔ n.natAbs < 10 ^ 4300 := by
  have h1 : strCheck (.int n) = if n.natAbs < 10 ^ intMaxStrDigits then .ok () else .error .valueError := rfl
  have h2 : intMaxStrDigits = 4300 := rfl
  rw [h1, h2]
  generalize (10 ^ 4300 : Nat) = B
  by_cases h : n.natAbs < B <;> simp [h]

theorem lf_strCheck_ok (v : Value) : strCheck v = .ok () ↔ Prints v := by
  cases v with
  | int n => exact lf_strCheck_int n
  | _ => simp [strCheck, Prints]

theorem lf_strCheck_error (v : Value) (e : PyErr) (h : strCheck v = .error e) : e = .valueError := by
  cases v with
  | int n =>
    simp only [strCheck] at h
    split at h
    · cases h
    · injection h with h; exact h.symm
  | _ => simp [strCheck] at h

theorem lf_strCheck_big (n : Int) (hn : 10 ^ 4300 ≤ n.natAbs) : strCheck (.int n) = .error .valueError := by
  cases h : strCheck (.int n) with
  | ok u => have := (lf_strCheck_int n).mp h; omega
  | error e => rw [lf_strCheck_error _ e h]

theorem lf_floatLimit_small : floatLimit ≤ ((10 ^ 4300 : Nat) : Int) := by decide +kernel

/-- an `int` that converts to `float` has at most 309 digits: far below the 4300-digit limit -/
theorem lf_strCheck_of_float (n : Int) (h : -floatLimit < n ∧ n < floatLimit) : strCheck (.int n) = .ok () := by
  rw [lf_strCheck_int]
  have hL := lf_floatLimit_small
  generalize (10 ^ 4300 : Nat) = B at hL ⊢
  generalize floatLimit = F at hL h
  omega

theorem lf_strCheck_of_good (w : Value) (h : goodSample w = true) : strCheck w = .ok () := by
  cases w with
  | int n => simp only [goodSample, decide_eq_true_eq] at h; exact lf_strCheck_of_float n h
  | _ => rfl

theorem lf_decCheck_ok (prec : Option Nat) (n : Int) :
    decCheck prec n = .ok () ↔ (∀ m, prec = some m → m ≤ cIntMax - 3) ∧ strCheck (.int n) = .ok () := by
  unfold decCheck
  rw [← lf_precCheck_ok]
  cases precCheck prec <;> simp

theorem lf_classCheck_sample (v : Value) (hg : goodSample v = true) (cls : ConvClass) (prec : Option Nat) :
    classCheck cls prec v = .ok () ↔ (kindOfValue v).allows cls = true ∧ PrecFitsV cls prec := by
  cases v with
  | str s =>
    simp only [goodSample, bne_iff_ne, ne_eq] at hg
    cases cls <;> simp [classCheck, strCheck, kindOfValue, Kind.allows, PrecFitsV, hg]
  | int n =>
    simp only [goodSample, decide_eq_true_eq] at hg
    have hs := lf_strCheck_of_float n hg
    by_cases hc : 0 ≤ n ∧ n ≤ maxUnicode
    · cases cls <;> simp [classCheck, kindOfValue, Kind.allows, PrecFitsV, hg, hc, hs, lf_precCheck_ok, lf_decCheck_ok]
    · cases cls <;> simp [classCheck, kindOfValue, Kind.allows, PrecFitsV, hg, hc, hs, lf_precCheck_ok, lf_decCheck_ok]
  | float k =>
    simp only [goodSample, beq_iff_eq] at hg
    subst hg
    cases cls <;> simp [classCheck, strCheck, kindOfValue, Kind.allows, PrecFitsV, lf_precCheck_ok]
  | none => cases cls <;> simp [classCheck, strCheck, kindOfValue, Kind.allows, PrecFitsV]
  | other => cases cls <;> simp [classCheck, strCheck, kindOfValue, Kind.allows, PrecFitsV]

/-! ## Acceptance of one item against the sample record -/

theorem lf_convCheck_ok (c : Char) (prec : Option Nat) (v : Value) :
    convCheck c prec v = .ok () ↔ ∃ cls, classOf c = some cls ∧ classCheck cls prec v = .ok () := by
  unfold convCheck
  cases classOf c <;> simp

theorem lf_classCheck_other (cls : ConvClass) (prec : Option Nat) :
    classCheck cls prec .other = .ok () ↔ cls = .text := by
  cases cls <;> simp [classCheck, strCheck]

theorem lf_stOf_some (ok first : Bool) (a : Arg) : stOf ok first = some a ↔ first = true ∧ a = .mapping ok := by
  cases first <;> simp [stOf, eq_comm]

theorem lf_argCheck_mapping (c : Char) (prec : Option Nat) (ok : Bool) :
    argCheck c prec (.mapping ok) = .ok () ↔ (∃ cls, classOf c = some cls ∧ cls = .text) ∧ ok = true := by
  unfold argCheck
  cases hc : convCheck c prec .other with
  | error e =>
    simp only [reduceCtorEq, false_iff, not_and]
    rintro ⟨cls, hcls, rfl⟩
    have := (lf_convCheck_ok c prec .other).mpr ⟨.text, hcls, rfl⟩
    rw [hc] at this; cases this
  | ok u =>
    obtain ⟨cls, hcls, hck⟩ := (lf_convCheck_ok c prec .other).mp hc
    have := (lf_classCheck_other cls prec).mp hck
    cases ok <;> simp [hcls, this]

theorem lf_argOf_key (d : Dict) (st : Option Arg) (k : Str) (a : Arg) :
    argOf d st (some k) = some a ↔ ∃ v, d k = some v ∧ a = .val v := by
  simp only [argOf]
  cases d k <;> simp [eq_comm]

theorem lf_item_sample (first : Bool) (it : Item) (st' : Option Arg) :
    evalItem sampleDict (stOf true first) it = .ok st' ↔
      ItemAccepted first it ∧ st' = stOf true (first && !isSpecifier it) := by
  cases it with
  | lit s => simp [evalItem, ItemAccepted, isSpecifier, eq_comm]
  | percent => simp [evalItem, ItemAccepted, isSpecifier, eq_comm]
  | badKey s => simp [evalItem, ItemAccepted]
  | field key fl w p lm conv =>
    rw [lf_evalItem_field_ok]
    simp only [ItemAccepted, isSpecifier, Bool.not_true, Bool.and_false]
    have hst : stOf true false = none := rfl
    rw [hst]
    constructor
    · rintro ⟨rfl, hw, hp, c, a, rfl, harg, hc⟩
      refine ⟨⟨hw, hp, c, ?_⟩, rfl⟩
      cases key with
      | none =>
        simp only [argOf] at harg
        obtain ⟨hf, rfl⟩ := (lf_stOf_some _ _ _).mp harg
        obtain ⟨⟨cls, hcls, rfl⟩, _⟩ := (lf_argCheck_mapping _ _ _).mp hc
        exact ⟨.text, rfl, hcls, hf, rfl⟩
      | some k =>
        obtain ⟨v, hv, rfl⟩ := (lf_argOf_key _ _ _ _).mp harg
        obtain ⟨cls, hcls, hck⟩ := (lf_convCheck_ok _ _ _).mp hc
        refine ⟨cls, rfl, hcls, ?_⟩
        obtain ⟨hal, hpf⟩ := (lf_classCheck_sample v (lf_sample_good_of k v hv) cls _).mp hck
        exact ⟨kindOfValue v, (lf_fieldKinds_mem _ _).mpr ⟨v, hv, rfl⟩, hal, (lf_precFits_iff _ _).mp hpf⟩
    · rintro ⟨⟨hw, hp, c, cls, rfl, hcls, hk⟩, rfl⟩
      refine ⟨rfl, hw, hp, c, ?_⟩
      cases key with
      | none =>
        obtain ⟨hf, rfl⟩ := hk
        exact ⟨.mapping true, rfl, (lf_stOf_some _ _ _).mpr ⟨hf, rfl⟩,
          (lf_argCheck_mapping _ _ _).mpr ⟨⟨.text, hcls, rfl⟩, rfl⟩⟩
      | some k =>
        obtain ⟨kind, hmem, hal, hpf⟩ := hk
        obtain ⟨v, hv, rfl⟩ := (lf_fieldKinds_mem _ _).mp hmem
        refine ⟨.val v, rfl, (lf_argOf_key _ _ _ _).mpr ⟨v, hv, rfl⟩, (lf_convCheck_ok _ _ _).mpr ⟨cls, hcls, ?_⟩⟩
        exact (lf_classCheck_sample v (lf_sample_good_of k v hv) cls _).mpr ⟨hal, (lf_precFits_iff _ _).mpr hpf⟩

theorem lf_items_sample (first : Bool) (items : List Item) :
    runItems sampleDict (stOf true first) items = .ok () ↔ ItemsAccepted first items := by
  induction items generalizing first with
  | nil => simp [runItems, ItemsAccepted]
  | cons it rest ih =>
    simp only [runItems, ItemsAccepted]
    cases he : evalItem sampleDict (stOf true first) it with
    | error e =>
      simp only [reduceCtorEq, false_iff, not_and]
      intro ha
      have := (lf_item_sample first it (stOf true (first && !isSpecifier it))).mpr ⟨ha, rfl⟩
      rw [he] at this; cases this
    | ok st' =>
      obtain ⟨ha, rfl⟩ := (lf_item_sample first it st').mp he
      simp only [ih, ha, true_and]

/-! ## Safety of accepted items on a record -/

def itemGood (good : ConvClass → Prop) : Item → Prop
  | .field _ _ _ _ _ (some c) => ∀ cls, classOf c = some cls → good cls
  | _ => True

theorem lf_itemGood_true (it : Item) : itemGood (fun _ => True) it := by
  cases it with
  | field key fl w p lm conv =>
    cases conv with
    | none => trivial
    | some c => intro _ _; trivial
  | _ => trivial

/-- `ok` = `repr()` of the record's attribute dictionary works; it is needed for a specifier without `(key)` only -/
theorem lf_item_safe (adm : Kind → Value → Prop) (good : ConvClass → Prop) (it : Item)
    (H : ∀ kind v cls prec, adm kind v → kind.allows cls = true → good cls → PrecFitsV cls prec →
      classCheck cls prec v = .ok ())
    (r : Dict) (hr : ∀ k kind, (k, kind) ∈ fieldKinds → itemKey it = some k → ∃ v, r k = some v ∧ adm kind v)
    (ok : Bool) (hb : isBare it = true → ok = true)
    (first : Bool) (ha : ItemAccepted first it) (hg : itemGood good it) :
    evalItem r (stOf ok first) it = .ok (stOf ok (first && !isSpecifier it)) := by
  cases it with
  | lit s => simp [evalItem, isSpecifier]
  | percent => simp [evalItem, isSpecifier]
  | badKey s => cases ha
  | field key fl w p lm conv =>
    rw [lf_evalItem_field_ok]
    obtain ⟨hw, hp, c, cls, rfl, hcls, hk⟩ := ha
    refine ⟨by simp [isSpecifier, stOf], hw, hp, c, ?_⟩
    cases key with
    | none =>
      obtain ⟨hf, rfl⟩ := hk
      exact ⟨.mapping ok, rfl, (lf_stOf_some _ _ _).mpr ⟨hf, rfl⟩,
        (lf_argCheck_mapping _ _ _).mpr ⟨⟨.text, hcls, rfl⟩, hb rfl⟩⟩
    | some k =>
      obtain ⟨kind, hmem, hal, hpf⟩ := hk
      obtain ⟨v, hv, hadm⟩ := hr k kind hmem rfl
      refine ⟨.val v, rfl, (lf_argOf_key _ _ _ _).mpr ⟨v, hv, rfl⟩, (lf_convCheck_ok _ _ _).mpr ⟨cls, hcls, ?_⟩⟩
      exact H kind v cls _ hadm hal (hg cls hcls) ((lf_precFits_iff _ _).mpr hpf)

theorem lf_items_safe (adm : Kind → Value → Prop) (good : ConvClass → Prop)
    (H : ∀ kind v cls prec, adm kind v → kind.allows cls = true → good cls → PrecFitsV cls prec →
      classCheck cls prec v = .ok ())
    (r : Dict) (items : List Item)
    (hr : ∀ k kind, (k, kind) ∈ fieldKinds → (∃ it ∈ items, itemKey it = some k) → ∃ v, r k = some v ∧ adm kind v)
    (ok : Bool) (hb : (∃ it ∈ items, isBare it = true) → ok = true)
    (first : Bool) (ha : ItemsAccepted first items) (hg : ∀ it ∈ items, itemGood good it) :
    runItems r (stOf ok first) items = .ok () := by
  induction items generalizing first with
  | nil => rfl
  | cons it rest ih =>
    simp only [runItems]
    rw [lf_item_safe adm good it H r (fun k kind hm hk => hr k kind hm ⟨it, List.mem_cons_self, hk⟩) ok
      (fun h => hb ⟨it, List.mem_cons_self, h⟩) first ha.1 (hg it List.mem_cons_self)]
    exact ih (fun k kind hm ⟨x, hx, hk⟩ => hr k kind hm ⟨x, List.mem_cons_of_mem _ hx, hk⟩)
      (fun ⟨x, hx, h⟩ => hb ⟨x, List.mem_cons_of_mem _ hx, h⟩) _ ha.2
      (fun x hx => hg x (List.mem_cons_of_mem _ hx))

theorem lf_floatLimit_big : (2 : Int) ^ 64 ≤ floatLimit := by decide +kernel

theorem lf_classCheck_int (cls : ConvClass) (prec : Option Nat) (n : Int) (hf : -floatLimit < n ∧ n < floatLimit)
    (hc : cls = .char → 0 ≤ n ∧ n ≤ maxUnicode) (hpf : PrecFitsV cls prec) : classCheck cls prec (.int n) = .ok () := by
  have hs := lf_strCheck_of_float n hf
  cases cls with
  | text => exact hs
  | dec => exact (lf_decCheck_ok prec n).mpr ⟨hpf (.inl rfl), hs⟩
  | radix => exact (lf_precCheck_ok prec).mpr (hpf (.inr rfl))
  | real => simp only [classCheck, hf, and_self, if_true]
  | char => simp only [classCheck, hc rfl, and_self, if_true]

/-- values of an ordinary record pass every conversion their kind allows -/
theorem lf_classCheck_admitsWide (kind : Kind) (v : Value) (cls : ConvClass) (prec : Option Nat)
    (hadm : kind.admitsWide v) (hal : kind.allows cls = true) (hpf : PrecFitsV cls prec) :
    classCheck cls prec v = .ok () := by
  have hL := lf_floatLimit_big
  cases kind with
  | text | object =>
    cases cls with
    | text => exact (lf_strCheck_ok v).mpr hadm
    | _ => cases hal
  | smallInt =>
    obtain ⟨n, rfl, h0, h1⟩ := hadm
    exact lf_classCheck_int cls prec n (by omega) (fun _ => ⟨h0, by simp only [maxUnicode]; omega⟩) hpf
  | bigInt =>
    obtain ⟨n, rfl, h0, h1⟩ := hadm
    exact lf_classCheck_int cls prec n ⟨h0, h1⟩ (fun hc => by subst hc; cases hal) hpf
  | real =>
    cases hadm
    cases cls with
    | text | real => rfl
    | dec => exact (lf_precCheck_ok prec).mpr (hpf (.inl rfl))
    | _ => cases hal

theorem lf_admits_wide (kind : Kind) (v : Value) (h : kind.admits v) : kind.admitsWide v := by
  have hL := lf_floatLimit_big
  cases kind with
  | text => obtain ⟨s, rfl⟩ := h; trivial
  | object => exact h
  | smallInt => exact h
  | bigInt =>
    obtain ⟨n, rfl, h0, h1⟩ := h
    exact ⟨n, rfl, by omega, by omega⟩
  | real => exact h


theorem lf_classCheck_admitsTyped (kind : Kind) (v : Value) (cls : ConvClass) (prec : Option Nat)
    (hadm : kind.admitsTyped v) (hal : kind.allows cls = true) (hc : cls ≠ .char) (hpf : PrecFitsV cls prec) :
    classCheck cls prec v = .ok () := by
  cases kind with
  | smallInt =>
    obtain ⟨n, rfl, h0, h1⟩ := hadm
    exact lf_classCheck_int cls prec n ⟨h0, h1⟩ (fun h => absurd h hc) hpf
  | text => exact lf_classCheck_admitsWide .text v cls prec hadm hal hpf
  | object => exact lf_classCheck_admitsWide .object v cls prec hadm hal hpf
  | bigInt => exact lf_classCheck_admitsWide .bigInt v cls prec hadm hal hpf
  | real => exact lf_classCheck_admitsWide .real v cls prec hadm hal hpf

theorem lf_admitsB (kind : Kind) (v : Value) (h : kind.admitsB v = true) : kind.admits v := by
  cases kind <;> cases v <;> simp_all [-Nat.reducePow, Kind.admitsB, Kind.admits, Prints]
  rename_i k
  cases k <;> simp_all

theorem lf_ordinary_of_table (tbl : List (Str × Value)) (h : ordinaryTable tbl = true) : Ordinary (lookup tbl) := by
  intro k kind hm
  unfold ordinaryTable at h
  have := List.all_eq_true.mp h (k, kind) hm
  simp only at this
  cases hl : lookup tbl k with
  | none => simp [hl] at this
  | some v =>
    rw [hl] at this
    exact ⟨v, rfl, lf_admitsB kind v this⟩

theorem lf_ordinaryFor_of_table (fmt : Str) (tbl : List (Str × Value)) (h : ordinaryTableFor fmt tbl = true) :
    OrdinaryFor fmt (lookup tbl) := by
  intro k kind hm hu
  unfold ordinaryTableFor at h
  have := List.all_eq_true.mp h (k, kind) hm
  simp only [Bool.or_eq_true, Bool.and_eq_true, beq_iff_eq, Bool.not_eq_true'] at this
  rcases this with ⟨hk, hn⟩ | this
  · rw [hu hk] at hn; cases hn
  · cases hl : lookup tbl k with
    | none => simp [hl] at this
    | some v =>
      rw [hl] at this
      exact ⟨v, rfl, lf_admitsB kind v this⟩

/-! ## The mapping itself: `MappingPrints`, tables -/

theorem lf_mappingPrints_iff (d : Dict) : MappingPrints d ↔ Printable d := by
  unfold MappingPrints Printable
  exact ⟨fun h k v hv => (lf_strCheck_ok v).mp (h k v hv), fun h k v hv => (lf_strCheck_ok v).mpr (h k v hv)⟩

theorem lf_tablePrints_iff (tbl : List (Str × Value)) : tablePrints tbl = true ↔ MappingPrints (lookup tbl) := by
  unfold tablePrints MappingPrints
  rw [List.all_eq_true]
  constructor
  · intro h k v hv
    have := h (k, v) (lf_lookup_mem hv)
    simpa only [hv, decide_eq_true_eq] using this
  · intro h p _
    cases hl : lookup tbl p.1 with
    | none => rfl
    | some v => simpa only [decide_eq_true_eq] using h p.1 v hl

theorem lf_printable_of_table (tbl : List (Str × Value)) (h : tablePrints tbl = true) : Printable (lookup tbl) :=
  (lf_mappingPrints_iff _).mp ((lf_tablePrints_iff tbl).mp h)

/-! ## `formatRun`, `accepts`, `formatSafe` unfolded -/

open Classical in
theorem lf_formatRun_on (fmt : Str) (d : Dict) (ok : Bool) (h : ok = true ↔ MappingPrints d) :
    formatRun fmt d = formatRunOn ok fmt d := by
  unfold formatRun
  congr 1
  cases ok with
  | true => exact decide_eq_true (h.mp rfl)
  | false => exact decide_eq_false (fun hp => by have := h.mpr hp; cases this)

theorem lf_formatRun_table (fmt : Str) (tbl : List (Str × Value)) :
    formatRun fmt (lookup tbl) = formatRunTable fmt tbl :=
  lf_formatRun_on fmt (lookup tbl) (tablePrints tbl) (lf_tablePrints_iff tbl)

theorem lf_formatSafe_table (fmt : Str) (tbl : List (Str × Value)) :
    formatSafe fmt (lookup tbl) = formatSafeTable fmt tbl := by
  unfold formatSafe formatSafeTable
  rw [lf_formatRun_table]

theorem lf_sample_prints : tablePrints sampleVars = true :=
  (lf_tablePrints_iff _).mpr (fun k v hv => lf_strCheck_of_good v (lf_sample_good_of k v hv))

theorem lf_formatRun_sample (fmt : Str) : formatRun fmt sampleDict = runItems sampleDict (stOf true true) (parse fmt) := by
  unfold sampleDict
  rw [lf_formatRun_table]
  unfold formatRunTable formatRunOn
  rw [lf_sample_prints]
  rfl

/-- what `formatRun` is on a record: the items are evaluated with the mapping pending, `ok` = the mapping prints -/
theorem lf_formatRun_eq (fmt : Str) (r : Dict) :
    ∃ ok : Bool, (ok = true ↔ Printable r) ∧ formatRun fmt r = runItems r (stOf ok true) (parse fmt) := by
  by_cases h : MappingPrints r
  · exact ⟨true, by simp [← lf_mappingPrints_iff, h], lf_formatRun_on fmt r true (by simp [h])⟩
  · exact ⟨false, by simp [← lf_mappingPrints_iff, h], lf_formatRun_on fmt r false (by simp [h])⟩

theorem lf_accepts_iff (fmt : Str) :
    accepts fmt = true ↔ formatRun (effective fmt) sampleDict = .ok () ∧ validatorSearch (effective fmt) = true := by
  unfold accepts loadCheck buildFormatter
  rw [← lf_formatRun_table]
  change (match (match formatRun (effective fmt) sampleDict with
                 | .error e => Except.error e
                 | .ok _ => if validatorSearch (effective fmt) = true then Except.ok () else Except.error PyErr.valueError) with
          | .ok _ => true
          | .error _ => false) = true ↔ _
  cases formatRun (effective fmt) sampleDict with
  | error e => simp
  | ok u => cases h : validatorSearch (effective fmt) <;> simp

theorem lf_formatSafe_iff (fmt : Str) (r : Dict) : formatSafe fmt r = true ↔ formatRun (effective fmt) r = .ok () := by
  unfold formatSafe
  cases formatRun (effective fmt) r <;> simp

theorem lf_formatSafe_of_error {fmt : Str} {r : Dict} {e : PyErr} (h : formatRun (effective fmt) r = .error e) :
    formatSafe fmt r = false := by
  unfold formatSafe
  rw [h]

end ZCV.LogFormatLemmas
