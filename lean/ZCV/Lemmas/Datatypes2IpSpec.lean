import ZCV.Lemmas.Datatypes2Ip
import ZCV.Lemmas.Datatypes2Chars
import ZCV.Lemmas.Lower
import ZCV.Lemmas.Inet6
/-! `ipaddr-or-hostname`: the model (live pattern + `inet_pton`) against the documented contract; idempotence. -/
namespace ZCV.DT
open ZCV ZCV.Rx

theorem dt2_v6shape_colon (s : Str) (h : dt2V6Shape s = true) : s.contains ':' = true := by
  cases s with
  | nil => simp [dt2V6Shape] at h
  | cons c t =>
    simp only [dt2V6Shape, Bool.and_eq_true, List.contains_iff_mem] at h
    rw [List.contains_iff_mem]
    exact List.mem_cons_of_mem _ h.2

theorem dt2_v6shape_all (s : Str) (h : dt2V6Shape s = true) : s.all DTSpec.isV6Char = true :=
  List.all_eq_true.mpr (dt2_v6shape_chars s h)

/-- over the IPv6 alphabet with a colon, but the only colon is the first character: `inet_pton` refuses -/
theorem dt2_lone_leading_colon (s : Str) (ha : s.all DTSpec.isV6Char = true) (hc : s.contains ':' = true)
    (hn : dt2V6Shape s = false) : pton6 (lower s) = false := by
  cases hp : pton6 (lower s) with
  | false => rfl
  | true =>
    exfalso
    cases s with
    | nil => simp at hc
    | cons c t =>
      simp only [List.all_cons, Bool.and_eq_true] at ha
      have hnt : ':' ∉ t := fun hm => by simp [dt2V6Shape, ha.1, ha.2, hm] at hn
      have hcc : c = ':' := by
        rcases List.mem_cons.mp (List.contains_iff_mem.mp hc) with h | h
        · exact h.symm
        · exact absurd h hnt
      subst hcc
      have hlt : ':' ∉ lower t := fun hm => hnt (List.contains_iff_mem.mp (by
        rw [← dt2_lower_contains_colon]; exact List.contains_iff_mem.mpr hm))
      obtain ⟨u, n, b, _, _, ⟨e, hh⟩ | ⟨r, rfl, e⟩⟩ := v6_pton6_tail _ hp
      · subst e; exact hh rfl
      · injection e with _ e; exact hlt (by show _ ∈ List.map lowerChar t; rw [e]; exact List.mem_cons_self)

/-- `ipaddr-or-hostname`: the code computes exactly the documented contract -/
theorem dt2_ipaddrOrHostname_eq_spec (s : Str) : ipaddrOrHostname s = DTSpec.ipaddrOrHostname s := by
  unfold ipaddrOrHostname DTSpec.ipaddrOrHostname regexConv
  rw [dt2_ipaddr_matches]
  cases hq : DTSpec.isDottedQuad s with
  | true =>
    have hnc : (lower s).contains ':' = false := by
      rw [dt2_lower_contains_colon]
      cases h : s.contains ':' with
      | false => rfl
      | true => exact absurd (List.contains_iff_mem.mp h) (dt2_quad_no_colon s hq)
    simp only [Bool.true_or, ↓reduceIte, Except.map, bind, Except.bind, hnc, Bool.false_eq_true, pure, Except.pure]
  | false =>
    cases hv : dt2V6Shape s with
    | true =>
      have hc := dt2_v6shape_colon s hv
      have hnh : DTSpec.isHostname s = false := dt2_hostname_no_colon s (List.contains_iff_mem.mp hc)
      have hlc : (lower s).contains ':' = true := by rw [dt2_lower_contains_colon]; exact hc
      have hall := dt2_v6shape_all s hv
      simp only [Bool.false_or, Bool.true_or, ↓reduceIte, Except.map, bind, Except.bind, hlc, hnh,
        Bool.false_eq_true, hall, hc, Bool.true_and]
      cases pton6 (lower s) <;> rfl
    | false =>
      cases hh : DTSpec.isHostname s with
      | true =>
        have hnc : (lower s).contains ':' = false := by
          rw [dt2_lower_contains_colon]
          cases h : s.contains ':' with
          | false => rfl
          | true => rw [dt2_hostname_no_colon s (List.contains_iff_mem.mp h)] at hh; cases hh
        simp only [Bool.or_true, ↓reduceIte, Except.map, bind, Except.bind, hnc, Bool.false_eq_true, pure, Except.pure]
      | false =>
        simp only [Bool.or_self, Bool.false_eq_true, ↓reduceIte, Except.map, bind, Except.bind]
        split
        · rename_i h
          simp only [Bool.and_eq_true] at h
          rw [dt2_lone_leading_colon s h.1.1 h.1.2 hv] at h
          exact absurd h.2 (by simp)
        · rfl

/-! ## idempotence -/

/-- the acceptance condition of the contract -/
def dt2IpAcc (s : Str) : Prop :=
  DTSpec.isDottedQuad s = true ∨ DTSpec.isHostname s = true ∨
    (s.all DTSpec.isV6Char = true ∧ s.contains ':' = true ∧ pton6 (lower s) = true)

/-- the contract taken apart, once: the lower-cased text, or `ValueError` -/
theorem dt2_spec_cases (s : Str) :
    dt2IpAcc s ∧ DTSpec.ipaddrOrHostname s = .ok (lower s) ∨
      ¬ dt2IpAcc s ∧ DTSpec.ipaddrOrHostname s = .error .valueError := by
  unfold DTSpec.ipaddrOrHostname dt2IpAcc
  split
  · next h => exact .inl ⟨.inl h, rfl⟩
  · split
    · next h => exact .inl ⟨.inr (.inl h), rfl⟩
    · split
      · next h => simp only [Bool.and_eq_true] at h; exact .inl ⟨.inr (.inr ⟨h.1.1, h.1.2, h.2⟩), rfl⟩
      · next h1 h2 h3 =>
        simp only [Bool.and_eq_true] at h3
        refine .inr ⟨?_, rfl⟩
        rintro (h | h | ⟨a, b, c⟩)
        · exact h1 h
        · exact h2 h
        · exact h3 ⟨⟨a, b⟩, c⟩

theorem dt2_spec_ok_iff (s r : Str) : DTSpec.ipaddrOrHostname s = .ok r ↔ r = lower s ∧ dt2IpAcc s := by
  rcases dt2_spec_cases s with ⟨ha, e⟩ | ⟨hn, e⟩ <;> rw [e]
  · simp [ha, eq_comm]
  · simp [hn]

theorem dt2_spec_err_iff (s : Str) : DTSpec.ipaddrOrHostname s = .error .valueError ↔ ¬ dt2IpAcc s := by
  rcases dt2_spec_cases s with ⟨ha, e⟩ | ⟨hn, e⟩ <;> rw [e]
  · simp [ha]
  · simp [hn]

theorem dt2_isV6Char_ascii (c : Char) (h : DTSpec.isV6Char c = true) : c.toNat < 128 := by
  revert h
  simp only [DTSpec.isV6Char, isAsciiDigit, inRange, ceq, Char.reduceToNat]
  generalize c.toNat = n
  simp
  omega

/-- the hexadecimal letters, in either case -/
theorem dt2_hexLetter_lower (c : Char) :
    (inRange 'a' 'f' (asciiLowerChar c) || inRange 'A' 'F' (asciiLowerChar c)) = (inRange 'a' 'f' c || inRange 'A' 'F' c) := by
  simp only [inRange, asciiLowerChar_toNat, Char.reduceToNat]
  rw [Bool.eq_iff_iff]
  split <;> simp <;> omega

theorem dt2_isV6Char_lower (c : Char) : DTSpec.isV6Char (asciiLowerChar c) = DTSpec.isV6Char c := by
  simp only [DTSpec.isV6Char, Bool.or_assoc, isAsciiDigit_lower, dt2_hexLetter_lower, asciiLowerChar_beq _ ':' rfl,
    asciiLowerChar_beq _ '.' rfl]

theorem dt2_isHostChar_lower (c : Char) : DTSpec.isHostChar (asciiLowerChar c) = DTSpec.isHostChar c := by
  simp only [DTSpec.isHostChar, isAsciiLetter_lower, isAsciiDigit_lower, asciiLowerChar_beq _ '-' rfl,
    asciiLowerChar_beq _ '_' rfl]

theorem dt2_h1_lower (c : Char) :
    (isAsciiLetter (asciiLowerChar c) || asciiLowerChar c == '_') = (isAsciiLetter c || c == '_') := by
  rw [isAsciiLetter_lower, asciiLowerChar_beq _ '_' rfl]

theorem dt2_isHostname_lower (s : Str) (h : DTSpec.isHostname s = true) :
    DTSpec.isHostname (asciiLower s) = true := by
  cases s with
  | nil => simp [DTSpec.isHostname] at h
  | cons c t =>
    rw [dt2_hostname_iff] at h
    obtain ⟨h1, h2, l, hl, h3⟩ := h
    show DTSpec.isHostname (asciiLowerChar c :: asciiLower t) = true
    rw [dt2_hostname_iff]
    refine ⟨?_, ?_, asciiLowerChar l, ?_, ?_⟩
    · rw [nameStartK_test] at h1 ⊢; rw [dt2_h1_lower]; exact h1
    · unfold asciiLower
      rw [List.all_map, List.all_eq_true]
      intro d hd
      have := List.all_eq_true.mp h2 d hd
      rw [keyCharK_isKeyChar] at this
      simp only [Function.comp, keyCharK_isKeyChar, isKeyChar_lower]; exact this
    · unfold asciiLower; rw [List.getLast?_map, hl]; rfl
    · rw [dt2H3_test] at h3 ⊢; rw [dt2_isHostChar_lower]; exact h3

theorem dt2_lowerChar_dot : lowerChar '.' = '.' := by decide

/-- a dotted quad has no cased character -/
theorem dt2_lower_quad (s : Str) (h : DTSpec.isDottedQuad s = true) : lower s = s := by
  have hc := dt2_quad_chars s h
  unfold lower
  conv => rhs; rw [← List.map_id s]
  apply List.map_congr_left
  intro c hm
  rcases hc c hm with h1 | rfl
  · have : pyDigit c = true := by
      simp only [dt2OctCh, Bool.or_eq_true] at h1
      rcases h1 with h1 | h1
      · exact h1
      · exact asciiDigit_pyDigit c h1
    exact dt2_lowerChar_digit c this
  · exact dt2_lowerChar_dot

/-- accepted texts stay accepted, and unchanged, when lower-cased -/
theorem dt2_ipAcc_lower (s : Str) (h : dt2IpAcc s) : dt2IpAcc (lower s) ∧ lower (lower s) = lower s := by
  rcases h with h | h | ⟨h1, h2, h3⟩
  · rw [dt2_lower_quad s h]; exact ⟨Or.inl h, dt2_lower_quad s h⟩
  · have hasc : ∀ c ∈ s, c.toNat < 128 := fun c hc =>
      isKeyChar_ascii c (by have := dt2_hostname_chars s h c hc; rw [keyCharK_isKeyChar] at this; exact this)
    refine ⟨Or.inr (Or.inl ?_), lower_idem s⟩
    rw [lower_ascii s hasc]; exact dt2_isHostname_lower s h
  · have hasc : ∀ c ∈ s, c.toNat < 128 := fun c hc => dt2_isV6Char_ascii c (List.all_eq_true.mp h1 c hc)
    have hll := lower_idem s
    refine ⟨Or.inr (Or.inr ⟨?_, ?_, ?_⟩), hll⟩
    · rw [lower_ascii s hasc]
      unfold asciiLower
      rw [List.all_map, List.all_eq_true]
      intro d hd
      simp only [Function.comp, dt2_isV6Char_lower]
      exact List.all_eq_true.mp h1 d hd
    · rw [dt2_lower_contains_colon]; exact h2
    · rw [hll]; exact h3

theorem dt2_ipaddrOrHostname_idempotent (s r : Str) (h : ipaddrOrHostname s = .ok r) :
    ipaddrOrHostname r = .ok r := by
  rw [dt2_ipaddrOrHostname_eq_spec] at h ⊢
  obtain ⟨rfl, hacc⟩ := (dt2_spec_ok_iff s r).mp h
  obtain ⟨h1, h2⟩ := dt2_ipAcc_lower s hacc
  exact (dt2_spec_ok_iff _ _).mpr ⟨h2.symm, h1⟩

end ZCV.DT
