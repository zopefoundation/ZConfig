import ZCV.Lemmas.ElabRulesDoc
/-!
The keys of the type table of every schema the schema loader returns are fixed points of `lower`
(`elab_types_keys_lower`): a type name enters the table only through `addtype`, with a name that went through the
`basic-key` datatype (`… .lower()`), and no handler renames an entry.  `KeysLower es` is kept by every handler, hence by
the tree walk (an instance of `WalkRel`) and by whole documents, nested ones included (an instance of `DocRel`).  Nothing is
asked of the key types.
-/
namespace ZCV.Elab
open ZCV ZCV.Cfg

/-- every key of the type table is a fixed point of `str.lower` -/
def KeysLower (es : ES) : Prop := ∀ k ∈ es.typeNames, lower k = k

def Hooks.KeepLower (h : Hooks) : Prop :=
  (∀ es tree es', KeysLower es → h.loadComponent es tree = .ok es' → KeysLower es') ∧
  (∀ es tree es', KeysLower es → h.extendSchema es tree = .ok es' → KeysLower es')

theorem dis_keysLower_of_names {a b : ES} (h : b.typeNames = a.typeNames) (ha : KeysLower a) : KeysLower b := by
  unfold KeysLower; rw [h]; exact ha

theorem dis_startHandled_lower {env : Env} {h : Hooks} {t : Str} {a : Attrs} {st st' : PSt} (hm : h.KeepLower)
    (hes : KeysLower st.es) (hs : startHandled env h t a st = .ok st') : KeysLower st'.es := by
  rcases startHandled_table hs with hs | ⟨_, hn | ⟨v, n, hb, hn⟩⟩
  · rcases startImport_ok hs with rfl | ⟨pkg, file, tree, es2, _, hl, rfl⟩
    · exact hes
    · exact hm.1 { st.es with components := st.es.components ++ [importSource pkg file] } tree es2 hes hl
  · exact dis_keysLower_of_names hn hes
  · intro k hk
    rw [hn, List.mem_append, List.mem_singleton] at hk
    rcases hk with hk | rfl
    · exact hes k hk
    · exact lower_basicKeyE hb

/-- the schema object a base-schema document continues has lower-case keys -/
def DocLower : DocKind → Prop
  | .schema (some es) => KeysLower es
  | _ => True

theorem dis_lower_walk {env : Env} {h : Hooks} {d : DocKind} (hm : h.KeepLower) :
    WalkRel env h d fun s s' => KeysLower s.es → KeysLower s'.es where
  refl _ hs := hs
  trans h1 h2 hs := h2 (h1 hs)
  handled hs _ hc he hes := dis_keysLower_of_names (endHandled_sameTable he).1 (hc (dis_startHandled_lower hm hes hs))
  cdata hch hes := dis_keysLower_of_names (charactersTag_sameTable hch).1 hes

theorem dis_visitChildren_lower {env : Env} {h : Hooks} {d : DocKind} (hm : h.KeepLower) (hd : DocLower d) :
    ∀ (l : List Node) (parent : Str) (st st' : PSt), KeysLower st.es → visitChildren env h d parent st l = .ok st' →
      KeysLower st'.es :=
  fun l parent st st' hes hv => visitChildren_rel (dis_lower_walk hm) l parent st st' hv hes

/-- lower-case keys are kept over a whole document -/
theorem lower_docRel (env : Env) : DocRel env fun a b => KeysLower a → KeysLower b where
  refl _ h := h
  trans h1 h2 h := h2 (h1 h)
  walk hh := dis_lower_walk ⟨fun a b c h1 h2 => hh.1 a b c h2 h1, fun a b c h1 h2 => hh.2 a b c h2 h1⟩
  fresh _ _ _ _ := fun k hk => nomatch hk
  top _ _ _ _ h := h

theorem dis_elabES_keysLower {env : Env} {fuel : Nat} {t : Node} {es : ES} (h : elabES env fuel t = .ok es) :
    KeysLower es :=
  elabES_docRel (lower_docRel env) h fun k hk => nomatch hk

/-- **The type table of a loaded schema is keyed by lower-case names** — `hkeys` of the text-level theorems
(C01/C02/C14/C15/C16), for every schema object that comes out of the schema loader; nothing is assumed of the key
types or of the documents read. -/
theorem elab_types_keys_lower {env : Env} {fuel : Nat} {t : Node} {S : Cfg.Schema}
    (h : elabSchema env fuel t = .ok S) : ∀ p ∈ S.types, lower p.1 = p.1 := by
  obtain ⟨es, he, rfl⟩ := elabSchema_ok h
  intro p hp
  unfold ES.toSchema at hp
  simp only [List.mem_map] at hp
  obtain ⟨q, hq, rfl⟩ := hp
  exact dis_elabES_keysLower he q.1 (List.mem_map.mpr ⟨q, hq, rfl⟩)

end ZCV.Elab
