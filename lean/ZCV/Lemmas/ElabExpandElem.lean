import ZCV.Lemmas.ElabElem
/-!
C11 (`extends` = written-out expansion), what concerns one container.  `computedefault` is idempotent under the same key
type (`computeDefault_idem`), so deriving a section type under its base's key type copies the children unchanged
(`deriveChildren_same_keytype`).  One inherited element (`<key>`, `<multikey>`, `<section>`, `<multisection>`) is a
computation of the child it appends from what it reads of the state — key type and children of the container on top of the
stack, current prefix, names of the type table (`keyElem_eq`, `sectElem_eq`) — so it does the same in two states that agree
on these (`SimTop`, `member_run`).  Hence `replay`: re-reading the inherited elements of a section type on another
container that agrees with the original one reproduces the children of the original.
-/
namespace ZCV.Elab
open ZCV ZCV.Cfg

/-- **`computedefault` is idempotent** (under the same key type): recomputing the defaults of a `+` key from its raw
    defaults gives the same key object again — also after the key has been finished in between.  (`computedefault` is a
    function of the key type, the multiplicity and the defaults as written, `computeDefault_eq`; the first run has stored
    the defaults as written in `raw`, and `finished` is not read.) -/
theorem computeDefault_idem {env : Env} {kt : Str} {k k1 : EKey} (hp : k.name = ['+'])
    (h : computeDefault env kt k = .ok k1) (b : Bool) :
    computeDefault env kt { k1 with finished := b } = .ok { k1 with finished := b } := by
  rw [computeDefault_eq env kt k hp] at h
  cases hd : normDefault env kt k.multi (k.raw.getD k.dflt) with
  | error e => rw [hd] at h; cases h
  | ok d =>
    rw [hd] at h
    obtain rfl : ({ k with raw := some (k.raw.getD k.dflt), dflt := d } : EKey) = k1 := Except.ok.inj h
    rw [computeDefault_eq env kt
      { ({ k with raw := some (k.raw.getD k.dflt), dflt := d } : EKey) with finished := b } hp]
    dsimp only [Option.getD_some]
    rw [hd]
    rfl

theorem mapM_fix {ε α} (f : α → Except ε α) : ∀ (l : List α), (∀ a ∈ l, f a = .ok a) → l.mapM f = .ok l := by
  intro l
  induction l with
  | nil => intro _; rfl
  | cons a l ih =>
    intro h
    rw [List.mapM_cons, h a List.mem_cons_self, ih (fun a' ha' => h a' (List.mem_cons_of_mem _ ha'))]
    rfl

/-- every `+` key of the list has defaults that were computed under `kt` -/
def ComputedUnder (env : Env) (kt : Str) (ch : List (Option Str × EInfo)) : Prop :=
  ∀ c ∈ ch, ∀ k, c.2 = EInfo.key k → k.name = ['+'] → computeDefault env kt k = .ok k

theorem deriveChildren_same_keytype {env : Env} {kt : Str} {ch : List (Option Str × EInfo)}
    (h : ComputedUnder env kt ch) : deriveChildren env kt ch = .ok ch := by
  unfold deriveChildren
  refine mapM_fix _ ch ?_
  intro ⟨key, info⟩ hmem
  dsimp only
  cases info with
  | sect si => rfl
  | key k =>
    dsimp only
    by_cases hp : k.name = ['+']
    · have : (k.name == ['+']) = true := by simp [hp]
      simp only [this, ↓reduceIte, h _ hmem k rfl hp]
      rfl
    · have : (k.name == ['+']) = false := by simp [hp]
      simp only [this, Bool.false_eq_true, ↓reduceIte]
      rfl

theorem getClassname_congr {st st' : PSt} (hp : st.prefixes.head? = st'.prefixes.head?) (n : Str) :
    getClassname st n = getClassname st' n := by
  unfold getClassname
  cases h1 : st.prefixes <;> cases h2 : st'.prefixes <;> simp only [h1, h2, List.head?_cons, List.head?_nil] at hp ⊢
  · cases hp
  · cases hp
  · injection hp with hp; subst hp; rfl

theorem getDatatype_congr {env : Env} {st st' : PSt} (hp : st.prefixes.head? = st'.prefixes.head?) (a : Attrs)
    (key dflt : String) (base : Option Str) : getDatatype env st a key dflt base = getDatatype env st' a key dflt base := by
  unfold getDatatype
  split
  · rw [getClassname_congr hp]
  · rfl

theorem getSectTypeinfo_congr {env : Env} {st st' : PSt} (hp : st.prefixes.head? = st'.prefixes.head?) (a : Attrs)
    (base : Option (Str × Str)) : getSectTypeinfo env st a base = getSectTypeinfo env st' a base := by
  unfold getSectTypeinfo
  rw [getDatatype_congr hp a "keytype", getDatatype_congr hp a "valuetype", getDatatype_congr hp a "datatype"]

theorem nameTail_congr {env : Env} {st st' : PSt} (hk : topKeytype st = topKeytype st') (name : Str) (aname : Option Str) :
    nameTail env st name aname = nameTail env st' name aname := by
  unfold nameTail
  rw [hk]

theorem getNameInfo_congr {env : Env} {st st' : PSt} (hk : topKeytype st = topKeytype st') (a : Attrs) (dflt : Option Str) :
    getNameInfo env st a dflt = getNameInfo env st' a dflt := by
  unfold getNameInfo
  rw [hk]

theorem getKeyInfo_congr {env : Env} {st st' : PSt} (hk : topKeytype st = topKeytype st')
    (hp : st.prefixes.head? = st'.prefixes.head?) (a : Attrs) : getKeyInfo env st a = getKeyInfo env st' a := by
  rw [getKeyInfo_nf, getKeyInfo_nf, getNameInfo_congr hk, getDatatype_congr hp]

theorem topKeytype_eq (st : PSt) : topKeytype st = topKeytype { st with prefixes := [], baseKts := [], baseDts := [] } := rfl

open ZCV.SchemaRules (keyTag sectTag)

/-- `sb`, `sd` have the same children and key type in the container on top of the stack and the same current prefix, and
    the type table of `sd` extends that of `sb` (not symmetric) -/
structure SimTop (sb sd : PSt) : Prop where
  ch : ∃ ch, topOf sb.es sb.stack = .ok ch ∧ topOf sd.es sd.stack = .ok ch
  kt : ktOf sb.es sb.stack = ktOf sd.es sd.stack
  pre : sb.prefixes.head? = sd.prefixes.head?
  grows : Grows sb.es sd.es

theorem SimTop.topKeytype {sb sd : PSt} (h : SimTop sb sd) : topKeytype sb = topKeytype sd := by
  rw [topKeytype_ktOf, topKeytype_ktOf]; exact h.kt

theorem SimTop.setTop {sb sd : PSt} (h : SimTop sb sd) (c : List (Option Str × EInfo)) :
    SimTop { sb with es := setTopOf sb.es sb.stack c } { sd with es := setTopOf sd.es sd.stack c } := by
  obtain ⟨ch, h1, h2⟩ := h.ch
  refine ⟨⟨c, topOf_setTopOf h1, topOf_setTopOf h2⟩, ?_, h.pre, ?_⟩
  · show ktOf (setTopOf sb.es sb.stack c) sb.stack = ktOf (setTopOf sd.es sd.stack c) sd.stack
    rw [ktOf_setTopOf, ktOf_setTopOf]; exact h.kt
  · show Grows (setTopOf sb.es sb.stack c) (setTopOf sd.es sd.stack c)
    unfold Grows
    rw [names_setTopOf, names_setTopOf]
    exact h.grows

/-- `ComputedUnder` for a single child, with the key type given as a computation: a `+` key whose defaults are those
    `computedefault` gives under the key type `ktm` -/
def FixedUnder (env : Env) (ktm : EM Str) (info : EInfo) : Prop :=
  ∀ k, info = EInfo.key k → k.name = ['+'] → ∃ kt, ktm = .ok kt ∧ computeDefault env kt k = .ok k

theorem endObj_fixedUnder {env : Env} {multi : Bool} (ktm : EM Str) (k k'' : EKey)
    (h : SchemaRules.endObj multi env ktm k = .ok k'') : FixedUnder env ktm (EInfo.key k'') := by
  intro kk hkk hname
  cases hkk
  rw [SchemaRules.endObj_eq] at h
  rcases ite_ok h with ⟨hp, h⟩ | ⟨hp, h⟩
  · obtain ⟨kt, hkt, h⟩ := bind_ok_inv h
    obtain ⟨k1, hcd, hfin⟩ := bind_ok_inv h
    rw [finishKey_ok hfin]
    exact ⟨kt, hkt, computeDefault_idem hp hcd true⟩
  · rcases ite_ok h with ⟨_, h⟩ | ⟨_, h⟩
    · rw [finishKey_ok h] at hname; exact absurd hname hp
    · cases h; exact absurd hname hp

theorem keyElemE_fixed {env : Env} {isC multi : Bool} {gi : EM (Str × Str × Option Str × Str)} {kt : Str}
    {ch : List (Option Str × EInfo)} {a : Attrs} {c : List Node} {x : Option Str × EInfo}
    (h : keyElemE env isC multi gi kt ch a c = .ok x) : FixedUnder env (.ok kt) x.2 := by
  unfold keyElemE at h
  obtain ⟨q, _, h⟩ := bind_ok_inv h
  obtain ⟨u, _, h⟩ := bind_ok_inv h
  obtain ⟨f, hf, h⟩ := bind_ok_inv h
  obtain ⟨k', hk', h⟩ := bind_ok_inv h
  cases h
  obtain ⟨k1, rfl⟩ := (leafBodyE_isLocal c rfl hf).2 _ rfl
  exact endObj_fixedUnder _ _ _ hk'

theorem sectElemE_sect {isC multi : Bool} {gs : EM Str} {gn : EM (Option Str × Option Str × Option Str)}
    {ch : List (Option Str × EInfo)} {a : Attrs} {c : List Node} {x : Option Str × EInfo}
    (h : sectElemE isC multi gs gn ch a c = .ok x) : ∃ si, x.2 = EInfo.sect si := by
  unfold sectElemE at h
  obtain ⟨q, _, h⟩ := bind_ok_inv h
  obtain ⟨u, _, h⟩ := bind_ok_inv h
  obtain ⟨f, _, h⟩ := bind_ok_inv h
  cases h
  exact ⟨_, rfl⟩

/-- **One inherited element, accepted below a container with children `ch`**: the container gets one more child `x` and
    nothing else changes; a `+` key has its defaults computed under the container's key type; and in every state that
    agrees with this one on the container the element is accepted too, with the same child. -/
theorem member_run {env : Env} {h : Hooks} {d : DocKind} {p t : Str} {a : Attrs} {c : List Node} {st st' : PSt}
    {ch : List (Option Str × EInfo)} (ht : inheritedTags.contains t = true) (hch : topOf st.es st.stack = .ok ch)
    (hv : visitElem env h d (some p) st (.elem t a c) = .ok st') :
    ∃ x, st' = { st with es := setTopOf st.es st.stack (ch ++ [x]) } ∧ FixedUnder env (ktOf st.es st.stack) x.2 ∧
      ∀ sd, SimTop st sd →
        visitElem env h d (some p) sd (.elem t a c) = .ok { sd with es := setTopOf sd.es sd.stack (ch ++ [x]) } := by
  have hn := visitElem_ok_nesting hv
  have hsd : ∀ {sd}, SimTop st sd → topOf sd.es sd.stack = .ok ch := by
    intro sd hs
    obtain ⟨ch', h1, h2⟩ := hs.ch
    rw [hch] at h1
    cases h1
    exact h2
  rcases SchemaRules.inheritedTags_cases ht with hk | hs
  · obtain ⟨multi, rfl, _⟩ := SchemaRules.isKeyTag_keyTag hk
    obtain ⟨kt, hkt⟩ := ktOf_of_topOf hch
    rw [keyElem_eq hn hch hkt] at hv
    cases hx : keyElemE env (isComp d) multi (getKeyInfo env st a) kt ch a c with
    | error e => rw [hx] at hv; cases hv
    | ok x =>
      rw [hx] at hv
      refine ⟨x, (Except.ok.inj hv).symm, hkt ▸ keyElemE_fixed hx, fun sd hs => ?_⟩
      rw [keyElem_eq hn (hsd hs) (hs.kt ▸ hkt), ← getKeyInfo_congr hs.topKeytype hs.pre, hx]
      rfl
  · obtain ⟨multi, rfl, _⟩ := SchemaRules.isSectTag_sectTag hs
    rw [sectElem_eq hn hch] at hv
    cases hx : sectElemE (isComp d) multi (getSectiontype st a) (getNameInfo env st a (some ['*'])) ch a c with
    | error e => rw [hx] at hv; cases hv
    | ok x =>
      rw [hx] at hv
      obtain ⟨si, hsi⟩ := sectElemE_sect hx
      have hfix : FixedUnder env (ktOf st.es st.stack) x.2 := by
        intro k hk
        rw [hsi] at hk
        cases hk
      refine ⟨x, (Except.ok.inj hv).symm, hfix, fun sd hs => ?_⟩
      rw [sectElem_eq hn (hsd hs), ← getNameInfo_congr hs.topKeytype,
        sectElemE_mono (fun ty hty => getSectiontype_grows hs.grows hty) hx]
      rfl

/-- what `<description>` / `<example>` directly below a `<sectiontype>` leave as it is -/
structure FlagsOnly (sb sb1 : PSt) : Prop where
  stack : sb1.stack = sb.stack
  prefixes : sb1.prefixes = sb.prefixes
  top : topOf sb1.es sb.stack = topOf sb.es sb.stack
  kt : ktOf sb1.es sb.stack = ktOf sb.es sb.stack
  names : sb1.es.types.map (·.1) = sb.es.types.map (·.1)

theorem FlagsOnly.refl (sb : PSt) : FlagsOnly sb sb := ⟨rfl, rfl, rfl, rfl, rfl⟩

theorem FlagsOnly.updType (sb : PSt) (n : Str) (f : EType → EType) (h1 : ∀ t, (f t).children = t.children)
    (h2 : ∀ t, (f t).keytype = t.keytype) : FlagsOnly sb { sb with es := sb.es.updType n f } :=
  ⟨rfl, rfl, topOf_updType_flag _ _ _ h1 _, ktOf_updType_flag _ _ _ h2 _, updType_typeNames _ _ _⟩

theorem FlagsOnly.sim {sb sb1 sd : PSt} (hf : FlagsOnly sb sb1) (hs : SimTop sb sd) : SimTop sb1 sd := by
  obtain ⟨ch, h1, h2⟩ := hs.ch
  refine ⟨⟨ch, by rw [hf.stack, hf.top]; exact h1, h2⟩, by rw [hf.stack, hf.kt]; exact hs.kt, by rw [hf.prefixes]; exact hs.pre, ?_⟩
  unfold Grows
  rw [hf.names]
  exact hs.grows

theorem stypeCdata_form {c : Bool} {tag : Str} {attrs : Attrs} {data : Str} {sb sb1 : PSt} {B : Str} {r : List Frame}
    (hs : sb.stack = .stype B :: r) (h : charactersTag c tag attrs data sb = .ok sb1) :
    sb1 = sb ∨ ∃ f : EType → EType, (∀ t, (f t).children = t.children ∧ (f t).keytype = t.keytype ∧
      (f t).datatype = t.datatype) ∧ sb1 = { sb with es := sb.es.updType B f } := by
  rcases charactersTag_ok h with ⟨k, rest, _, hk, _⟩ | hfl
  · rw [hs] at hk; cases hk
  · cases hfl with
    | same => exact .inl rfl
    | top t rest hs' _ _ => rw [hs] at hs'; cases hs'
    | stype n rest f hs' hf => rw [hs] at hs'; cases hs'; exact .inr ⟨f, fun t => (hf t).2, rfl⟩
    | atype n rest hs' => rw [hs] at hs'; cases hs'
    | key k d e rest hs' => rw [hs] at hs'; cases hs'
    | sect a b a' b' rest hs' => rw [hs] at hs'; cases hs'

theorem stypeCdata_flags {c : Bool} {tag : Str} {attrs : Attrs} {data : Str} {sb sb1 : PSt} {B : Str} {r : List Frame}
    (hs : sb.stack = .stype B :: r) (h : charactersTag c tag attrs data sb = .ok sb1) : FlagsOnly sb sb1 := by
  rcases stypeCdata_form hs h with rfl | ⟨f, hf, rfl⟩
  · exact FlagsOnly.refl _
  · exact FlagsOnly.updType _ _ _ (fun t => (hf t).1) (fun t => (hf t).2.1)

/-- below `<sectiontype>`: an inherited element, or `description` / `example` -/
theorem stype_child_cases {d : DocKind} {p t : Str} (hn : nestingCheck p t = .ok ())
    (hp : pkOfB (isComp d) p = some .stype) :
    inheritedTags.contains t = true ∨
      ∀ (env : Env) (h : Hooks) (st : PSt) (a : Attrs) (c : List Node),
        visitElem env h d (some p) st (.elem t a c) =
          (collectText t c >>= fun data => charactersTag (isComp d) t a (strip data) st) := by
  rcases child_cases hn hp with ⟨h, _⟩ | ⟨_, h⟩ | h
  · exact Or.inl h
  · rcases h with h | h <;> cases h
  · exact Or.inr h

def TopUpd (sd sd' : PSt) : Prop := sd' = sd ∨ ∃ cs, sd' = { sd with es := setTopOf sd.es sd.stack cs }

theorem TopUpd.trans {a b c : PSt} (h1 : TopUpd a b) (h2 : TopUpd b c) : TopUpd a c := by
  rcases h1 with rfl | ⟨c1, rfl⟩
  · exact h2
  · rcases h2 with rfl | ⟨c2, rfl⟩
    · exact Or.inr ⟨c1, rfl⟩
    · refine Or.inr ⟨c2, ?_⟩
      dsimp only
      rw [setTopOf_setTopOf]

def TopComputed (env : Env) (kt : Str) (sb : PSt) : Prop :=
  ktOf sb.es sb.stack = .ok kt ∧ ∀ ch, topOf sb.es sb.stack = .ok ch → ComputedUnder env kt ch

theorem TopComputed.of_nil {env : Env} {kt : Str} {sb : PSt} (hkt : ktOf sb.es sb.stack = .ok kt)
    (hnil : topOf sb.es sb.stack = .ok []) : TopComputed env kt sb := by
  refine ⟨hkt, fun ch hch => ?_⟩
  rw [hnil] at hch
  cases hch
  intro c hc
  cases hc

theorem TopComputed.append {env : Env} {kt : Str} {sb : PSt} {ch : List (Option Str × EInfo)} {key : Option Str}
    {info : EInfo} (h : TopComputed env kt sb) (htop : topOf sb.es sb.stack = .ok ch)
    (hfix : FixedUnder env (ktOf sb.es sb.stack) info) :
    TopComputed env kt { sb with es := setTopOf sb.es sb.stack (ch ++ [(key, info)]) } := by
  refine ⟨by show ktOf (setTopOf _ _ _) sb.stack = _; rw [ktOf_setTopOf]; exact h.1, ?_⟩
  intro ch' hch'
  have : topOf (setTopOf sb.es sb.stack (ch ++ [(key, info)])) sb.stack = .ok ch' := hch'
  rw [topOf_setTopOf htop] at this
  injection this with this
  subst this
  intro c hc k hk hname
  rcases List.mem_append.mp hc with hc | hc
  · exact h.2 ch htop c hc k hk hname
  · simp only [List.mem_singleton] at hc
    subst hc
    obtain ⟨kt', hkt', hcd⟩ := hfix k hk hname
    rw [h.1] at hkt'
    injection hkt' with hkt'
    subst hkt'
    exact hcd

theorem TopComputed.flags {env : Env} {kt : Str} {sb sb1 : PSt} (h : TopComputed env kt sb) (hf : FlagsOnly sb sb1) :
    TopComputed env kt sb1 := by
  refine ⟨by rw [hf.stack, hf.kt]; exact h.1, ?_⟩
  intro ch hch
  rw [hf.stack, hf.top] at hch
  exact h.2 ch hch

/-- **Replay.**  If the children `c` of a section type were read successfully from `sb`, then reading the inherited
    ones among them from a state `sd` that agrees with `sb` on the container on top of the stack succeeds too, only
    changes the children of that container, and leaves the two containers in agreement — in particular with the same
    list of children.  Moreover the defaults of all `+` keys of the container stay "computed under its key type". -/
theorem replay {env : Env} {h : Hooks} {d : DocKind} {p : Str} (hp : pkOfB (isComp d) p = some .stype) (kt : Str) :
    ∀ (c : List Node) (sb sb' sd : PSt), SimTop sb sd → (∃ B r, sb.stack = .stype B :: r) → TopComputed env kt sb →
      visitChildren env h d p sb c = .ok sb' →
      ∃ sd', visitChildren env h d p sd (inheritedChildren c) = .ok sd' ∧ SimTop sb' sd' ∧ TopUpd sd sd' ∧
        TopComputed env kt sb' ∧ sb'.stack = sb.stack
  | [], sb, sb', sd, hs, _, hc, hv => by
    unfold visitChildren at hv
    injection hv with hv
    subst hv
    exact ⟨sd, by unfold inheritedChildren visitChildren; rfl, hs, Or.inl rfl, hc, rfl⟩
  | .text s :: r, sb, sb', sd, hs, hB, hc, hv => by
    unfold visitChildren at hv
    rcases ite_ok hv with ⟨_, hv⟩ | ⟨_, hv⟩
    · unfold inheritedChildren
      exact replay hp kt r sb sb' sd hs hB hc hv
    · cases hv
  | .elem t a c0 :: r, sb, sb', sd, hs, hB, hc, hv => by
    unfold visitChildren at hv
    cases he : visitElem env h d (some p) sb (.elem t a c0) with
    | error e => simp only [he] at hv; cases hv
    | ok sb1 =>
      simp only [he] at hv
      obtain ⟨B, rB, hBs⟩ := hB
      cases hin : inheritedTags.contains t with
      | true =>
        obtain ⟨ch, h1, _⟩ := hs.ch
        obtain ⟨x, rfl, hfix, hd1⟩ := member_run hin h1 he
        obtain ⟨sd', hd', hs', hu', hc', hst'⟩ := replay hp kt r _ sb' _ (hs.setTop (ch ++ [x])) ⟨B, rB, hBs⟩
          (hc.append h1 hfix) hv
        refine ⟨sd', ?_, hs', TopUpd.trans (Or.inr ⟨_, rfl⟩) hu', hc', hst'⟩
        unfold inheritedChildren
        simp only [hin, ↓reduceIte]
        rw [visitChildren_elem, hd1 sd hs]
        exact hd'
      | false =>
        rw [(stype_child_cases (visitElem_ok_nesting he) hp).resolve_left (by rw [hin]; simp), bind_ok] at he
        obtain ⟨data, _, hch⟩ := he
        have hfl := stypeCdata_flags hBs hch
        obtain ⟨sd', hd', hs', hu', hc', hst'⟩ :=
          replay hp kt r sb1 sb' sd (hfl.sim hs) ⟨B, rB, by rw [hfl.stack]; exact hBs⟩ (hc.flags hfl) hv
        refine ⟨sd', ?_, hs', hu', hc', by rw [hst', hfl.stack]⟩
        unfold inheritedChildren
        simp only [hin, Bool.false_eq_true, ↓reduceIte]
        exact hd'

end ZCV.Elab
