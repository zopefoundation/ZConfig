import ZCV.Lemmas.UrlPathQuote
import ZCV.Lemmas.SplitJoin
import ZCV.Spec.UrlPath
/-! The specification's `segments` / `unsegments` are `splitOn` / `joinWith` (`Lemmas/SplitJoin.lean`) for `/`; `quote` acts segment by
segment. -/
namespace ZCV.UrlPath
open ZCV

theorem up_segments_eq (s : Str) : UrlPathSpec.segments s = splitOn '/' s := by
  induction s with
  | nil => rfl
  | cons x t ih =>
    simp only [UrlPathSpec.segments, splitOn, ih]
    split
    · rfl
    · cases splitOn '/' t <;> rfl

theorem up_unsegments_eq (l : List Str) : UrlPathSpec.unsegments l = joinWith '/' l := by
  induction l with
  | nil => rfl
  | cons a t ih =>
    cases t with
    | nil => rfl
    | cons b t => simp only [UrlPathSpec.unsegments, joinWith, ih]

/-! ## `quote` and segments -/

theorem up_quote_joinWith (l : List Str) : quote (joinWith '/' l) = joinWith '/' (l.map quote) := by
  induction l with
  | nil => rfl
  | cons a t ih =>
    cases t with
    | nil => rfl
    | cons b t =>
      show quote (a ++ '/' :: joinWith '/' (b :: t)) = quote a ++ '/' :: joinWith '/' (List.map quote (b :: t))
      rw [up_quote_append, up_quote_cons, up_quote_single_slash, ih]
      rfl

theorem up_quote_noslash (p : Str) (h : '/' ∉ p) : '/' ∉ quote p := by
  induction p with
  | nil => simp [up_quote_nil]
  | cons c t ih =>
    rw [up_quote_cons]
    intro hm
    simp only [List.mem_append] at hm
    rcases hm with hm | hm
    · exact up_quote_single_noslash c (fun e => h (by simp [e])) hm
    · exact ih (fun e => h (by simp [e])) hm

/-- `quote` works segment by segment: the quoted text is the quoted segments joined, and none of them has a slash -/
theorem up_splitOn_quote (p : Str) : splitOn '/' (quote p) = (splitOn '/' p).map quote := by
  have := up_splitOn_joinWith '/' ((splitOn '/' p).map quote) (by simp [up_splitOn_ne_nil]) (by
    intro s hs
    obtain ⟨q, hq, rfl⟩ := List.mem_map.1 hs
    exact up_quote_noslash q (up_splitOn_pieces '/' p q hq))
  rwa [← up_quote_joinWith, up_joinWith_splitOn] at this

end ZCV.UrlPath
