import ZCV.Lemmas.LoadSlot
import ZCV.Lemmas.IncludeAux
/-!
C12, slot side: what `getsectioninfo` answers at a child that is a slot of ABSTRACT type, exactly (errors included),
once the children before it have been passed over; and what that means for `lsStart`.
-/
namespace ZCV.Cfg
open ZCV ZCV.Conf

theorem isSubtype_iff_mem (s : Schema) (a ty : Str) : isSubtype s a ty = true ↔ ty ∈ implementers s a := by
  rw [isSubtype_eq]; exact List.contains_iff_mem

theorem isAbstract_of_isSubtype (s : Schema) (a ty : Str) (h : isSubtype s a ty = true) : isAbstract s a = true := by
  unfold isSubtype at h
  unfold isAbstract
  split at h
  · rfl
  · cases h

theorem abstract_ne_concrete (s : Schema) (a ty : Str) (ha : isAbstract s a = true) (hc : isAbstract s ty = false) :
    (a == ty) = false := by
  cases h : a == ty with
  | false => rfl
  | true =>
    have : a = ty := by simpa using h
    rw [this, hc] at ha
    cases ha

theorem isAbstract_concrete (s : Schema) (ty : Str) (t : SType) (h : s.gettype ty = some (.concrete t)) :
    isAbstract s ty = false := by
  unfold isAbstract; rw [h]

/-! ### children that do not claim the header are passed over -/

theorem go_skip (s : Schema) (ty : Str) (nm : Option Str) :
    ∀ (pre rest : List (Option Str × Info)),
      (∀ c ∈ pre, keyShapeOK c) → (∀ c ∈ pre, claims s ty nm c = false) →
      getsectioninfo.go s ty nm (pre ++ rest) = getsectioninfo.go s ty nm rest
  | [], _, _, _ => rfl
  | c :: pre, rest, hsh, hcl => by
    rw [List.cons_append, go_cons, stopsAt_eq_claims s ty nm c (hsh c List.mem_cons_self), hcl c List.mem_cons_self,
      if_neg Bool.false_ne_true]
    exact go_skip s ty nm pre rest (fun c h => hsh c (List.mem_cons_of_mem _ h)) (fun c h => hcl c (List.mem_cons_of_mem _ h))

theorem go_none_claims (s : Schema) (ty : Str) (nm : Option Str) (l : List (Option Str × Info))
    (hsh : ∀ c ∈ l, keyShapeOK c) (hcl : ∀ c ∈ l, claims s ty nm c = false) :
    getsectioninfo.go s ty nm l = .error (plainErr "no matching section defined") := by
  have := go_skip s ty nm l [] hsh hcl
  rw [List.append_nil] at this
  rw [this, getsectioninfo.go]

/-! ### at the slot -/

theorem go_at_unnamed_abstract (s : Schema) (ty : Str) (nm : Option Str) (si : SectInfo) (post : List (Option Str × Info))
    (hconc : isAbstract s ty = false) (ha : isAbstract s si.ty = true) :
    getsectioninfo.go s ty nm ((none, .sect si) :: post) =
      if isSubtype s si.ty ty then .ok si else getsectioninfo.go s ty nm post := by
  have hne := abstract_ne_concrete s _ _ ha hconc
  rw [go_cons]
  simp only [stopsAt, answerAt, effKey, hne, Bool.false_or, ha, Bool.true_and, Bool.false_eq_true, if_false]

theorem go_at_named_abstract (s : Schema) (ty k : Str) (si : SectInfo) (post : List (Option Str × Info))
    (hk : k ≠ []) (ha : isAbstract s si.ty = true) :
    getsectioninfo.go s ty (some k) ((some k, .sect si) :: post) =
      if isSubtype s si.ty ty then .ok si else .error (plainErr "section type not allowed for name") := by
  have hk' : (k != []) = true := by simpa using hk
  rw [go_cons]
  simp only [stopsAt, answerAt, effKey, hk', if_true, beq_self_eq_true, ha]

/-! ### `stypeOK` consequences -/

theorem stypeOK_shape (s : Schema) (t : SType) (h : stypeOK s t = true) : ∀ c ∈ t.children, keyShapeOK c :=
  (stypeOK_prop s t h).shape

theorem keyed_before_not_claim (s : Schema) (t : SType) (h : stypeOK s t = true) (ty k : Str)
    (pre post : List (Option Str × Info)) (info : Info)
    (hch : t.children = pre ++ (some k, info) :: post) :
    ∀ c ∈ pre, ∀ k', c.1 = some k' → claims s ty (some k) c = false := by
  intro c hc k' hk'
  have hn := (stypeOK_prop s t h).keys
  rw [hch, List.filterMap_append, List.filterMap_cons] at hn
  simp only at hn
  have hne : k' ≠ k := by
    intro heq
    subst heq
    rw [List.nodup_append] at hn
    have hmem : k' ∈ List.filterMap (fun x => x.1) pre := List.mem_filterMap.mpr ⟨c, hc, hk'⟩
    exact hn.2.2 k' hmem k' List.mem_cons_self rfl
  obtain ⟨ck, ci⟩ := c
  simp only at hk'
  subst hk'
  simp only [claims]
  have : (some k' == some k) = false := by simpa using hne
  rw [this, Bool.and_false]

/-! ### the general statement: the first claiming child decides -/

theorem admits_abstract_iff (s : Schema) (ty : Str) (name : Option Str) (si : SectInfo) (c : Option Str × Info)
    (hconc : isAbstract s ty = false) (ha : isAbstract s si.ty = true) (hcl : claims s ty name c = true) :
    admits s ty name c = some si ↔ c.2 = .sect si ∧ ty ∈ implementers s si.ty := by
  obtain ⟨key, info⟩ := c
  have hne := abstract_ne_concrete s _ _ ha hconc
  cases info with
  | key ki => simp [admits]
  | sect si' =>
    constructor
    · intro h
      unfold admits at h
      cases key with
      | some k =>
        simp only at h
        by_cases hab : isAbs s si'.ty = true
        · simp only [hab, if_true] at h
          split at h
          · rename_i hc
            cases h
            exact ⟨rfl, List.contains_iff_mem.mp hc⟩
          · cases h
        · simp only [hab, Bool.false_eq_true, if_false] at h
          split at h
          · cases h
            rw [← isAbstract_eq, ha] at hab
            exact absurd rfl hab
          · cases h
      | none =>
        simp only at h
        by_cases heq : (si'.ty == ty) = true
        · simp only [heq, if_true] at h
          split at h
          · cases h
            rw [hne] at heq
            cases heq
          · cases h
        · simp only [heq, Bool.false_eq_true, if_false, Option.some.injEq] at h
          subst h
          simp only [claims, hne, Bool.false_or, Bool.and_eq_true] at hcl
          exact ⟨rfl, List.contains_iff_mem.mp hcl.2⟩
    · intro ⟨h1, h2⟩
      simp only [Info.sect.injEq] at h1
      subst h1
      have hab : isAbs s si'.ty = true := ha
      have hc : (implementers s si'.ty).contains ty = true := List.contains_iff_mem.mpr h2
      unfold admits
      cases key with
      | some k => simp only [hab, hc, if_true]
      | none => simp only [hne, Bool.false_eq_true, if_false]

theorem slot_admits_iff (s : Schema) (t : SType) (hOK : stypeOK s t = true) (ty : Str) (name : Option Str) (si : SectInfo)
    (hconc : isAbstract s ty = false) (ha : isAbstract s si.ty = true) :
    getsectioninfo s t ty name = .ok si ↔
      ∃ c, t.children.find? (claims s ty name) = some c ∧ c.2 = .sect si ∧ ty ∈ implementers s si.ty := by
  rw [← toOption_eq_some, getsectioninfo_eq_slotOf s t ty name (stypeOK_prop s t hOK)]
  unfold slotOf
  cases hf : t.children.find? (claims s ty name) with
  | none => simp
  | some c =>
    simp only [Option.some.injEq, exists_eq_left']
    exact admits_abstract_iff s ty name si c hconc ha (List.find?_some hf)

/-! ### `lsStart` at an abstract slot -/

theorem stypeOK_of_schemaOK (s : Schema) (hs : schemaOK s = true) (t : SType)
    (ht : t = s.top ∨ ∃ pt, s.gettype pt = some (.concrete t)) : stypeOK s t = true := by
  rcases ht with rfl | ⟨pt, hpt⟩
  · exact schemaOK_top s hs
  · exact (schemaOK_type s hs pt t hpt).1

theorem lsStart_of_slot (st : LS) (ty : Str) (nm : Option Str) (parent : Matcher) (below : List Matcher)
    (tt : SType) (si : SectInfo) (hs : st.stack = parent :: below) (hb : parent.bag = none)
    (hg : st.schema.gettype ty = some (.concrete tt)) (hcanon : tt.name = some ty)
    (hgi : getsectioninfo st.schema parent.ty ty nm = .ok si)
    (hname : isAllowedName si nm = true) (hun : (nm.isSome || allowUnnamed si) = true) :
    lsStart st ty nm = .ok { st with stack := newMatcher tt nm none :: parent :: below } := by
  rw [lsStart_eq st parent below hs]
  simp only [sectCheck, hg, hcanon, Option.getD_some, hgi, hname, hun, Bool.not_true, Bool.false_eq_true, if_false, bagStep, hb]

theorem lsStart_admitted_unnamed (st : LS) (ty : Str) (nm : Option Str) (parent : Matcher) (below : List Matcher)
    (tt : SType) (si : SectInfo) (pre post : List (Option Str × Info))
    (hs : st.stack = parent :: below) (hb : parent.bag = none)
    (hg : st.schema.gettype ty = some (.concrete tt)) (hcanon : tt.name = some ty)
    (hch : parent.ty.children = pre ++ (none, .sect si) :: post)
    (hshape : ∀ c ∈ pre, keyShapeOK c) (hpre : ∀ c ∈ pre, claims st.schema ty nm c = false)
    (hsub : isSubtype st.schema si.ty ty = true)
    (hname : isAllowedName si nm = true) (hun : (nm.isSome || allowUnnamed si) = true) :
    lsStart st ty nm = .ok { st with stack := newMatcher tt nm none :: parent :: below } := by
  refine lsStart_of_slot st ty nm parent below tt si hs hb hg hcanon ?_ hname hun
  unfold getsectioninfo
  rw [hch, go_skip _ _ _ _ _ hshape hpre,
    go_at_unnamed_abstract _ _ _ _ _ (isAbstract_concrete _ _ _ hg) (isAbstract_of_isSubtype _ _ _ hsub), hsub, if_pos rfl]

theorem lsStart_admitted_named (st : LS) (ty k : Str) (parent : Matcher) (below : List Matcher)
    (tt : SType) (si : SectInfo) (pre post : List (Option Str × Info))
    (hs : st.stack = parent :: below) (hb : parent.bag = none)
    (hg : st.schema.gettype ty = some (.concrete tt)) (hcanon : tt.name = some ty)
    (hch : parent.ty.children = pre ++ (some k, .sect si) :: post) (hk : k ≠ [])
    (hshape : ∀ c ∈ pre, keyShapeOK c) (hpre : ∀ c ∈ pre, claims st.schema ty (some k) c = false)
    (hsub : isSubtype st.schema si.ty ty = true) (hname : isAllowedName si (some k) = true) :
    lsStart st ty (some k) = .ok { st with stack := newMatcher tt (some k) none :: parent :: below } := by
  refine lsStart_of_slot st ty (some k) parent below tt si hs hb hg hcanon ?_ hname rfl
  unfold getsectioninfo
  rw [hch, go_skip _ _ _ _ _ hshape hpre,
    go_at_named_abstract _ _ _ _ _ hk (isAbstract_of_isSubtype _ _ _ hsub), hsub, if_pos rfl]

theorem lsStart_unclaimed_refused (st : LS) (ty : Str) (nm : Option Str) (parent : Matcher) (below : List Matcher)
    (tt : SType) (hs : st.stack = parent :: below)
    (hg : st.schema.gettype ty = some (.concrete tt)) (hcanon : tt.name = some ty)
    (hshape : ∀ c ∈ parent.ty.children, keyShapeOK c)
    (hnone : ∀ c ∈ parent.ty.children, claims st.schema ty nm c = false) :
    lsStart st ty nm = .error (plainErr "no matching section defined") := by
  have : getsectioninfo st.schema parent.ty (tt.name.getD []) nm = .error (plainErr "no matching section defined") := by
    rw [hcanon]
    exact go_none_claims _ _ _ _ hshape hnone
  rw [lsStart_eq st parent below hs]
  simp only [sectCheck, hg, this]

theorem lsStart_unknown_refused (st : LS) (ty : Str) (nm : Option Str) (parent : Matcher) (below : List Matcher)
    (hs : st.stack = parent :: below) (hg : st.schema.gettype ty = none) :
    lsStart st ty nm = .error (.cfg { kind := .schema, tag := "unknown type name" }) := by
  rw [lsStart_eq st parent below hs]
  simp only [sectCheck, hg]

end ZCV.Cfg
