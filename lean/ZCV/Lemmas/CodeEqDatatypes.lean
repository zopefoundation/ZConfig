import ZCV.Gen.CodeDatatypes
import ZCV.Model.Timedelta
import ZCV.Lemmas.PyPrims
import ZCV.Lemmas.Datatypes
/-!
# The generated code of `ZConfig/datatypes.py` equals the hand-written model

For every function `f` translated by `harness/zcv/pytrans.py` (`ZCV/Gen/CodeDatatypes.lean`, regenerated from the
Python source on every run): `Gen.Code.f args = embed (DT.f args)` for ALL arguments, where `embed` only re-tags the
exception type (`ConvErr` of the models → `PyExc` of the generated code) and, for socket addresses, the family enum.
`timedelta` takes `float()`'s acceptance and the constructor as parameters: `code_timedelta_eq`, and
`code_timedeltaChecked_eq` under `CtorLike`.
A change to the Python function changes the generated definition and this file then fails to check.
-/
-- one simp set serves several branches of a case analysis; the linter would flag it in each branch that needs less
set_option linter.unusedSimpArgs false
namespace ZCV.CodeEq
open ZCV ZCV.Py ZCV.Gen.Code

/-- exception re-tagging, injective -/
def embedErr : ConvErr → PyExc
  | .valueError => .ValueError
  | .typeError => .TypeError
  | .other n => .Other n

theorem embedErr_injective : ∀ a b, embedErr a = embedErr b → a = b := by
  intro a b h; cases a <;> cases b <;> simp_all [embedErr]

/-- result re-tagging: same value, or the same exception class -/
def embed {α} : Except ConvErr α → Except PyExc α
  | .ok v => .ok v
  | .error e => .error (embedErr e)

@[simp] theorem embed_ok {α} (v : α) : embed (.ok v : Except ConvErr α) = .ok v := rfl
@[simp] theorem embed_error {α} (e : ConvErr) : embed (.error e : Except ConvErr α) = .error (embedErr e) := rfl
@[simp] theorem embedErr_value : embedErr .valueError = .ValueError := rfl

theorem embed_injective {α} : ∀ a b : Except ConvErr α, embed a = embed b → a = b := by
  intro a b h
  cases a <;> cases b <;> simp_all [embed]
  exact embedErr_injective _ _ h

theorem embed_map {α β} (f : α → β) (r : Except ConvErr α) : embed (r.map f) = (embed r).map f := by
  cases r <;> rfl

theorem contains_of_perm {α} [BEq α] [LawfulBEq α] {l₁ l₂ : List α} {x : α} {b : Bool}
    (h : l₁.contains x = b) (p : l₁.Perm l₂) : l₂.contains x = b := by
  rw [← p.contains_eq]; exact h

/-- `asBoolean` (the word tuples of the code are those of `Gen.boolTrue` / `Gen.boolFalse` up to order) -/
theorem code_asBoolean_eq (s : Str) : asBoolean s = embed (DT.asBoolean s) := by
  unfold asBoolean DT.asBoolean
  dsimp only
  generalize lower s = ss
  split
  · next h => rw [contains_of_perm (l₂ := Gen.boolTrue) h (by decide)]; rfl
  · next h =>
    rw [contains_of_perm (l₂ := Gen.boolTrue) (Bool.eq_false_iff.mpr h) (by decide)]
    split
    · next h2 => rw [contains_of_perm (l₂ := Gen.boolFalse) h2 (by decide)]; rfl
    · next h2 => rw [contains_of_perm (l₂ := Gen.boolFalse) (Bool.eq_false_iff.mpr h2) (by decide)]; rfl

theorem code_integer_eq (v : Str) : integer v = embed (DT.integer v) := by
  unfold integer Py.int DT.integer
  cases pyInt v <;> rfl

theorem code_null_conversion_eq (v : Str) : null_conversion v = .ok v := rfl

theorem code_string_list_eq (s : Str) : string_list s = .ok (DT.stringList s) := rfl

/-! ## `RangeCheckedConversion.__call__` and `port_number` -/

theorem code_rangeChecked_eq (mn mx : Option Int) (v : Str) :
    RangeCheckedConversion_call mn mx integer v = embed (DT.rangeChecked mn mx v) := by
  unfold RangeCheckedConversion_call DT.rangeChecked
  rw [code_integer_eq]
  cases DT.integer v with
  | error e => rfl
  | ok n =>
    cases mn <;> cases mx <;>
      simp only [embed_ok, bind, Except.bind, pure, Except.pure, throw, throwThe, MonadExceptOf.throw, decide_eq_true_eq] <;>
      repeat' split <;> first | rfl | simp_all

theorem code_portNumber_eq (v : Str) : port_number v = embed (DT.portNumber v) :=
  code_rangeChecked_eq _ _ v

/-! ## `SuffixMultiplier.__call__`, `byte-size`, `time-interval` -/

/-! `slice_neg_from` / `slice_neg_to` with the model's names on the right: as rewriting rules of their own, because a `simp only` given
    `DT.sufN` and `slice_neg_from` splits on `k = 0` before it sees the slice -/
theorem slice_sufN (v : Str) (k : Nat) : Py.slice v (some (-(k : Int))) none = DT.sufN v k := Py.slice_neg_from v k
theorem slice_preN (v : Str) (k : Nat) : Py.slice v none (some (-(k : Int))) = DT.preN v k := Py.slice_neg_to v k

theorem pyInt_eq (x : Str) : Py.int x = embed (DT.integer x) := code_integer_eq x

theorem code_suffixFor_eq (k : Nat) (dflt : Int) (v : Str) (tbl : List (Str × Int)) :
    SuffixMultiplier_call_for (k : Int) dflt v tbl =
      embed (match DT.suffixLoop v k tbl with
             | some r => r
             | none => (DT.integer v).map (· * dflt)) := by
  induction tbl with
  | nil =>
    simp only [SuffixMultiplier_call_for, DT.suffixLoop, pyInt_eq]
    cases DT.integer v <;> rfl
  | cons sm rest ih =>
    obtain ⟨s, m⟩ := sm
    simp only [SuffixMultiplier_call_for, DT.suffixLoop, slice_sufN, slice_preN, pyInt_eq]
    split
    · cases DT.integer (DT.preN v k) <;> rfl
    · exact ih

/-- `SuffixMultiplier.__call__`, any table, any key size `len(key) ≥ 0`, any default -/
theorem code_suffixMult_eq (tbl : List (Str × Int)) (k : Nat) (dflt : Int) (v : Str) :
    SuffixMultiplier_call tbl (k : Int) dflt v = embed (DT.suffixMult tbl k dflt v) := by
  unfold SuffixMultiplier_call DT.suffixMult
  exact code_suffixFor_eq k dflt (lower v) tbl

/-- `SuffixMultiplier.__init__` run on the live tables yields the attribute values the instances are applied to
    (in particular the live `_keysz` = `len(reduce(check, d))`, all keys having the same length) -/
theorem code_byteSize_init :
    SuffixMultiplier_init byte_size_d Gen.byteSizeDefault = .ok (byte_size_d, Gen.byteSizeDefault, (Gen.byteSizeKeysz : Int)) := by
  rfl
theorem code_timeInterval_init :
    SuffixMultiplier_init time_interval_d Gen.timeIntervalDefault =
      .ok (time_interval_d, Gen.timeIntervalDefault, (Gen.timeIntervalKeysz : Int)) := by
  rfl

theorem code_byteSize_eq (v : Str) : byte_size v = embed (DT.byteSize v) := by
  unfold byte_size DT.byteSize
  rw [code_suffixMult_eq]
  exact congrArg embed (DT.suffixMult_perm _ _ _ (by decide) (by decide))

theorem code_timeInterval_eq (v : Str) : time_interval v = embed (DT.timeInterval v) := by
  unfold time_interval DT.timeInterval
  rw [code_suffixMult_eq]
  exact congrArg embed (DT.suffixMult_perm _ _ _ (by decide) (by decide))

/-! ## `RegularExpressionConversion.__call__`, `BasicKeyConversion.__call__` and their instances -/

/-- any pattern: `m = rx.match(v); if m and m.group() == v` is the model's `matchesWhole` -/
theorem code_regexConv_eq (r : Rx.RE) (v : Str) : RegularExpressionConversion_call r v = embed (DT.regexConv r v) := by
  unfold RegularExpressionConversion_call DT.regexConv
  rw [← Py.reMatch_whole]
  cases Py.reMatch r v with
  | none => rfl
  | some m => dsimp only; split <;> simp_all

theorem code_identifier_eq (v : Str) : identifier v = embed (DT.identifier v) := code_regexConv_eq _ v
theorem code_dottedName_eq (v : Str) : dotted_name v = embed (DT.dottedName v) := code_regexConv_eq _ v
theorem code_dottedSuffix_eq (v : Str) : dotted_suffix v = embed (DT.dottedSuffix v) := code_regexConv_eq _ v
theorem code_ipaddrRx_eq (v : Str) : ipaddr_or_hostname_rx v = embed (DT.regexConv Gen.ipaddrRx v) := code_regexConv_eq _ v

theorem code_basicKeyConv_eq (r : Rx.RE) (v : Str) :
    BasicKeyConversion_call r v = embed ((DT.regexConv r v).map lower) := by
  unfold BasicKeyConversion_call
  simp only [code_regexConv_eq]
  cases DT.regexConv r v <;> rfl

theorem code_basicKey_eq (v : Str) : basic_key v = embed (DT.basicKey v) := code_basicKeyConv_eq _ v

/-! ## `InetAddress.__call__` and its three instances -/

theorem slice_1_m1 (h : Str) : Py.slice h (some (1 : Int)) (some (-(1 : Int))) = (h.drop 1).take (h.length - 2) := by
  have := Py.slice_nat_neg h 1 1 (by decide)
  simpa [Nat.sub_sub] using this

theorem code_inetAddress_eq (dh : Str) (s : Str) : InetAddress_call dh s = embed (DT.inetAddress dh s) := by
  unfold InetAddress_call DT.inetAddress
  by_cases hc : s.contains ':'
  · simp only [hc, ↓reduceIte, Py.rsplit1_of_contains _ _ hc, slice_1_m1, code_portNumber_eq]
    generalize (rsplit1 s ':').fst = h0
    generalize (rsplit1 s ':').snd = p0
    by_cases hb : (startsWith h0 ['['] && endsWith h0 [']']) = true
    · simp only [hb, ↓reduceIte]
      generalize List.take (List.length h0 - 2) (List.drop 1 h0) = h1
      by_cases hp : p0 = [] <;> by_cases hl : lower h1 = [] <;>
        simp [hp, hl, embed, Except.map, bind, Except.bind, pure, Except.pure] <;>
        cases DT.portNumber p0 <;> simp
    · simp only [hb, Bool.false_eq_true, ↓reduceIte]
      by_cases hc2 : ':' ∈ h0
      · by_cases hl : lower s = [] <;> simp [hc2, hl, embed, bind, Except.bind, pure, Except.pure]
      · by_cases hp : p0 = [] <;> by_cases hl : lower h0 = [] <;>
          simp [hc2, hp, hl, embed, Except.map, bind, Except.bind, pure, Except.pure] <;>
          cases DT.portNumber p0 <;> simp
  · simp only [hc, Bool.false_eq_true, ↓reduceIte, code_portNumber_eq, Py.len_ne_one]
    cases hpn : DT.portNumber s with
    | ok p => simp [embed, bind, Except.bind, pure, Except.pure]
    | error e =>
      cases e with
      | valueError =>
        by_cases hw : (splitWS s).length = 1 <;> by_cases hl : lower s = [] <;>
          simp [hw, hl, embed, embedErr, bind, Except.bind, pure, Except.pure, throw, throwThe, MonadExceptOf.throw]
      | typeError => simp [embed, embedErr, bind, Except.bind, pure, Except.pure, throw, throwThe, MonadExceptOf.throw]
      | other n => simp [embed, embedErr, bind, Except.bind, pure, Except.pure, throw, throwThe, MonadExceptOf.throw]

theorem code_inet_address_eq (s : Str) : inet_address s = embed (DT.inetAddress Gen.inetHost s) := code_inetAddress_eq _ s
theorem code_inet_binding_address_eq (s : Str) : inet_binding_address s = embed (DT.inetAddress Gen.inetBindingHost s) :=
  code_inetAddress_eq _ s
theorem code_inet_connection_address_eq (s : Str) :
    inet_connection_address s = embed (DT.inetAddress Gen.inetConnectionHost s) := code_inetAddress_eq _ s

/-! ## `SocketAddress.__init__` with the three classes' `_parse_address` -/

/-- family re-tagging, injective -/
def embedFam : DT.Family → Py.SockFamily
  | .unix => .AF_UNIX | .inet => .AF_INET | .inet6 => .AF_INET6

theorem embedFam_injective : ∀ a b, embedFam a = embedFam b → a = b := by
  intro a b h; cases a <;> cases b <;> simp_all [embedFam]

/-- result re-tagging for socket addresses: the family enum and the exception class -/
def embedSock (r : Except ConvErr (DT.Family × Sum Str (Str × Option Int))) :
    Except PyExc (Py.SockFamily × Sum Str (Str × Option Int)) :=
  embed (r.map fun (f, a) => (embedFam f, a))

theorem embedSock_injective : ∀ a b, embedSock a = embedSock b → a = b := by
  intro a b h
  cases a with
  | error e => cases b with
    | error e' => simp [embedSock, embed, Except.map] at h; rw [embedErr_injective _ _ h]
    | ok v => simp [embedSock, embed, Except.map] at h
  | ok v => cases b with
    | error e' => simp [embedSock, embed, Except.map] at h
    | ok v' =>
      obtain ⟨f, a⟩ := v; obtain ⟨f', a'⟩ := v'
      simp [embedSock, embed, Except.map] at h
      rw [embedFam_injective _ _ h.1, h.2]

/-- the family's name (`AF_UNIX` …) -/
def famName : Py.SockFamily → String
  | .AF_UNIX => "AF_UNIX" | .AF_INET => "AF_INET" | .AF_INET6 => "AF_INET6"

theorem embedSock_famName (r : Except ConvErr (DT.Family × Sum Str (Str × Option Int))) :
    (embedSock r).map (fun p => (famName p.1, p.2)) = embed (r.map (fun p => (String.ofList (DT.familyStr p.1), p.2))) := by
  cases r with
  | error e => rfl
  | ok v =>
    obtain ⟨f, a⟩ := v
    cases f <;>
      simp only [embedSock, embed, Except.map, embedFam, famName, DT.familyStr_unix, DT.familyStr_inet, DT.familyStr_inet6]

theorem find1_ge_zero (s : Str) (c : Char) : decide (Py.find1 s c ≥ (0 : Int)) = s.contains c := by
  unfold Py.find1
  by_cases h : s.contains c = true
  · simp only [h, ↓reduceIte]; simp
  · simp only [h, Bool.false_eq_true, ↓reduceIte]; simp at h; simp [h]

/-- `SocketAddress.__init__` with `_parse_address = InetAddress(dh)` -/
theorem code_socketAddress_eq (dh : Str) (s : Str) :
    SocketAddress_init (InetAddress_call dh) s = embedSock (DT.socketAddress dh s) := by
  unfold SocketAddress_init DT.socketAddress
  simp only [find1_ge_zero, code_inetAddress_eq]
  by_cases hc : '/' ∈ s
  · simp [hc, embedSock, embed, Except.map, embedFam]
  · cases DT.inetAddress dh s with
    | error e => simp [hc, embedSock, embed, Except.map, bind, Except.bind]
    | ok a =>
      by_cases h6 : ':' ∈ a.1 <;>
        simp [hc, h6, embedSock, embed, Except.map, bind, Except.bind, pure, Except.pure, embedFam]

theorem code_socket_address_eq (s : Str) : socket_address s = embedSock (DT.socketAddress Gen.inetHost s) :=
  code_socketAddress_eq _ s
theorem code_socket_binding_address_eq (s : Str) :
    socket_binding_address s = embedSock (DT.socketAddress Gen.inetBindingHost s) := code_socketAddress_eq _ s
theorem code_socket_connection_address_eq (s : Str) :
    socket_connection_address s = embedSock (DT.socketAddress Gen.inetConnectionHost s) := code_socketAddress_eq _ s

/-! ## `timedelta` -/

/-- a keyword argument of `datetime.timedelta` as the model records it: `none` = the initial integer `0`, `some lit` = `float(lit)` -/
def tdNum : Option Str → Py.Num
  | none => .int 0
  | some lit => .float lit

theorem tdNum_injective : ∀ a b, tdNum a = tdNum b → a = b := by
  intro a b h; cases a <;> cases b <;> simp_all [tdNum]

/-- the arguments handed to the constructor, re-tagged -/
def embedTD (v : DT.TimedeltaVal) : Py.Timedelta :=
  { weeks := tdNum v.weeks, days := tdNum v.days, hours := tdNum v.hours, minutes := tdNum v.minutes, seconds := tdNum v.seconds }

theorem embedTD_injective : ∀ a b, embedTD a = embedTD b → a = b := by
  intro a b h
  cases a; cases b
  simp only [embedTD, Py.Timedelta.mk.injEq] at h
  simp only [DT.TimedeltaVal.mk.injEq]
  exact ⟨tdNum_injective _ _ h.1, tdNum_injective _ _ h.2.1, tdNum_injective _ _ h.2.2.1, tdNum_injective _ _ h.2.2.2.1,
    tdNum_injective _ _ h.2.2.2.2⟩

/-- the code's last step: call the constructor (a parameter) on the collected arguments; `OverflowError` becomes `ValueError` -/
def tdFinish (ctor : Py.Num → Py.Num → Py.Num → Py.Num → Py.Num → Except PyExc Py.Timedelta) (v : DT.TimedeltaVal) :
    Except PyExc Py.Timedelta :=
  match ctor (tdNum v.weeks) (tdNum v.days) (tdNum v.hours) (tdNum v.minutes) (tdNum v.seconds) with
  | .ok r => .ok r
  | .error .OverflowError => .error .ValueError
  | .error e => .error e

theorem singleton_beq (c d : Char) : (([c] : Str) == [d]) = (c == d) := by
  rw [Bool.eq_iff_iff]; simp

/-- the `for part in s.split()` loop, with the model's `DT.floatOk` as `float()`'s acceptance function and ANY constructor -/
theorem code_timedeltaFor_eq (ctor : Py.Num → Py.Num → Py.Num → Py.Num → Py.Num → Except PyExc Py.Timedelta)
    (parts : List Str) :
    ∀ v : DT.TimedeltaVal,
      timedelta_for DT.floatOk ctor parts (tdNum v.days) (tdNum v.hours) (tdNum v.minutes) (tdNum v.seconds) (tdNum v.weeks) =
        match DT.timedeltaLoop parts v with
        | .ok v' => tdFinish ctor v'
        | .error e => .error (embedErr e) := by
  induction parts with
  | nil =>
    intro v; simp only [timedelta_for, DT.timedeltaLoop, tdFinish]
    generalize ctor _ _ _ _ _ = r
    cases r with
    | ok x => rfl
    | error e => cases e <;> rfl
  | cons part rest ih =>
    intro v
    simp only [timedelta_for, DT.timedeltaLoop, Py.slice_dropLast_one, Py.float, Py.index_neg_one, singleton_beq]
    by_cases hf : DT.floatOk part.dropLast = true
    · simp only [hf, ↓reduceIte, Bool.not_true, Bool.false_eq_true]
      cases hl : part.getLast? with
      | none =>
        exfalso
        have : part = [] := by simpa using hl
        subst this
        -- `part[-1]` cannot raise: `float('')` has failed before
        simp [show DT.floatOk [] = false by decide] at hf
      | some c =>
        simp only [DT.tdAssign, singleton_beq]
        by_cases hw : (c == 'w') = true
        · simp only [hw, ↓reduceIte]; exact ih { v with weeks := some part.dropLast }
        by_cases hd : (c == 'd') = true
        · simp only [hw, hd, ↓reduceIte, Bool.false_eq_true]; exact ih { v with days := some part.dropLast }
        by_cases hh : (c == 'h') = true
        · simp only [hw, hd, hh, ↓reduceIte, Bool.false_eq_true]; exact ih { v with hours := some part.dropLast }
        by_cases hm : (c == 'm') = true
        · simp only [hw, hd, hh, hm, ↓reduceIte, Bool.false_eq_true]; exact ih { v with minutes := some part.dropLast }
        by_cases hs : (c == 's') = true
        · simp only [hw, hd, hh, hm, hs, ↓reduceIte, Bool.false_eq_true]; exact ih { v with seconds := some part.dropLast }
        · simp only [hw, hd, hh, hm, hs, ↓reduceIte, Bool.false_eq_true]; rfl
    · simp only [hf, ↓reduceIte, Bool.false_eq_true, Bool.not_false]; rfl

/-- `timedelta(s)` with `float()` accepting what the model's grammar accepts and ANY `datetime.timedelta` constructor:
    the model's loop, then the constructor on the arguments the model collected -/
theorem code_timedelta_eq (ctor : Py.Num → Py.Num → Py.Num → Py.Num → Py.Num → Except PyExc Py.Timedelta) (s : Str) :
    Gen.Code.timedelta DT.floatOk ctor s =
      match DT.timedelta s with
      | .ok v => tdFinish ctor v
      | .error e => .error (embedErr e) := by
  unfold Gen.Code.timedelta DT.timedelta
  exact code_timedeltaFor_eq ctor (splitWS s) {}

/-- the constructor's verdict as the model's parameter `fits` -/
def ctorFits (ctor : Py.Num → Py.Num → Py.Num → Py.Num → Py.Num → Except PyExc Py.Timedelta) (v : DT.TimedeltaVal) : Bool :=
  match ctor (tdNum v.weeks) (tdNum v.days) (tdNum v.hours) (tdNum v.minutes) (tdNum v.seconds) with
  | .ok _ => true
  | .error _ => false

/-- a constructor that, like `datetime.timedelta`, returns the object for its arguments or raises `OverflowError`
    (infinite / too many days) or `ValueError` (NaN) -/
def CtorLike (ctor : Py.Num → Py.Num → Py.Num → Py.Num → Py.Num → Except PyExc Py.Timedelta) : Prop :=
  ∀ w d h m s, ctor w d h m s = .ok ⟨w, d, h, m, s⟩ ∨ ctor w d h m s = .error .OverflowError ∨ ctor w d h m s = .error .ValueError

/-- the whole function against `DT.timedeltaChecked`, the constructor's range verdict staying a parameter -/
theorem code_timedeltaChecked_eq (ctor : Py.Num → Py.Num → Py.Num → Py.Num → Py.Num → Except PyExc Py.Timedelta)
    (hc : CtorLike ctor) (s : Str) :
    Gen.Code.timedelta DT.floatOk ctor s = embed ((DT.timedeltaChecked (ctorFits ctor) s).map embedTD) := by
  rw [code_timedelta_eq]
  unfold DT.timedeltaChecked
  cases DT.timedelta s with
  | error e => rfl
  | ok v =>
    simp only [tdFinish, ctorFits]
    rcases hc (tdNum v.weeks) (tdNum v.days) (tdNum v.hours) (tdNum v.minutes) (tdNum v.seconds) with h | h | h <;>
      simp only [h] <;> rfl

end ZCV.CodeEq
