import ZCV.Lemmas.Regex
import ZCV.Lemmas.Chars
import ZCV.Lemmas.Lists
import ZCV.Lemmas.SubstConstruct
/-! The generated `_name_match` pattern computes `nameSplit` (`nameMatchAt_eq`); `_split` reports the first construct (`split_first`);
    `substLoop` computes the documented function (`loop_eq`). -/
namespace ZCV.Subst
open ZCV ZCV.Rx ZCV.SubstSpec

/-- the generated term has the `[k1][k2]*` shape with exactly these classes
    (this is the obligation an edit of `_name_re` breaks) -/
theorem nameRx_shape : Gen.nameRx = .seq (.cls nameStartK) (.star (.cls nameCharK)) := rfl

theorem nameStartK_isNameStart (c : Char) : nameStartK.test c = isNameStart c := nameStartK_test c
theorem nameCharK_isNameChar (c : Char) : nameCharK.test c = isNameChar c := nameCharK_test c

theorem nameSplit_split (t name rest : Str) (h : nameSplit t = some (name, rest)) :
    t = name ++ rest :=
  ((substcor_nameSplit_some t name rest).1 h).2.2

/-- `_name_match(s, pos)` where `s = a ++ t`, `pos = len(a)`: the name is `nameSplit t`'s and
    `m.end()` is `pos + len(name)` -/
theorem nameMatchAt_eq (a t : Str) :
    nameMatchAt (a ++ t) a.length = (nameSplit t).map (fun p => (p.1, a.length + p.1.length)) := by
  unfold nameMatchAt pyMatchAt
  rw [nameRx_shape, List.drop_left,
    cls_star_head _ nameStartK nameCharK [] _ t (by simp)]
  cases t with
  | nil => simp [nameSplit]
  | cons c r =>
    simp only [nameStartK_isNameStart, nameSplit]
    by_cases hc : isNameStart c
    · simp only [hc, ↓reduceIte, Option.map_some, Option.some.injEq, Prod.mk.injEq]
      rw [dropWhile_congr nameCharK_isNameChar, takeWhile_congr (p := isNameChar) (fun _ => rfl)]
      have hl := len_take_drop isNameChar r
      have hd := length_dropWhile_le isNameChar r
      simp only [List.length_append, List.length_cons]
      constructor
      · have : a.length + (r.length + 1) - (List.dropWhile isNameChar r).length - a.length
            = (r.takeWhile isNameChar).length + 1 := by omega
        rw [this, List.take_succ_cons, take_len_takeWhile]
      · omega
    · simp [hc]


/-- the model's error type is the spec's (same constructors) -/
def toSpecErr : Err → SubstSpec.Err
  | .syntax c => .syntax c
  | .missing s n => .missing s n

theorem findIdx_first (pre t : Str) (hp : '$' ∉ pre) :
    (pre ++ '$' :: t).findIdx (· == '$') = pre.length := by
  induction pre with
  | nil => simp [List.findIdx_cons]
  | cons c p ih =>
    have hc : (c == '$') = false := by
      simp only [List.mem_cons, not_or] at hp; simpa using fun h => hp.1 h.symm
    have := ih (by simp only [List.mem_cons, not_or] at hp; exact hp.2)
    simp [List.findIdx_cons, hc, this]

theorem drop_pre (pre : Str) (u : Str) (k : Nat) : List.drop (pre.length + k) (pre ++ u) = u.drop k := by
  rw [List.drop_append]; simp
theorem drop_pre_eq (pre u : Str) (n k : Nat) (h : n = pre.length + k) :
    List.drop n (pre ++ u) = u.drop k := by subst h; exact drop_pre pre u k
theorem take_pre (pre : Str) (u : Str) (k : Nat) : List.take (pre.length + k) (pre ++ u) = pre ++ u.take k := by
  rw [List.take_append]; simp [List.take_of_length_le]

theorem nameMatchAt_pre2 (pre r : Str) (o : Char) :
    nameMatchAt (pre ++ '$' :: o :: r) (pre.length + 2) =
      (nameSplit r).map (fun p => (p.1, pre.length + 2 + p.1.length)) := by
  have := nameMatchAt_eq (pre ++ ['$', o]) r
  simpa using this

theorem nameMatchAt_pre1 (pre t : Str) :
    nameMatchAt (pre ++ '$' :: t) (pre.length + 1) =
      (nameSplit t).map (fun p => (p.1, pre.length + 1 + p.1.length)) := by
  have := nameMatchAt_eq (pre ++ ['$']) t
  simpa using this

/-- the shared arm of `_split`, with its index arithmetic done: it reports the construct after `${` / `$(` -/
theorem braced_first (pre r pfx : Str) (o close : Char) (vt : VT) (e1 e2 : Nat) :
    braced (pre ++ '$' :: o :: r) pre.length pfx close vt e1 e2 =
      match bracedConstruct r close vt e1 e2 with
      | .malformed c => .error (.syntax c)
      | .esc r' => .ok (pfx ++ ['$'], none, r')
      | .ref name vt' r' => .ok (pfx, some (name, vt'), r') := by
  unfold braced bracedConstruct
  rw [nameMatchAt_pre2]
  cases hn : nameSplit r with
  | none => rfl
  | some pr =>
    obtain ⟨name, rest⟩ := pr
    have hr := nameSplit_split r name rest hn
    subst hr
    have d1 : List.drop (2 + name.length) ('$' :: o :: (name ++ rest)) = rest := by
      have : 2 + name.length = name.length + 2 := by omega
      rw [this]; simp
    have d2 : List.drop (2 + name.length + 1) ('$' :: o :: (name ++ rest)) = rest.drop 1 := by
      have : 2 + name.length + 1 = name.length + 1 + 2 := by omega
      rw [this]; simp [List.drop_append]
    simp only [Option.map_some]
    rw [drop_pre_eq pre _ (pre.length + 2 + name.length + 1 - 1) (2 + name.length) (by omega),
        drop_pre_eq pre _ (pre.length + 2 + name.length + 1) (2 + name.length + 1) (by omega), d1, d2]
    cases rest with
    | nil => simp
    | cons x xs => by_cases hx : x = close <;> simp [hx]

/-- **`_split` reports the first construct**: the text up to the first `$`, and what `firstConstruct` finds after it -/
theorem split_first (pre t : Str) (hp : '$' ∉ pre) :
    split (pre ++ '$' :: t) =
      match firstConstruct t with
      | .malformed c => .error (.syntax c)
      | .esc r => .ok (pre ++ ['$'], none, r)
      | .ref name vt r => .ok (pre, some (name, vt), r) := by
  have hi := findIdx_first pre t hp
  have hcont : (pre ++ '$' :: t).contains '$' = true := by simp
  have ht0 : List.take pre.length (pre ++ '$' :: t) = pre := by simp
  unfold split
  simp only [hcont, ↓reduceIte, hi, drop_pre, take_pre, ht0, nameMatchAt_pre1]
  cases t with
  | nil => simp [firstConstruct]
  | cons c r =>
    simp only [List.drop_succ_cons, List.drop_zero, List.take_succ_cons, List.take_zero, firstConstruct]
    by_cases h1 : c = '$'
    · subst h1; simp
    · have hc1 : ([c] == ['$']) = false := by simp [h1]
      have hc0 : ([c] == ([] : Str)) = false := by simp
      simp only [hc0, hc1, Bool.false_eq_true, ↓reduceIte, h1]
      by_cases h2 : c = '{'
      · subst h2; simp only [beq_self_eq_true, ↓reduceIte, braced_first]
      · have hc2 : ([c] == ['{']) = false := by simp [h2]
        simp only [hc2, Bool.false_eq_true, ↓reduceIte, h2]
        by_cases h3 : c = '('
        · subst h3; simp only [beq_self_eq_true, ↓reduceIte, braced_first]
        · have hc3 : ([c] == ['(']) = false := by simp [h3]
          simp only [hc3, Bool.false_eq_true, ↓reduceIte, h3]
          cases hn : nameSplit (c :: r) with
          | none => rfl
          | some pr =>
            obtain ⟨name, rest⟩ := pr
            have hr := nameSplit_split (c :: r) name rest hn
            have d1 : List.drop (1 + name.length) ('$' :: c :: r) = rest := by
              rw [hr]; have : 1 + name.length = name.length + 1 := by omega
              rw [this]; simp
            simp only [Option.map_some]
            rw [drop_pre_eq pre _ (pre.length + 1 + name.length) (1 + name.length) (by omega), d1]

theorem split_nodollar (s : Str) (h : '$' ∉ s) : split s = .ok (s, none, []) := by
  unfold split
  have : s.contains '$' = false := by simpa using h
  simp only [this, Bool.false_eq_true, ↓reduceIte]

/-- the name of a reference reported by `_split` is never empty (so the code's `if name:` is always taken after one) -/
theorem split_name_nonempty (t p n r : Str) (vt : VT) (h : split t = .ok (p, some (n, vt), r)) : n ≠ [] := by
  by_cases hd : '$' ∈ t
  · obtain ⟨pre, u, rfl, hp⟩ := List.eq_append_cons_of_mem hd
    rw [split_first pre u hp] at h
    cases hf : firstConstruct u with
    | malformed c => simp only [hf] at h; cases h
    | esc r' => simp only [hf] at h; cases h
    | ref name vt' r' =>
      simp only [hf] at h
      cases h
      -- a reference carries a legal name, and a legal name has a first character
      have hn := substcor_isRef_name ((substcor_first_ref _ _ _ _).mp hf)
      intro e
      rw [e] at hn
      cases hn
  · rw [split_nodollar t hd] at h; cases h

end ZCV.Subst

namespace ZCV.SubstSpec
@[simp] theorem map_ok {α β ε} (f : α → β) (a : α) : (Except.ok a : Except ε α).map f = .ok (f a) := rfl
@[simp] theorem map_err {α β ε} (f : α → β) (e : ε) : (Except.error e : Except ε α).map f = .error e := rfl
theorem map_map {α β γ ε} (f : α → β) (g : β → γ) (x : Except ε α) : (x.map f).map g = x.map (g ∘ f) := by
  cases x <;> rfl

theorem spec_nil (defs env src) : spec defs env src [] = .ok [] := by unfold spec; rfl

theorem spec_lit (defs env src) (c : Char) (t : Str) (hc : c ≠ '$') :
    spec defs env src (c :: t) = (spec defs env src t).map (c :: ·) := by
  rw [spec]
  · intro h; exact absurd h hc

theorem spec_prefix (defs env src) (pre u : Str) (hp : '$' ∉ pre) :
    spec defs env src (pre ++ u) = (spec defs env src u).map (pre ++ ·) := by
  induction pre with
  | nil =>
    simp only [List.nil_append]
    cases spec defs env src u <;> simp
  | cons c p ih =>
    have hc : c ≠ '$' := by intro h; apply hp; simp [h]
    have hp' : '$' ∉ p := by intro h; apply hp; simp [h]
    rw [List.cons_append, spec_lit _ _ _ _ _ hc, ih hp', map_map]; rfl
end ZCV.SubstSpec

namespace ZCV.Subst
open ZCV ZCV.SubstSpec

/-- result of the model in the spec's error vocabulary -/
def conv (x : Except Err Str) : Except SubstSpec.Err Str :=
  match x with | .ok v => .ok v | .error e => .error (toSpecErr e)

theorem substLoop_nil (defs env : Str → Option Str) (src : Str) (fuel : Nat) (acc : Str) :
    substLoop defs env src fuel [] acc = .ok acc := by
  cases fuel <;> simp [substLoop]

theorem loop_eq (defs env : Str → Option Str) (src : Str) :
    ∀ (fuel : Nat) (rest acc : Str), rest.length < fuel →
      conv (substLoop defs env src fuel rest acc) = (spec defs env src rest).map (acc ++ ·) := by
  intro fuel
  induction fuel with
  | zero => intro rest acc h; omega
  | succ fuel ih =>
    intro rest acc hlen
    by_cases hnil : rest = []
    · subst hnil; rw [substLoop_nil, spec_nil]; simp [conv]
    · unfold substLoop
      have hne : (rest == []) = false := by simpa using hnil
      simp only [hne, Bool.false_eq_true, ↓reduceIte]
      by_cases hd : '$' ∈ rest
      · -- model and documented function make the same case distinction on the construct after the first `$`
        obtain ⟨pre, t, hs, hp⟩ := List.eq_append_cons_of_mem hd
        subst hs
        rw [split_first pre t hp, spec_prefix _ _ _ _ _ hp, substcor_spec_step]
        have hl : t.length < fuel := by simp at hlen; omega
        cases hf : firstConstruct t with
        | malformed c => simp [conv, toSpecErr]
        | esc r =>
          have hr : r.length < fuel := by
            rw [(substcor_first_esc t r).mp hf] at hl; simp at hl; omega
          simp only
          rw [ih r _ hr]
          simp [map_map, Function.comp_def]
        | ref name vt r =>
          have hr : r.length < fuel := Nat.lt_trans (substcor_isRef_len ((substcor_first_ref _ _ _ _).mp hf)) hl
          have tail (o : Option Str) :
              conv (match o with
                | none => .error (.missing src name)
                | some v => substLoop defs env src fuel r (acc ++ pre ++ v)) =
              (((match o with
                | none => .error (.missing src name)
                | some v => (spec defs env src r).map (v ++ ·)) : Except SubstSpec.Err Str).map (pre ++ ·)).map (acc ++ ·) := by
            cases o with
            | none => rfl
            | some v =>
              simp only
              rw [ih r _ hr]
              simp [map_map, Function.comp_def]
          cases vt with
          | define => exact tail (defs (lower name))
          | env => exact tail (env name)
      · rw [split_nodollar rest hd]
        simp only
        have := spec_prefix defs env src rest [] hd
        simp only [List.append_nil, spec_nil, map_ok] at this
        rw [this, substLoop_nil]; simp [conv]

end ZCV.Subst
