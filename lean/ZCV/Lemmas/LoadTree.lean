import ZCV.Lemmas.LoadFinish
import ZCV.Lemmas.OverrideEval
import ZCV.Lemmas.Ends
/-!
Step 4 of `loadTree_eq_denote`, and the theorem.  Over the items of one container the loader keeps the invariant (the
matcher is `mk kl secs`, the history is `Good`) or refuses, and then the history is not `GoodFull`: `evalItems_inv`, an
`Ends` statement, `kv_step` and `sect_item_step` joined by `Ends.bind`.  A section item is a container of its own, so the
statement for a container (`PItems`) follows from that for the containers nested in it, and holds by induction over the
tree.  `fin_eq_denote` is the top container; `loadTree_eq_denote` reads it through `loadTree_evalB`.
-/
namespace ZCV.Conf
open ZCV ZCV.Cfg

/-- the sections of a container with their spec values -/
def subsI (conv : Conv) (s : Schema) (items : List Item) : List Sub := subsOf items (itemVals conv s items)

theorem containerVal_subsI (conv : Conv) (s : Schema) (t : SType) (nm : Option Str) (items : List Item) :
    containerVal conv s t nm items (itemVals conv s items) =
      containerCore conv s t nm (keyLines conv t items) (subsI conv s items) := rfl

theorem subsI_nil (conv : Conv) (s : Schema) : subsI conv s [] = [] := by
  unfold subsI subsOf
  rfl

theorem subsI_kv (conv : Conv) (s : Schema) (k v : Str) (p : Pos) (r : List Item) :
    subsI conv s (.kv k v p :: r) = subsI conv s r := by
  rw [subsI, itemVals, subsOf, subsI]

theorem subsI_sect (conv : Conv) (s : Schema) (ty : Str) (nm : Option Str) (sub r : List Item) :
    subsI conv s (.sect ty nm sub :: r) =
      { ty := ty, nm := nm, val := itemVal conv s (.sect ty nm sub) } :: subsI conv s r := by
  rw [subsI, itemVals, subsOf, subsI]

theorem subsI_append (conv : Conv) (s : Schema) (a b : List Item) : subsI conv s (a ++ b) = subsI conv s a ++ subsI conv s b := by
  induction a with
  | nil => rw [subsI_nil]; rfl
  | cons i r ih =>
    cases i with
    | kv k v p => rw [List.cons_append, subsI_kv, subsI_kv, ih]
    | sect ty nm its => rw [List.cons_append, subsI_sect, subsI_sect, ih]; rfl

theorem keyLines_nil (conv : Conv) (t : SType) : keyLines conv t [] = [] := rfl

theorem keyLines_kv (conv : Conv) (t : SType) (k v : Str) (p : Pos) (r : List Item) :
    keyLines conv t (.kv k v p :: r) = ((conv.key t.keytype k).toOption, { value := v, pos := p }) :: keyLines conv t r := by
  simp [keyLines]

theorem keyLines_sect (conv : Conv) (t : SType) (ty : Str) (nm : Option Str) (sub r : List Item) :
    keyLines conv t (.sect ty nm sub :: r) = keyLines conv t r := by
  simp [keyLines]

/-- the loader on the items of a container of any well-formed type computes the spec's `containerVal` -/
def PItems (conv : Conv) (s : Schema) (items : List Item) : Prop :=
  tyCanon s items = true → ∀ (t : SType) (nm : Option Str), STypeOK t →
    (evalContainer conv s t nm items).toOption = containerVal conv s t nm items (itemVals conv s items)

theorem newMatcher_eq_mk (s : Schema) (t : SType) (nm : Option Str) : newMatcher t nm none = mk s t nm [] [] := by
  unfold newMatcher mk
  simp only [Matcher.mk.injEq, true_and, and_true]
  refine ⟨?_, rfl⟩
  apply List.map_congr_left
  intro c _
  unfold slotFn initSlot keySlot sectSlot
  cases c.2 with
  | key ki =>
    simp only [routed, List.filterMap_nil, groupKeys, List.foldl_nil, List.map_nil]
  | sect si =>
    simp only [List.filter_nil, List.map_nil]

theorem good_nil (s : Schema) (t : SType) : Good s t [] [] := by
  refine ⟨rfl, rfl, rfl, ?_⟩
  intro c _
  unfold noOver keyOver sectOver
  cases c.2 with
  | key ki => simp [routed, nodupB]
  | sect si => simp

theorem containerVal_shape (conv : Conv) (s : Schema) (t : SType) (nm : Option Str) (items : List Item)
    (sv : List (Option Val)) (v : Val) (h : containerVal conv s t nm items sv = some v) :
    ∃ attrs, v = Val.sect (t.name.getD []) nm attrs := by
  rw [containerVal_eq, containerCore] at h
  split_hyp h
  all_goals first | cases h | skip
  rw [Option.map_eq_some_iff] at h
  obtain ⟨attrs, _, h2⟩ := h
  exact ⟨attrs, h2.symm⟩

/-- **one section item** against the invariant: its header passes the checks of `chk3'` or the loader refuses it; its body
    is a container of its own (`hsub`); its value goes to the parent by `sect_step` -/
theorem sect_item_step (conv : Conv) (s : Schema) (hs : schemaOK s = true) (t : SType) (nm : Option Str)
    (hT : STypeOK t) (ty : Str) (nm' : Option Str) (sub : List Item)
    (hcan : ∀ tc, s.gettype ty = some (.concrete tc) → tc.name = some ty)
    (hcsub : tyCanon s sub = true) (hsub : PItems conv s sub)
    (kl : List (Option Str × VI)) (secs : List SecR) (hg : Good s t kl (secs.map (toSub conv s))) :
    Ends (evalItem conv s (mk s t nm kl secs) (.sect ty nm' sub))
      (fun m' => ∃ r, m' = mk s t nm kl (secs ++ [r]) ∧
        toSub conv s r = { ty := ty, nm := nm', val := itemVal conv s (.sect ty nm' sub) } ∧
        Good s t kl ((secs ++ [r]).map (toSub conv s)))
      (fun _ => ¬ GoodFull s t kl
        (secs.map (toSub conv s) ++ [{ ty := ty, nm := nm', val := itemVal conv s (.sect ty nm' sub) }])) := by
  rw [evalItem]
  have hval_none : itemVal conv s (.sect ty nm' sub) = none →
      ¬ GoodFull s t kl (secs.map (toSub conv s) ++ [{ ty := ty, nm := nm', val := itemVal conv s (.sect ty nm' sub) }]) := by
    intro hn hgf
    have := hgf.2
    rw [List.all_append, Bool.and_eq_true] at this
    simp [hn] at this
  have hc3_false : ∀ v, chk3' s t [{ ty := ty, nm := nm', val := v }] = false →
      ¬ GoodFull s t kl (secs.map (toSub conv s) ++ [{ ty := ty, nm := nm', val := v }]) := by
    intro v hf hgf
    have := hgf.1.c3
    rw [chk3'_snoc, hf, Bool.and_false] at this
    cases this
  cases hgt : s.gettype ty with
  | none => exact hval_none (by rw [itemVal, hgt])
  | some te =>
    cases te with
    | abstract_ n subs' => exact hval_none (by rw [itemVal, hgt])
    | concrete tc =>
      have hname : tc.name = some ty := hcan tc hgt
      have hTc : STypeOK tc := stypeOK_prop s tc (schemaOK_type s hs ty tc hgt).1
      simp only
      rw [show (mk s t nm kl secs).ty = t from rfl, hname, Option.getD_some]
      have hslot := getsectioninfo_eq_slotOf s t ty nm' hT
      cases hgi : getsectioninfo s t ty nm' with
      | error e =>
        rw [hgi] at hslot
        refine hc3_false _ ?_
        simp only [chk3', List.all_cons, List.all_nil, Bool.and_true, ← hslot]
        rfl
      | ok ci =>
        rw [hgi, toOption_ok] at hslot
        have hab : isAbs s ty = false := by unfold isAbs; rw [hgt]
        have hc3 : ∀ v, chk3' s t [{ ty := ty, nm := nm', val := v }] = (nameOK ci nm' && (nm'.isSome || ci.name == ['*'])) := by
          intro v
          simp only [chk3', List.all_cons, List.all_nil, Bool.and_true, ← hslot, hab, Bool.not_false]
        have ff : ∀ b : Bool, (!b) = true → b = false := by decide
        have tt : ∀ b : Bool, ¬ (!b) = true → b = true := by decide
        simp only [isAllowedName_eq_nameOK, allowUnnamed]
        refine .ite (fun h1 => hc3_false _ ?_) fun h1 => .ite (fun h2 => hc3_false _ ?_) fun h2 => ?_
        · rw [hc3, ff _ h1, Bool.false_and]
        · rw [hc3, ff _ h2, Bool.and_false]
        -- the body: a container of type `tc`, for which the loader computes `containerVal`
        have hP := hsub hcsub tc nm' hTc
        unfold evalContainer at hP
        have hitem : itemVal conv s (.sect ty nm' sub) =
            match containerVal conv s tc nm' sub (itemVals conv s sub) with
            | some v => (conv.sect tc.datatype v).toOption
            | none => none := by
          rw [itemVal, hgt]
          rfl
        cases hev : evalItems conv s (newMatcher tc nm' none) sub with
        | error e => exact hval_none (by rw [hitem, ← hP, hev]; rfl)
        | ok child =>
          simp only
          cases hfin : finishMatcher conv s child with
          | error e => exact hval_none (by rw [hitem, ← hP]; simp only [hev, hfin]; rfl)
          | ok vh =>
            obtain ⟨v, hh⟩ := vh
            simp only [hev, hfin, Except.map, toOption_ok] at hP
            obtain ⟨attrs, hv⟩ := containerVal_shape conv s tc nm' sub _ v hP.symm
            rw [hname, Option.getD_some] at hv
            let r : SecR := { ty := ty, nm := nm', attrs := attrs }
            have hsubr : toSub conv s r = { ty := ty, nm := nm', val := itemVal conv s (.sect ty nm' sub) } := by
              unfold toSub sectVal
              simp only [r, hgt, Sub.mk.injEq, true_and]
              rw [hitem, ← hP, hv]
              rfl
            have hc3' : (nameOK ci r.nm && (r.nm.isSome || ci.name == ['*']) && !isAbs s r.ty) = true := by
              show (nameOK ci nm' && (nm'.isSome || ci.name == ['*']) && !isAbs s ty) = true
              rw [hab, tt _ h1, tt _ h2]
              rfl
            simp only
            rw [hv]
            exact (sect_step conv s t nm kl secs hT hg r ci hgi hc3').mono (fun m' h => ⟨r, h.1, hsubr, h.2⟩)
              fun _ h hgf => h (by simpa [← hsubr] using hgf.1)

/-- **the items of one container** against the invariant, given the statement for every nested container.  A refused item
    leaves a prefix that is not `GoodFull`, and then nothing that extends it is. -/
theorem evalItems_inv (conv : Conv) (s : Schema) (hs : schemaOK s = true) (t : SType) (nm : Option Str)
    (hT : STypeOK t) : ∀ (items : List Item), tyCanon s items = true →
    (∀ ty nm' sub, Item.sect ty nm' sub ∈ items → PItems conv s sub) →
    ∀ (kl : List (Option Str × VI)) (secs : List SecR), Good s t kl (secs.map (toSub conv s)) →
    Ends (evalItems conv s (mk s t nm kl secs) items)
      (fun m' => ∃ secs', m' = mk s t nm (kl ++ keyLines conv t items) (secs ++ secs') ∧
        secs'.map (toSub conv s) = subsI conv s items ∧
        Good s t (kl ++ keyLines conv t items) ((secs ++ secs').map (toSub conv s)))
      (fun _ => ¬ GoodFull s t (kl ++ keyLines conv t items) (secs.map (toSub conv s) ++ subsI conv s items))
  | [], _, _, kl, secs, hg => by
    rw [evalItems]
    exact ⟨[], by simp [keyLines_nil], by simp [subsI_nil], by simpa [keyLines_nil] using hg⟩
  | .kv k v p :: rest, hcan, hsubs, kl, secs, hg => by
    have hcan' : tyCanon s rest = true := by simpa [tyCanon] using hcan
    rw [evalItems_cons, evalItem, keyLines_kv, subsI_kv]
    refine ((kv_step conv s t nm kl secs hT _ hg k v p).fails fun _ h hgf => h ?_).bind fun m1 ⟨hm1, hg1⟩ => ?_
    · exact (GoodFull.prefix (kl2 := keyLines conv t rest) (subs2 := subsI conv s rest) (by simpa using hgf)).1
    · rw [hm1]
      simpa using evalItems_inv conv s hs t nm hT rest hcan' (fun ty nm' sub h => hsubs ty nm' sub (List.mem_cons_of_mem _ h))
        _ secs hg1
  | .sect ty nm' sub :: rest, hcan, hsubs, kl, secs, hg => by
    have hcan3 : (∀ tc, s.gettype ty = some (.concrete tc) → tc.name = some ty) ∧
        tyCanon s sub = true ∧ tyCanon s rest = true := by
      unfold tyCanon at hcan
      simp only [Bool.and_eq_true] at hcan
      obtain ⟨⟨h1, h2⟩, h3⟩ := hcan
      exact ⟨fun tc htc => by rw [htc] at h1; simpa using h1, h2, h3⟩
    rw [evalItems_cons, keyLines_sect, subsI_sect]
    refine ((sect_item_step conv s hs t nm hT ty nm' sub hcan3.1 hcan3.2.1 (hsubs ty nm' sub List.mem_cons_self) kl secs
      hg).fails fun _ h hgf => h ?_).bind fun m1 ⟨r, hm1, hr, hg1⟩ => ?_
    · exact GoodFull.prefix (kl2 := keyLines conv t rest) (subs2 := subsI conv s rest) (by simpa using hgf)
    · rw [hm1]
      refine (evalItems_inv conv s hs t nm hT rest hcan3.2.2 (fun ty nm' sub h => hsubs ty nm' sub (List.mem_cons_of_mem _ h))
        kl (secs ++ [r]) hg1).mono (fun m2 ⟨secs', h1, h2, h3⟩ => ⟨r :: secs', by rw [h1]; simp, by rw [List.map_cons, hr, h2],
          by simpa using h3⟩) fun _ h => ?_
      rw [List.map_append, List.map_cons, List.map_nil, hr] at h
      simpa using h

/-- the statement for a container follows from the statement for the containers nested in it: the loader refuses where the
    history is not `GoodFull`, and there `containerVal` has no value; else `finishMatcher` computes it -/
theorem pItems_of_subs (conv : Conv) (s : Schema) (hs : schemaOK s = true) (items : List Item)
    (hsubs : ∀ ty nm' sub, Item.sect ty nm' sub ∈ items → PItems conv s sub) : PItems conv s items := by
  intro hcan t nm hT
  have inv := evalItems_inv conv s hs t nm hT items hcan hsubs [] [] (by simpa using good_nil s t)
  unfold evalContainer
  rw [newMatcher_eq_mk s]
  cases hev : evalItems conv s (mk s t nm [] []) items with
  | error e =>
    have := inv.of_error hev
    simp only [List.nil_append, List.map_nil] at this
    exact (containerVal_none conv s t nm items _ this).symm
  | ok m' =>
    obtain ⟨secs', h1, h2, h3⟩ := inv.of_ok hev
    simp only [List.nil_append] at h1 h3
    simp only
    rw [h1, finish_mk conv s t nm _ secs' hT h3, containerVal_good conv s t nm items _ (by rw [← subsI, ← h2]; exact h3), h2]
    rfl

mutual
theorem pItems_sect (conv : Conv) (s : Schema) (hs : schemaOK s = true) :
    ∀ (i : Item) (ty : Str) (nm' : Option Str) (sub : List Item), i = .sect ty nm' sub → PItems conv s sub
  | .kv _ _ _, _, _, _, h => by cases h
  | .sect _ _ sub0, _, _, _, h => by
    cases h
    exact pItems_of_subs conv s hs sub0 (pItems_all conv s hs sub0)
theorem pItems_all (conv : Conv) (s : Schema) (hs : schemaOK s = true) :
    ∀ (l : List Item) (ty : Str) (nm' : Option Str) (sub : List Item), Item.sect ty nm' sub ∈ l → PItems conv s sub
  | [], _, _, _, h => by cases h
  | i :: r, ty, nm', sub, h => by
    rcases List.mem_cons.mp h with h | h
    · exact pItems_sect conv s hs i ty nm' sub h.symm
    · exact pItems_all conv s hs r ty nm' sub h
end

theorem pItems (conv : Conv) (s : Schema) (hs : schemaOK s = true) (items : List Item) : PItems conv s items :=
  pItems_of_subs conv s hs items (pItems_all conv s hs items)


/-- the last two steps of a load against `sF`, in the vocabulary of the spec -/
theorem fin_eq_denote (conv : Conv) (sF : Schema) (hsF : schemaOK sF = true) (items : List Item)
    (hcan : tyCanon sF items = true) :
    (match evalItems conv sF (newMatcher sF.top none none) items with
      | .error _ => none
      | .ok m' =>
        match finishMatcher conv sF m' with
        | .error _ => none
        | .ok (v, _) => (conv.sect sF.top.datatype v).toOption) = denote conv sF items := by
  have hp := pItems conv sF hsF items hcan sF.top none (stypeOK_prop sF _ (schemaOK_top sF hsF))
  unfold denote
  rw [← hp]
  unfold evalContainer
  cases evalItems conv sF (newMatcher sF.top none none) items with
  | error e => rfl
  | ok m' =>
    simp only
    cases finishMatcher conv sF m' with
    | error e => rfl
    | ok vh => rfl

/-- **C01 + C02 in one equation**: for every well-formed schema, every datatype family and every tree (any size, any
    nesting depth, any number of simultaneous faults) whose headers spell section types as the schema stores them
    (`tyCanon`: what the parser delivers): the loader returns a configuration iff the tree conforms, and then it returns
    exactly the value the schema defines. -/
theorem loadTree_eq_denote (conv : Conv) (s : Schema) (items : List Item)
    (hs : schemaOK s = true) (ht : tyCanon s items = true) :
    (loadTree conv s items).toOption = denote conv s items := by
  rw [loadTree_evalB, evalItemsB_nobag conv s items _ rfl, ← fin_eq_denote conv s hs items ht]
  cases evalItems conv s (newMatcher s.top none none) items with
  | error e => rfl
  | ok m' =>
    show (topFin conv s m').toOption =
      match finishMatcher conv s m' with | .error _ => none | .ok (v, _) => (conv.sect s.top.datatype v).toOption
    unfold topFin
    cases finishMatcher conv s m' with
    | error e => rfl
    | ok vh =>
      show (match conv.sect s.top.datatype vh.1 with | .ok v => (.ok v : M Val) | .error e => _).toOption =
        (conv.sect s.top.datatype vh.1).toOption
      cases conv.sect s.top.datatype vh.1 <;> rfl

end ZCV.Conf
