import ZCV.Lemmas.LogStrFormat
/-!
The plain fragment of the `format` style (bare keys, brace-free specs): acceptance read off the format string, safety
of accepted formats on the records a formatter gets to see (for `str.format` and for `string.Formatter().vformat`), and
the evaluation of a one-field format on an arbitrary record, which the counterexamples of the property file use; last, the
format specs `str` and `float` take, spelled out on the parsed spec.
-/
namespace ZCV.LogStrFormatLemmas
open ZCV ZCV.LogFormatSpec ZCV.LogStrFormat ZCV.LogStrFormatSpec ZCV.LogFormatLemmas
open ZCV.LogFormat (Value Dict FloatKind PyErr strCheck floatLimit maxUnicode hasInfix lookup sampleVars sampleDict
  intMaxStrDigits ctrlCharInsert isWord)

theorem sf_plain_field_unpack (name : Str) (conv : Option Char) (spec : Str) (hn : name.all notDotBracket = true)
    (hs : spec.all notBrace = true) (h : ItemAcceptedS (.field name conv spec)) :
    ∃ v o t, getInteger name = .notInt ∧ name ≠ [] ∧ sampleSDict name = some v ∧ convert v conv = .ok o ∧
      formatObj o spec = .ok t := by
  obtain ⟨_, v, o, st, t, hg, hc, hx, hf⟩ := h
  rw [sf_getField_plain _ _ _ hn, sf_lookupFirst_plain _ _ _ hn] at hg
  rw [sf_evalStr_plain _ _ 1 _ hs] at hx
  injection hx with hx; injection hx with hx
  subst hx
  exact ⟨v, o, t, hg.1, hg.2.1, hg.2.2, hc, hf⟩

theorem sf_floatLimit_gt : (0x110000 : Int) < floatLimit := by
  have := lf_floatLimit_big
  generalize floatLimit = F at this ⊢
  omega

theorem sf_sample_spec (v : Val) (hg : goodSample v.toValue = true) (spec : Str) (hne : spec ≠ []) :
    (∃ t, formatObj (.val v) spec = .ok t) ↔ SpecAllowed (kindOfValue v.toValue) none spec := by
  unfold SpecAllowed
  simp only [hne, false_or, Option.isSome_none, Bool.false_eq_true, if_false]
  rw [sf_formatObj_val_nonempty v spec hne]
  cases v with
  | str s => simp only [Val.toValue, kindOfValue]; exact sf_map_ok_unit _ _
  | float k r => simp only [Val.toValue, kindOfValue]; exact sf_map_ok_unit _ _
  | none => simp [Val.toValue, kindOfValue]
  | other => simp [Val.toValue, kindOfValue]
  | int n =>
    simp only [Val.toValue, goodSample, decide_eq_true_eq] at hg
    have hs : strCheck (.int n) = .ok () := lf_strCheck_of_float n hg
    simp only [Val.toValue, kindOfValue]
    rw [sf_map_ok_unit]
    have hL := sf_floatLimit_gt
    have h0 : -floatLimit < (0 : Int) ∧ (0 : Int) < floatLimit := by generalize floatLimit = F at hL ⊢; omega
    have h1 : -floatLimit < (0x110000 : Int) ∧ (0x110000 : Int) < floatLimit := by generalize floatLimit = F at hL ⊢; omega
    by_cases hr : (0 ≤ n ∧ n ≤ maxUnicode)
    · simp only [hr, and_self, if_true]
      exact ⟨fun h => sf_intFormat_mono spec n 0 hs hg h (fun _ => by simp [maxUnicode]) (lf_strCheck_of_float 0 h0) h0,
        fun h => sf_intFormat_mono spec 0 n (lf_strCheck_of_float 0 h0) h0 h (fun _ => hr) hs hg⟩
    · simp only [hr, if_false]
      exact ⟨fun h => sf_intFormat_mono spec n 0x110000 hs hg h (fun hx => absurd hx hr) (lf_strCheck_of_float _ h1) h1,
        fun h => sf_intFormat_mono spec 0x110000 n (lf_strCheck_of_float _ h1) h1 h (fun hx => by simp [maxUnicode] at hx) hs hg⟩

theorem sf_plain_item_iff (name : Str) (conv : Option Char) (spec : Str) (hn : name.all notDotBracket = true)
    (hs : spec.all notBrace = true) :
    ItemAcceptedS (.field name conv spec) ↔ PlainItemAccepted (.field name conv spec) := by
  constructor
  · intro h
    have hv := h.1
    obtain ⟨v, o, t, hi, hne, hsm, hc, hf⟩ := sf_plain_field_unpack name conv spec hn hs h
    obtain ⟨hk, hg⟩ := sf_sample_kind name v hsm
    have hco := sf_convOk_of_convert v conv o hc
    simp only [itemValid, Bool.and_eq_true, Bool.or_eq_true, List.isEmpty_iff] at hv
    refine ⟨_, hk, hco, ?_, hv.2⟩
    by_cases he : spec = []
    · exact .inl he
    · cases conv with
      | none =>
        simp only [convert, Except.ok.injEq] at hc
        subst hc
        exact (sf_sample_spec v hg spec he).mp ⟨t, hf⟩
      | some c =>
        right
        simp only [Option.isSome_some, if_true]
        obtain h1 | ⟨t1, t2, ho, _⟩ := sf_convert_transfer v v (some c) o hc (lf_strCheck_of_good _ hg)
        · cases h1.1
        · subst ho
          rw [sf_formatObj_text_nonempty _ _ he] at hf
          exact (sf_map_ok_unit _ _).mp ⟨t, hf⟩
  · rintro ⟨kind, hk, hco, hsa, hre⟩
    obtain ⟨v, hsm, hkv, hg⟩ := sf_sample_of_kind name kind hk
    obtain ⟨hfm, hi, hne, _⟩ := sf_fieldKinds_names _ hk
    have hp : strCheck v.toValue = .ok () := lf_strCheck_of_good _ hg
    refine ⟨?_, ?_⟩
    · simp only [itemValid, Bool.and_eq_true, Bool.or_eq_true, List.isEmpty_iff]
      refine ⟨⟨.inr hfm, ?_⟩, hre⟩
      cases conv with
      | none => rfl
      | some c => exact hco
    · have hgf : getField .vformat sampleSDict name = .ok v := by
        rw [sf_getField_plain _ _ _ hn, sf_lookupFirst_plain _ _ _ hn]; exact ⟨hi, hne, hsm⟩
      have hx : evalStr .vformat sampleSDict 2 spec = .ok (some spec) := sf_evalStr_plain _ _ 1 _ hs
      cases conv with
      | none =>
        refine ⟨v, .val v, spec, ?_⟩
        by_cases he : spec = []
        · subst he
          exact ⟨strText v, hgf, rfl, hx, by simp only [formatObj, List.isEmpty_nil, if_true, hp]⟩
        · subst hkv
          obtain ⟨t, ht⟩ := (sf_sample_spec v hg spec he).mpr hsa
          exact ⟨t, hgf, rfl, hx, ht⟩
      | some c =>
        have hcv : ∃ t, convert v (some c) = .ok (.text t) := by
          simp only [convOk, Bool.or_eq_true, beq_iff_eq] at hco
          simp only [convert, hp]
          rcases hco with (h1 | h1) | h1 <;> subst h1 <;> simp
        obtain ⟨t0, hcv⟩ := hcv
        refine ⟨v, .text t0, spec, ?_⟩
        by_cases he : spec = []
        · subst he
          exact ⟨t0, hgf, hcv, hx, rfl⟩
        · rcases hsa with hsa | hsa
          · exact absurd hsa he
          · simp only [Option.isSome_some, if_true] at hsa
            exact ⟨none, hgf, hcv, hx, by rw [sf_formatObj_text_nonempty _ _ he, hsa]; rfl⟩


/-! ## Safety of accepted plain formats -/

theorem sf_evalField_plain (m : Mode) (d : SDict) (lvl : Nat) (name : Str) (conv : Option Char) (spec : Str)
    (hs : spec.all notBrace = true) :
    evalField m d (fun sp => evalStr m d (lvl + 1) sp) name conv spec =
      match getField m d name with
      | .error e => .error e
      | .ok v =>
        match convert v conv with
        | .error e => .error e
        | .ok o => formatObj o spec := by
  unfold evalField
  have hx : (if (m == .cformat && !spec.contains '{') = true then .ok (some spec) else evalStr m d (lvl + 1) spec) =
      (.ok (some spec) : Except SErr (Option Str)) := by
    rw [sf_evalStr_plain m d lvl spec hs]
    split <;> rfl
  simp only [hx]
  cases getField m d name with
  | error e => rfl
  | ok v => cases convert v conv <;> rfl

/-- one accepted plain field on a record the formatter gets to see, for `str.format` (`m = .cformat`, run time) and for
    `string.Formatter().vformat` (ZConfig's own stylist) alike -/
theorem sf_plain_field_safe (m : Mode) (lvl : Nat) (fmt : Str) (r : SDict) (hr : RecordForStr fmt r) (name : Str)
    (conv : Option Char) (spec : Str) (hmem : Item.field name conv spec ∈ parse (effectiveStr fmt))
    (hn : name.all notDotBracket = true) (hs : spec.all notBrace = true) (h : ItemAcceptedS (.field name conv spec)) :
    ∃ t, evalField m r (fun sp => evalStr m r (lvl + 1) sp) name conv spec = .ok t := by
  obtain ⟨v, o, t, hi, hne, hsm, hc, hf⟩ := sf_plain_field_unpack name conv spec hn hs h
  obtain ⟨hk, hg⟩ := sf_sample_kind name v hsm
  obtain ⟨v', hv', ha⟩ := hr name _ hk (fun he => sf_usesTime_of_field fmt conv spec (he ▸ hmem))
  have hp := sf_admitsStr_prints _ _ ha
  have hgf : getField m r name = .ok v' := by
    rw [sf_getField_plain _ _ _ hn, sf_lookupFirst_plain _ _ _ hn]; exact ⟨hi, hne, hv'⟩
  rw [sf_evalField_plain m r lvl name conv spec hs, hgf]
  obtain ⟨hcn, ho, hc'⟩ | ⟨t1, t2, ho, hc'⟩ := sf_convert_transfer v v' conv o hc hp
  · subst ho
    obtain ⟨t', ht'⟩ := sf_formatObj_transfer v v' hg ha spec t hf
    exact ⟨t', by simp only [hc', ht']⟩
  · subst ho
    obtain ⟨t', ht'⟩ := sf_formatObj_text t1 t2 spec t hf
    exact ⟨t', by simp only [hc', ht']⟩

theorem sf_plain_evalStr (m : Mode) (lvl : Nat) (fmt : Str) (h : acceptsStrFormat fmt = true) (hp : Plain fmt) (r : SDict)
    (hr : RecordForStr fmt r) : ∃ t, evalStr m r (lvl + 2) (effectiveStr fmt) = .ok t := by
  unfold evalStr
  rw [sf_runItems_ok]
  obtain ⟨hi, _⟩ := (sf_accepts_items fmt).mp h
  refine ⟨fun hm => hi _ hm, fun n c s hm => ?_⟩
  have hpl := List.all_eq_true.mp hp _ hm
  simp only [plainItem, Bool.and_eq_true] at hpl
  exact sf_plain_field_safe m lvl fmt r hr n c s hm hpl.1 hpl.2 (hi _ hm)

theorem sf_formatStr_ok (fmt : Str) (r : SDict) :
    formatStr fmt r = .ok () ↔ ∃ t, evalStr .cformat r 2 (effectiveStr fmt) = .ok t := by
  unfold formatStr cformatRun
  cases hx : evalStr .cformat r 2 (effectiveStr fmt) with
  | error e => cases e <;> simp [toUnit]
  | ok t => simp [toUnit]

theorem sf_ordinaryFor_record (fmt : Str) (r : SDict) (h : OrdinaryStrFor fmt r) : RecordForStr fmt r := by
  intro k kind hk ht
  obtain ⟨v, hv, ha⟩ := h k kind hk ht
  exact ⟨v, hv, sf_admits_admitsStr kind v ha⟩

theorem sf_ordinary_for (fmt : Str) (r : SDict) (h : OrdinaryStr r) : OrdinaryStrFor fmt r := by
  intro k kind hk _
  obtain ⟨w, hw, ha⟩ := h k kind hk
  simp only [SDict.erase] at hw
  cases hv : r k with
  | none => simp [hv] at hw
  | some v =>
    simp only [hv, Option.map_some, Option.some.injEq] at hw
    subst hw
    exact ⟨v, rfl, ha⟩

theorem sf_admitsStrB (kind : Kind) (v : Val) (h : kind.admitsStrB v = true) : kind.admitsStr v := by
  cases kind <;> cases v <;> simp only [Kind.admitsStrB, decide_eq_true_eq] at h <;>
    simp_all [-Nat.reducePow, Kind.admitsStr, Prints, Val.toValue]

theorem sf_record_of_table (fmt : Str) (tbl : List (Str × Val)) (h : recordTableFor fmt tbl = true) :
    RecordForStr fmt (lookupS tbl) := by
  intro k kind hm ht
  have := List.all_eq_true.mp h _ hm
  simp only [Bool.or_eq_true, Bool.and_eq_true, beq_iff_eq, Bool.not_eq_true'] at this
  rcases this with ⟨he, hu⟩ | hx
  · rw [ht he] at hu; cases hu
  · cases hl : lookupS tbl k with
    | none => simp [hl] at hx
    | some v => simp only [hl] at hx; exact ⟨v, rfl, sf_admitsStrB kind v hx⟩


theorem sf_erase_table (tbl : List (Str × Val)) :
    SDict.erase (lookupS tbl) = lookup (tbl.map (fun p => (p.1, p.2.toValue))) := by
  funext k
  rw [sf_lookupS_map]
  rfl

theorem sf_ordinary_of_table (tbl : List (Str × Val))
    (h : ordinaryTable (tbl.map (fun p => (p.1, p.2.toValue))) = true) : OrdinaryStr (lookupS tbl) := by
  unfold OrdinaryStr
  rw [sf_erase_table]
  exact lf_ordinary_of_table _ h

/-! ## Evaluating a one-field format on an arbitrary record (for the counterexamples) -/

theorem sf_getField_of (m : Mode) (d : SDict) (name key : Str) (path : List Acc) (v : Val)
    (h : firstOf name = key ∧ pathOf name = path ∧ getInteger key = .notInt ∧ key.isEmpty = false) (hd : d key = some v) :
    getField m d name = walk v path := by
  obtain ⟨hf, hp, hi, hne⟩ := h
  unfold getField lookupFirst
  rw [hf, hp, hi]
  simp only [hne, Bool.false_and, Bool.false_eq_true, if_false, hd]

theorem sf_walk_single (v : Val) (a : Acc) : walk v [a] = access v a := by
  unfold walk
  cases access v a <;> rfl

theorem sf_attrOf_str_missing (s n : Str) (h : strAttrs.contains n = false) :
    attrOf (.str s) n = .error .attributeError := by
  simp only [attrOf, h, Bool.false_eq_true, if_false]

theorem sf_formatStr_single (fmt : Str) (r : SDict) (name : Str) (conv : Option Char) (spec : Str)
    (hp : parse (effectiveStr fmt) = [.field name conv spec]) (e : SErr) (hk : e ≠ .keyError)
    (h : evalField .cformat r (fun sp => evalStr .cformat r 1 sp) name conv spec = .error e) :
    formatStr fmt r = .error e := by
  unfold formatStr cformatRun evalStr
  rw [hp]
  -- `hk` is used here: `formatStr` turns a `KeyError` into `ValueError`, every other class passes through
  simp only [runItems, h, toUnit]

theorem sf_formatStr_single_ok (fmt : Str) (r : SDict) (name : Str) (conv : Option Char) (spec : Str)
    (hp : parse (effectiveStr fmt) = [.field name conv spec]) (t : Option Str)
    (h : evalField .cformat r (fun sp => evalStr .cformat r 1 sp) name conv spec = .ok t) :
    formatStr fmt r = .ok () := by
  unfold formatStr cformatRun evalStr
  rw [hp]
  simp only [runItems, h, toUnit]

theorem sf_evalField_cformat (r : SDict) (expand : Str → Except SErr (Option Str)) (name : Str) (conv : Option Char)
    (spec : Str) (hs : spec.contains '{' = false) (v : Val) (hg : getField .cformat r name = .ok v) :
    evalField .cformat r expand name conv spec =
      match convert v conv with
      | .error e => .error e
      | .ok o => formatObj o spec := by
  unfold evalField
  have hm : (Mode.cformat == Mode.cformat) = true := rfl
  simp only [hg, hm, hs, Bool.not_false, Bool.and_self, if_true]
  cases convert v conv <;> rfl

theorem sf_evalField_getField_error (m : Mode) (r : SDict) (expand : Str → Except SErr (Option Str)) (name : Str)
    (conv : Option Char) (spec : Str) (e : SErr) (hg : getField m r name = .error e) :
    evalField m r expand name conv spec = .error e := by
  unfold evalField
  simp only [hg]

/-! ## The format specs `str` and `float` take (`strFormat`, `floatFormat`); the `int` specs are `sf_intFormat_ok` -/

/-- the `str` specs: `[[fill]align][0][width][.precision][s]` with an alignment other than `=` -/
theorem sf_strFormat_ok (spec : Str) :
    strFormat spec = .ok () ↔
      ∃ f, parseFSpec (some 's') spec = some f ∧ (f.type = none ∨ f.type = some 's') ∧ f.sign = none ∧ f.z = false ∧
        f.alt = false ∧ f.align ≠ some '=' ∧ f.width.getD 0 ≤ sizeLimit := by
  unfold strFormat
  cases hp : parseFSpec (some 's') spec with
  | none => simp
  | some f =>
    simp only [Option.some.injEq, exists_eq_left']
    split
    · rename_i h1
      have : ¬ (f.type = none ∨ f.type = some 's') := by
        rintro (h | h) <;> simp [h] at h1
      simp [this]
    · rename_i h1
      have ht : f.type = none ∨ f.type = some 's' := by
        cases hty : f.type with
        | none => exact .inl rfl
        | some c => simp [hty] at h1; exact .inr (by rw [h1])
      split
      · rename_i h2
        simp only [Bool.or_eq_true, Option.isSome_iff_ne_none, ne_eq, beq_iff_eq] at h2
        constructor
        · intro h; cases h
        · rintro ⟨_, h3, h4, h5, h6, _⟩
          rcases h2 with ((h2 | h2) | h2) | h2
          · exact absurd h3 h2
          · rw [h4] at h2; cases h2
          · rw [h5] at h2; cases h2
          · exact absurd h2 h6
      · rename_i h2
        simp only [Bool.or_eq_true, Option.isSome_iff_ne_none, ne_eq, beq_iff_eq, not_or, Decidable.not_not, Bool.not_eq_true] at h2
        rw [sf_sizeCheck_ok]
        simp [ht, h2]

/-- the `float` specs: no type or one of `e E f F g G % n` -/
theorem sf_floatFormat_ok (spec : Str) :
    floatFormat spec = .ok () ↔
      ∃ f, parseFSpec none spec = some f ∧
        (f.type = none ∨ ∃ c, f.type = some c ∧ (isFloatType c = true ∨ c = 'n')) ∧
        f.width.getD 0 ≤ sizeLimit ∧ f.prec.getD 0 ≤ sizeLimit := by
  unfold floatFormat
  have hL := sf_sizeLimit_le
  cases hp : parseFSpec none spec with
  | none => simp
  | some f =>
    simp only [Option.some.injEq, exists_eq_left']
    cases hty : f.type with
    | none =>
      simp only [true_or, true_and]
      split
      · constructor
        · intro h; cases h
        · rintro ⟨_, h⟩; omega
      · exact sf_sizeCheck_ok _ _
    | some c =>
      simp only [reduceCtorEq, Option.some.injEq, exists_eq_left', false_or]
      split
      · rename_i h1
        have h1' : isFloatType c = true ∨ c = 'n' := by simpa using h1
        simp only [h1', true_and]
        split
        · constructor
          · intro h; cases h
          · rintro ⟨_, h⟩; omega
        · exact sf_sizeCheck_ok _ _
      · rename_i h1
        have h1' : ¬ (isFloatType c = true ∨ c = 'n') := by simpa using h1
        simp [h1']

end ZCV.LogStrFormatLemmas
