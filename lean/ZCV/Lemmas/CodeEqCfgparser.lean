import ZCV.Gen.CodeCfgparser
import ZCV.Model.Parser
import ZCV.Lemmas.LineView
import ZCV.Lemmas.CodeEqDatatypes
/-!
# The generated pure prefixes of `ZConfig/cfgparser.py` equal the pieces of the hand-written parser model

`Gen.Code.handle_key_value_prefix` / `handle_directive_prefix` are the translation of the statements of
`ZConfigParser.handle_key_value` / `handle_directive` BEFORE the first one that touches the context, the section or
`self.replace` (the methods are not pure as a whole).  They are proved equal to what `Cfg.lineShape` computes for a
key/value line and for a `%` line through `Cfg.kvMatch` — the generated `_keyvalue_rx`, its named groups, the directive
tuple, the "missing argument" test.  `self.error` raises `ConfigurationSyntaxError(msg, self.url, self.lineno)`.
-/
set_option linter.unusedSimpArgs false
namespace ZCV.CodeEq
open ZCV ZCV.Py ZCV.Gen.Code ZCV.Cfg

/-- `self.error(…)` of the parser at (`url`, `lineno`) -/
def parserError (url : Option Str) (lineno : Int) : PyExc := .ConfigurationSyntaxError url (some lineno) none none

/-- `m = _keyvalue_rx.match(s)`; `m.group('key', 'value')` as the model's `kvMatch` (which reads `key` as `""` if absent) -/
theorem kvMatch_eq (s : Str) :
    kvMatch s = (Py.reMatch Gen.keyvalueRx s).map fun m =>
      ((m.groupN Gen.keyvalueRx_key).getD [], m.groupN Gen.keyvalueRx_value) := by
  rw [Py.reMatch_eq]; unfold kvMatch
  cases Rx.pyMatch Gen.keyvalueRx s <;> rfl

theorem code_handle_key_value_eq (url : Option Str) (lineno : Int) (rest : Str) :
    (handle_key_value_prefix url lineno () rest).map (fun kv => (kv.1.getD [], kv.2)) =
      match kvMatch rest with
      | none => .error (parserError url lineno)
      | some kv => .ok kv := by
  unfold handle_key_value_prefix
  rw [kvMatch_eq]
  cases Py.reMatch Gen.keyvalueRx rest <;> rfl

theorem of_not_bnot {b : Bool} (h : ¬ ((!b) = true)) : b = true := by cases b <;> simp_all
theorem of_bnot {b : Bool} (h : (!b) = true) : b = false := by cases b <;> simp_all

/-- the prefix of `handle_directive`, in the terms of `Cfg.lineShape`'s `%` branch -/
theorem code_handle_directive_eq (url : Option Str) (lineno : Int) (rest : Str) :
    (handle_directive_prefix url lineno () rest).map (fun na => (na.1.getD [], na.2)) =
      match kvMatch rest with
      | none => .error (parserError url lineno)
      | some (name, arg?) =>
        if !Gen.directives.contains name then .error (parserError url lineno)
        else if arg?.getD [] == [] then .error (parserError url lineno)
        else .ok (name, arg?.getD []) := by
  unfold handle_directive_prefix
  rw [kvMatch_eq]
  cases Py.reMatch Gen.keyvalueRx rest with
  | none => rfl
  | some m =>
    simp only [Option.map_some]
    generalize m.groupN Gen.keyvalueRx_key = name
    generalize m.groupN Gen.keyvalueRx_value = arg
    have hnil : Gen.directives.contains ([] : Str) = false := by decide
    cases name with
    | none => simp only [Option.getD_none, hnil]; rfl
    | some n =>
      simp only [Option.getD_some]
      cases hc : Gen.directives.contains n with
      | false =>
        split
        · rfl
        · next h =>
          exfalso
          have h' := contains_of_perm (l₂ := Gen.directives) (b := true) (of_not_bnot h) (by decide)
          rw [hc] at h'; exact Bool.noConfusion h'
      | true =>
        split
        · next h =>
          exfalso
          have h' := contains_of_perm (l₂ := Gen.directives) (b := false) (of_bnot h) (by decide)
          rw [hc] at h'; exact Bool.noConfusion h'
        · cases arg with
          | none => rfl
          | some a =>
            by_cases ha : a = []
            · subst ha; rfl
            · have h1 : (a != []) = true := by simpa using ha
              have h2 : (a == []) = false := by simpa using ha
              simp only [h1, h2, ↓reduceIte, Option.getD_some, Bool.not_true, Bool.false_eq_true]
              rfl

/-! ## what `Cfg.lineShape` makes of a key/value line and of a `%` line is determined by the generated prefixes

`lineShape` labels its syntax errors with the raise site (`bad tag`); the generated code keeps the exception class only, so the
comparison forgets the tag. -/

def forgetTag : LineShape → LineShape
  | .bad _ => .bad ""
  | sh => sh

/-- the shape of a key/value line, from the outcome of `handle_key_value`'s prefix -/
def kvShape (r : Except PyExc (Option Str × Option Str)) : LineShape :=
  match r with
  | .error _ => .bad ""
  | .ok (k, v) => .kv (k.getD []) (v.getD [])

/-- the shape of a `%` line, from the outcome of `handle_directive`'s prefix (`getattr(self, 'handle_' + name)`) -/
def directiveShape (r : Except PyExc (Option Str × Str)) : LineShape :=
  match r with
  | .error _ => .bad ""
  | .ok (name, arg) =>
    if name.getD [] == "define".toList then .define arg
    else if name.getD [] == "import".toList then .import_ arg
    else if name.getD [] == "include".toList then .include_ arg
    else .internal "AttributeError"

theorem kvShape_map (r : Except PyExc (Option Str × Option Str)) :
    kvShape r = match r.map (fun kv => (kv.1.getD [], kv.2)) with
      | .error _ => .bad "" | .ok (k, v) => .kv k (v.getD []) := by
  cases r with
  | error e => rfl
  | ok kv => obtain ⟨k, v⟩ := kv; rfl

theorem directiveShape_map (r : Except PyExc (Option Str × Str)) :
    directiveShape r = match r.map (fun na => (na.1.getD [], na.2)) with
      | .error _ => .bad ""
      | .ok (name, arg) =>
        if name == "define".toList then .define arg
        else if name == "import".toList then .import_ arg
        else if name == "include".toList then .include_ arg
        else .internal "AttributeError" := by
  cases r with
  | error e => rfl
  | ok na => obtain ⟨n, a⟩ := na; rfl

/-- a line that is neither blank, comment, section line nor directive: `lineShape` is what `handle_key_value`'s prefix yields -/
theorem code_keyvalue_lineShape (url : Option Str) (lineno : Int) (c : Char) (t : Str)
    (h1 : c ≠ '#') (h2 : c ≠ '<') (h3 : c ≠ '%') :
    forgetTag (lineShape (c :: t)) = kvShape (handle_key_value_prefix url lineno () (c :: t)) := by
  rw [kvShape_map, code_handle_key_value_eq, lineShape_dataArm c t h1 h2 h3]
  cases kvMatch (c :: t) with
  | none => rfl
  | some kv => obtain ⟨k, v⟩ := kv; cases v <;> rfl

theorem code_directive_lineShape (url : Option Str) (lineno : Int) (rest : Str) :
    forgetTag (lineShape ('%' :: rest)) = directiveShape (handle_directive_prefix url lineno () rest) := by
  rw [directiveShape_map, code_handle_directive_eq, lineShape_directiveArm]
  cases kvMatch rest with
  | none => rfl
  | some na =>
    obtain ⟨name, arg⟩ := na
    simp only []
    by_cases hc : Gen.directives.contains name = true
    · simp only [hc, Bool.not_true, Bool.false_eq_true, ↓reduceIte]
      by_cases ha : (arg.getD [] == []) = true
      · simp only [ha, ↓reduceIte]; rfl
      · simp only [ha, Bool.false_eq_true, ↓reduceIte]
        split <;> (try split) <;> (try split) <;> rfl
    · simp only [hc, Bool.not_false, ↓reduceIte]; rfl

end ZCV.CodeEq
