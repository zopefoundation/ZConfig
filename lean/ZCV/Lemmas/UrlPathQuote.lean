import ZCV.Model.UrlPath
/-! `quote` / `unquote`: UTF-8 and percent-encoding round trips, for every string of Unicode scalar values; the characters
`quote` produces, encodings of path segments. -/
namespace ZCV.UrlPath
open ZCV

theorem up_toNat_ofNat (n : Nat) (h : n.isValidChar) : (Char.ofNat n).toNat = n := by
  unfold Char.ofNat
  simp only [h, ↓reduceDIte]
  unfold Char.ofNatAux Char.toNat
  rfl

/-! ## the four shapes of an encoding -/

/-- The four shapes of the encoding of code point `n`: `a` is the payload of the lead byte, `i j k` the six-bit payloads
    of the continuation bytes.  The side conditions are what the decoder checks on top of the byte ranges: no overlong
    form, no surrogate, nothing above U+10FFFF. -/
inductive Utf8View (n : Nat) : List Nat → Prop
  | one : n < 0x80 → Utf8View n [n]
  | two (a k : Nat) : 2 ≤ a → a < 32 → k < 64 → n = a * 64 + k → Utf8View n [0xC0 + a, 0x80 + k]
  | three (a j k : Nat) : a < 16 → j < 64 → k < 64 → (a = 0 → 32 ≤ j) → (a = 13 → j < 32) →
      n = (a * 64 + j) * 64 + k → Utf8View n [0xE0 + a, 0x80 + j, 0x80 + k]
  | four (a i j k : Nat) : a < 5 → i < 64 → j < 64 → k < 64 → (a = 0 → 16 ≤ i) → (a = 4 → i < 16) →
      n = ((a * 64 + i) * 64 + j) * 64 + k → Utf8View n [0xF0 + a, 0x80 + i, 0x80 + j, 0x80 + k]

theorem up_utf8Char_view (c : Char) : Utf8View c.toNat (utf8Char c) := by
  have hv : c.toNat < 0xD800 ∨ (0xDFFF < c.toNat ∧ c.toNat < 0x110000) := c.valid
  unfold utf8Char
  dsimp only
  generalize c.toNat = n at hv
  -- `n = ((a * 64 + i) * 64 + j) * 64 + k` by dividing by 64 three times, as far as each case needs it: what is left for
  -- `omega` is linear
  rw [show n / 4096 = n / 64 / 64 from (Nat.div_div_eq_div_mul n 64 64).symm,
    show n / 262144 = n / 64 / 64 / 64 by rw [Nat.div_div_eq_div_mul, Nat.div_div_eq_div_mul]]
  have hn := Nat.div_add_mod' n 64
  have hk := Nat.mod_lt n (show 0 < 64 by decide)
  generalize n / 64 = q at hn ⊢
  generalize n % 64 = k at hn hk ⊢
  subst hn
  split
  · exact .one ‹_›
  split
  · exact .two q k (by omega) (by omega) hk rfl
  have hq := Nat.div_add_mod' q 64
  have hj := Nat.mod_lt q (show 0 < 64 by decide)
  generalize q / 64 = p at hq ⊢
  generalize q % 64 = j at hq hj ⊢
  subst hq
  split
  · exact .three p j k (by omega) hj hk (by omega) (by omega) rfl
  have hp := Nat.div_add_mod' p 64
  have hi := Nat.mod_lt p (show 0 < 64 by decide)
  generalize p / 64 = a at hp ⊢
  generalize p % 64 = i at hp hi ⊢
  subst hp
  exact .four a i j k (by omega) hi hj hk (by omega) (by omega) rfl

theorem up_add_lt {c x n : Nat} (h : x < n) (hc : c + n ≤ 256) : c + x < 256 :=
  Nat.lt_of_lt_of_le (Nat.add_lt_add_left h c) hc

theorem up_utf8Char_lt (c : Char) : ∀ b ∈ utf8Char c, b < 256 := by
  have hview := up_utf8Char_view c
  generalize utf8Char c = bs at hview
  cases hview <;> simp only [List.mem_cons, List.not_mem_nil, or_false, forall_eq_or_imp, forall_eq]
  case one h => exact Nat.lt_trans h (by decide)
  case two ha hk _ => exact ⟨up_add_lt ha (by decide), up_add_lt hk (by decide)⟩
  case three ha hj hk _ _ _ => exact ⟨up_add_lt ha (by decide), up_add_lt hj (by decide), up_add_lt hk (by decide)⟩
  case four ha hi hj hk _ _ _ =>
    exact ⟨up_add_lt ha (by decide), up_add_lt hi (by decide), up_add_lt hj (by decide), up_add_lt hk (by decide)⟩

theorem up_utf8Char_ascii (c : Char) (h : c.toNat < 0x80) : utf8Char c = [c.toNat] := by
  unfold utf8Char; simp only [h, ↓reduceIte]

/-- only `/` has the byte `0x2F` in its encoding: the bytes of a longer encoding are `0x80` and up -/
theorem up_utf8Char_slash (c : Char) (h : 0x2F ∈ utf8Char c) : c = '/' := by
  have hne (C : Nat) (hC : 0x2F < C) (x : Nat) : 0x2F ≠ C + x := Nat.ne_of_lt (Nat.lt_of_lt_of_le hC (Nat.le_add_right C x))
  have hview := up_utf8Char_view c
  generalize utf8Char c = bs at h hview
  cases hview <;> simp only [List.mem_cons, List.not_mem_nil, or_false] at h
  case one => exact Char.toNat_inj.1 h.symm
  all_goals simp only [hne 0x80 (by decide), hne 0xC0 (by decide), hne 0xE0 (by decide), hne 0xF0 (by decide), or_self] at h

/-! ## the UTF-8 decoder on well-formed sequences -/

theorem up_isCont_low (k : Nat) (h : k < 64) : isCont (0x80 + k) = true := by
  unfold isCont; simp only [Bool.and_eq_true, decide_eq_true_eq]; omega

theorem up_not_add_lt {m c : Nat} (a : Nat) (h : m ≤ c) : ¬ c + a < m :=
  Nat.not_lt.2 (Nat.le_trans h (Nat.le_add_right c a))

theorem up_dec1 (b0 : Nat) (rest : List Nat) (h : b0 < 0x80) :
    utf8Decode (b0 :: rest) = Char.ofNat b0 :: utf8Decode rest := by
  rw [utf8Decode.eq_def]; simp only [h, ↓reduceIte]

theorem up_dec2 (a k : Nat) (rest : List Nat) (h0 : 2 ≤ a) (h0' : a < 32) (hk : k < 64) :
    utf8Decode ((0xC0 + a) :: (0x80 + k) :: rest) = Char.ofNat (a * 64 + k) :: utf8Decode rest := by
  rw [utf8Decode.eq_def]
  have a1 : ¬ 0xC0 + a < 0x80 := up_not_add_lt a (by decide)
  have a2 : ¬ 0xC0 + a < 0xC2 := by omega
  have a3 : 0xC0 + a < 0xE0 := Nat.add_lt_add_left h0' 0xC0
  simp only [a1, a2, a3, up_isCont_low k hk, ↓reduceIte, Nat.add_sub_cancel_left]

theorem up_dec3 (a j k : Nat) (rest : List Nat) (h0 : a < 16) (hj : j < 64) (hk : k < 64)
    (hlow : a = 0 → 32 ≤ j) (hsur : a = 13 → j < 32) :
    utf8Decode ((0xE0 + a) :: (0x80 + j) :: (0x80 + k) :: rest) = Char.ofNat ((a * 64 + j) * 64 + k) :: utf8Decode rest := by
  rw [utf8Decode.eq_def]
  have a1 : ¬ 0xE0 + a < 0x80 := up_not_add_lt a (by decide)
  have a2 : ¬ 0xE0 + a < 0xC2 := up_not_add_lt a (by decide)
  have a3 : ¬ 0xE0 + a < 0xE0 := up_not_add_lt a (by decide)
  have a4 : 0xE0 + a < 0xF0 := Nat.add_lt_add_left h0 0xE0
  have a5 : (if 0x80 + j < 0xA0 then 0xE0 + a == 0xE0 else 0xE0 + a == 0xED) = false := by
    split <;> simp only [beq_eq_false_iff_ne, ne_eq] <;> omega
  simp only [a1, a2, a3, a4, a5, up_isCont_low j hj, up_isCont_low k hk, ↓reduceIte, Bool.not_true, Bool.or_self,
    Bool.false_eq_true, Nat.add_sub_cancel_left, Nat.add_mul, Nat.mul_assoc, Nat.reduceMul]

theorem up_dec4 (a i j k : Nat) (rest : List Nat) (h0 : a < 5) (hi : i < 64) (hj : j < 64) (hk : k < 64)
    (hlow : a = 0 → 16 ≤ i) (hhigh : a = 4 → i < 16) :
    utf8Decode ((0xF0 + a) :: (0x80 + i) :: (0x80 + j) :: (0x80 + k) :: rest) =
      Char.ofNat (((a * 64 + i) * 64 + j) * 64 + k) :: utf8Decode rest := by
  rw [utf8Decode.eq_def]
  have a1 : ¬ 0xF0 + a < 0x80 := up_not_add_lt a (by decide)
  have a2 : ¬ 0xF0 + a < 0xC2 := up_not_add_lt a (by decide)
  have a3 : ¬ 0xF0 + a < 0xE0 := up_not_add_lt a (by decide)
  have a4 : ¬ 0xF0 + a < 0xF0 := up_not_add_lt a (by decide)
  have a5 : 0xF0 + a < 0xF5 := Nat.add_lt_add_left h0 0xF0
  have a6 : (if 0x80 + i < 0x90 then 0xF0 + a == 0xF0 else 0xF0 + a == 0xF4) = false := by
    split <;> simp only [beq_eq_false_iff_ne, ne_eq] <;> omega
  simp only [a1, a2, a3, a4, a5, a6, up_isCont_low i hi, up_isCont_low j hj, up_isCont_low k hk, ↓reduceIte, Bool.not_true,
    Bool.or_self, Bool.false_eq_true, Nat.add_sub_cancel_left, Nat.add_mul, Nat.mul_assoc, Nat.reduceMul]

theorem up_decode_utf8Char (c : Char) (rest : List Nat) : utf8Decode (utf8Char c ++ rest) = c :: utf8Decode rest := by
  have hc := Char.ofNat_toNat c
  have hview := up_utf8Char_view c
  generalize utf8Char c = bs at hview
  cases hview with
  | one h => rw [List.singleton_append, up_dec1 _ _ h, hc]
  | two a k h0 h0' hk hn => rw [hn] at hc; rw [← hc]; exact up_dec2 a k rest h0 h0' hk
  | three a j k h0 hj hk hlow hsur hn => rw [hn] at hc; rw [← hc]; exact up_dec3 a j k rest h0 hj hk hlow hsur
  | four a i j k h0 hi hj hk hlow hhigh hn => rw [hn] at hc; rw [← hc]; exact up_dec4 a i j k rest h0 hi hj hk hlow hhigh

theorem up_decode_utf8_append (s : Str) (rest : List Nat) : utf8Decode (utf8 s ++ rest) = s ++ utf8Decode rest := by
  induction s with
  | nil => rfl
  | cons c t ih =>
    simp only [utf8, List.flatMap_cons, List.append_assoc, List.cons_append]
    rw [up_decode_utf8Char]
    simp only [utf8] at ih
    rw [ih]

theorem up_decode_utf8 (s : Str) : utf8Decode (utf8 s) = s := by
  have := up_decode_utf8_append s []
  rwa [List.append_nil, show utf8Decode [] = [] from rfl, List.append_nil] at this

theorem up_utf8_inj (s t : Str) (h : utf8 s = utf8 t) : s = t := by
  rw [← up_decode_utf8 s, h, up_decode_utf8]

theorem up_utf8_append (a b : Str) : utf8 (a ++ b) = utf8 a ++ utf8 b := by
  simp only [utf8, List.flatMap_append]

theorem up_utf8_lt (s : Str) : ∀ b ∈ utf8 s, b < 256 := by
  intro b hb
  simp only [utf8, List.mem_flatMap] at hb
  obtain ⟨c, _, hc⟩ := hb
  exact up_utf8Char_lt c b hc

/-! ## hex digits; what `quoteByte` writes -/

/-- the characters `quote` can produce: `A-Za-z0-9`, `_.-~/` and `%` -/
def quotedChar (c : Char) : Bool := safeByte c.toNat || c == '%'

theorem up_hexDigit_spec :
    ∀ n < 16, hexVal (hexDigit n) = some n ∧ quotedChar (hexDigit n) = true ∧ hexDigit n ≠ '/' := by
  decide +kernel

theorem up_nibbles {b : Nat} (h : b < 256) : b / 16 < 16 ∧ b % 16 < 16 :=
  ⟨Nat.div_lt_of_lt_mul (show b < 16 * 16 from h), Nat.mod_lt b (by decide)⟩

theorem up_escByte_hex (b : Nat) (h : b < 256) (rest : Str) :
    escByte (hexDigit (b / 16) :: hexDigit (b % 16) :: rest) = some b := by
  simp only [escByte, (up_hexDigit_spec _ (up_nibbles h).1).1, (up_hexDigit_spec _ (up_nibbles h).2).1, Nat.div_add_mod]

theorem up_safeByte_lt (b : Nat) (h : safeByte b = true) : b < 0x80 ∧ b ≠ 0x25 := by
  unfold safeByte at h
  simp only [Bool.or_eq_true, Bool.and_eq_true, decide_eq_true_eq, beq_iff_eq] at h
  omega

theorem up_quoteByte_view (b : Nat) :
    (safeByte b = true ∧ b ≠ 0x25 ∧ b < 0x80 ∧ (Char.ofNat b).toNat = b ∧ quoteByte b = [Char.ofNat b]) ∨
    quoteByte b = ['%', hexDigit (b / 16), hexDigit (b % 16)] := by
  unfold quoteByte
  cases hs : safeByte b
  · exact .inr rfl
  · obtain ⟨h1, h2⟩ := up_safeByte_lt b hs
    exact .inl ⟨rfl, h2, h1, up_toNat_ofNat _ (.inl (by omega)), rfl⟩

/-! ## `unquoteBytes ∘ quoteBytes` -/

theorem up_unquoteBytes_quoteByte (b : Nat) (h : b < 256) (rest : Str) :
    unquoteBytes (quoteByte b ++ rest) = b :: unquoteBytes rest := by
  rcases up_quoteByte_view b with ⟨_, h2, h1, hn, hq⟩ | hq <;> rw [hq]
  · rw [List.singleton_append, unquoteBytes, if_neg (fun e => h2 (hn.symm.trans (congrArg Char.toNat e))),
      up_utf8Char_ascii _ (hn.symm ▸ h1), hn]
    rfl
  · rw [List.cons_append, unquoteBytes]
    simp only [↓reduceIte, List.cons_append, List.nil_append, up_escByte_hex b h, List.drop_succ_cons, List.drop_zero]

theorem up_unquoteBytes_quoteBytes (bs : List Nat) (h : ∀ b ∈ bs, b < 256) (rest : Str) :
    unquoteBytes (quoteBytes bs ++ rest) = bs ++ unquoteBytes rest := by
  induction bs with
  | nil => rfl
  | cons b t ih =>
    simp only [quoteBytes, List.flatMap_cons, List.append_assoc, List.cons_append]
    rw [up_unquoteBytes_quoteByte b (h b (by simp))]
    simp only [quoteBytes] at ih
    rw [ih (fun x hx => h x (by simp [hx]))]

/-! ## encodings (`Enc`); `unquote ∘ quote`, `quote` on `++` -/

/-- `u` is a URL spelling of the path text `p` that can be followed by anything -/
def Enc (u p : Str) : Prop := ∀ rest, unquoteBytes (u ++ rest) = utf8 p ++ unquoteBytes rest

theorem up_enc_nil : Enc [] [] := fun _ => rfl

theorem up_enc_quote (p : Str) : Enc (quote p) p := fun rest =>
  up_unquoteBytes_quoteBytes (utf8 p) (up_utf8_lt p) rest

theorem up_enc_append {u1 p1 u2 p2 : Str} (h1 : Enc u1 p1) (h2 : Enc u2 p2) : Enc (u1 ++ u2) (p1 ++ p2) := by
  intro rest
  rw [List.append_assoc, h1, h2, up_utf8_append, List.append_assoc]

theorem up_enc_raw (p : Str) (h : '%' ∉ p) : Enc p p := by
  induction p with
  | nil => exact up_enc_nil
  | cons c t ih =>
    intro rest
    have hc : c ≠ '%' := fun e => h (by simp [e])
    have ht : '%' ∉ t := fun e => h (by simp [e])
    rw [List.cons_append, unquoteBytes, if_neg hc, ih ht rest]
    simp only [utf8, List.flatMap_cons, List.append_assoc]

theorem up_enc_slash : Enc ['/'] ['/'] := up_enc_raw _ (by decide)

theorem up_unquote_eq (u : Str) : unquote u = utf8Decode (unquoteBytes u) := by
  unfold unquote
  split
  · rfl
  · rename_i h
    have hn : '%' ∉ u := by
      intro hm
      apply h
      simp only [List.contains_iff_mem, hm]
    have := up_enc_raw u hn []
    simp only [List.append_nil, unquoteBytes] at this
    rw [this, up_decode_utf8]

theorem up_unquote_of_enc {u p : Str} (h : Enc u p) : unquote u = p := by
  have := h []
  simp only [List.append_nil, unquoteBytes] at this
  rw [up_unquote_eq, this, up_decode_utf8]

theorem up_unquote_quote (s : Str) : unquote (quote s) = s := up_unquote_of_enc (up_enc_quote s)

theorem up_quote_inj (s t : Str) (h : quote s = quote t) : s = t := by
  rw [← up_unquote_quote s, h, up_unquote_quote]

theorem up_quote_append (a b : Str) : quote (a ++ b) = quote a ++ quote b := by
  simp only [quote, quoteBytes, up_utf8_append, List.flatMap_append]

theorem up_quote_nil : quote [] = [] := rfl

theorem up_quote_cons (c : Char) (t : Str) : quote (c :: t) = quote [c] ++ quote t :=
  up_quote_append [c] t

/-! ## what `quote` outputs -/

theorem up_quoteByte_chars (b : Nat) (h : b < 256) : ∀ c ∈ quoteByte b, quotedChar c = true := by
  intro c hc
  rcases up_quoteByte_view b with ⟨hs, _, _, hn, hq⟩ | hq <;> rw [hq] at hc <;>
    simp only [List.mem_cons, List.not_mem_nil, or_false] at hc
  · rw [hc, quotedChar, hn, hs, Bool.true_or]
  · rcases hc with rfl | rfl | rfl
    · rfl
    · exact (up_hexDigit_spec _ (up_nibbles h).1).2.1
    · exact (up_hexDigit_spec _ (up_nibbles h).2).2.1

theorem up_quote_chars (s : Str) : ∀ c ∈ quote s, quotedChar c = true := by
  intro c hc
  simp only [quote, quoteBytes, List.mem_flatMap] at hc
  obtain ⟨b, hb, hcb⟩ := hc
  exact up_quoteByte_chars b (up_utf8_lt s b hb) c hcb

theorem up_quoteByte_slash (b : Nat) (h : b < 256) (hm : '/' ∈ quoteByte b) : b = 0x2F := by
  rcases up_quoteByte_view b with ⟨_, _, _, hn, hq⟩ | hq <;> rw [hq] at hm <;>
    simp only [List.mem_cons, List.not_mem_nil, or_false] at hm
  · exact hn.symm.trans (congrArg Char.toNat hm.symm)
  · rcases hm with hm | hm | hm
    · exact absurd hm (by decide)
    · exact absurd hm.symm (up_hexDigit_spec _ (up_nibbles h).1).2.2
    · exact absurd hm.symm (up_hexDigit_spec _ (up_nibbles h).2).2.2

theorem up_quote_single_slash : quote ['/'] = ['/'] := by decide

theorem up_quote_single_noslash (c : Char) (h : c ≠ '/') : '/' ∉ quote [c] := by
  intro hm
  simp only [quote, utf8, quoteBytes, List.flatMap_cons, List.flatMap_nil, List.append_nil, List.mem_flatMap] at hm
  obtain ⟨b, hb, hcb⟩ := hm
  have := up_quoteByte_slash b (up_utf8Char_lt c b hb) hcb
  subst this
  exact h (up_utf8Char_slash c hb)

theorem up_quote_dot : quote dot = dot := by decide
theorem up_quote_dotdot : quote dotdot = dotdot := by decide

theorem up_quote_eq_nil (s : Str) : quote s = [] ↔ s = [] := by
  constructor
  · intro h; exact up_quote_inj s [] (by rw [h]; rfl)
  · intro h; rw [h]; rfl

theorem up_quote_eq_dot (s : Str) : quote s = dot ↔ s = dot := by
  constructor
  · intro h; exact up_quote_inj s dot (by rw [h, up_quote_dot])
  · intro h; rw [h, up_quote_dot]

theorem up_quote_eq_dotdot (s : Str) : quote s = dotdot ↔ s = dotdot := by
  constructor
  · intro h; exact up_quote_inj s dotdot (by rw [h, up_quote_dotdot])
  · intro h; rw [h, up_quote_dotdot]

end ZCV.UrlPath
