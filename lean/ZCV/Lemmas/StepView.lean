import ZCV.Lemmas.IncludeAux
import ZCV.Lemmas.ParserSteps
import ZCV.Lemmas.NoInternalRx
/-!
`stepLine` taken apart once: the ways a line is accepted (`StepOk`, with the context calls that succeeded; `StepOk.step` is the
converse, by which a text is run line by line) and the ways it fails (`StepFail`: the origins `LineErr` of a configuration error,
a failure of a callback passing through, the deliberate refusals, the `%include` that cannot be followed, the failure of the parse
of an included resource, `Enters`).  `stepLine_ends` is the one walk over the arms of `stepLine` for a single run; what is said about the
result or the failure of a line in one context is read off it (the comparisons of two runs, `stepLine_lineRel` and `step_addStack`,
go through the arms themselves).
-/
namespace ZCV.Cfg
open ZCV

/-! ### how a line is accepted -/

/-- the ways in which `stepLine … st` is `.ok st'` -/
inductive StepOk {σ} (fuel : Nat) (env : Env) (c : PCtx σ) (active : List Str) (url : Option Str) (line : Nat) (l : Str)
    (st : PS σ) : PS σ → Prop
  | skip : lineShape l = .skip → StepOk fuel env c active url line l st st
  | close {ty nm T a} : lineShape l = .close ty → st.stack = (ty, nm) :: T → c.stop st.ctx ty nm = .ok a →
      StepOk fuel env c active url line l st { st with ctx := a, stack := T }
  | open_ {ty nm a} : lineShape l = .open_ ty nm false → c.start st.ctx ty nm = .ok a →
      StepOk fuel env c active url line l st { st with ctx := a, stack := (ty, nm) :: st.stack }
  | empty {ty nm a a'} : lineShape l = .open_ ty nm true → c.start st.ctx ty nm = .ok a → c.stop a ty nm = .ok a' →
      StepOk fuel env c active url line l st { st with ctx := a' }
  | kv {k raw v a} : lineShape l = .kv k raw → replace env st.defs url line raw = .ok v →
      c.value st.ctx k v { line := line, url := url } = .ok a → StepOk fuel env c active url line l st { st with ctx := a }
  | define {arg d} : lineShape l = .define arg → c.canDefine = true → define env url line arg st.defs = .ok d →
      StepOk fuel env c active url line l st { st with defs := d }
  | import_ {arg pkg a} : lineShape l = .import_ arg → replace env st.defs url line (strip arg) = .ok pkg →
      c.imp st.ctx pkg = .ok a → StepOk fuel env c active url line l st { st with ctx := a }
  | include_ {arg a u lines f sub} : lineShape l = .include_ arg → replace env st.defs url line (strip arg) = .ok a →
      c.canInclude = true → env.resolve url a = .url u → env.res u = some lines → (u = [] ∨ u ∉ active) → fuel = f + 1 →
      parseLines f env c (u :: active) (some u) lines 0 { ctx := st.ctx, stack := [], defs := st.defs } = .ok sub →
      StepOk fuel env c active url line l st { st with ctx := sub.ctx, defs := sub.defs }

/-- the test of `_parse_resource` ("resource includes itself") passes -/
theorem not_active {u : Str} {active : List Str} (h : u = [] ∨ u ∉ active) : (u != [] && active.contains u) = false := by
  rcases h with rfl | h
  · rfl
  · rw [Bool.and_eq_false_iff]
    exact .inr (by simpa using h)

theorem of_not_active {u : Str} {active : List Str} (h : (u != [] && active.contains u) = false) : u = [] ∨ u ∉ active :=
  (Classical.em (u = [])).imp_right fun h0 hm => by simp [h0, hm] at h

/-- the converse of `stepLine_ok`: the eight rules by which a text is run line by line, for any context -/
theorem StepOk.step {σ} {fuel : Nat} {env : Env} {c : PCtx σ} {active : List Str} {url : Option Str} {line : Nat} {l : Str}
    {st st' : PS σ} (h : StepOk fuel env c active url line l st st') : stepLine fuel env c active url line l st = .ok st' := by
  cases h with
  | skip hs => exact stepLine_of_skip hs
  | close hs hst hstop =>
    rw [stepLine_of_close hs]
    unfold closeSection
    rw [hst]
    simp only [bne_self_eq_false, Bool.false_eq_true, if_false, hstop]
    rfl
  | open_ hs hstart => rw [stepLine_of_open hs]; unfold openSection; rw [hstart]; rfl
  | empty hs hstart hstop => rw [stepLine_of_open hs]; exact open_empty hstart hstop
  | kv hs hv ha => rw [stepLine_of_kv hs, hv, ok_bind]; unfold kvCore; rw [ha]
  | define hs hcd hd =>
    rw [stepLine_define _ _ _ _ _ _ _ _ _ hs]
    unfold defStep
    rw [hcd, hd]
    rfl
  | import_ hs hp ha => exact step_import hs hp ha
  | @include_ _ _ u _ _ _ hs ha hci hu hl hact hf hsub =>
    subst hf
    rw [incgen_include_found _ env c active url line l _ _ u _ st hs hci ha hu hl hact, subState, hsub]
    rfl

/-! ### a line that fails with something that is no configuration error, as a rule for running a closed text -/

theorem open_fail {σ} {c : PCtx σ} {url : Option Str} {line : Nat} {ty : Str} {nm : Option Str} {e : Bool} {st : PS σ} {x : String}
    (h1 : c.start st.ctx ty nm = .error (.internal x)) : openSection c url line ty nm e st = .error (.internal x) := by
  unfold openSection; rw [h1]

/-- `<ty nm/>` whose `endSection` fails -/
theorem open_empty_fail {σ} {c : PCtx σ} {url : Option Str} {line : Nat} {ty : Str} {nm : Option Str} {st : PS σ} {c1 : σ}
    {x : String} (h1 : c.start st.ctx ty nm = .ok c1) (h2 : c.stop c1 ty nm = .error (.internal x)) :
    openSection c url line ty nm true st = .error (.internal x) := by
  unfold openSection; rw [h1]; simp only [if_true, h2]; rfl

/-! ### how a line fails -/

/-- the `%include` refusals of `includeConfiguration` / `openResource` / `normalizeURL`: plain configuration errors that name
    no line; the URL, if any, is that of the resource that could not be read -/
def IncludeRefusal (e : Err) : Prop :=
  e.kind = .plain ∧ e.line = none ∧ e.value = none ∧
    ((e.url = none ∧ e.tag = "fragment") ∨ (∃ u, e.url = some u ∧ (e.tag = "error opening" ∨ e.tag = "resource includes itself")))

/-- the possible origins of a configuration error `e` that ends the processing of line `line` of resource `url`, the parser
    being in state `st` when it reads the line -/
inductive LineErr {σ} (c : PCtx σ) (url : Option Str) (line : Nat) (st : PS σ) (e : Err) : Prop
  /-- raised by the parser itself (`self.error(...)`, or `replace`): this line, this resource -/
  | parser (hl : e.line = some (line : Int)) (hu : e.url = url)
      (hk : e.kind = .syntax ∨ e.kind = .replacement ∨ e.kind = .substSyntax) (hv : e.value = none)
  /-- raised by `section.addValue(key, value, position)` and fixed up -/
  | value (key v : Str) (e' : Err) (h : c.value st.ctx key v { line := line, url := url } = .error (.cfg e'))
      (he : e = fixPos url line e')
  /-- a conversion error raised by `endSection` (closing line or `<type/>`) and fixed up -/
  | stop (ctx : σ) (ty : Str) (nm : Option Str) (e' : Err)
      (hctx : ctx = st.ctx ∨ c.start st.ctx ty nm = .ok ctx)
      (h : c.stop ctx ty nm = .error (.cfg e')) (hk : e'.kind = .conversion) (he : e = fixPos url line e')
  /-- raised by `importSchemaComponent`: passes through untouched -/
  | imp (pkg : Str) (h : c.imp st.ctx pkg = .error (.cfg e))
  /-- the `%include` on this line is refused before the resource is read -/
  | include_ (h : IncludeRefusal e)

/-- the `%include` on the stripped line `l` (line `line` of `url`, parser state `st`) gets as far as reading resource `u`,
    whose lines are `sub`, with `fuel'` nesting levels left -/
def Enters {σ} (fuel : Nat) (env : Env) (c : PCtx σ) (active : List Str) (url : Option Str) (line : Nat) (l : Str) (st : PS σ)
    (fuel' : Nat) (u : Str) (sub : List Str) : Prop :=
  ∃ arg a, lineShape l = .include_ arg ∧ replace env st.defs url line (strip arg) = .ok a ∧ c.canInclude = true ∧
    env.resolve url a = .url u ∧ env.res u = some sub ∧ (u != [] && active.contains u) = false ∧ fuel = fuel' + 1

/-- an origin of `LineErr`, of an error that has a line number or was raised by `importSchemaComponent`: what a line that is
    no `%include` can fail with (the refusal of an `%include` names no line) -/
def LineErr.Own {σ} (c : PCtx σ) (url : Option Str) (line : Nat) (st : PS σ) (e : Err) : Prop :=
  LineErr c url line st e ∧ (e.line ≠ none ∨ ∃ pkg, c.imp st.ctx pkg = .error (.cfg e))

def Directive (l : Str) : Prop := ∃ a, lineShape l = .define a ∨ lineShape l = .include_ a

/-- a callback that the parser calls while it handles line `line` of `url` in state `st` fails with `f` -/
inductive CtxFails {σ} (c : PCtx σ) (url : Option Str) (line : Nat) (st : PS σ) (f : Fail) : Prop
  | start (ty : Str) (nm : Option Str) (h : c.start st.ctx ty nm = .error f)
  | close (ty : Str) (nm : Option Str) (T : List (Str × Option Str)) (hst : st.stack = (ty, nm) :: T)
      (h : c.stop st.ctx ty nm = .error f)
  | empty (ty : Str) (nm : Option Str) (ctx : σ) (hs : c.start st.ctx ty nm = .ok ctx) (h : c.stop ctx ty nm = .error f)
  | value (k v : Str) (h : c.value st.ctx k v { line := line, url := url } = .error f)
  | imp (pkg : Str) (h : c.imp st.ctx pkg = .error f)

/-- what a failure `f` of `stepLine … st` can be: every failure falls under one of these (`stepLine_fails`); they are kinds of
    failure, not runs — a constructor does not determine that the line fails, nor with which failure -/
inductive StepFail {σ} (fuel : Nat) (env : Env) (c : PCtx σ) (active : List Str) (url : Option Str) (line : Nat) (l : Str)
    (st : PS σ) : Fail → Prop
  /-- a `$`-substitution in the text of the line fails -/
  | subst {t f} (h : replace env st.defs url line t = .error f) : StepFail fuel env c active url line l st f
  /-- on a line that is no `%include`: a configuration error with one of the origins of `LineErr` -/
  | own {e} (hni : ∀ a, lineShape l ≠ .include_ a) (h : LineErr.Own c url line st e) :
      StepFail fuel env c active url line l st (.cfg e)
  /-- the `%include` on this line is refused before the resource is read -/
  | refusal {e a} (hs : lineShape l = .include_ a) (h : IncludeRefusal e) : StepFail fuel env c active url line l st (.cfg e)
  /-- a failure of a callback that is no configuration error passes through untouched -/
  | ctx {f} (hf : ∀ e, f ≠ .cfg e) (h : CtxFails c url line st f) : StepFail fuel env c active url line l st f
  /-- the deliberate refusal of `%define` / `%include` -/
  | refused (hd : Directive l) (hc : c.canDefine = false ∨ c.canInclude = false) :
      StepFail fuel env c active url line l st (.internal "NotImplementedError")
  /-- an `%include` argument outside the table of the harness -/
  | unresolved {arg a} (hs : lineShape l = .include_ arg) (hr : replace env st.defs url line (strip arg) = .ok a)
      (hci : c.canInclude = true) (hres : env.resolve url a = .unknown) :
      StepFail fuel env c active url line l st (.internal "unresolved-by-harness")
  /-- with one more level of nesting the `%include` would have read its resource -/
  | depth {u sub} (h0 : fuel = 0) (h : Enters 1 env c active url line l st 0 u sub) :
      StepFail fuel env c active url line l st (.internal "RecursionError")
  /-- the `%include` has opened its resource, and the parse of that resource fails -/
  | sub {fuel' u sub f} (hen : Enters fuel env c active url line l st fuel' u sub)
      (h : parseLines fuel' env c (u :: active) (some u) sub 0 (subState st) = .error f) :
      StepFail fuel env c active url line l st f

theorem stepLine_ends {σ} (fuel : Nat) (env : Env) (c : PCtx σ) (active : List Str) (url : Option Str) (line : Nat) (l : Str)
    (st : PS σ) :
    Ends (stepLine fuel env c active url line l st) (StepOk fuel env c active url line l st)
      (StepFail fuel env c active url line l st) := by
  have rep : ∀ t, Ends (replace env st.defs url line t) (fun v => replace env st.defs url line t = .ok v)
      (StepFail fuel env c active url line l st) :=
    fun t => (Ends.eqs _).fails fun _ h => .subst h
  by_cases hinc : ∃ a, lineShape l = .include_ a
  · obtain ⟨a, hs⟩ := hinc
    rw [incgen_stepLine_include _ _ _ _ _ _ _ _ _ hs]
    -- first stage: the resource is found
    refine Ends.bind (P := fun p => ∃ a', replace env st.defs url line (strip a) = .ok a' ∧ c.canInclude = true ∧
      env.resolve url a' = .url p.1 ∧ env.res p.1 = some p.2) ?_ ?_
    · unfold incgenTarget
      refine (rep _).bind fun a' hrep => .ite (fun hci => .error (.refused ⟨a, .inr hs⟩ (.inr (by simpa using hci)))) fun hci => ?_
      have hci' : c.canInclude = true := by simpa using hci
      cases hres : env.resolve url a' with
      | fragment => exact .error (.refusal hs ⟨rfl, rfl, rfl, .inl ⟨rfl, rfl⟩⟩)
      | unknown => exact .error (.unresolved hs hrep hci' hres)
      | url u =>
        dsimp only
        cases hsub : env.res u with
        | none => exact .error (.refusal hs ⟨rfl, rfl, rfl, .inr ⟨u, rfl, .inl rfl⟩⟩)
        | some sub => exact .ok ⟨a', hrep, hci', hres, hsub⟩
    -- second stage: it is read
    rintro ⟨u, sub⟩ ⟨a', hrep, hci', hres, hsub⟩
    unfold incgenEnter
    refine .ite (fun _ => .error (.refusal hs ⟨rfl, rfl, rfl, .inr ⟨u, rfl, .inr rfl⟩⟩)) fun hact => ?_
    have hact' : (u != [] && active.contains u) = false := by simpa using hact
    cases fuel with
    | zero => exact .error (.depth rfl ⟨a, a', hs, hrep, hci', hres, hsub, hact', rfl⟩)
    | succ fuel' =>
      refine ((Ends.eqs _).fails fun f hf => ?_).bind fun r hr => .ok ?_
      · exact .sub ⟨a, a', hs, hrep, hci', hres, hsub, hact', rfl⟩ hf
      · exact .include_ hs hrep hci' hres hsub (of_not_active hact') rfl hr
  have hni : ∀ a, lineShape l ≠ .include_ a := fun a ha => hinc ⟨a, ha⟩
  have own : ∀ {e}, LineErr c url line st e → e.line ≠ none → StepFail fuel env c active url line l st (.cfg e) :=
    fun h hl => .own hni ⟨h, .inl hl⟩
  have par : ∀ f, ParserErr url line f → StepFail fuel env c active url line l st f := by
    rintro _ ⟨e, rfl, hl, hu, hk, hv⟩
    exact own (.parser hl hu hk hv) (by rw [hl]; nofun)
  have fixed : ∀ e', LineErr c url line st (fixPos url line e') → StepFail fuel env c active url line l st (.cfg (fixPos url line e')) :=
    fun e' h => own h (fixPos_line_ne url line e')
  -- `endSection`, for the closing line (left) and for `<type/>` (right)
  have stop : ∀ ctx ty nm, (ctx = st.ctx ∧ (∃ T, st.stack = (ty, nm) :: T) ∨ c.start st.ctx ty nm = .ok ctx) →
      Ends (closeFixup url line (c.stop ctx ty nm)) (fun a => c.stop ctx ty nm = .ok a) (StepFail fuel env c active url line l st) := by
    refine fun ctx ty nm hctx => (closeFixup_ends url line _).fails fun f hf => ?_
    have hctx' : ctx = st.ctx ∨ c.start st.ctx ty nm = .ok ctx := hctx.imp_left And.left
    rcases hf with ⟨e', he', ⟨hk, rfl⟩ | ⟨_, rfl⟩⟩ | ⟨hf, he⟩
    · exact fixed e' (.stop ctx ty nm e' hctx' he' hk rfl)
    · exact par _ (.syn _ _ _)
    · rcases hctx with ⟨rfl, T, hT⟩ | hs
      · exact .ctx hf (.close ty nm T hT he)
      · exact .ctx hf (.empty ty nm ctx hs he)
  cases hs : lineShape l with
  | include_ a => exact absurd hs (hni a)
  | skip => rw [stepLine_of_skip hs]; exact .ok (.skip hs)
  | bad t => rw [stepLine_of_bad hs]; exact .error (par _ (.syn _ _ _))
  | internal t => exact absurd hs (lineShape_no_internal l t)
  | close ty =>
    rw [stepLine_of_close hs]
    unfold closeSection
    cases hst : st.stack with
    | nil => exact .error (par _ (.syn _ _ _))
    | cons p T =>
      obtain ⟨ot, nm⟩ := p
      refine .ite (fun _ => .error (par _ (.syn _ _ _))) fun hne => ?_
      obtain rfl : ty = ot := by simpa using hne
      exact .map ((stop _ _ _ (.inl ⟨rfl, T, hst⟩)).mono (fun a ha => .close hs hst ha) fun _ => id)
  | open_ ty nm emp =>
    rw [stepLine_of_open hs]
    unfold openSection
    cases h1 : c.start st.ctx ty nm with
    | error f =>
      cases f with
      | cfg e => exact .error (par _ (.syn _ _ _))
      | internal x => exact .error (.ctx (fun _ h => nomatch h) (.start ty nm h1))
      | dtExc n => exact .error (.ctx (fun _ h => nomatch h) (.start ty nm h1))
    | ok ctx1 =>
      cases emp with
      | true => exact .map ((stop _ _ _ (.inr h1)).mono (fun a ha => .empty hs h1 ha) fun _ => id)
      | false => exact .ok (.open_ hs h1)
  | kv k raw =>
    rw [stepLine_of_kv hs]
    refine (rep raw).bind fun v hv => (kvCore_ends c url line k v st).mono ?_ fun f hf => ?_
    · rintro _ ⟨a, ha, rfl⟩
      exact .kv hs hv ha
    · rcases hf with ⟨e', he', rfl⟩ | ⟨hf, he⟩
      · exact fixed e' (.value k v e' he' rfl)
      · exact .ctx hf (.value k v he)
  | define a =>
    rw [stepLine_define _ _ _ _ _ _ _ _ _ hs]
    refine .ite (fun hcd => .error (.refused ⟨a, .inl hs⟩ (.inl (by simpa using hcd)))) fun hcd => .map ?_
    refine .intro (fun d hd => .define hs (by simpa using hcd) hd) fun f hf => ?_
    exact ((define_ends env url line a st.defs).of_error hf).elim (par f) fun h => absurd h.2 (lineShape_define_arg l a hs)
  | import_ a =>
    rw [stepLine_import _ _ _ _ _ _ _ _ _ hs]
    refine (rep _).bind fun pkg hp => .map (.intro (fun a' ha => .import_ hs hp ha) fun f hf => ?_)
    cases f with
    | cfg e => exact .own hni ⟨.imp pkg hf, .inr ⟨pkg, hf⟩⟩
    | internal x => exact .ctx (fun _ h => nomatch h) (.imp pkg hf)
    | dtExc n => exact .ctx (fun _ h => nomatch h) (.imp pkg hf)

theorem stepLine_ok {σ} {fuel : Nat} {env : Env} {c : PCtx σ} {active : List Str} {url : Option Str} {line : Nat} {l : Str}
    {st st' : PS σ} (h : stepLine fuel env c active url line l st = .ok st') : StepOk fuel env c active url line l st st' :=
  (stepLine_ends fuel env c active url line l st).of_ok h

theorem stepLine_fails {σ} {fuel : Nat} {env : Env} {c : PCtx σ} {active : List Str} {url : Option Str} {line : Nat} {l : Str}
    {st : PS σ} {f : Fail} (h : stepLine fuel env c active url line l st = .error f) :
    StepFail fuel env c active url line l st f :=
  (stepLine_ends fuel env c active url line l st).of_error h

end ZCV.Cfg
