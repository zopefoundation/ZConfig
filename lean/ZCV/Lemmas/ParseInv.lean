import ZCV.Lemmas.StepView
/-!
Invariants of the context state along a parse.  `LineInv c L J`: the four operations of the context keep `J`, an invariant indexed
by the stack of open sections, on the lines of a class `L`; then every prefix of a resource, every resource and every single line
keep it, through `%include`s (`run_lineInv`, `parse_lineInv`, `step_lineInv`).  What is known of every line: section headers reach
the context lower-cased (`lineShape_open_lower`).
-/
namespace ZCV.Cfg
open ZCV

theorem finish_inv {σ} {url : Option Str} {k : Nat} {st st' : PS σ} (h : finish url k st = .ok st') :
    st' = st ∧ st.stack = [] := by
  unfold finish at h
  split at h
  · cases h
  · rename_i hne
    cases h
    exact ⟨rfl, by simpa using hne⟩

theorem parseLines_ok_stack_nil {σ} (fuel : Nat) (env : Env) (c : PCtx σ) (active : List Str) (url : Option Str)
    (lines : List Str) (n : Nat) (st st' : PS σ) (h : parseLines fuel env c active url lines n st = .ok st') :
    st'.stack = [] := by
  rw [parseLines_eq_run] at h
  obtain ⟨s, _, h⟩ := bind_ok_inv h
  obtain ⟨rfl, hnil⟩ := finish_inv h
  exact hnil

/-- `J F a`: the context state `a` is fine when the open sections are `F` (innermost first); `L`: the lines that can occur.
    A section opening or `%import` line comes with the line it is read from, so that what holds of the lines that occur
    (headers are lower-cased; there is no `%import` line) can be used. -/
structure LineInv {σ} (c : PCtx σ) (L : Str → Prop) (J : List (Str × Option Str) → σ → Prop) : Prop where
  start : ∀ {F a l ty nm e a'}, L l → lineShape (strip l) = .open_ ty nm e → J F a → c.start a ty nm = .ok a' →
    J ((ty, nm) :: F) a'
  stop : ∀ {F a ty nm a'}, J ((ty, nm) :: F) a → c.stop a ty nm = .ok a' → J F a'
  value : ∀ {F a k v p a'}, J F a → c.value a k v p = .ok a' → J F a'
  imp : ∀ {F a l arg pkg a'}, L l → lineShape (strip l) = .import_ arg → J F a → c.imp a pkg = .ok a' → J F a'

/-- for the comparisons without dead states -/
theorem LineInv.of_false {σ} (c : PCtx σ) (L : Str → Prop) : LineInv c L fun _ _ => False :=
  ⟨fun _ _ h => h.elim, fun h => h.elim, fun h => h.elim, fun _ _ h => h.elim⟩

section lineInv
variable {σ : Type} {c : PCtx σ} {L : Str → Prop} {J : List (Str × Option Str) → σ → Prop} (hJ : LineInv c L J) (env : Env)
  (hres : ∀ l a u ls, L l → lineShape (strip l) = .include_ a → env.res u = some ls → ∀ l' ∈ ls, L l')
include hJ hres

/-- the invariant along the prefixes of a resource read with fuel `fuel`, indexed by the full stack of open sections: the
    parser's own stack of the resource being read, on top of those (`S`) of the including resources.  `hres` asks the resources of
    `env` to consist of lines of `L` only if some line of `L` is an `%include` at all. -/
def RunInv (_ : LineInv c L J) (env : Env) (fuel : Nat) : Prop :=
  ∀ (active : List Str) (url : Option Str) (lines : List Str) (n : Nat) (st st' : PS σ) (S : List (Str × Option Str)),
    (∀ l ∈ lines, L l) → J (st.stack ++ S) st.ctx → runLines fuel env c active url lines n st = .ok st' →
    J (st'.stack ++ S) st'.ctx

/-- one line; an included resource is read with no section of its own open, on top of the includer's -/
theorem stepLine_lineInv_of (fuel : Nat) (ih : ∀ f < fuel, RunInv hJ env f) {active : List Str} {url : Option Str} {line : Nat}
    {l : Str} {st st' : PS σ} (S : List (Str × Option Str)) (hL : L l) (hj : J (st.stack ++ S) st.ctx)
    (h : stepLine fuel env c active url line (strip l) st = .ok st') : J (st'.stack ++ S) st'.ctx := by
  cases stepLine_ok h with
  | skip _ => exact hj
  | close _ hst hstop => rw [hst] at hj; exact hJ.stop hj hstop
  | open_ hs hstart => exact hJ.start hL hs hj hstart
  | empty hs hstart hstop => exact hJ.stop (hJ.start hL hs hj hstart) hstop
  | kv _ _ hv => exact hJ.value hj hv
  | define _ _ _ => exact hj
  | import_ hs _ himp => exact hJ.imp hL hs hj himp
  | include_ hs _ _ _ hfile _ hf hsub =>
    rw [parseLines_eq_run] at hsub
    obtain ⟨s2, hrun, hfin⟩ := bind_ok_inv hsub
    obtain ⟨rfl, hnil⟩ := finish_inv hfin
    have := ih _ (by omega) _ _ _ _ _ _ (st.stack ++ S) (hres _ _ _ _ hL hs hfile) hj hrun
    rwa [hnil] at this

theorem run_lineInv : ∀ fuel, RunInv hJ env fuel := by
  intro fuel
  induction fuel using Nat.strongRecOn with
  | _ fuel ihf =>
    intro active url lines
    induction lines with
    | nil => intro n st st' S _ hj h; cases h; exact hj
    | cons l rest ihl =>
      intro n st st' S hl hj h
      obtain ⟨s1, h1, h2⟩ := bind_ok_inv h
      exact ihl _ _ _ _ (fun x hx => hl x (List.mem_cons_of_mem _ hx))
        (stepLine_lineInv_of hJ env hres fuel ihf S (hl l List.mem_cons_self) hj h1) h2

theorem step_lineInv {fuel : Nat} {active : List Str} {url : Option Str} {line : Nat}
    {l : Str} {st st' : PS σ} (S : List (Str × Option Str)) (hL : L l) (hj : J (st.stack ++ S) st.ctx)
    (h : stepLine fuel env c active url line (strip l) st = .ok st') : J (st'.stack ++ S) st'.ctx :=
  stepLine_lineInv_of hJ env hres fuel (fun f _ => run_lineInv hJ env hres f) S hL hj h

end lineInv

theorem parse_lineInv {σ} {c : PCtx σ} {L : Str → Prop} {J : List (Str × Option Str) → σ → Prop} (hJ : LineInv c L J)
    (env : Env) (hres : ∀ l a u ls, L l → lineShape (strip l) = .include_ a → env.res u = some ls → ∀ l' ∈ ls, L l') :
    ∀ (fuel : Nat) (active : List Str) (url : Option Str) (lines : List Str) (n : Nat) (st st' : PS σ)
      (S : List (Str × Option Str)), (∀ l ∈ lines, L l) → J (st.stack ++ S) st.ctx →
      parseLines fuel env c active url lines n st = .ok st' → J (st'.stack ++ S) st'.ctx := by
  intro fuel active url lines n st st' S hl hj h
  rw [parseLines_eq_run] at h
  obtain ⟨s, hrun, hfin⟩ := bind_ok_inv h
  obtain ⟨rfl, _⟩ := finish_inv hfin
  exact run_lineInv hJ env hres fuel active url lines n st _ S hl hj hrun

/-! ### all lines -/

/-- section headers reach the context lower-cased -/
theorem lineShape_open_lower (l ty : Str) (nm : Option Str) (e : Bool) (h : lineShape l = .open_ ty nm e) :
    ∃ ty0, ty = lower ty0 := by
  have v := lineShape_view l
  rw [h] at v
  cases v with
  | open_ ty0 => exact ⟨ty0, rfl⟩

end ZCV.Cfg
