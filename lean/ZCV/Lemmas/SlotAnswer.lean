import ZCV.Model.Matcher
/-!
`SectionType.getsectioninfo`, exactly and for any list of children: the search goes down the children in schema order, stops
at the first one that either carries the header's name or is an unkeyed child fitting the header's type (`stopsAt`), and
that child answers (`answerAt`: the slot, or one of the four refusals, or the `AttributeError` of a key stored without a
key); if none stops it, "no matching section defined" (`go_cons`, `go_eq_answerAt`).
-/
namespace ZCV.Cfg
open ZCV

/-- the key a child is stored under as `getsectioninfo` sees it: the empty key counts as no key -/
def effKey (c : Option Str × Info) : Option Str :=
  match c.1 with
  | some k => if k != [] then some k else none
  | none => none

def stopsAt (s : Schema) (ty : Str) (nm : Option Str) (c : Option Str × Info) : Bool :=
  match effKey c with
  | some k => some k == nm
  | none =>
    match c.2 with
    | .key _ => true
    | .sect si => si.ty == ty || (isAbstract s si.ty && isSubtype s si.ty ty)

/-- the answer of the child the search stops at; read only where `stopsAt` holds (its last arm is then an unkeyed slot of an
    abstract type that `ty` implements) -/
def answerAt (s : Schema) (ty : Str) (nm : Option Str) (c : Option Str × Info) : M SectInfo :=
  match effKey c, c.2 with
  | some _, .key _ => .error (plainErr "section name already in use for key")
  | some _, .sect si =>
    if isAbstract s si.ty then
      if isSubtype s si.ty ty then .ok si else .error (plainErr "section type not allowed for name")
    else if si.ty != ty then .error (plainErr "name must be used for a different section type")
    else .ok si
  | none, .key _ => .error (.internal "AttributeError")
  | none, .sect si =>
    if si.ty == ty then
      if nm.isSome || allowUnnamed si then .ok si else .error (plainErr "sections must be named")
    else .ok si

theorem goUnkeyed_eq (s : Schema) (ty : Str) (nm : Option Str) (c : Option Str × Info) (rest : List (Option Str × Info))
    (hk : effKey c = none) :
    getsectioninfo.goUnkeyed s ty nm c.2 rest =
      if stopsAt s ty nm c then answerAt s ty nm c else getsectioninfo.go s ty nm rest := by
  obtain ⟨key, info⟩ := c
  unfold getsectioninfo.goUnkeyed stopsAt answerAt
  rw [hk]
  cases info with
  | key ki => rfl
  | sect si =>
    simp only
    by_cases h1 : (si.ty == ty) = true
    · simp only [h1, if_true, Bool.true_or]
    · simp only [h1, Bool.false_eq_true, if_false, Bool.false_or]
      by_cases h2 : isAbstract s si.ty = true
      · simp only [h2, if_true, Bool.true_and]
      · simp only [h2, Bool.false_eq_true, if_false, Bool.false_and]

theorem go_cons (s : Schema) (ty : Str) (nm : Option Str) (c : Option Str × Info) (rest : List (Option Str × Info)) :
    getsectioninfo.go s ty nm (c :: rest) =
      if stopsAt s ty nm c then answerAt s ty nm c else getsectioninfo.go s ty nm rest := by
  obtain ⟨key, info⟩ := c
  rw [getsectioninfo.go.eq_def]
  cases key with
  | none => exact goUnkeyed_eq s ty nm (none, info) rest rfl
  | some k =>
    by_cases hk : (k != []) = true
    · have he : effKey (some k, info) = some k := by simp only [effKey, hk, if_true]
      simp only [hk, if_true, stopsAt, he]
      by_cases hn : (some k == nm) = true
      · simp only [hn, if_true, answerAt, he]
        cases info <;> rfl
      · simp only [hn, Bool.false_eq_true, if_false]
    · have he : effKey (some k, info) = none := by simp only [effKey, hk, Bool.false_eq_true, if_false]
      simp only [hk, Bool.false_eq_true, if_false]
      exact goUnkeyed_eq s ty nm (some k, info) rest he

theorem go_eq_answerAt (s : Schema) (ty : Str) (nm : Option Str) : ∀ (l : List (Option Str × Info)),
    getsectioninfo.go s ty nm l =
      match l.find? (stopsAt s ty nm) with
      | some c => answerAt s ty nm c
      | none => .error (plainErr "no matching section defined")
  | [] => by rw [getsectioninfo.go]; rfl
  | c :: rest => by
    rw [go_cons, List.find?_cons, go_eq_answerAt s ty nm rest]
    cases stopsAt s ty nm c <;> rfl

theorem getsectioninfo_eq_answerAt (s : Schema) (t : SType) (ty : Str) (nm : Option Str) :
    getsectioninfo s t ty nm =
      match t.children.find? (stopsAt s ty nm) with
      | some c => answerAt s ty nm c
      | none => .error (plainErr "no matching section defined") :=
  go_eq_answerAt s ty nm t.children

end ZCV.Cfg
