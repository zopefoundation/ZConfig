import ZCV.Lemmas.HistoryStop
/-!
C13, histories on the application's schema object (`runHistoryApp`).  The application's schema object after one load, and after
a whole history, is the schema it was with the history's `addsubtype` calls applied (`appAfterLoad_eq`, `runHistoryApp_schema`);
the calls are those of the components the loads read (`historyRegs_source`, `historyRegs_complete`).
-/
namespace ZCV.Cfg
open ZCV ZCV.Conf

theorem appAfterLoad_eq (conv : Conv) (env : Env) (pkgs : Str → Pkg) (s : Schema) (q : LoadReq) :
    appAfterLoad conv env pkgs s q = s.withImplementers (loadStop conv env pkgs s q.url q.lines q.specs).regs := by
  unfold appAfterLoad
  have ht := loadStop_traced conv env pkgs s q.url q.lines q.specs
  cases h : load conv env pkgs s q.url q.lines q.specs with
  | ok r =>
    simp only
    unfold appAfter
    rw [← (loadStop_ok conv env pkgs s q.url q.lines q.specs r h).1]
    exact shareInto_traced s _ ht
  | error e => exact shareInto_traced s _ ht

theorem appAfterLoad_ok (conv : Conv) (env : Env) (pkgs : Str → Pkg) (s : Schema) (q : LoadReq) (r : LoadResult)
    (h : load conv env pkgs s q.url q.lines q.specs = .ok r) : appAfterLoad conv env pkgs s q = appAfter s r := by
  unfold appAfterLoad
  rw [h]

theorem runHistoryApp_nil (conv : Conv) (env : Env) (pkgs : Str → Pkg) (s : Schema) :
    runHistoryApp conv env pkgs s [] = ([], s) := rfl

theorem runHistoryApp_cons (conv : Conv) (env : Env) (pkgs : Str → Pkg) (s : Schema) (q : LoadReq) (rest : List LoadReq) :
    runHistoryApp conv env pkgs s (q :: rest) =
      (load conv env pkgs s q.url q.lines q.specs :: (runHistoryApp conv env pkgs (appAfterLoad conv env pkgs s q) rest).1,
       (runHistoryApp conv env pkgs (appAfterLoad conv env pkgs s q) rest).2) := rfl

theorem historyStops_cons (conv : Conv) (env : Env) (pkgs : Str → Pkg) (s : Schema) (q : LoadReq) (rest : List LoadReq) :
    historyStops conv env pkgs s (q :: rest) =
      loadStop conv env pkgs s q.url q.lines q.specs :: historyStops conv env pkgs (appAfterLoad conv env pkgs s q) rest := rfl

theorem historyRegs_nil (conv : Conv) (env : Env) (pkgs : Str → Pkg) (s : Schema) : historyRegs conv env pkgs s [] = [] := rfl

theorem historyRegs_cons (conv : Conv) (env : Env) (pkgs : Str → Pkg) (s : Schema) (q : LoadReq) (rest : List LoadReq) :
    historyRegs conv env pkgs s (q :: rest) =
      (loadStop conv env pkgs s q.url q.lines q.specs).regs ++ historyRegs conv env pkgs (appAfterLoad conv env pkgs s q) rest := by
  unfold historyRegs
  rw [historyStops_cons, List.flatMap_cons]

theorem historyImports_cons (conv : Conv) (env : Env) (pkgs : Str → Pkg) (s : Schema) (q : LoadReq) (rest : List LoadReq) :
    historyImports conv env pkgs s (q :: rest) =
      (loadStop conv env pkgs s q.url q.lines q.specs).imports ++
        historyImports conv env pkgs (appAfterLoad conv env pkgs s q) rest := by
  unfold historyImports
  rw [historyStops_cons, List.flatMap_cons]

theorem historyBroken_cons (conv : Conv) (env : Env) (pkgs : Str → Pkg) (s : Schema) (q : LoadReq) (rest : List LoadReq) :
    historyBroken conv env pkgs s (q :: rest) =
      (loadStop conv env pkgs s q.url q.lines q.specs).broken.toList ++
        historyBroken conv env pkgs (appAfterLoad conv env pkgs s q) rest := by
  unfold historyBroken
  rw [historyStops_cons, List.flatMap_cons]

theorem runHistoryApp_schema (conv : Conv) (env : Env) (pkgs : Str → Pkg) : ∀ (hist : List LoadReq) (s : Schema),
    (runHistoryApp conv env pkgs s hist).2 = s.withImplementers (historyRegs conv env pkgs s hist) := by
  intro hist
  induction hist with
  | nil => intro s; rfl
  | cons q rest ih =>
    intro s
    rw [runHistoryApp_cons, historyRegs_cons, withImplementers_append, ← appAfterLoad_eq]
    exact ih _

theorem runHistoryApp_outcomes (conv : Conv) (env : Env) (pkgs : Str → Pkg) : ∀ (hist : List LoadReq) (s : Schema),
    (runHistoryApp conv env pkgs s hist).1 =
      List.zipWith (fun si q => load conv env pkgs si q.url q.lines q.specs) (s :: historySchemas conv env pkgs s hist) hist := by
  intro hist
  induction hist with
  | nil => intro s; rfl
  | cons q rest ih =>
    intro s
    rw [runHistoryApp_cons]
    simp only [historySchemas, List.zipWith_cons_cons]
    rw [ih]

theorem runHistoryApp_last (conv : Conv) (env : Env) (pkgs : Str → Pkg) : ∀ (hist : List LoadReq) (s : Schema),
    (runHistoryApp conv env pkgs s hist).2 = (historySchemas conv env pkgs s hist).getLastD s := by
  intro hist
  induction hist with
  | nil => intro s; rfl
  | cons q rest ih =>
    intro s
    rw [runHistoryApp_cons]
    simp only [historySchemas]
    rw [ih]
    cases historySchemas conv env pkgs (appAfterLoad conv env pkgs s q) rest <;> rfl

/-! ### where the calls come from -/

theorem mem_pkgRegs (pk : Pkg) (ia : Str × Str) (h : ia ∈ pkgRegs pk) :
    ∃ url types impls, pk = .component url types impls ∧ ia ∈ impls ∧ ia.1 ∈ types.map (·.1) := by
  cases pk with
  | component url types impls =>
    exact ⟨url, types, impls, rfl, (mem_compRegs types impls ia).mp h⟩
  | _ => cases h

theorem Sourced.source {pkgs : Str → Pkg} {x : Stop} (h : Sourced pkgs x) (ia : Str × Str) (hia : ia ∈ x.regs) :
    ∃ p ∈ x.imports ++ x.broken.toList, ia ∈ pkgRegs (pkgs p) := by
  obtain ⟨part, hr, hb⟩ := h
  rw [hr] at hia
  rcases List.mem_append.mp hia with hm | hm
  · obtain ⟨p, hp, hpi⟩ := List.mem_flatMap.mp hm
    exact ⟨p, List.mem_append_left _ hp, hpi⟩
  · cases hbr : x.broken with
    | none => rw [hbr] at hb; simp only at hb; rw [hb] at hm; cases hm
    | some b =>
      rw [hbr] at hb
      simp only at hb
      exact ⟨b, List.mem_append_right _ (by simp), hb.subset hm⟩

theorem Sourced.complete {pkgs : Str → Pkg} {x : Stop} (h : Sourced pkgs x) (p : Str) (hp : p ∈ x.imports)
    (ia : Str × Str) (hia : ia ∈ pkgRegs (pkgs p)) : ia ∈ x.regs := by
  obtain ⟨part, hr, _⟩ := h
  rw [hr]
  exact List.mem_append_left _ (List.mem_flatMap.mpr ⟨p, hp, hia⟩)

theorem historyStops_sourced (conv : Conv) (env : Env) (pkgs : Str → Pkg) : ∀ (hist : List LoadReq) (s : Schema),
    ∀ x ∈ historyStops conv env pkgs s hist, Sourced pkgs x := by
  intro hist
  induction hist with
  | nil => intro s x hx; cases hx
  | cons q rest ih =>
    intro s x hx
    rw [historyStops_cons] at hx
    rcases List.mem_cons.mp hx with rfl | hx
    · exact loadStop_sourced conv env pkgs s q.url q.lines q.specs
    · exact ih _ x hx

theorem historyRegs_pkg (conv : Conv) (env : Env) (pkgs : Str → Pkg) (s : Schema) (hist : List LoadReq)
    (ia : Str × Str) (hia : ia ∈ historyRegs conv env pkgs s hist) :
    ∃ p ∈ historyImports conv env pkgs s hist ++ historyBroken conv env pkgs s hist, ia ∈ pkgRegs (pkgs p) := by
  unfold historyRegs at hia
  obtain ⟨x, hx, hxi⟩ := List.mem_flatMap.mp hia
  obtain ⟨p, hp, hpi⟩ := (historyStops_sourced conv env pkgs hist s x hx).source ia hxi
  refine ⟨p, ?_, hpi⟩
  rcases List.mem_append.mp hp with h | h
  · exact List.mem_append_left _ (List.mem_flatMap.mpr ⟨x, hx, h⟩)
  · exact List.mem_append_right _ (List.mem_flatMap.mpr ⟨x, hx, h⟩)

theorem historyRegs_source (conv : Conv) (env : Env) (pkgs : Str → Pkg) (s : Schema) (hist : List LoadReq)
    (ia : Str × Str) (hia : ia ∈ historyRegs conv env pkgs s hist) :
    ∃ p ∈ historyImports conv env pkgs s hist ++ historyBroken conv env pkgs s hist,
      ∃ url types impls, pkgs p = .component url types impls ∧ ia ∈ impls ∧ ia.1 ∈ types.map (·.1) := by
  obtain ⟨p, hp, hpi⟩ := historyRegs_pkg conv env pkgs s hist ia hia
  exact ⟨p, hp, mem_pkgRegs _ ia hpi⟩

theorem flatMap_complete (pkgs : Str → Pkg) : ∀ (stops : List Stop), (∀ x ∈ stops, Sourced pkgs x) →
    stops.flatMap (·.broken.toList) = [] →
    stops.flatMap (·.regs) = (stops.flatMap (·.imports)).flatMap (fun p => pkgRegs (pkgs p)) := by
  intro stops
  induction stops with
  | nil => intro _ _; rfl
  | cons x rest ih =>
    intro hs hb
    rw [List.flatMap_cons, List.append_eq_nil_iff] at hb
    obtain ⟨part, hr, hbr⟩ := hs x List.mem_cons_self
    have hnone : x.broken = none := by
      cases hx : x.broken with
      | none => rfl
      | some b => rw [hx] at hb; simp at hb
    rw [hnone] at hbr
    simp only at hbr
    subst hbr
    rw [List.flatMap_cons, List.flatMap_cons, List.flatMap_append, hr, List.append_nil,
      ih (fun y hy => hs y (List.mem_cons_of_mem _ hy)) hb.2]

theorem historyRegs_complete (conv : Conv) (env : Env) (pkgs : Str → Pkg) (s : Schema) (hist : List LoadReq)
    (hb : historyBroken conv env pkgs s hist = []) :
    historyRegs conv env pkgs s hist = (historyImports conv env pkgs s hist).flatMap (fun p => pkgRegs (pkgs p)) :=
  flatMap_complete pkgs _ (historyStops_sourced conv env pkgs hist s) hb

theorem historyBroken_of_all_ok (conv : Conv) (env : Env) (pkgs : Str → Pkg) : ∀ (hist : List LoadReq) (s : Schema),
    (∀ o ∈ (runHistoryApp conv env pkgs s hist).1, ∃ r, o = .ok r) → historyBroken conv env pkgs s hist = [] := by
  intro hist
  induction hist with
  | nil => intro s _; rfl
  | cons q rest ih =>
    intro s h
    rw [runHistoryApp_cons] at h
    rw [historyBroken_cons]
    obtain ⟨r, hr⟩ := h _ List.mem_cons_self
    rw [(loadStop_ok conv env pkgs s q.url q.lines q.specs r hr).2, ih _ (fun o ho => h o (List.mem_cons_of_mem _ ho))]
    rfl

end ZCV.Cfg
