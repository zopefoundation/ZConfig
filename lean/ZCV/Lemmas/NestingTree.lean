import ZCV.Spec.Nesting
/-!
Combinatorics behind C03's nesting clause, independent of the parser model: the stack discipline (`mstep`/`mrun`,
the abstract form of what `start_section`/`end_section` do) recognises exactly the listings of forests
(`Nesting.flatten`), emits `Nesting.events`, and gets stuck exactly where a beginning stops being completable.
-/
namespace ZCV.Nesting
open ZCV ZCV.Grammar

/-- an open section: the type and name of its opener -/
abbrev Frame := Str × Option Str

/-- the stack discipline on one classified line: the new stack of open sections and the events delivered;
    `none` = rejected -/
def mstep (S : List Frame) : Shape → Option (List Frame × List Ev)
  | .kv k v => some (S, [.value k v])
  | .import_ a => some (S, [.imp (strip a)])
  | .open_ ty nm true => some (S, [.start ty nm, .stop ty nm])
  | .open_ ty nm false => some ((ty, nm) :: S, [.start ty nm])
  | .close ty =>
    match S with
    | [] => none
    | (ot, nm) :: S' => if ty = ot then some (S', [.stop ty nm]) else none
  | _ => none

/-- … on a sequence of classified lines -/
def mrun : List Frame → List Shape → Option (List Frame × List Ev)
  | S, [] => some (S, [])
  | S, x :: s => (mstep S x).bind fun p => (mrun p.1 s).map fun q => (q.1, p.2 ++ q.2)

theorem mrun_nil (S : List Frame) : mrun S [] = some (S, []) := rfl

theorem mrun_cons (S : List Frame) (x : Shape) (s : List Shape) :
    mrun S (x :: s) = (mstep S x).bind fun p => (mrun p.1 s).map fun q => (q.1, p.2 ++ q.2) := rfl

theorem mrun_append : ∀ (a b : List Shape) (S : List Frame),
    mrun S (a ++ b) = (mrun S a).bind fun p => (mrun p.1 b).map fun q => (q.1, p.2 ++ q.2) := by
  intro a
  induction a with
  | nil =>
    intro b S
    simp only [List.nil_append, mrun_nil, Option.bind_some, List.nil_append]
    cases mrun S b <;> rfl
  | cons x a ih =>
    intro b S
    simp only [List.cons_append, mrun_cons]
    cases mstep S x with
    | none => rfl
    | some p =>
      simp only [Option.bind_some, ih]
      cases mrun p.1 a with
      | none => rfl
      | some q =>
        simp only [Option.bind_some, Option.map_some]
        cases mrun q.1 b with
        | none => rfl
        | some r => simp only [Option.map_some, List.append_assoc]

/-! ### a forest runs through, leaves the stack as it was and emits its events -/

mutual
theorem mrun_flattenNode : ∀ (n : Node) (S : List Frame) (r : List Shape),
    mrun S (flattenNode n ++ r) = (mrun S r).map fun q => (q.1, eventsNode n ++ q.2)
  | .kv k v, S, r => by
    simp only [flattenNode, eventsNode, List.cons_append, List.nil_append, mrun_cons, mstep, Option.bind_some]
  | .imp a, S, r => by
    simp only [flattenNode, eventsNode, List.cons_append, List.nil_append, mrun_cons, mstep, Option.bind_some]
  | .esect ty nm, S, r => by
    simp only [flattenNode, eventsNode, List.cons_append, List.nil_append, mrun_cons, mstep, Option.bind_some]
  | .sect ty nm body, S, r => by
    simp only [flattenNode, eventsNode, List.cons_append, List.append_assoc, List.nil_append, mrun_cons, mstep,
      Option.bind_some]
    rw [mrun_flatten body ((ty, nm) :: S) (.close ty :: r)]
    simp only [mrun_cons, mstep, if_true, Option.bind_some]
    cases mrun S r with
    | none => rfl
    | some q => simp only [Option.map_some, List.cons_append, List.nil_append]
theorem mrun_flatten : ∀ (t : List Node) (S : List Frame) (r : List Shape),
    mrun S (flatten t ++ r) = (mrun S r).map fun q => (q.1, events t ++ q.2)
  | [], S, r => by
    simp only [flatten, events, List.nil_append]
    cases mrun S r <;> rfl
  | n :: t, S, r => by
    simp only [flatten, events, List.append_assoc]
    rw [mrun_flattenNode n S (flatten t ++ r), mrun_flatten t S r]
    cases mrun S r with
    | none => rfl
    | some q => simp only [Option.map_some]
end

theorem mrun_flatten_nil (t : List Node) (S : List Frame) : mrun S (flatten t) = some (S, events t) := by
  have := mrun_flatten t S []
  simpa only [List.append_nil, mrun_nil, Option.map_some] using this

theorem mrun_nested_events {s : List Shape} {t : List Node} {S : List Frame} {E : List Ev}
    (hs : s = flatten t) (h : mrun [] s = some (S, E)) : S = [] ∧ E = events t := by
  rw [hs, mrun_flatten_nil] at h
  simp only [Option.some.injEq, Prod.mk.injEq] at h
  exact ⟨h.1.symm, h.2.symm⟩

/-! ### what the stack discipline lets through is the listing of a forest -/

theorem flatten_append (t u : List Node) : flatten (t ++ u) = flatten t ++ flatten u := by
  induction t with
  | nil => rfl
  | cons n t ih => simp only [List.cons_append, flatten, ih, List.append_assoc]

/-- `Pre S s`: the beginning `s` is whole items and, for each section of `S` (innermost first), its opener followed by
    whole items -/
inductive Pre : List Frame → List Shape → Prop
  | nil (t : List Node) : Pre [] (flatten t)
  | open_ (ty : Str) (nm : Option Str) (body : List Node) {S : List Frame} {pre : List Shape} :
      Pre S pre → Pre ((ty, nm) :: S) (pre ++ .open_ ty nm false :: flatten body)

theorem Pre.append_flatten {S : List Frame} {s : List Shape} (h : Pre S s) (u : List Node) : Pre S (s ++ flatten u) := by
  cases h with
  | nil t => rw [← flatten_append]; exact Pre.nil _
  | open_ ty nm body h' =>
    rw [List.append_assoc, List.cons_append, ← flatten_append]
    exact Pre.open_ ty nm _ h'

theorem pre_step {S0 S1 : List Frame} {pre : List Shape} {x : Shape} {E1 : List Ev} (h : Pre S0 pre)
    (hx : mstep S0 x = some (S1, E1)) : Pre S1 (pre ++ [x]) := by
  cases x with
  | kv k v =>
    simp only [mstep, Option.some.injEq, Prod.mk.injEq] at hx
    rw [← hx.1]
    exact h.append_flatten [.kv k v]
  | import_ a =>
    simp only [mstep, Option.some.injEq, Prod.mk.injEq] at hx
    rw [← hx.1]
    exact h.append_flatten [.imp a]
  | open_ ty nm e =>
    cases e with
    | true =>
      simp only [mstep, Option.some.injEq, Prod.mk.injEq] at hx
      rw [← hx.1]
      exact h.append_flatten [.esect ty nm]
    | false =>
      simp only [mstep, Option.some.injEq, Prod.mk.injEq] at hx
      rw [← hx.1]
      exact Pre.open_ ty nm [] h
  | close ty =>
    cases h with
    | nil t => simp only [mstep] at hx; cases hx
    | open_ ot nm body h' =>
      simp only [mstep] at hx
      split at hx
      · rename_i hty
        simp only [Option.some.injEq, Prod.mk.injEq] at hx
        rw [← hx.1, hty]
        have := h'.append_flatten [.sect ot nm body]
        simpa only [flatten, flattenNode, List.append_nil, List.append_assoc, List.cons_append] using this
      · cases hx
  | skip => simp only [mstep] at hx; cases hx
  | define a => simp only [mstep] at hx; cases hx
  | include_ a => simp only [mstep] at hx; cases hx
  | bad => simp only [mstep] at hx; cases hx

theorem mrun_pre_gen : ∀ (s : List Shape) (S0 S : List Frame) (E : List Ev) (pre : List Shape),
    Pre S0 pre → mrun S0 s = some (S, E) → Pre S (pre ++ s) := by
  intro s
  induction s with
  | nil =>
    intro S0 S E pre hp h
    simp only [mrun_nil, Option.some.injEq, Prod.mk.injEq] at h
    rw [List.append_nil, ← h.1]
    exact hp
  | cons x s ih =>
    intro S0 S E pre hp h
    rw [mrun_cons] at h
    cases hx : mstep S0 x with
    | none => rw [hx] at h; cases h
    | some p =>
      obtain ⟨S1, E1⟩ := p
      rw [hx, Option.bind_some] at h
      cases hr : mrun S1 s with
      | none => rw [hr] at h; cases h
      | some q =>
        rw [hr, Option.map_some] at h
        simp only [Option.some.injEq, Prod.mk.injEq] at h
        have := ih S1 q.1 q.2 (pre ++ [x]) (pre_step hp hx) hr
        rw [List.append_assoc, List.singleton_append, h.1] at this
        exact this

theorem mrun_pre {s : List Shape} {S : List Frame} {E : List Ev} (h : mrun [] s = some (S, E)) : Pre S s := by
  have := mrun_pre_gen s [] S E [] (Pre.nil []) h
  simpa only [List.nil_append] using this

theorem nested_iff_mrun (s : List Shape) : Nested s ↔ ∃ E, mrun [] s = some ([], E) := by
  constructor
  · rintro ⟨t, rfl⟩
    exact ⟨_, mrun_flatten_nil t []⟩
  · rintro ⟨E, h⟩
    cases mrun_pre h with
    | nil t => exact ⟨t, rfl⟩

/-- the same, in a form that can be evaluated -/
theorem nested_iff_mrun_fst (s : List Shape) : Nested s ↔ (mrun [] s).map Prod.fst = some [] := by
  rw [nested_iff_mrun]
  cases mrun [] s with
  | none => simp only [reduceCtorEq, exists_false, Option.map_none]
  | some p =>
    obtain ⟨S, E⟩ := p
    simp only [Option.some.injEq, Prod.mk.injEq, Option.map_some]
    exact ⟨fun ⟨_, h, _⟩ => h, fun h => ⟨E, h, rfl⟩⟩

/-! ### the same from the other end: what is still to come -/

/-- `Rest S s`: `s` closes the open sections `S` (innermost first) in order, with whole items in between -/
inductive Rest : List Frame → List Shape → Prop
  | nil : Rest [] []
  | node (n : Node) {S : List Frame} {s : List Shape} : Rest S s → Rest S (flattenNode n ++ s)
  | close (ty : Str) (nm : Option Str) {S : List Frame} {s : List Shape} : Rest S s → Rest ((ty, nm) :: S) (.close ty :: s)

theorem Rest.flatten (t : List Node) {S : List Frame} {s : List Shape} (h : Rest S s) : Rest S (flatten t ++ s) := by
  induction t with
  | nil => exact h
  | cons n t ih =>
    simp only [Nesting.flatten, List.append_assoc]
    exact Rest.node n ih

theorem nested_rest_nil {s : List Shape} (h : Nested s) : Rest [] s := by
  obtain ⟨t, rfl⟩ := h
  have := Rest.flatten t Rest.nil
  simpa only [List.append_nil] using this

/-! ### completable beginnings = the discipline has not got stuck -/

/-- the closers still owed -/
def closes (S : List Frame) : List Shape := S.map fun f => .close f.1

theorem mrun_closes : ∀ (S : List Frame), ∃ E, mrun S (closes S) = some ([], E) := by
  intro S
  induction S with
  | nil => exact ⟨[], rfl⟩
  | cons f S ih =>
    obtain ⟨ty, nm⟩ := f
    obtain ⟨E, hE⟩ := ih
    refine ⟨[.stop ty nm] ++ E, ?_⟩
    simp only [closes, List.map_cons, mrun_cons, mstep, if_true, Option.bind_some]
    simp only [closes] at hE
    rw [hE]
    rfl

theorem completable_iff_mrun (s : List Shape) : Completable s ↔ (mrun [] s).isSome = true := by
  constructor
  · rintro ⟨rest, t, ht⟩
    have h := mrun_flatten_nil t []
    rw [← ht, mrun_append] at h
    cases hm : mrun [] s with
    | none => rw [hm] at h; cases h
    | some p => rfl
  · intro h
    cases hm : mrun [] s with
    | none => rw [hm] at h; cases h
    | some p =>
      obtain ⟨E, hE⟩ := mrun_closes p.1
      refine ⟨closes p.1, ?_⟩
      rw [nested_iff_mrun]
      refine ⟨p.2 ++ E, ?_⟩
      rw [mrun_append, hm, Option.bind_some, hE]
      rfl

theorem completable_prefix (a b : List Shape) (h : Completable (a ++ b)) : Completable a := by
  obtain ⟨rest, hn⟩ := h
  exact ⟨b ++ rest, by rw [← List.append_assoc]; exact hn⟩

theorem completable_nil : Completable [] := ⟨[], [], rfl⟩

theorem nested_completable {s : List Shape} (h : Nested s) : Completable s := ⟨[], by rw [List.append_nil]; exact h⟩

/-! ### a listing determines its forest -/

/-- what may follow a forest inside a listing: nothing, or a closer -/
def Tail (r : List Shape) : Prop := r = [] ∨ ∃ ty r0, r = .close ty :: r0

theorem flattenNode_head (n : Node) : ∃ x r, flattenNode n = x :: r ∧ ∀ ty, x ≠ .close ty := by
  cases n with
  | kv k v => exact ⟨_, _, rfl, fun _ h => by cases h⟩
  | sect ty nm body => exact ⟨_, _, rfl, fun _ h => by cases h⟩
  | esect ty nm => exact ⟨_, _, rfl, fun _ h => by cases h⟩
  | imp a => exact ⟨_, _, rfl, fun _ h => by cases h⟩

theorem tail_ne_node {r : List Shape} (hr : Tail r) (n : Node) (u : List Shape) : r ≠ flattenNode n ++ u := by
  obtain ⟨x, w, hx, hne⟩ := flattenNode_head n
  rw [hx]
  rcases hr with rfl | ⟨ty, r0, rfl⟩
  · intro h; cases h
  · intro h
    simp only [List.cons_append, List.cons.injEq] at h
    exact hne ty h.1.symm

mutual
theorem flattenNode_inj : ∀ (n n' : Node) (r r' : List Shape),
    flattenNode n ++ r = flattenNode n' ++ r' → n = n' ∧ r = r'
  | .kv k v, n', r, r', h => by
    cases n' <;> simp only [flattenNode, List.cons_append, List.nil_append, List.cons.injEq, reduceCtorEq, false_and] at h
    obtain ⟨h1, h2⟩ := h
    cases h1
    exact ⟨rfl, h2⟩
  | .imp a, n', r, r', h => by
    cases n' <;> simp only [flattenNode, List.cons_append, List.nil_append, List.cons.injEq, reduceCtorEq, false_and] at h
    obtain ⟨h1, h2⟩ := h
    cases h1
    exact ⟨rfl, h2⟩
  | .esect ty nm, n', r, r', h => by
    cases n' <;> simp only [flattenNode, List.cons_append, List.nil_append, List.cons.injEq, reduceCtorEq, false_and,
      Shape.open_.injEq, and_false] at h
    obtain ⟨⟨h1, h2, _⟩, h3⟩ := h
    subst h1 h2
    exact ⟨rfl, h3⟩
  | .sect ty nm body, n', r, r', h => by
    cases n' with
    | kv k v => simp only [flattenNode, List.cons_append, List.cons.injEq, reduceCtorEq, false_and] at h
    | imp a => simp only [flattenNode, List.cons_append, List.cons.injEq, reduceCtorEq, false_and] at h
    | esect ty' nm' =>
      simp only [flattenNode, List.cons_append, List.cons.injEq, Shape.open_.injEq, reduceCtorEq, and_false, false_and] at h
    | sect ty' nm' body' =>
      simp only [flattenNode, List.cons_append, List.append_assoc, List.nil_append, List.cons.injEq, Shape.open_.injEq,
        and_true] at h
      obtain ⟨⟨h1, h2⟩, h3⟩ := h
      subst h1 h2
      obtain ⟨hb, hr⟩ := flatten_inj body body' (.close ty :: r) (.close ty :: r') (Or.inr ⟨_, _, rfl⟩) (Or.inr ⟨_, _, rfl⟩) h3
      subst hb
      simp only [List.cons.injEq, true_and] at hr
      exact ⟨rfl, hr⟩
theorem flatten_inj : ∀ (t t' : List Node) (r r' : List Shape), Tail r → Tail r' →
    flatten t ++ r = flatten t' ++ r' → t = t' ∧ r = r'
  | [], [], r, r', _, _, h => ⟨rfl, h⟩
  | [], n' :: t', r, r', hr, _, h => by
    simp only [flatten, List.nil_append, List.append_assoc] at h
    exact absurd h (tail_ne_node hr n' _)
  | n :: t, [], r, r', _, hr', h => by
    simp only [flatten, List.nil_append, List.append_assoc] at h
    exact absurd h.symm (tail_ne_node hr' n _)
  | n :: t, n' :: t', r, r', hr, hr', h => by
    simp only [flatten, List.append_assoc] at h
    obtain ⟨hn, h2⟩ := flattenNode_inj n n' _ _ h
    obtain ⟨ht, h3⟩ := flatten_inj t t' r r' hr hr' h2
    subst hn ht
    exact ⟨rfl, h3⟩
end

end ZCV.Nesting
