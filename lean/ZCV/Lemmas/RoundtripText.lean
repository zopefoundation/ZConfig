import ZCV.Model.Schemaless
import ZCV.Lemmas.Misc
import ZCV.Lemmas.Lits
import ZCV.Lemmas.SplitJoin
/-!
From a text to the lines the parser sees (C17).

`linesOf` is `readline()` until the end of a `StringIO`: the text is cut at every `'\n'` and a final empty
piece is not a line.  The parser strips every line and skips blank ones, so all a text contributes is
`essOf text`: its stripped non-blank lines.  The lemmas here compute `essOf` through `joinLines`, `rstrip`
and a final newline.
-/
namespace ZCV.Roundtrip
open ZCV ZCV.Cfg

/-- first line (up to the first `'\n'`), and the remaining lines -/
def splitNL' : Str → Str × List Str
  | [] => ([], [])
  | c :: t => if c = '\n' then ([], (splitNL' t).1 :: (splitNL' t).2) else (c :: (splitNL' t).1, (splitNL' t).2)

/-- `text.split('\n')` -/
def splitNL (s : Str) : List Str := (splitNL' s).1 :: (splitNL' s).2

/-- a final empty piece is not a line -/
def dropLastEmpty : List Str → List Str
  | [] => []
  | [l] => if l = [] then [] else [l]
  | l :: r => l :: dropLastEmpty r

/-- the lines `readline()` returns for the text (without their terminating `'\n'`, which `strip` removes anyway) -/
def linesOf (s : Str) : List Str := dropLastEmpty (splitNL s)

/-- stripped, non-blank -/
def ess (ls : List Str) : List Str := (ls.map strip).filter (fun l => !l.isEmpty)

def essOf (s : Str) : List Str := ess (splitNL s)

example : linesOf "a 1\n\n  b\n".toList = ["a 1".toList, [], "  b".toList] := by char_lits; decide +kernel
example : linesOf "a".toList = ["a".toList] := by char_lits; decide +kernel
example : linesOf [] = [] := by decide +kernel
example : linesOf "\n".toList = [[]] := by char_lits; decide +kernel

/-! ### whitespace -/

theorem strip_nil : strip [] = [] := by rfl

theorem strip_all_space (w : Str) (h : w.all pySpace = true) : strip w = [] := by
  have := strip_pad w [] [] h (by rfl)
  simp only [List.append_nil] at this
  rw [this]; rfl

theorem strip_pad_right (l w : Str) (h : w.all pySpace = true) : strip (l ++ w) = strip l := by
  have := strip_pad [] l w (by rfl) h
  simpa using this

theorem strip_pad_left (w l : Str) (h : w.all pySpace = true) : strip (w ++ l) = strip l := by
  have := strip_pad w l [] h (by rfl)
  simpa using this

theorem rstrip_of_last (t : Str) (c : Char) (h : pySpace c = false) : rstrip (t ++ [c]) = t ++ [c] := by
  simp [rstrip, h]

theorem strip_clean (s : Str) (h1 : ∀ c, s.head? = some c → pySpace c = false)
    (h2 : ∀ c, s.getLast? = some c → pySpace c = false) : strip s = s := stripP_clean pySpace s h1 h2

theorem rstrip_clean (s : Str) (h : ∀ c, s.getLast? = some c → pySpace c = false) : rstrip s = s := by
  rcases List.eq_nil_or_concat s with rfl | ⟨L, b, rfl⟩
  · rfl
  · rw [List.concat_eq_append]
    apply rstrip_of_last
    apply h
    simp

theorem rstrip_decomp (s : Str) : ∃ w, w.all pySpace = true ∧ s = rstrip s ++ w := by
  refine ⟨(s.reverse.takeWhile pySpace).reverse, ?_, ?_⟩
  · rw [List.all_reverse, List.all_eq_true]
    intro c hc
    exact mem_takeWhile_imp hc
  · unfold rstrip
    rw [← List.reverse_append, List.takeWhile_append_dropWhile, List.reverse_reverse]

/-! ### cutting at newlines -/

/-- `SplitJoin.lean` has the lemmas about cutting at a character, for `UrlPath.splitOn` -/
theorem splitNL_eq (s : Str) : splitNL s = UrlPath.splitOn '\n' s := by
  induction s with
  | nil => rfl
  | cons c t ih =>
    unfold splitNL at ih ⊢
    rw [splitNL', UrlPath.splitOn, ← ih]
    split <;> rfl

theorem splitNL_nonl (l : Str) (h : '\n' ∉ l) : splitNL l = [l] := by
  rw [splitNL_eq, UrlPath.up_splitOn_noMem _ _ h]

theorem splitNL_append (a b : Str) : splitNL (a ++ '\n' :: b) = splitNL a ++ splitNL b := by
  simp only [splitNL_eq, UrlPath.up_splitOn_append']

theorem ess_append (a b : List Str) : ess (a ++ b) = ess a ++ ess b := by
  simp [ess]

theorem ess_cons (l : Str) (r : List Str) : ess (l :: r) = (if strip l = [] then [] else [strip l]) ++ ess r := by
  unfold ess
  by_cases h : strip l = []
  · simp [h]
  · have : (strip l).isEmpty = false := by
      cases hs : strip l with
      | nil => exact absurd hs h
      | cons _ _ => rfl
    simp [h, this]

theorem essOf_nl (a b : Str) : essOf (a ++ '\n' :: b) = essOf a ++ essOf b := by
  unfold essOf
  rw [splitNL_append, ess_append]

theorem essOf_nil : essOf [] = [] := by rfl

theorem essOf_line (l : Str) (h : '\n' ∉ l) : essOf l = if strip l = [] then [] else [strip l] := by
  unfold essOf
  rw [splitNL_nonl l h, ess_cons]
  simp [ess]

theorem all_space_split (w : Str) (h : w.all pySpace = true) :
    (splitNL' w).1.all pySpace = true ∧ ess (splitNL' w).2 = [] := by
  induction w with
  | nil => exact ⟨rfl, rfl⟩
  | cons c t ih =>
    simp only [List.all_cons, Bool.and_eq_true] at h
    obtain ⟨ih1, ih2⟩ := ih h.2
    by_cases hc : c = '\n'
    · simp only [splitNL', hc, ↓reduceIte]
      refine ⟨rfl, ?_⟩
      rw [ess_cons, ih2, strip_all_space _ ih1]
      rfl
    · simp only [splitNL', hc, ↓reduceIte, List.all_cons, h.1, ih1, ih2]
      exact ⟨rfl, trivial⟩

/-- trailing whitespace (blank lines included) contributes nothing -/
theorem split_pad_right (a w : Str) (h : w.all pySpace = true) :
    ∃ w', w'.all pySpace = true ∧ (splitNL' (a ++ w)).1 = (splitNL' a).1 ++ w' ∧
      ess (splitNL' (a ++ w)).2 = ess (splitNL' a).2 := by
  induction a with
  | nil =>
    obtain ⟨h1, h2⟩ := all_space_split w h
    refine ⟨(splitNL' w).1, h1, by simp [splitNL'], ?_⟩
    simp only [List.nil_append, splitNL']
    rw [h2]; rfl
  | cons c t ih =>
    obtain ⟨w', hw', e1, e2⟩ := ih
    by_cases hc : c = '\n'
    · refine ⟨[], rfl, ?_, ?_⟩
      · simp [splitNL', hc]
      · simp only [List.cons_append, splitNL', hc, ↓reduceIte]
        rw [ess_cons, ess_cons, e1, e2, strip_pad_right _ _ hw']
    · refine ⟨w', hw', ?_, ?_⟩
      · simp [splitNL', hc, e1]
      · simp only [List.cons_append, splitNL', hc, ↓reduceIte]
        exact e2

theorem essOf_pad_right (a w : Str) (h : w.all pySpace = true) : essOf (a ++ w) = essOf a := by
  obtain ⟨w', hw', e1, e2⟩ := split_pad_right a w h
  unfold essOf splitNL
  rw [ess_cons, ess_cons, e1, e2, strip_pad_right _ _ hw']

theorem essOf_rstrip (s : Str) : essOf (rstrip s) = essOf s := by
  obtain ⟨w, hw, e⟩ := rstrip_decomp s
  conv => rhs; rw [e]
  rw [essOf_pad_right _ _ hw]

theorem essOf_final_nl (s : Str) : essOf (s ++ ['\n']) = essOf s :=
  essOf_pad_right s ['\n'] (by decide)

theorem ess_dropLastEmpty (ls : List Str) : ess (dropLastEmpty ls) = ess ls := by
  induction ls with
  | nil => rfl
  | cons l r ih =>
    cases r with
    | nil =>
      by_cases h : l = []
      · subst h; rfl
      · simp [dropLastEmpty, h]
    | cons l2 r2 =>
      simp only [dropLastEmpty] at ih ⊢
      rw [ess_cons, ess_cons l, ih]

theorem ess_linesOf (s : Str) : ess (linesOf s) = essOf s := ess_dropLastEmpty _

theorem joinLines_cons_cons (a b : Str) (r : List Str) : joinLines (a :: b :: r) = a ++ '\n' :: joinLines (b :: r) := by
  simp [joinLines]

/-- the lines of `'\n'.join(result)` are the lines of the members of `result` -/
theorem essOf_joinLines (ls : List Str) : essOf (joinLines ls) = ls.flatMap essOf := by
  induction ls with
  | nil => rfl
  | cons a r ih =>
    cases r with
    | nil => simp [joinLines]
    | cons b r2 =>
      rw [joinLines_cons_cons, essOf_nl, ih]
      simp

theorem mem_dropLastEmpty {l : Str} {ls : List Str} (h : l ∈ dropLastEmpty ls) : l ∈ ls := by
  induction ls with
  | nil => simp [dropLastEmpty] at h
  | cons a r ih =>
    cases r with
    | nil =>
      by_cases ha : a = []
      · simp [dropLastEmpty, ha] at h
      · simpa [dropLastEmpty, ha] using h
    | cons b r2 =>
      simp only [dropLastEmpty] at h ih
      rcases List.mem_cons.1 h with e | e
      · rw [e]; exact List.mem_cons_self
      · exact List.mem_cons_of_mem _ (ih e)

theorem linesOf_no_nl (s : Str) : ∀ l ∈ linesOf s, '\n' ∉ l := by
  intro l hl
  have := mem_dropLastEmpty hl
  rw [splitNL_eq] at this
  exact UrlPath.up_splitOn_pieces _ _ _ this

end ZCV.Roundtrip
