import ZCV.Lemmas.Misc
import ZCV.Spec.Conforms
/-!
The tree-driven loader seen from the top matcher only: `evalItem` / `evalItems` do to ONE matcher what
`runItem` / `runItems` do to the matcher on top of the stack (no command-line bag).  The two matcher operations as a small step
on the slot they find: `addValueCore_eq` with `slotStep`, `addSection_split` with `addSectionName` and `sectStep`; both write a slot
(and the used names) only.
-/
namespace ZCV.Conf
open ZCV ZCV.Cfg

mutual
def evalItem (conv : Conv) (s : Schema) (m : Matcher) : Item → M Matcher
  | .kv k v p => addValue conv m k v p
  | .sect ty nm items =>
    match s.gettype ty with
    | none => .error (.cfg { kind := .schema, tag := "unknown type name" })
    | some (.abstract_ _ _) => .error (plainErr "concrete sections cannot match abstract section types")
    | some (.concrete t) =>
      match getsectioninfo s m.ty (t.name.getD []) nm with
      | .error e => .error e
      | .ok ci =>
        if !isAllowedName ci nm then .error (plainErr "not an allowed name")
        else if !(nm.isSome || allowUnnamed ci) then .error (plainErr "sections may not be unnamed")
        else
          match evalItems conv s (newMatcher t nm none) items with
          | .error e => .error e
          | .ok child =>
            match finishMatcher conv s child with
            | .error e => .error e
            | .ok (v, _) => addSection s m ty nm v
def evalItems (conv : Conv) (s : Schema) (m : Matcher) : List Item → M Matcher
  | [] => .ok m
  | i :: r =>
    match evalItem conv s m i with
    | .error e => .error e
    | .ok m' => evalItems conv s m' r
end

theorem evalItems_cons (conv : Conv) (s : Schema) (m : Matcher) (i : Item) (r : List Item) :
    evalItems conv s m (i :: r) = evalItem conv s m i >>= fun m' => evalItems conv s m' r := by
  rw [evalItems]
  cases evalItem conv s m i <;> rfl

def evalContainer (conv : Conv) (s : Schema) (t : SType) (nm : Option Str) (items : List Item) : M Val :=
  match evalItems conv s (newMatcher t nm none) items with
  | .error e => .error e
  | .ok m => (finishMatcher conv s m).map (·.1)

theorem evalItem_sect (conv : Conv) (s : Schema) (m : Matcher) (ty : Str) (nm : Option Str) (sub : List Item) :
    evalItem conv s m (.sect ty nm sub) =
      sectCheck s m.ty ty nm >>= fun t => evalContainer conv s t nm sub >>= fun v => addSection s m ty nm v := by
  rw [evalItem]
  unfold sectCheck evalContainer
  cases s.gettype ty with
  | none => rfl
  | some te =>
    cases te with
    | abstract_ n subs => rfl
    | concrete t =>
      dsimp only
      cases getsectioninfo s m.ty (t.name.getD []) nm with
      | error e => rfl
      | ok ci =>
        dsimp only
        split
        · rfl
        · split
          · rfl
          · rw [ok_bind]
            cases evalItems conv s (newMatcher t nm none) sub with
            | error e => rfl
            | ok child =>
              dsimp only
              cases finishMatcher conv s child <;> rfl

theorem setSlot_bag (m : Matcher) (a : Str) (sl : Slot) : (setSlot m a sl).bag = m.bag := rfl
theorem setSlot_ty (m : Matcher) (a : Str) (sl : Slot) : (setSlot m a sl).ty = m.ty := rfl
theorem getSlot_used (m : Matcher) (u : List Str) (a : Str) : getSlot { m with used := u } a = getSlot m a := rfl

/-- split every `if`/`match` in hypothesis `h` (zeta-reducing `have`s on the way) -/
macro "split_hyp " h:ident : tactic =>
  `(tactic| repeat' (first | split at $h:ident | (dsimp only at $h:ident; split at $h:ident)))

/-! ### `addValueCore`, flattened -/

/-- what `addValueCore` does to the slot it has found -/
def slotStep (ki : KeyInfo) (isArb : Bool) (rk : Str) (vi : VI) : Slot → M Slot
  | .none => if isArb then .ok (.map [(rk, vi)]) else if ki.multi then .ok (.many [vi]) else .ok (.one vi)
  | .one _ =>
    if !ki.multi then
      if !isArb then .error (plainErr "does not support multiple values") else .error (.internal "TypeError")
    else .error (.internal "TypeError")
  | .many vs => .ok (.many (vs ++ [vi]))
  | .map mp => if mp.any (·.1 == rk) then .error (plainErr "too many values") else .ok (.map (mp ++ [(rk, vi)]))
  | .mmap mp =>
    if mp.any (·.1 == rk) then .ok (.mmap (mp.map fun p => if p.1 == rk then (p.1, p.2 ++ [vi]) else p))
    else .ok (.mmap (mp ++ [(rk, [vi])]))
  | _ => .error (.internal "TypeError")

theorem route_eq (ch : List (Option Str × Info)) (rk : Str) : Cfg.route ch rk = Conf.route ch rk := rfl

theorem addValueCore_eq (m : Matcher) (key rk v : Str) (pos : Pos) :
    addValueCore m key rk v pos =
      match route m.ty.children rk with
      | none => .error (plainErr "not a known key name")
      | some (_, .sect _) => .error (plainErr "not a valid key name")
      | some (k, .key ki) =>
        match getSlot m ki.attr with
        | none => .error (.internal "KeyError")
        | some slot => (slotStep ki (k == some ['+']) rk { value := v, pos := pos } slot).map (setSlot m ki.attr) := by
  unfold addValueCore
  rw [search_eq_route, route_eq]
  cases route m.ty.children rk with
  | none => rfl
  | some c =>
    obtain ⟨k, ci⟩ := c
    cases ci with
    | sect si => rfl
    | key ki =>
      dsimp only
      cases getSlot m ki.attr with
      | none => rfl
      | some slot => cases slot <;> simp only [slotStep, map_ite] <;> rfl

/-! ### the matcher operations only write a slot (and the used names): type and bag stay -/

theorem addValueCore_frame {m m' : Matcher} {key rk v : Str} {pos : Pos}
    (h : addValueCore m key rk v pos = .ok m') : ∃ a sl, m' = setSlot m a sl := by
  rw [addValueCore_eq] at h
  split at h
  · cases h
  · cases h
  · split at h
    · cases h
    · obtain ⟨sl, _, rfl⟩ := map_ok_inv h
      exact ⟨_, _, rfl⟩

theorem addValueCore_bag (m m' : Matcher) (key rk v : Str) (pos : Pos)
    (h : addValueCore m key rk v pos = .ok m') : m'.bag = m.bag := by
  obtain ⟨_, _, rfl⟩ := addValueCore_frame h
  rfl

theorem addValueCore_ty (m m' : Matcher) (key rk v : Str) (pos : Pos)
    (h : addValueCore m key rk v pos = .ok m') : m'.ty = m.ty := by
  obtain ⟨_, _, rfl⟩ := addValueCore_frame h
  rfl

theorem addValue_pres (conv : Conv) (m m' : Matcher) (k v : Str) (pos : Pos)
    (h : addValue conv m k v pos = .ok m') : m'.ty = m.ty ∧ m'.bag = m.bag := by
  unfold addValue at h
  split at h
  · cases h
  · split at h
    · split at h
      · cases h; exact ⟨rfl, rfl⟩
      · exact ⟨addValueCore_ty _ _ _ _ _ _ h, addValueCore_bag _ _ _ _ _ _ h⟩
    · exact ⟨addValueCore_ty _ _ _ _ _ _ h, addValueCore_bag _ _ _ _ _ _ h⟩

/-- the names a header adds to `_sectionnames` -/
def newName (nm : Option Str) : List Str :=
  match nm with
  | some n => if n != [] then [n] else []
  | none => []

/-- the name bookkeeping of `addSection` -/
def addSectionName (m : Matcher) (name : Option Str) : M Matcher :=
  match name with
  | some n =>
    if n != [] then
      if m.used.contains n then throw (plainErr "section names must not be re-used")
      else pure { m with used := m.used ++ [n] }
    else pure m
  | Option.none => pure m

/-- what `addSection` does to the slot it has found -/
def sectStep (si : SectInfo) (v : Val) : Slot → M Slot
  | .sects vs => if si.multi then .ok (.sects (vs ++ [v])) else .error (.internal "AttributeError")
  | .none => if si.multi then .error (.internal "AttributeError") else .ok (.sect v)
  | _ => if si.multi then .error (.internal "AttributeError") else .error (plainErr "too many instances of section")

def addSectionPlace (s : Schema) (m : Matcher) (ty : Str) (name : Option Str) (v : Val) : M Matcher :=
  getsectioninfo s m.ty ty name >>= fun ci =>
    match getSlot m ci.attr with
    | none => .error (.internal "KeyError")
    | some sl => (sectStep ci v sl).map (setSlot m ci.attr)

theorem addSection_split (s : Schema) (m : Matcher) (ty : Str) (name : Option Str) (v : Val) :
    addSection s m ty name v = (addSectionName m name >>= fun m1 => addSectionPlace s m1 ty name v) := by
  have place : ∀ m1 : Matcher, (getsectioninfo s m1.ty ty name >>= fun ci =>
      match getSlot m1 ci.attr with
      | Option.none => throw (Fail.internal "KeyError")
      | some (.sects vs) =>
        if ci.multi then pure (setSlot m1 ci.attr (.sects (vs ++ [v]))) else throw (Fail.internal "AttributeError")
      | some .none => if ci.multi then throw (Fail.internal "AttributeError") else pure (setSlot m1 ci.attr (.sect v))
      | some _ => if ci.multi then throw (Fail.internal "AttributeError") else throw (plainErr "too many instances of section"))
      = addSectionPlace s m1 ty name v := by
    intro m1
    unfold addSectionPlace
    congr 1
    funext ci
    cases getSlot m1 ci.attr with
    | none => rfl
    | some sl => cases sl <;> unfold sectStep <;> cases ci.multi <;> rfl
  unfold addSection addSectionName
  cases name with
  | none => exact place m
  | some n =>
    dsimp only
    by_cases h1 : (n != []) = true
    · rw [if_pos h1, if_pos h1]
      by_cases h2 : m.used.contains n = true
      · rw [if_pos h2, if_pos h2]; rfl
      · rw [if_neg h2, if_neg h2]; exact place _
    · rw [if_neg h1, if_neg h1]; exact place m

theorem addSection_unnamed {s : Schema} {m : Matcher} {ty : Str} {v : Val} {ci : SectInfo}
    (h : getsectioninfo s m.ty ty none = .ok ci) :
    addSection s m ty none v =
      match getSlot m ci.attr with
      | none => .error (.internal "KeyError")
      | some sl => (sectStep ci v sl).map (setSlot m ci.attr) := by
  rw [addSection_split]
  show addSectionPlace s m ty none v = _
  unfold addSectionPlace
  rw [h]
  rfl

theorem addSectionName_eq (m : Matcher) (nm : Option Str) :
    addSectionName m nm =
      if (newName nm).any (fun n => m.used.contains n) then .error (plainErr "section names must not be re-used")
      else .ok { m with used := m.used ++ newName nm } := by
  unfold addSectionName newName
  cases nm with
  | none => simp only [List.any_nil, List.append_nil, Bool.false_eq_true, ↓reduceIte]; rfl
  | some n =>
    dsimp only
    by_cases hn : (n != []) = true
    · simp only [hn, ↓reduceIte, List.any_cons, List.any_nil, Bool.or_false]; rfl
    · simp only [hn, Bool.false_eq_true, ↓reduceIte, List.any_nil, List.append_nil]; rfl

theorem addSection_frame {s : Schema} {m m' : Matcher} {ty : Str} {nm : Option Str} {v : Val}
    (h : addSection s m ty nm v = .ok m') : ∃ u a sl, m' = setSlot { m with used := u } a sl := by
  rw [addSection_split, addSectionName_eq] at h
  obtain ⟨m1, h1, h⟩ := bind_ok_inv h
  obtain ⟨ci, _, h⟩ := bind_ok_inv h
  split at h1
  · cases h1
  · cases h1
    cases hsl : getSlot { m with used := m.used ++ newName nm } ci.attr with
    | none => rw [hsl] at h; cases h
    | some sl =>
      rw [hsl] at h
      obtain ⟨sl', _, rfl⟩ := map_ok_inv h
      exact ⟨_, _, _, rfl⟩

theorem addSection_bag (s : Schema) (m m' : Matcher) (ty : Str) (nm : Option Str) (v : Val)
    (h : addSection s m ty nm v = .ok m') : m'.bag = m.bag := by
  obtain ⟨_, _, _, rfl⟩ := addSection_frame h
  rfl

theorem addSection_ty (s : Schema) (m m' : Matcher) (ty : Str) (nm : Option Str) (v : Val)
    (h : addSection s m ty nm v = .ok m') : m'.ty = m.ty := by
  obtain ⟨_, _, _, rfl⟩ := addSection_frame h
  rfl

/-! ### a loader state with another top matcher and another list of handlers: how the frame lemmas name the state afterwards -/

def withTop (st : LS) (m : Matcher) (below : List Matcher) (hs : List (Str × Val)) : LS :=
  { st with stack := m :: below, handlers := hs }

end ZCV.Conf
