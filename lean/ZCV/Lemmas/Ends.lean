/-!
How a computation in `Except ε` ends.  `Ends x P Q`: `x` returns a value satisfying `P` or fails with a failure satisfying `Q`.
The rules below follow the structure of a `do` block, so that a statement about a model function is proved by walking
through its text once, whatever is claimed of results (`P`) and of failures (`Q`).
-/
namespace ZCV
universe u v

def Ends {ε : Type u} {α : Type v} (x : Except ε α) (P : α → Prop) (Q : ε → Prop) : Prop :=
  match x with
  | .ok a => P a
  | .error f => Q f

namespace Ends
variable {ε : Type u} {α β : Type v} {P : α → Prop} {Q : ε → Prop} {x : Except ε α}

theorem ok {a : α} (h : P a) : Ends (.ok a : Except ε α) P Q := h

theorem pure {a : α} (h : P a) : Ends (Pure.pure a : Except ε α) P Q := h

theorem error {f : ε} (h : Q f) : Ends (.error f : Except ε α) P Q := h

theorem of_ok {a : α} (h : Ends x P Q) (hx : x = .ok a) : P a := by
  subst hx; exact h

theorem of_error {f : ε} (h : Ends x P Q) (hx : x = .error f) : Q f := by
  subst hx; exact h

theorem intro (hok : ∀ a, x = .ok a → P a) (herr : ∀ f, x = .error f → Q f) : Ends x P Q := by
  cases x with
  | ok a => exact hok a rfl
  | error f => exact herr f rfl

theorem eqs (x : Except ε α) : Ends x (fun a => x = .ok a) (fun f => x = .error f) :=
  intro (fun _ h => h) fun _ h => h

theorem mono {P' : α → Prop} {Q' : ε → Prop} (h : Ends x P Q) (hP : ∀ a, P a → P' a) (hQ : ∀ f, Q f → Q' f) :
    Ends x P' Q' := by
  cases x with
  | ok a => exact hP a h
  | error f => exact hQ f h

theorem fails {Q' : ε → Prop} (h : Ends x P Q) (hQ : ∀ f, Q f → Q' f) : Ends x P Q' :=
  h.mono (fun _ => id) hQ

theorem weaken {P' : α → Prop} (h : Ends x P Q) (hP : ∀ a, P a → P' a) : Ends x P' Q :=
  h.mono hP fun _ => id

theorem ite {c : Prop} [Decidable c] {y : Except ε α} (hx : c → Ends x P Q) (hy : ¬ c → Ends y P Q) :
    Ends (if c then x else y) P Q := by
  by_cases h : c
  · rw [if_pos h]; exact hx h
  · rw [if_neg h]; exact hy h

/-- the continuation also learns which value came back -/
theorem bind_eq {g : α → Except ε β} {P' : β → Prop} (h : Ends x P Q) (hg : ∀ a, x = .ok a → P a → Ends (g a) P' Q) :
    Ends (x >>= g) P' Q := by
  cases x with
  | ok a => exact hg a rfl h
  | error f => exact h

theorem bind {g : α → Except ε β} {P' : β → Prop} (h : Ends x P Q) (hg : ∀ a, P a → Ends (g a) P' Q) :
    Ends (x >>= g) P' Q :=
  h.bind_eq fun a _ => hg a

theorem map {g : α → β} {P' : β → Prop} (h : Ends x (fun a => P' (g a)) Q) : Ends (x.map g) P' Q := by
  cases x with
  | ok a => exact h
  | error f => exact h

theorem mapM {g : α → Except ε β} {R : α → β → Prop} : ∀ {l : List α}, (∀ a ∈ l, Ends (g a) (R a) Q) →
    Ends (l.mapM g) (fun r => ∀ b ∈ r, ∃ a ∈ l, R a b) Q
  | [], _ => fun _ hb => nomatch hb
  | a :: l, h => by
    rw [List.mapM_cons]
    refine (h a List.mem_cons_self).bind fun b hb => ?_
    refine (mapM (l := l) fun a' ha' => h a' (List.mem_cons_of_mem _ ha')).bind fun bs hbs => ?_
    intro b' hb'
    rcases List.mem_cons.mp hb' with rfl | hb'
    · exact ⟨a, List.mem_cons_self, hb⟩
    · obtain ⟨a', ha', hr⟩ := hbs b' hb'
      exact ⟨a', List.mem_cons_of_mem _ ha', hr⟩

theorem mapM_fails {g : α → Except ε β} {l : List α} (h : ∀ a ∈ l, Ends (g a) (fun _ => True) Q) :
    Ends (l.mapM g) (fun _ => True) Q :=
  (mapM (R := fun _ _ => True) h).mono (fun _ _ => trivial) fun _ => id

theorem foldlM {g : β → α → Except ε β} {I : β → Prop} : ∀ {l : List α} {b : β}, I b →
    (∀ b a, a ∈ l → I b → Ends (g b a) I Q) → Ends (l.foldlM g b) I Q
  | [], _, hb, _ => hb
  | a :: l, b, hb, h => by
    rw [List.foldlM_cons]
    exact (h b a List.mem_cons_self hb).bind fun b' hb' =>
      foldlM hb' fun b a ha => h b a (List.mem_cons_of_mem _ ha)

end Ends

end ZCV
