import ZCV.Model.Resources2
/-!
Lemmas about `ZCV/Model/Resources2.lean`: the trace is well bracketed; what a load does to the loader's state.
-/
namespace ZCV.Res2
open ZCV.Res (Pt)

/-! ## well-bracketed traces -/

/-- events that leave the stack of open resources as they found it, whatever it is -/
def Bal (evs : List Ev) : Prop := ∀ rest stk, wb (evs ++ rest) stk = wb rest stk
/-- the same, provided `r` is the innermost open resource (parse steps of `r` are allowed) -/
def BalIn (r : Nat) (evs : List Ev) : Prop := ∀ rest stk, wb (evs ++ rest) (r :: stk) = wb rest (r :: stk)

theorem Bal.nil : Bal [] := fun _ _ => rfl
theorem BalIn.nil (r : Nat) : BalIn r [] := fun _ _ => rfl
theorem Bal.balIn {evs : List Ev} (h : Bal evs) (r : Nat) : BalIn r evs := fun rest stk => h rest (r :: stk)
theorem Bal.append {a b : List Ev} (ha : Bal a) (hb : Bal b) : Bal (a ++ b) := by
  intro rest stk; rw [List.append_assoc, ha, hb]
theorem BalIn.append {r : Nat} {a b : List Ev} (ha : BalIn r a) (hb : BalIn r b) : BalIn r (a ++ b) := by
  intro rest stk; rw [List.append_assoc, ha, hb]
theorem BalIn.parse (r k : Nat) : BalIn r [.parse r k] := by
  intro rest stk; simp only [List.cons_append, List.nil_append, wb, beq_self_eq_true, Bool.true_and]
theorem BalIn.parse_cons {r : Nat} (k : Nat) {a : List Ev} (ha : BalIn r a) : BalIn r (.parse r k :: a) :=
  BalIn.append (BalIn.parse r k) ha
theorem Bal.stream (r : Nat) : Bal [.sopen r, .sclose r] := by
  intro rest stk; simp only [List.cons_append, List.nil_append, wb, beq_self_eq_true, Bool.true_and]
theorem BalIn.resource {r : Nat} {a : List Ev} (ha : BalIn r a) : Bal ([.ropen r] ++ a ++ [.rclose r]) := by
  intro rest stk
  simp only [List.cons_append, List.nil_append, List.append_assoc, wb]
  rw [ha]
  simp only [wb, beq_self_eq_true, Bool.true_and]
theorem BalIn.stream_resource {r : Nat} {a : List Ev} (ha : BalIn r a) :
    Bal ([.sopen r, .sclose r, .ropen r] ++ a ++ [.rclose r]) := by
  have h := Bal.append (Bal.stream r) (BalIn.resource ha)
  rwa [← List.append_assoc, ← List.append_assoc] at h

theorem withResource_view (f : Pt → Bool) (o : Opener) (r : Nat) (ex : Bool) (body : LState → Out) (st : LState) :
    (∃ evs, (evs = [] ∨ evs = [.sopen r, .sclose r]) ∧ withResource f o r ex body st = ⟨evs, false, st⟩) ∨
    (∃ pre, (pre = [.sopen r, .sclose r, .ropen r] ∨ pre = [.ropen r]) ∧
      withResource f o r ex body st = ⟨pre ++ (body st).evs ++ [.rclose r], (body st).ok, (body st).st⟩) := by
  unfold withResource
  cases o with
  | url =>
    dsimp only
    by_cases h1 : (!ex || f (.urlopen r)) = true
    · rw [if_pos h1]; exact .inl ⟨_, .inl rfl, rfl⟩
    by_cases h2 : f (.read r) = true
    · rw [if_neg h1, if_pos h2]; exact .inl ⟨_, .inr rfl, rfl⟩
    by_cases h3 : f (.decode r) = true
    · rw [if_neg h1, if_neg h2, if_pos h3]; exact .inl ⟨_, .inr rfl, rfl⟩
    · rw [if_neg h1, if_neg h2, if_neg h3]; exact .inr ⟨_, .inl rfl, rfl⟩
  | pkg =>
    dsimp only
    by_cases h1 : (!ex || f (.urlopen r)) = true
    · rw [if_pos h1]; exact .inl ⟨_, .inl rfl, rfl⟩
    · rw [if_neg h1]; exact .inr ⟨_, .inr rfl, rfl⟩
  | file => exact .inr ⟨_, .inr rfl, rfl⟩

theorem withResource_bal (f : Pt → Bool) (o : Opener) (r : Nat) (ex : Bool) (body : LState → Out)
    (hb : ∀ st, BalIn r (body st).evs) (st : LState) : Bal (withResource f o r ex body st).evs := by
  rcases withResource_view f o r ex body st with ⟨_, rfl | rfl, h⟩ | ⟨_, rfl | rfl, h⟩ <;> rw [h]
  · exact Bal.nil
  · exact Bal.stream r
  · exact BalIn.stream_resource (hb st)
  · exact BalIn.resource (hb st)

theorem stepLoop_balIn {α : Type} (f : Pt → Bool) (r : Nat) (act : α → LState → Out)
    (ha : ∀ s st, Bal (act s st).evs) : ∀ (steps : List α) (k : Nat) (st : LState), BalIn r (stepLoop f r act k steps st).evs
  | [], k, st => by simp only [stepLoop]; exact BalIn.parse r k
  | s :: rest, k, st => by
    simp only [stepLoop]
    split
    · exact BalIn.parse r k
    · split
      · have h := BalIn.append ((ha s st).balIn r) (stepLoop_balIn f r act ha rest (k + 1) (act s st).st)
        exact BalIn.parse_cons k h
      · exact BalIn.parse_cons k ((ha s st).balIn r)

/-- The three ways a `%import` line ends: the component is marked already; it is marked, read (`o`) and reading returns; reading
    fails and the marks are put back. -/
theorem cfgLine_imp_view (rec : Rec) (c : Nat) (st : LState) :
    (st.comps.contains c = true ∧ cfgLine rec (.imp c) st = ⟨[], true, st⟩) ∨
    (st.comps.contains c = false ∧ ∃ o, o = rec .comp c { st with comps := dictSet st.comps c } ∧
      ((o.ok = true ∧ cfgLine rec (.imp c) st = o) ∨
       (o.ok = false ∧ cfgLine rec (.imp c) st = ⟨o.evs, false, { o.st with comps := st.comps }⟩))) := by
  unfold cfgLine
  dsimp only
  cases st.comps.contains c
  · refine .inr ⟨rfl, _, rfl, ?_⟩
    cases (rec .comp c { st with comps := dictSet st.comps c }).ok
    · exact .inr ⟨rfl, rfl⟩
    · exact .inl ⟨rfl, rfl⟩
  · exact .inl ⟨rfl, rfl⟩

/-- The three ways `SchemaLoader.loadResource` ends: the schema is cached; it is parsed (`b`, into a component list of its own) and
    cached; parsing fails.  The caller's component list comes back in all three. -/
theorem loadSchemaRes_view (f : Pt → Bool) (rec : Rec) (r : Nat) (doc : Option Doc) (st : LState) :
    (st.cache.contains r = true ∧ loadSchemaRes f rec r doc st = ⟨[], true, st⟩) ∨
    (st.cache.contains r = false ∧ ∃ b, b = schemaBody f rec r doc { st with comps := [] } ∧
      ((b.ok = true ∧ loadSchemaRes f rec r doc st = ⟨b.evs, true, { b.st with comps := st.comps, cache := dictSet b.st.cache r }⟩) ∨
       (b.ok = false ∧ loadSchemaRes f rec r doc st = ⟨b.evs, false, { b.st with comps := st.comps }⟩))) := by
  unfold loadSchemaRes
  dsimp only
  cases st.cache.contains r
  · refine .inr ⟨rfl, _, rfl, ?_⟩
    cases (schemaBody f rec r doc { st with comps := [] }).ok
    · exact .inr ⟨rfl, rfl⟩
    · exact .inl ⟨rfl, rfl⟩
  · exact .inl ⟨rfl, rfl⟩

theorem cfgLine_bal (rec : Rec) (hr : ∀ m c st, Bal (rec m c st).evs) (s : CStep) (st : LState) : Bal (cfgLine rec s st).evs := by
  cases s with
  | work => exact Bal.nil
  | incl c => exact hr _ _ _
  | imp c =>
    rcases cfgLine_imp_view rec c st with ⟨_, h⟩ | ⟨_, o, rfl, ⟨_, h⟩ | ⟨_, h⟩⟩ <;> rw [h]
    · exact Bal.nil
    · exact hr _ _ _
    · exact hr _ _ _

theorem schLine_bal (rec : Rec) (hr : ∀ m c st, Bal (rec m c st).evs) (s : SStep) (st : LState) : Bal (schLine rec s st).evs := by
  cases s with
  | work => exact Bal.nil
  | ext b => exact hr _ _ _
  | importSrc c => exact hr _ _ _
  | importPkg c =>
    simp only [schLine]
    split
    · exact Bal.nil
    · exact hr _ _ _

theorem parseCfg_balIn (f : Pt → Bool) (rec : Rec) (hr : ∀ m c st, Bal (rec m c st).evs) (r : Nat) (doc : Option Doc) (st : LState) :
    BalIn r (parseCfg f rec r doc st).evs := by
  unfold parseCfg
  split
  · exact BalIn.nil r
  · simp only
    split
    · exact stepLoop_balIn f r _ (cfgLine_bal rec hr) _ _ _
    · exact BalIn.parse r 0

theorem loadCfg_balIn (f : Pt → Bool) (rec : Rec) (hr : ∀ m c st, Bal (rec m c st).evs) (r : Nat) (doc : Option Doc) (st : LState) :
    BalIn r (loadCfg f rec r doc st).evs := by
  unfold loadCfg
  simp only
  split
  · exact BalIn.append (parseCfg_balIn f rec hr r doc st) (BalIn.parse r _)
  · exact parseCfg_balIn f rec hr r doc st

theorem schemaBody_balIn (f : Pt → Bool) (rec : Rec) (hr : ∀ m c st, Bal (rec m c st).evs) (r : Nat) (doc : Option Doc) (st : LState) :
    BalIn r (schemaBody f rec r doc st).evs := by
  unfold schemaBody
  split
  · exact stepLoop_balIn f r _ (schLine_bal rec hr) _ _ _
  · exact BalIn.parse r 0

theorem compBody_balIn (f : Pt → Bool) (rec : Rec) (hr : ∀ m c st, Bal (rec m c st).evs) (r : Nat) (doc : Option Doc) (st : LState) :
    BalIn r (compBody f rec r doc st).evs := by
  unfold compBody
  split
  · exact stepLoop_balIn f r _ (schLine_bal rec hr) _ _ _
  · exact BalIn.parse r 0

theorem loadSchemaRes_balIn (f : Pt → Bool) (rec : Rec) (hr : ∀ m c st, Bal (rec m c st).evs) (r : Nat) (doc : Option Doc) (st : LState) :
    BalIn r (loadSchemaRes f rec r doc st).evs := by
  rcases loadSchemaRes_view f rec r doc st with ⟨_, h⟩ | ⟨_, b, rfl, ⟨_, h⟩ | ⟨_, h⟩⟩ <;> rw [h]
  · exact BalIn.nil r
  · exact schemaBody_balIn f rec hr r doc _
  · exact schemaBody_balIn f rec hr r doc _

theorem runRes_bal (f : Pt → Bool) (docs : List (Nat × Doc)) :
    ∀ (fuel : Nat) (m : Mode) (r : Nat) (st : LState), Bal (runRes f docs fuel m r st).evs
  | 0, _, _, _ => Bal.nil
  | fuel + 1, m, r, st => by
    have ih := runRes_bal f docs fuel
    cases m with
    | top file => exact withResource_bal f _ r _ _ (loadCfg_balIn f _ ih r _) st
    | incl => exact withResource_bal f _ r _ _ (parseCfg_balIn f _ ih r _) st
    | load file => exact withResource_bal f _ r _ _ (loadSchemaRes_balIn f _ ih r _) st
    | extend => exact withResource_bal f _ r _ _ (schemaBody_balIn f _ ih r _) st
    | comp => exact withResource_bal f _ r _ _ (compBody_balIn f _ ih r _) st

theorem run_wb (faults : List Pt) (sc : Scenario) (st : LState) : wb (run faults sc st).evs [] = true := by
  have h := runRes_bal (fun p => faults.contains p) sc.docs sc.limit sc.entry.mode sc.entry.res st [] []
  simpa [wb, run] using h

theorem ioTrace_wb : ∀ (evs : List Ev) (stk : List Nat), wb evs stk = true → Res.wb (ioTrace evs) stk = true := by
  intro evs stk h
  fun_induction wb evs stk
  case case1 => exact h
  case case2 ih => exact ih h
  case case3 ih => rw [Bool.and_eq_true] at h; simp only [ioTrace, Res.wb, h.1, ih h.2, Bool.and_self]
  case case5 ih => rw [Bool.and_eq_true] at h; simp only [ioTrace, Res.wb, h.1, ih h.2, Bool.and_self]
  case case8 ih => rw [Bool.and_eq_true] at h; exact ih h.2
  all_goals exact nomatch h

/-- A well-bracketed trace cut anywhere but between the opening of a URL stream and its closing: up to the cut every stream
    was opened as often as closed, and the rest is well bracketed from the stack reached there. -/
theorem wb_cut (rest : List Ev) (hrest : ∀ r t, rest ≠ .sclose r :: t) (r' : Nat) :
    ∀ (pre : List Ev) (stk : List Nat), wb (pre ++ rest) stk = true →
      pre.count (.sopen r') = pre.count (.sclose r') ∧ ∃ stk', wb rest stk' = true
  | [], stk, h => ⟨rfl, stk, h⟩
  | .ropen x :: pre, stk, h => by
    simpa [List.count_cons] using wb_cut rest hrest r' pre _ h
  | .rclose x :: pre, [], h => nomatch h
  | .rclose x :: pre, y :: stk, h => by
    simpa [List.count_cons] using wb_cut rest hrest r' pre stk (Bool.and_eq_true_iff.1 h).2
  | .parse x j :: pre, [], h => nomatch h
  | .parse x j :: pre, y :: stk, h => by
    simpa [List.count_cons] using wb_cut rest hrest r' pre (y :: stk) (Bool.and_eq_true_iff.1 h).2
  | .sclose x :: pre, stk, h => nomatch h
  | [.sopen x], stk, h => by
    cases rest with
    | nil => exact Bool.noConfusion h
    | cons e t => cases e <;> first | exact Bool.noConfusion h | exact absurd rfl (hrest _ t)
  | .sopen x :: .sclose y :: pre, stk, h => by
    have h : (x == y && wb (pre ++ rest) stk) = true := h
    rw [Bool.and_eq_true, beq_iff_eq] at h
    have ih := wb_cut rest hrest r' pre stk h.2
    rw [← h.1]
    by_cases hx : x = r' <;> simpa [List.count_cons, hx] using ih
  | .sopen x :: .sopen _ :: pre, stk, h => nomatch h
  | .sopen x :: .ropen _ :: pre, stk, h => nomatch h
  | .sopen x :: .rclose _ :: pre, stk, h => nomatch h
  | .sopen x :: .parse _ _ :: pre, stk, h => nomatch h

/-- in a well-bracketed trace no URL stream is open when a parse step starts: before it, every stream was opened exactly as
    often as it was closed -/
theorem wb_streams_closed_at_parse (r k : Nat) (post : List Ev) (r' : Nat) :
    ∀ (pre : List Ev) (stk : List Nat), wb (pre ++ .parse r k :: post) stk = true →
      pre.count (.sopen r') = pre.count (.sclose r') :=
  fun pre stk h => (wb_cut _ (fun _ _ h => Ev.noConfusion (List.head_eq_of_cons_eq h)) r' pre stk h).1

theorem wb_stream_closed_next (r : Nat) (post : List Ev) :
    ∀ (pre : List Ev) (stk : List Nat), wb (pre ++ .sopen r :: post) stk = true → ∃ post', post = .sclose r :: post' := by
  intro pre stk h
  obtain ⟨_, stk', h'⟩ := wb_cut _ (fun _ _ h => Ev.noConfusion (List.head_eq_of_cons_eq h)) 0 pre stk h
  cases post with
  | nil => exact Bool.noConfusion h'
  | cons e t =>
    cases e <;> first | exact Bool.noConfusion h' | exact ⟨t, by rw [beq_iff_eq.1 (Bool.and_eq_true_iff.1 h').1]⟩

/-! ## the loader's state -/

/-- what a block may do to the loader's state: `_active_urls` is as before; components and cached schemas are only added -/
structure Rel (a b : LState) : Prop where
  active : b.active = a.active
  comps : a.comps <+: b.comps
  cache : a.cache <+: b.cache

theorem Rel.refl (a : LState) : Rel a a := ⟨rfl, List.prefix_refl _, List.prefix_refl _⟩
theorem Rel.trans {a b c : LState} (h1 : Rel a b) (h2 : Rel b c) : Rel a c :=
  ⟨h2.active.trans h1.active, h1.comps.trans h2.comps, h1.cache.trans h2.cache⟩

theorem prefix_dictSet (l : List Nat) (x : Nat) : l <+: dictSet l x := by
  unfold dictSet; split
  · exact List.prefix_refl _
  · exact List.prefix_append _ _

/-- a property of a block in terms of the state before it, its verdict and the state after it -/
def Sat (Q : LState → Bool → LState → Prop) (g : LState → Out) : Prop := ∀ st, Q st (g st).ok (g st).st

/-- what such a property needs in order to pass through the control structure of the loaders: doing nothing has it; it
    composes along a sequence that goes on only after success; it survives the push and pop of `_active_urls` around a parser -/
structure Inv (Q : LState → Bool → LState → Prop) : Prop where
  refl : ∀ st v, Q st v st
  trans : ∀ {a b c : LState} {v : Bool}, Q a true b → Q b v c → Q a v c
  pop : ∀ (st : LState) (r : Nat) (v : Bool) (st' : LState),
    Q { st with active := st.active ++ [r] } v st' → Q st v { st' with active := st'.active.dropLast }

section
variable {Q : LState → Bool → LState → Prop} (hQ : Inv Q) (f : Pt → Bool) (rec : Rec) (r : Nat) (doc : Option Doc)
include hQ

theorem withResource_sat (o : Opener) (ex : Bool) {body : LState → Out} (hb : Sat Q body) :
    Sat Q (withResource f o r ex body) := by
  intro st
  rcases withResource_view f o r ex body st with ⟨_, _, h⟩ | ⟨_, _, h⟩ <;> rw [h]
  · exact hQ.refl st false
  · exact hb st

theorem stepLoop_sat {α : Type} (act : α → LState → Out) :
    ∀ (steps : List α) (_ : ∀ s ∈ steps, Sat Q (act s)) (k : Nat), Sat Q (stepLoop f r act k steps)
  | [], _, k => fun st => hQ.refl st _
  | s :: rest, ha, k => fun st => by
    have hs := ha s List.mem_cons_self st
    have ih := stepLoop_sat act rest (fun s' h' => ha s' (List.mem_cons_of_mem _ h')) (k + 1) (act s st).st
    simp only [stepLoop]
    split
    · exact hQ.refl st false
    · split
      · next hok => rw [hok] at hs; exact hQ.trans hs ih
      · next hok => rw [Bool.not_eq_true] at hok; rw [hok] at hs; exact hs

theorem schemaBody_sat (hl : ∀ s, Sat Q (schLine rec s)) : Sat Q (schemaBody f rec r doc) := by
  intro st
  unfold schemaBody
  split
  · exact stepLoop_sat hQ f r _ _ (fun s _ => hl s) 0 st
  · exact hQ.refl st false

theorem compBody_sat (hl : ∀ s, Sat Q (schLine rec s)) : Sat Q (compBody f rec r doc) := by
  intro st
  unfold compBody
  split
  · exact stepLoop_sat hQ f r _ _ (fun s _ => hl s) 0 st
  · exact hQ.refl st false

/-- the parser body of `_parse_resource` runs with `r` pushed and leaves it pushed; the `finally` pops it -/
theorem parseCfg_sat (hl : ∀ lines, doc = some (.cfg lines) → ∀ s ∈ lines, Sat Q (cfgLine rec s)) :
    Sat Q (parseCfg f rec r doc) := by
  intro st
  unfold parseCfg
  split
  · exact hQ.refl st false
  · dsimp only
    split
    · exact hQ.pop st r _ _ (stepLoop_sat hQ f r _ _ (hl _ rfl) 0 _)
    · exact hQ.pop st r false _ (hQ.refl _ false)

theorem loadCfg_sat (hp : Sat Q (parseCfg f rec r doc)) : Sat Q (loadCfg f rec r doc) := by
  intro st
  unfold loadCfg
  dsimp only
  split
  · next hok => have h := hp st; rw [hok] at h; exact hQ.trans h (hQ.refl _ _)
  · exact hp st
end

/-- the two blocks that read a configuration resource: a `top` block is an `incl` block followed by `sm.finish()` -/
theorem runRes_cfg_sat {Q : LState → Bool → LState → Prop} (hQ : Inv Q) (f : Pt → Bool) (docs : List (Nat × Doc)) (fuel r : Nat)
    (hl : ∀ lines, lookup docs r = some (.cfg lines) → ∀ s ∈ lines, Sat Q (cfgLine (runRes f docs fuel) s)) :
    Sat Q (runRes f docs (fuel + 1) .incl r) ∧ ∀ file, Sat Q (runRes f docs (fuel + 1) (.top file) r) :=
  have hp := parseCfg_sat hQ f (runRes f docs fuel) r (lookup docs r) hl
  ⟨withResource_sat hQ f r _ _ hp, fun _ => withResource_sat hQ f r _ _ (loadCfg_sat hQ f _ r _ hp)⟩

/-- however the block ends, the state after it is `Rel`ated to the state before -/
def Keeps (g : LState → Out) : Prop := ∀ st, Rel st (g st).st

theorem keepsInv : Inv (fun a _ b => Rel a b) :=
  ⟨fun st _ => Rel.refl st, Rel.trans, fun st r _ st' h => ⟨by simp [h.active], h.comps, h.cache⟩⟩

theorem stepLoop_keeps {α : Type} (f : Pt → Bool) (r : Nat) (act : α → LState → Out) (ha : ∀ s, Keeps (act s)) :
    ∀ (steps : List α) (k : Nat), Keeps (stepLoop f r act k steps) :=
  fun steps k => stepLoop_sat keepsInv f r act steps (fun s _ => ha s) k

theorem rel_addComp (st : LState) (c : Nat) : Rel st { st with comps := dictSet st.comps c } :=
  ⟨rfl, prefix_dictSet _ _, List.prefix_refl _⟩

theorem cfgLine_keeps (rec : Rec) (hr : ∀ m c, Keeps (rec m c)) (s : CStep) : Keeps (cfgLine rec s) := by
  intro st
  cases s with
  | work => exact Rel.refl _
  | incl c => exact hr _ _ _
  | imp c =>
    have hm := (rel_addComp st c).trans (hr .comp c _)
    rcases cfgLine_imp_view rec c st with ⟨_, h⟩ | ⟨_, o, rfl, ⟨_, h⟩ | ⟨_, h⟩⟩ <;> rw [h]
    · exact Rel.refl _
    · exact hm
    · exact ⟨hm.active, List.prefix_refl _, hm.cache⟩

theorem schLine_keeps (rec : Rec) (hr : ∀ m c, Keeps (rec m c)) (s : SStep) : Keeps (schLine rec s) := by
  intro st
  cases s with
  | work => exact Rel.refl _
  | ext b => exact hr _ _ _
  | importSrc c => exact hr _ _ _
  | importPkg c =>
    simp only [schLine]
    split
    · exact Rel.refl _
    · exact (rel_addComp st c).trans (hr _ _ _)

/-- the new schema's components are its own: the caller's list is exactly as before; the cache may have grown -/
theorem loadSchemaRes_keeps (f : Pt → Bool) (rec : Rec) (hr : ∀ m c, Keeps (rec m c)) (r : Nat) (doc : Option Doc) :
    Keeps (loadSchemaRes f rec r doc) := by
  intro st
  have hb := schemaBody_sat keepsInv f rec r doc (schLine_keeps rec hr) { st with comps := [] }
  rcases loadSchemaRes_view f rec r doc st with ⟨_, h⟩ | ⟨_, b, rfl, ⟨_, h⟩ | ⟨_, h⟩⟩ <;> rw [h]
  · exact Rel.refl _
  · exact ⟨hb.active, List.prefix_refl _, hb.cache.trans (prefix_dictSet _ _)⟩
  · exact ⟨hb.active, List.prefix_refl _, hb.cache⟩

theorem runRes_keeps (f : Pt → Bool) (docs : List (Nat × Doc)) : ∀ (fuel : Nat) (m : Mode) (r : Nat), Keeps (runRes f docs fuel m r)
  | 0, _, _ => fun st => Rel.refl st
  | fuel + 1, m, r => by
    have ih := runRes_keeps f docs fuel
    have hcfg := runRes_cfg_sat keepsInv f docs fuel r fun _ _ s _ => cfgLine_keeps _ ih s
    cases m with
    | top file => exact hcfg.2 file
    | incl => exact hcfg.1
    | load file => exact withResource_sat keepsInv f r _ _ (loadSchemaRes_keeps f _ ih r _)
    | extend => exact withResource_sat keepsInv f r _ _ (schemaBody_sat keepsInv f _ r _ (schLine_keeps _ ih))
    | comp => exact withResource_sat keepsInv f r _ _ (compBody_sat keepsInv f _ r _ (schLine_keeps _ ih))

/-- a `SchemaLoader` call (`loadURL` / `loadFile`, `<import src>`) leaves the component list it was called with -/
theorem runRes_load_comps (f : Pt → Bool) (docs : List (Nat × Doc)) (fuel : Nat) (file : Bool) (r : Nat) (st : LState) :
    (runRes f docs fuel (.load file) r st).st.comps = st.comps := by
  cases fuel with
  | zero => rfl
  | succ fuel =>
    refine withResource_sat (Q := fun a _ b => b.comps = a.comps) ⟨fun _ _ => rfl, fun h1 h2 => h2.trans h1, fun _ _ _ _ h => h⟩
      f r _ _ (fun st => ?_) st
    rcases loadSchemaRes_view f _ r _ st with ⟨_, h⟩ | ⟨_, b, _, ⟨_, h⟩ | ⟨_, h⟩⟩ <;> rw [h]

/-! ## the public call -/

theorem run_keeps (faults : List Pt) (sc : Scenario) : Keeps (run faults sc) :=
  runRes_keeps _ sc.docs sc.limit _ _

theorem run_of_mode {sc : Scenario} {m : Mode} (hm : sc.entry.mode = m) (faults : List Pt) (st : LState) :
    run faults sc st = runRes (fun p => faults.contains p) sc.docs sc.limit m sc.entry.res st := by
  unfold run
  rw [hm]

end ZCV.Res2
