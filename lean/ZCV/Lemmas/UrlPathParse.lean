import ZCV.Model.UrlPath
/-! `urlsplit` / `urlparse` on `file:///…` URLs and on plain path references; the fragment `urlsplit` finds in any string. -/
namespace ZCV.UrlPath
open ZCV

def fileScheme : Str := ['f', 'i', 'l', 'e']

theorem up_file_tables : usesParams.contains fileScheme = false ∧ usesNetloc.contains fileScheme = true ∧
    usesRelative.contains fileScheme = true := by
  decide +kernel

/-- a character with no meaning for `urlsplit` inside a path: not `#`, `?`, tab, CR, LF -/
def cleanChar (c : Char) : Bool := c != '#' && c != '?' && !tabCrLf c

theorem up_cleanChar_slash : cleanChar '/' = true := by decide

theorem up_clean_ne_hash (c : Char) (h : cleanChar c = true) : c ≠ '#' := by
  simp only [cleanChar, Bool.and_eq_true, bne_iff_ne, ne_eq] at h; exact h.1.1

theorem up_clean_ne_qmark (c : Char) (h : cleanChar c = true) : c ≠ '?' := by
  simp only [cleanChar, Bool.and_eq_true, bne_iff_ne, ne_eq] at h; exact h.1.2

theorem up_filter_clean (s : Str) (h : ∀ c ∈ s, cleanChar c = true) : s.filter (fun c => !tabCrLf c) = s := by
  rw [List.filter_eq_self]
  intro c hc
  have := h c hc
  simp only [cleanChar, Bool.and_eq_true] at this
  exact this.2

theorem up_contains_false (c : Char) (s : Str) (h : c ∉ s) : s.contains c = false := by
  rw [List.contains_eq_mem]; simp only [h, decide_false]

theorem up_contains_true (c : Char) (s : Str) (h : c ∈ s) : s.contains c = true := by
  rw [List.contains_eq_mem]; simp only [h, decide_true]

/-! ## the stages of `urlsplit` -/

theorem up_cleanUrl_id (s : Str) (h0 : ∀ c, s.head? = some c → c0OrSpace c = false)
    (h : ∀ c ∈ s, cleanChar c = true) : cleanUrl s = s := by
  unfold cleanUrl
  cases s with
  | nil => rfl
  | cons c t =>
    rw [List.dropWhile_cons_of_neg (by rw [h0 c rfl]; decide)]
    exact up_filter_clean _ h

theorem up_cleanScheme_nil : cleanScheme [] = [] := rfl

theorem up_cleanScheme_file : cleanScheme fileScheme = fileScheme := by decide

theorem up_splitScheme_file (rest dflt : Str) :
    splitScheme (fileScheme ++ ':' :: rest) dflt = (fileScheme, rest) := by
  unfold splitScheme
  have hp : List.takeWhile (· != ':') (fileScheme ++ ':' :: rest) = fileScheme := by
    rw [List.takeWhile_append_of_pos (by decide), List.takeWhile_cons_of_neg (by decide), List.append_nil]
  have hc : (fileScheme ++ ':' :: rest).contains ':' = true := up_contains_true _ _ (by simp)
  simp only [hp, hc]
  have h3 : lower fileScheme = fileScheme := by decide
  rw [if_pos (by decide), h3]
  rfl

theorem up_splitScheme_none (r dflt : Str) (h : ∀ c ∈ r.takeWhile (· != '/'), c ≠ ':') :
    splitScheme r dflt = (dflt, r) := by
  unfold splitScheme
  by_cases hc : r.contains ':' = true
  · have hall : (List.takeWhile (· != ':') r).all schemeChar = false := by
      rw [List.all_eq_false]
      refine ⟨'/', ?_, by decide⟩
      have hsplit := (List.takeWhile_append_dropWhile (p := (· != '/')) (l := r)).symm
      cases hd : List.dropWhile (· != '/') r with
      | nil =>
        rw [hd, List.append_nil] at hsplit
        rw [List.contains_iff_mem, hsplit] at hc
        exact absurd rfl (h ':' hc)
      | cons x b =>
        have hx : x = '/' := by
          have := List.head_dropWhile_not (p := (· != '/')) (l := r) (by rw [hd]; simp)
          simp only [hd, List.head_cons, bne_eq_false_iff_eq] at this
          exact this
        subst hx
        rw [hd] at hsplit
        rw [hsplit, List.takeWhile_append_of_pos (by
          intro a ha
          simp only [bne_iff_ne, ne_eq]
          exact h a ha)]
        rw [List.takeWhile_cons_of_pos (by decide)]
        simp
    simp only [hall, Bool.and_false, Bool.false_eq_true, ↓reduceIte]
  · simp only [hc, Bool.false_and, Bool.false_eq_true, ↓reduceIte]

theorem up_splitNetloc_slashes (t : Str) : splitNetloc ('/' :: '/' :: '/' :: t) = ([], '/' :: t) := by
  unfold splitNetloc
  simp only [List.take_succ_cons, List.take_zero, beq_self_eq_true, ↓reduceIte, List.drop_succ_cons, List.drop_zero]
  rw [List.takeWhile_cons_of_neg (by decide), List.dropWhile_cons_of_neg (by decide)]

theorem up_splitNetloc_none (r : Str) (h : r.take 2 ≠ ['/', '/']) : splitNetloc r = ([], r) := by
  unfold splitNetloc
  rw [if_neg]
  simp only [beq_iff_eq]
  exact h

theorem up_splitAt1_none (c : Char) (s : Str) (h : c ∉ s) : splitAt1 c s = (s, []) := by
  unfold splitAt1
  rw [up_contains_false c s h]
  simp only [Bool.false_eq_true, ↓reduceIte]

theorem up_splitAt1_clean (s : Str) (hc : ∀ c ∈ s, cleanChar c = true) :
    splitAt1 '#' s = (s, []) ∧ splitAt1 '?' s = (s, []) :=
  ⟨up_splitAt1_none _ _ fun hm => up_clean_ne_hash _ (hc _ hm) rfl,
    up_splitAt1_none _ _ fun hm => up_clean_ne_qmark _ (hc _ hm) rfl⟩

/-! ## whole URLs -/

/-- with the scheme `file`, which takes no parameters, `urlparse` returns what `urlsplit` does -/
theorem up_urlparse_of_urlsplit {u d n p q f : Str} (h : urlsplit u d = ⟨fileScheme, n, p, [], q, f⟩) :
    urlparse u d = ⟨fileScheme, n, p, [], q, f⟩ := by
  unfold urlparse
  rw [h]
  simp only [up_file_tables.1, Bool.false_and, Bool.false_eq_true, ↓reduceIte]

theorem up_urlsplit_file (t dflt : Str) (hc : ∀ c ∈ t, cleanChar c = true) :
    urlsplit (fileSlashes ++ '/' :: t) dflt = ⟨fileScheme, [], '/' :: t, [], [], []⟩ := by
  have hpath : ∀ c ∈ '/' :: t, cleanChar c = true := List.forall_mem_cons.2 ⟨up_cleanChar_slash, hc⟩
  have h1 : cleanUrl (fileSlashes ++ '/' :: t) = fileSlashes ++ '/' :: t :=
    up_cleanUrl_id _ (fun c hh => by cases Option.some.inj hh; decide)
      (List.forall_mem_append.2 ⟨by decide, hpath⟩)
  have h2 : fileSlashes ++ '/' :: t = fileScheme ++ ':' :: ('/' :: '/' :: '/' :: t) := rfl
  unfold urlsplit
  simp only [h1]
  rw [h2, up_splitScheme_file]
  simp only [up_splitNetloc_slashes, (up_splitAt1_clean _ hpath).1, (up_splitAt1_clean _ hpath).2]

theorem up_urlparse_file (t dflt : Str) (hc : ∀ c ∈ t, cleanChar c = true) :
    urlparse (fileSlashes ++ '/' :: t) dflt = ⟨fileScheme, [], '/' :: t, [], [], []⟩ :=
  up_urlparse_of_urlsplit (up_urlsplit_file t dflt hc)

theorem up_urlsplit_ref (r : Str) (h0 : ∀ c, r.head? = some c → c0OrSpace c = false)
    (hc : ∀ c ∈ r, cleanChar c = true) (hns : ∀ c ∈ r.takeWhile (· != '/'), c ≠ ':')
    (hnl : r.take 2 ≠ ['/', '/']) :
    urlsplit r fileScheme = ⟨fileScheme, [], r, [], [], []⟩ := by
  unfold urlsplit
  simp only [up_cleanUrl_id r h0 hc, up_cleanScheme_file, up_splitScheme_none r fileScheme hns,
    up_splitNetloc_none r hnl, (up_splitAt1_clean r hc).1, (up_splitAt1_clean r hc).2]

theorem up_urlparse_ref (r : Str) (h0 : ∀ c, r.head? = some c → c0OrSpace c = false)
    (hc : ∀ c ∈ r, cleanChar c = true) (hns : ∀ c ∈ r.takeWhile (· != '/'), c ≠ ':')
    (hnl : r.take 2 ≠ ['/', '/']) :
    urlparse r fileScheme = ⟨fileScheme, [], r, [], [], []⟩ :=
  up_urlparse_of_urlsplit (up_urlsplit_ref r h0 hc hns hnl)

/-! ## the fragment of an arbitrary string -/

/-- `s` is `v#f` with no `#` in `v` -/
def FragShape (s f : Str) : Prop := ∃ v, s = v ++ '#' :: f ∧ '#' ∉ v

theorem up_fragShape_clean (u frag : Str) (h : '#' ∉ u) :
    FragShape (cleanUrl (u ++ '#' :: frag)) (frag.filter (fun c => !tabCrLf c)) := by
  unfold cleanUrl
  have e : List.dropWhile c0OrSpace (u ++ '#' :: frag) = List.dropWhile c0OrSpace u ++ '#' :: frag := by
    rw [List.dropWhile_append]
    split
    · rename_i hh
      rw [List.isEmpty_iff] at hh
      rw [hh, List.dropWhile_cons_of_neg (by decide)]
      rfl
    · rfl
  rw [e, List.filter_append, List.filter_cons_of_pos (by decide)]
  refine ⟨_, rfl, ?_⟩
  intro hm
  exact h ((List.dropWhile_sublist _).subset (List.mem_filter.1 hm).1)

theorem up_fragShape_scheme (s f dflt : Str) (h : FragShape s f) : FragShape (splitScheme s dflt).2 f := by
  obtain ⟨v, rfl, hv⟩ := h
  unfold splitScheme
  simp only
  by_cases hcond : ((v ++ '#' :: f).contains ':' &&
      (List.takeWhile (fun x => x != ':') (v ++ '#' :: f)).head?.any isAsciiLetter &&
      (List.takeWhile (fun x => x != ':') (v ++ '#' :: f)).all schemeChar) = true
  · rw [if_pos hcond]
    simp only [Bool.and_eq_true] at hcond
    obtain ⟨⟨_, _⟩, hall⟩ := hcond
    rw [List.takeWhile_append] at hall ⊢
    split at hall
    · exfalso
      rw [List.takeWhile_cons_of_pos (by decide)] at hall
      simp only [List.all_append, List.all_cons, Bool.and_eq_true] at hall
      exact absurd hall.2.1 (by decide)
    · rename_i hlen
      rw [if_neg hlen]
      have hle : (List.takeWhile (fun x => x != ':') v).length + 1 ≤ v.length := by
        have := (List.takeWhile_sublist (l := v) (fun x => x != ':')).length_le
        omega
      refine ⟨v.drop ((List.takeWhile (fun x => x != ':') v).length + 1), ?_, ?_⟩
      · show List.drop _ (v ++ '#' :: f) = _
        rw [List.drop_append_of_le_length hle]
      · exact fun hm => hv (List.mem_of_mem_drop hm)
  · rw [if_neg hcond]
    exact ⟨v, rfl, hv⟩

theorem up_fragShape_netloc (s f : Str) (h : FragShape s f) : FragShape (splitNetloc s).2 f := by
  obtain ⟨v, rfl, hv⟩ := h
  unfold splitNetloc
  split
  · rename_i hcond
    simp only [beq_iff_eq] at hcond
    obtain ⟨v', rfl⟩ : ∃ v', v = '/' :: '/' :: v' := by
      cases v with
      | nil => simp at hcond
      | cons a v1 =>
        cases v1 with
        | nil => simp at hcond
        | cons b v2 =>
          simp only [List.cons_append, List.take_succ_cons, List.take_zero, List.cons.injEq, and_true] at hcond
          exact ⟨v2, by rw [hcond.1, hcond.2]⟩
    have hv' : '#' ∉ v' := fun hm => hv (by simp [hm])
    show FragShape (List.dropWhile (fun c => !isDelim c) (v' ++ '#' :: f)) f
    rw [List.dropWhile_append]
    split
    · rw [List.dropWhile_cons_of_neg (by decide)]
      exact ⟨[], rfl, by simp⟩
    · exact ⟨_, rfl, fun hm => hv' ((List.dropWhile_sublist _).subset hm)⟩
  · exact ⟨v, rfl, hv⟩

theorem up_fragShape_split (s f : Str) (h : FragShape s f) : (splitAt1 '#' s).2 = f := by
  obtain ⟨v, rfl, hv⟩ := h
  unfold splitAt1
  rw [up_contains_true _ _ (by simp)]
  simp only [↓reduceIte, cut]
  rw [List.dropWhile_append_of_pos (by intro a ha; simp only [bne_iff_ne, ne_eq]; intro e; subst e; exact hv ha),
    List.dropWhile_cons_of_neg (by decide)]
  rfl

theorem up_urlsplit_fragment (u frag dflt : Str) (h : '#' ∉ u) :
    (urlsplit (u ++ '#' :: frag) dflt).fragment = frag.filter (fun c => !tabCrLf c) := by
  unfold urlsplit
  simp only
  exact up_fragShape_split _ _ (up_fragShape_netloc _ _ (up_fragShape_scheme _ _ _ (up_fragShape_clean u frag h)))

theorem up_urlparse_fragment (u dflt : Str) : (urlparse u dflt).fragment = (urlsplit u dflt).fragment := by
  unfold urlparse
  simp only
  by_cases hc : (usesParams.contains (urlsplit u dflt).scheme && (urlsplit u dflt).path.contains ';') = true
  · rw [if_pos hc]
  · rw [if_neg hc]

theorem up_defrag_fragment (u frag : Str) (h : '#' ∉ u) :
    defragFrag (u ++ '#' :: frag) = frag.filter (fun c => !tabCrLf c) := by
  unfold defragFrag defrag
  rw [up_contains_true _ _ (by simp)]
  simp only [↓reduceIte]
  rw [up_urlparse_fragment, up_urlsplit_fragment u frag [] h]

end ZCV.UrlPath
