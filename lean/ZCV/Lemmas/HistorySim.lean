import ZCV.Lemmas.ParseRel
/-!
An EXACT simulation principle for the parser, for any context: one context is run from two related states and the two runs are
compared exactly — both fail with the same error, or both succeed in related states (`ExRel R`, which is
`RelM R (fun _ => False) True`: `ExRel.rel`, `RelM.exRel`).  If every operation of the context respects the relation in that
sense (`OpsSimE`), so does every resource and every prefix of one (any fuel, any include depth): `parse_lineRel` and
`run_lineRel` of `ParseRel.lean` with failures and positions compared.
-/
namespace ZCV.Cfg
open ZCV

/-- both fail in the same way, or both succeed with related results -/
def ExRel {α β : Type} (R : α → β → Prop) : M α → M β → Prop
  | .ok a, .ok b => R a b
  | .error e, .error f => e = f
  | _, _ => False

theorem ExRel.ok {α β : Type} {R : α → β → Prop} {a : α} {b : β} (h : R a b) : ExRel R (.ok a) (.ok b) := h
theorem ExRel.error {α β : Type} {R : α → β → Prop} (e : Fail) : ExRel R (.error e : M α) (.error e : M β) := rfl

theorem ExRel.rel {α β : Type} {R : α → β → Prop} {x : M α} {y : M β} (h : ExRel R x y) :
    RelM R (fun _ => False) True x y := by
  cases x <;> cases y <;> first | exact fun _ => h | exact h

theorem RelM.exRel {α β : Type} {R : α → β → Prop} {x : M α} {y : M β} (h : RelM R (fun _ => False) True x y) :
    ExRel R x y := by
  cases x <;> cases y <;> first | exact h trivial | exact h

theorem ExRel.bind {α β α' β' : Type} {R : α → β → Prop} {R' : α' → β' → Prop} {x : M α} {y : M β}
    {f : α → M α'} {g : β → M β'} (h : ExRel R x y) (hf : ∀ a b, R a b → ExRel R' (f a) (g b)) :
    ExRel R' (x >>= f) (y >>= g) :=
  (h.rel.bind (fun a b hab => (hf a b hab).rel) fun _ _ hd => hd.elim).exRel

/-- `bind`, with the continuation knowing which results it continues from -/
theorem ExRel.bind' {α β α' β' : Type} {R : α → β → Prop} {R' : α' → β' → Prop} {x : M α} {y : M β}
    {f : α → M α'} {g : β → M β'} (h : ExRel R x y)
    (hf : ∀ a b, x = .ok a → y = .ok b → R a b → ExRel R' (f a) (g b)) : ExRel R' (x >>= f) (y >>= g) := by
  cases x <;> cases y
  · exact h
  · exact h.elim
  · exact h.elim
  · exact hf _ _ rfl rfl h

theorem ExRel.map_right {α β : Type} {R : α → β → Prop} (x : M α) (f : α → β) (hf : ∀ a, x = .ok a → R a (f a)) :
    ExRel R x (x.map f) := by
  cases x with
  | error e => rfl
  | ok a => exact hf a rfl

theorem ExRel.map {α β α' β' : Type} {R : α → β → Prop} {R' : α' → β' → Prop} {x : M α} {y : M β}
    {f : α → α'} {g : β → β'} (h : ExRel R x y) (hf : ∀ a b, R a b → R' (f a) (g b)) :
    ExRel R' (x.map f) (y.map g) :=
  (h.rel.map hf fun _ hd => hd.elim).exRel

theorem ExRel.mono {α β : Type} {R R' : α → β → Prop} {x : M α} {y : M β} (h : ExRel R x y)
    (hr : ∀ a b, R a b → R' a b) : ExRel R' x y := by
  cases x <;> cases y
  · exact h
  · exact h.elim
  · exact h.elim
  · exact hr _ _ h

/-- every operation of the context respects `R`, exactly -/
structure OpsSimE {σ : Type} (c : PCtx σ) (R : σ → σ → Prop) : Prop where
  start : ∀ a b ty nm, R a b → ExRel R (c.start a ty nm) (c.start b ty nm)
  stop : ∀ a b ty nm, R a b → ExRel R (c.stop a ty nm) (c.stop b ty nm)
  value : ∀ a b k v p, R a b → ExRel R (c.value a k v p) (c.value b k v p)
  imp : ∀ a b pkg, R a b → ExRel R (c.imp a pkg) (c.imp b pkg)

def PSR {σ : Type} (R : σ → σ → Prop) (p p' : PS σ) : Prop := p'.stack = p.stack ∧ p'.defs = p.defs ∧ R p.ctx p'.ctx

section sim
variable {σ : Type} {c : PCtx σ} {R : σ → σ → Prop}

theorem OpsSimE.lineRel (H : OpsSimE c R) : LineRel c c (fun _ => True) (fun _ => R) (fun _ => False) True True where
  canInc := rfl
  canDef := rfl
  start _ _ h := (H.start _ _ _ _ h).rel
  stop _ _ h := (H.stop _ _ _ _ h).rel
  value _ _ hp h := by cases hp trivial; exact (H.value _ _ _ _ _ h).rel
  imp _ _ h := (H.imp _ _ _ h).rel
  dead := .of_false c _
  deadX _ h := h.elim

theorem PSR_iff {S : Frames} {p p' : PS σ} : PRel (fun _ => R) S p p' ↔ PSR R p p' :=
  ⟨fun h => ⟨h.1.symm, h.2.1.symm, h.2.2⟩, fun h => ⟨h.1.symm, h.2.1.symm, h.2.2⟩⟩

theorem parse_simE (H : OpsSimE c R) (env : Env) (fuel : Nat) (active : List Str) (url : Option Str) (lines : List Str)
    (n : Nat) (st st' : PS σ) (h : PSR R st st') :
    ExRel (PSR R) (parseLines fuel env c active url lines n st) (parseLines fuel env c active url lines n st') :=
  (parse_lineRel H.lineRel env (fun _ _ _ _ _ _ _ _ _ => trivial) fuel active url url lines n n st st' [] (fun _ => rfl)
    .rfl' (fun _ _ => trivial) (PSR_iff.2 h)).exRel.mono fun _ _ h => PSR_iff.1 h.1

theorem run_simE (H : OpsSimE c R) (env : Env) (fuel : Nat) (active : List Str) (url : Option Str) (lines : List Str)
    (n : Nat) (st st' : PS σ) (h : PSR R st st') :
    ExRel (PSR R) (runLines fuel env c active url lines n st) (runLines fuel env c active url lines n st') :=
  (run_lineRel H.lineRel env (fun _ _ _ _ _ _ _ _ _ => trivial) fuel active url url lines n n st st' [] (fun _ => rfl)
    .rfl' (fun _ _ => trivial) (PSR_iff.2 h)).exRel.mono fun _ _ h => PSR_iff.1 h

end sim

end ZCV.Cfg
