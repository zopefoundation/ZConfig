import ZCV.Lemmas.LayoutErase
/-!
C15: the value the schema defines for a text (`Conf.denote`) does not depend on the order of the lines of different
keys within one section, nor on the order of a key line relative to a neighbouring sub-section (`SwJ`, of which `SwapIn` is
the part the statements about trees use), nor on how a key is spelt as long as the key type normalises it alike (`RekeyIn`).
-/
namespace ZCV.Conf
open ZCV ZCV.Cfg

/-! ### two adjacent key lines going to different attributes -/

/-- the attribute a key line ends up in: its key normalised by the container's key type, then routed
    (`none`: the key type rejects the key, or no declared key and no `+` key takes it) -/
def target (conv : Conv) (t : SType) (k : Str) : Option Str :=
  match (conv.key t.keytype k).toOption with
  | some rk => (route t.children rk).map (·.2.attr)
  | none => none

/-- the routing target of an already normalised key-line entry -/
def targetE (t : SType) (e : Option Str × VI) : Option Str :=
  match e.1 with
  | some rk => (route t.children rk).map (·.2.attr)
  | none => none

theorem routed_swap (t : SType) (c : Option Str × Info) (KA KB : List (Option Str × VI)) (a b : Option Str × VI)
    (h : targetE t a ≠ targetE t b) :
    routed t.children c (KA ++ a :: b :: KB) = routed t.children c (KA ++ b :: a :: KB) := by
  unfold routed
  rw [List.filterMap_append, List.filterMap_append]
  congr 1
  -- not both entries are routed to `c`
  let f : Option Str × VI → Option (Str × VI) := fun x =>
    match x.1 with
    | some rk => (match route t.children rk with
                  | some c' => if c'.2.attr == c.2.attr then some (rk, x.2) else none
                  | none => none)
    | none => none
  have hf : ∀ x, f x ≠ none → targetE t x = some c.2.attr := by
    intro x hx
    obtain ⟨rk?, vi⟩ := x
    cases rk? with
    | none => exact absurd rfl hx
    | some rk =>
      simp only [f] at hx
      simp only [targetE]
      cases hr : route t.children rk with
      | none => rw [hr] at hx; exact absurd rfl hx
      | some c' =>
        rw [hr] at hx
        simp only at hx
        by_cases hc : (c'.2.attr == c.2.attr) = true
        · simp only [Option.map_some]
          rw [beq_iff_eq.mp hc]
        · simp only [hc, Bool.false_eq_true, ↓reduceIte] at hx
          exact absurd rfl hx
  show List.filterMap f (a :: b :: KB) = List.filterMap f (b :: a :: KB)
  by_cases ha : f a = none
  · simp only [List.filterMap_cons, ha]
  · by_cases hb : f b = none
    · simp only [List.filterMap_cons, hb]
    · exact absurd ((hf a ha).trans (hf b hb).symm) h

theorem containerCore_swap (conv : Conv) (s : Schema) (t : SType) (nm : Option Str)
    (KA KB : List (Option Str × VI)) (a b : Option Str × VI) (subs : List Sub)
    (h : targetE t a ≠ targetE t b) :
    containerCore conv s t nm (KA ++ a :: b :: KB) subs = containerCore conv s t nm (KA ++ b :: a :: KB) subs := by
  refine containerCore_congr conv s t nm _ _ subs ?_ fun c => congrArg _ (routed_swap t c KA KB a b h)
  simp only [chk1, List.all_append, List.all_cons]
  exact congrArg _ (Bool.and_left_comm ..)

/-! ### adjacent swaps -/

/-- two neighbouring lines of one container that may change places: key lines going to DIFFERENT attributes (in
    particular: differently named declared keys), or a key line and a sub-section.  Two sub-sections may not (their
    order is the order of a multisection's values), nor two lines of the same key (ditto for a multikey). -/
def Indep (conv : Conv) (t : SType) : Item → Item → Prop
  | .kv k1 _ _, .kv k2 _ _ => target conv t k1 ≠ target conv t k2
  | .kv _ _ _, .sect _ _ _ => True
  | .sect _ _ _, .kv _ _ _ => True
  | .sect _ _ _, .sect _ _ _ => False

theorem containerVal_swap (conv : Conv) (s : Schema) (t : SType) (nm : Option Str) (A B : List Item) (x y : Item)
    (h : Indep conv t x y) :
    containerVal conv s t nm (A ++ x :: y :: B) (itemVals conv s (A ++ x :: y :: B)) =
      containerVal conv s t nm (A ++ y :: x :: B) (itemVals conv s (A ++ y :: x :: B)) := by
  rw [containerVal_subsI, containerVal_subsI]
  cases x with
  | kv k1 v1 p1 =>
    cases y with
    | kv k2 v2 p2 =>
      simp only [subsI_append, subsI_kv, keyLines_append, keyLines_kv]
      exact containerCore_swap conv s t nm _ _ _ _ _ h
    | sect ty nm' its => simp only [subsI_append, subsI_kv, subsI_sect, keyLines_append, keyLines_kv, keyLines_sect]
  | sect ty nm' its =>
    cases y with
    | kv k2 v2 p2 => simp only [subsI_append, subsI_kv, subsI_sect, keyLines_append, keyLines_kv, keyLines_sect]
    | sect ty2 nm2 its2 => exact h.elim

/-- one adjacent swap somewhere in the tree: at this level, or inside a sub-section (whose items are read against
    the sub-section's own type) -/
inductive SwapIn (conv : Conv) (s : Schema) : SType → List Item → List Item → Prop
  | here {t : SType} (A B : List Item) (x y : Item) : Indep conv t x y →
      SwapIn conv s t (A ++ x :: y :: B) (A ++ y :: x :: B)
  | inside {t t' : SType} (A B : List Item) (ty : Str) (nm : Option Str) (items items' : List Item) :
      s.gettype ty = some (.concrete t') → SwapIn conv s t' items items' →
      SwapIn conv s t (A ++ .sect ty nm items :: B) (A ++ .sect ty nm items' :: B)

theorem itemVal_sect_congr (conv : Conv) (s : Schema) (ty : Str) (nm : Option Str) (items items' : List Item) (t' : SType)
    (hty : s.gettype ty = some (.concrete t'))
    (h : containerVal conv s t' nm items (itemVals conv s items) = containerVal conv s t' nm items' (itemVals conv s items')) :
    itemVal conv s (.sect ty nm items) = itemVal conv s (.sect ty nm items') := by
  rw [itemVal, itemVal]
  simp only [hty, h]

theorem containerVal_sect_congr (conv : Conv) (s : Schema) (t : SType) (nm : Option Str) (A B : List Item) (ty : Str)
    (nm' : Option Str) (items items' : List Item)
    (hv : itemVal conv s (.sect ty nm' items) = itemVal conv s (.sect ty nm' items')) :
    containerVal conv s t nm (A ++ .sect ty nm' items :: B) (itemVals conv s (A ++ .sect ty nm' items :: B)) =
      containerVal conv s t nm (A ++ .sect ty nm' items' :: B) (itemVals conv s (A ++ .sect ty nm' items' :: B)) := by
  rw [containerVal_subsI, containerVal_subsI]
  simp only [subsI_append, subsI_sect, keyLines_append, keyLines_sect, hv]

/-- `SwapIn`, plus: anything may change inside a section whose type is not a concrete type of the schema (such a
    section never conforms, whatever it holds) -/
inductive SwJ (conv : Conv) (s : Schema) : SType → List Item → List Item → Prop
  | here {t : SType} (A B : List Item) (x y : Item) : Indep conv t x y →
      SwJ conv s t (A ++ x :: y :: B) (A ++ y :: x :: B)
  | inside {t t' : SType} (A B : List Item) (ty : Str) (nm : Option Str) (items items' : List Item) :
      s.gettype ty = some (.concrete t') → SwJ conv s t' items items' →
      SwJ conv s t (A ++ .sect ty nm items :: B) (A ++ .sect ty nm items' :: B)
  | junk {t : SType} (A B : List Item) (ty : Str) (nm : Option Str) (items items' : List Item) :
      (∀ t', s.gettype ty ≠ some (.concrete t')) →
      SwJ conv s t (A ++ .sect ty nm items :: B) (A ++ .sect ty nm items' :: B)

theorem itemVal_junk (conv : Conv) (s : Schema) (ty : Str) (nm : Option Str) (items : List Item)
    (h : ∀ t', s.gettype ty ≠ some (.concrete t')) : itemVal conv s (.sect ty nm items) = none := by
  rw [itemVal]
  split
  · rename_i t ht; exact absurd ht (h t)
  · rfl

theorem containerVal_SwJ (conv : Conv) (s : Schema) {t : SType} {items items' : List Item}
    (h : SwJ conv s t items items') :
    ∀ nm, containerVal conv s t nm items (itemVals conv s items) = containerVal conv s t nm items' (itemVals conv s items') := by
  induction h with
  | here A B x y hi => intro nm; exact containerVal_swap conv s _ nm A B x y hi
  | @inside t t' A B ty nm' its its' hty _ ih =>
    intro nm
    exact containerVal_sect_congr conv s t nm A B ty nm' its its' (itemVal_sect_congr conv s ty nm' its its' t' hty (ih nm'))
  | @junk t A B ty nm' its its' hty =>
    intro nm
    exact containerVal_sect_congr conv s t nm A B ty nm' its its'
      ((itemVal_junk conv s ty nm' its hty).trans (itemVal_junk conv s ty nm' its' hty).symm)

theorem denote_SwJ (conv : Conv) (s : Schema) {items items' : List Item} (h : SwJ conv s s.top items items') :
    denote conv s items = denote conv s items' := by
  unfold denote
  rw [containerVal_SwJ conv s h none]

theorem SwapIn.swJ {conv : Conv} {s : Schema} {t : SType} {items items' : List Item} (h : SwapIn conv s t items items') :
    SwJ conv s t items items' := by
  induction h with
  | here A B x y hi => exact .here A B x y hi
  | inside A B ty nm its its' hty _ ih => exact .inside A B ty nm its its' hty ih

theorem denote_swapIn (conv : Conv) (s : Schema) {items items' : List Item} (h : SwapIn conv s s.top items items') :
    denote conv s items = denote conv s items' :=
  denote_SwJ conv s h.swJ

inductive Reorder (conv : Conv) (s : Schema) : List Item → List Item → Prop
  | refl (items : List Item) : Reorder conv s items items
  | step {a b c : List Item} : Reorder conv s a b → SwapIn conv s s.top b c → Reorder conv s a c

theorem denote_reorder (conv : Conv) (s : Schema) {items items' : List Item} (h : Reorder conv s items items') :
    denote conv s items = denote conv s items' := by
  induction h with
  | refl => rfl
  | step _ hs ih => rw [ih, denote_swapIn conv s hs]

/-! ### `tyCanon`, the hypothesis under which the loader computes `denote`, is kept by a swap -/

theorem tyCanon_swap2 (s : Schema) (A B : List Item) (x y : Item) :
    tyCanon s (A ++ x :: y :: B) = tyCanon s (A ++ y :: x :: B) := by
  rw [tyCanon_append, tyCanon_append, tyCanon_cons s x, tyCanon_cons s y B, tyCanon_cons s y (x :: B), tyCanon_cons s x B]
  cases tyCanon s [x] <;> cases tyCanon s [y] <;> cases tyCanon s A <;> cases tyCanon s B <;> rfl

theorem tyCanon_swapIn (conv : Conv) (s : Schema) {t : SType} {items items' : List Item}
    (h : SwapIn conv s t items items') : tyCanon s items = tyCanon s items' := by
  induction h with
  | here A B x y _ => exact tyCanon_swap2 s A B x y
  | inside A B ty nm its its' _ _ ih =>
    rw [tyCanon_append, tyCanon_append, tyCanon_sect, tyCanon_sect, ih]

theorem tyCanon_reorder (conv : Conv) (s : Schema) {items items' : List Item}
    (h : Reorder conv s items items') : tyCanon s items = tyCanon s items' := by
  induction h with
  | refl => rfl
  | step _ hs ih => rw [ih, tyCanon_swapIn conv s hs]

/-! ### respelling a key -/

/-- one key line, somewhere in the tree, gets a key that the container's key type normalises to the same thing
    (e.g. another letter case under `basic-key`) -/
inductive RekeyIn (conv : Conv) (s : Schema) : SType → List Item → List Item → Prop
  | here {t : SType} (A B : List Item) (k k' v : Str) (p : Pos) :
      (conv.key t.keytype k').toOption = (conv.key t.keytype k).toOption →
      RekeyIn conv s t (A ++ .kv k v p :: B) (A ++ .kv k' v p :: B)
  | inside {t t' : SType} (A B : List Item) (ty : Str) (nm : Option Str) (items items' : List Item) :
      s.gettype ty = some (.concrete t') → RekeyIn conv s t' items items' →
      RekeyIn conv s t (A ++ .sect ty nm items :: B) (A ++ .sect ty nm items' :: B)

theorem containerVal_rekeyIn (conv : Conv) (s : Schema) {t : SType} {items items' : List Item}
    (h : RekeyIn conv s t items items') :
    ∀ nm, containerVal conv s t nm items (itemVals conv s items) = containerVal conv s t nm items' (itemVals conv s items') := by
  induction h with
  | @here t A B k k' v p hk =>
    intro nm
    rw [containerVal_subsI, containerVal_subsI]
    simp only [subsI_append, subsI_kv, keyLines_append, keyLines_kv, hk]
  | @inside t t' A B ty nm' its its' hty _ ih =>
    intro nm
    exact containerVal_sect_congr conv s t nm A B ty nm' its its' (itemVal_sect_congr conv s ty nm' its its' t' hty (ih nm'))

end ZCV.Conf
