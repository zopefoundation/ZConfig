import ZCV.Lemmas.ElabRules
/-!
C12, schema-loader side: `isSubtype` of the finished schema is read off the loader's own table (`esSub`,
`isSubtype_toSchema`), and a concrete entry appended to the table changes no implementer list (`esSub_append_concrete`).
With `startSectiontype_ok` of ElabRules.lean (`start_sectiontype` of schema.py in its three steps: the `extends` step appends
one concrete entry, the `implements` step is `addSubtype`) this gives what `extends` and `implements` register.
-/
namespace ZCV.Elab
open ZCV ZCV.Cfg

def esSub (es : ES) (a ty : Str) : Bool :=
  match es.gettype a with
  | some (_, .abstract_ _ subs _) => subs.contains ty
  | _ => false

theorem isSubtype_toSchema (es : ES) (a ty : Str) : isSubtype es.toSchema a ty = esSub es a ty := by
  unfold isSubtype esSub
  rw [toSchema_gettype]
  rcases es.gettype a with _ | ⟨k, _ | _⟩ <;> rfl

theorem esSub_append_concrete (es : ES) (n : Str) (t : EType) (a ty : Str) :
    esSub { es with types := es.types ++ [(n, .concrete t)] } a ty = esSub es a ty := by
  unfold esSub ES.gettype
  simp only [List.find?_append]
  cases List.find? (fun x : Str × EEntry => x.1 == lower a) es.types with
  | some p => rfl
  | none =>
    simp only [Option.none_or, List.find?_cons, List.find?_nil]
    cases n == lower a <;> rfl

end ZCV.Elab
