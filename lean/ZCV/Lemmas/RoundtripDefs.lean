import ZCV.Model.Schemaless
import ZCV.Spec.Grammar
/-!
Vocabulary of the schema-less round trip (C17): the trees the loader can produce (`WF`), the tree a reload
yields (`canon`: the same tree with every section's keys in the order `sorted()` gives), the order-blind
comparison of trees (`Same`), and the stripped non-blank lines of the printed text (`essTop`).
-/
namespace ZCV.Roundtrip
open ZCV ZCV.Cfg

/-- what `strip` and the key/value pattern leave of a value: no newline, no whitespace at either end (may be empty) -/
def cleanVal (v : Str) : Bool := !v.contains '\n' && !(v.head?.any pySpace) && !(v.getLast?.any pySpace)

/-- a non-empty run of word characters (neither whitespace nor a parenthesis) -/
def wordTok (s : Str) : Bool := !s.isEmpty && s.all Grammar.isWord

/-- a key: a word that does not start like a comment, a section or a directive -/
def keyOK (k : Str) : Bool := wordTok k && k.take 1 != ['#'] && k.take 1 != ['<'] && k.take 1 != ['%']

/-- a section type or name: a lower-case word -/
def tokOK (s : Str) : Bool := wordTok s && lower s == s

/-- a section type moreover does not start with `/` (that would be a section end) -/
def tyOK (s : Str) : Bool := tokOK s && s.take 1 != ['/']

def nameOK : Option Str → Bool
  | none => true
  | some n => tokOK n

/-- keys are distinct, every key has at least one value, values are clean -/
def kvsOK (kvs : List (Str × List Str)) : Bool :=
  kvs.all (fun p => keyOK p.1 && !p.2.isEmpty && p.2.all cleanVal) && decide (kvs.map (·.1)).Nodup

mutual
/-- a section below the top -/
def wfSub : Sec → Bool
  | .mk ty nm kvs ss => tyOK ty && nameOK nm && kvsOK kvs && wfSubs ss
def wfSubs : List Sec → Bool
  | [] => true
  | s :: r => wfSub s && wfSubs r
end

/-- imported package names: distinct, non-empty, clean -/
def impsOK (imps : List Str) : Bool := imps.all (fun p => !p.isEmpty && cleanVal p) && decide imps.Nodup

/-- the trees (with their import lists) the schema-less loader produces: the top section has neither type nor name -/
def WF (t : Sec) (imps : List Str) : Prop :=
  t.type = [] ∧ t.name = none ∧ kvsOK t.kvs = true ∧ wfSubs t.sections = true ∧ impsOK imps = true

instance (t : Sec) (imps : List Str) : Decidable (WF t imps) := by unfold WF; infer_instance

mutual
/-- the same tree with the keys of every section in `sorted()` order -/
def canon : Sec → Sec
  | .mk ty nm kvs ss => .mk ty nm (sortKeys kvs) (canonL ss)
def canonL : List Sec → List Sec
  | [] => []
  | s :: r => canon s :: canonL r
end

mutual
/-- equality of `Section` trees as Python sees their parts: type, name, the key ↦ value-list dictionary
    (a permutation of the association list, keys being distinct), and the sections in order -/
def Same : Sec → Sec → Prop
  | .mk ty nm kvs ss, .mk ty' nm' kvs' ss' => ty = ty' ∧ nm = nm' ∧ kvs.Perm kvs' ∧ SameL ss ss'
def SameL : List Sec → List Sec → Prop
  | [], [] => True
  | s :: r, s' :: r' => Same s s' ∧ SameL r r'
  | _, _ => False
end

mutual
/-- every section's keys are in `sorted()` order already -/
def sortedSec : Sec → Prop
  | .mk _ _ kvs ss => sortKeys kvs = kvs ∧ sortedSecs ss
def sortedSecs : List Sec → Prop
  | [] => True
  | s :: r => sortedSec s ∧ sortedSecs r
end

/-! ### the lines of the printed text, stripped, blank ones left out -/

def kvLine (k v : Str) : Str := if v = [] then k else k ++ ' ' :: escDollar v

def hdrBody (ty : Str) (nm : Option Str) : Str :=
  match nm with
  | some n => if n.isEmpty then ty else ty ++ ' ' :: n
  | none => ty

def hdrLine (ty : Str) (nm : Option Str) : Str :=
  '<' :: hdrBody ty nm ++ (if (hdrBody ty nm).getLast? = some '/' then [' ', '>'] else ['>'])

def closeLine (ty : Str) : Str := '<' :: '/' :: ty ++ ['>']

def impLine (p : Str) : Str := "%import ".toList ++ escDollar p

/-- the (key, value) pairs of a dictionary, key by key, the values of a key in their order -/
def pairsOf (kvs : List (Str × List Str)) : List (Str × Str) := kvs.flatMap (fun p => p.2.map (fun v => (p.1, v)))

def kvLines (kvs : List (Str × List Str)) : List Str := (pairsOf (sortKeys kvs)).map (fun q => kvLine q.1 q.2)

mutual
def essSec : Sec → List Str
  | .mk ty nm kvs ss => hdrLine ty nm :: (kvLines kvs ++ (essSecs ss ++ [closeLine ty]))
def essSecs : List Sec → List Str
  | [] => []
  | s :: r => essSec s ++ essSecs r
end

def essTop (t : Sec) (imps : List Str) : List Str := imps.map impLine ++ (kvLines t.kvs ++ essSecs t.sections)

end ZCV.Roundtrip
