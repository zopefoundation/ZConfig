import ZCV.Lemmas.MatcherSpec
/-!
C07, matcher part: the *typing* invariant of a matcher (`MOK`: every child of the section type has a slot, and the slot
has the shape that goes with the child's kind, `slotFits`) is established by `newMatcher`, preserved by `addValueCore` /
`addValue` / `addSection` / `finishBag`, and under it none of these — nor `finishMatcher`, `mkBag`, `bagSectionInfo` — ends
in `.internal`.  What each operation does to a slot is in `ZCV.Lemmas.MatcherSpec`.  What is needed of a section type is only the
schema-independent part of `stypeOK` (`typeWF`): distinct attribute names, a key child is stored under its own non-empty name,
and a required single key has no default.
-/
namespace ZCV.Cfg
open ZCV ZCV.Conf

/-! ### well-formedness of types, type tables, schemas and components (decidable; implied by `stypeOK` / `schemaOK`) -/

/-- the schema-independent part of `stypeOK` that the loader relies on -/
def typeWF (t : SType) : Bool :=
  nodupB (t.children.map (·.2.attr)) &&
  t.children.all fun c =>
    match c.2 with
    | .key ki =>
      c.1 == some ki.name && !ki.name.isEmpty &&
      (ki.name == ['+'] || ki.multi || (match ki.dflt with | .one _ => ki.minOccurs == 0 | _ => true))
    | .sect _ => true

/-- a type table: every concrete type is stored under its own name and is well-formed -/
def typesWF (types : List (Str × TypeEntry)) : Bool :=
  types.all fun p => match p.2 with | .concrete t => t.name == some p.1 && typeWF t | .abstract_ _ _ => true

def schemaWF (s : Schema) : Bool := typeWF s.top && typesWF s.types

/-- a schema component that `%import` may bring in -/
def pkgWF : Pkg → Bool
  | .component _ types _ => typesWF types
  | _ => true

theorem stypeOK_typeWF (s : Schema) (t : SType) (h : stypeOK s t = true) : typeWF t = true := by
  unfold stypeOK distinctB at h
  simp only [Bool.and_eq_true, List.all_eq_true] at h
  unfold typeWF
  rw [Bool.and_eq_true, List.all_eq_true]
  refine ⟨h.1.1.1, fun c hc => ?_⟩
  have hc := h.2 c hc
  cases hi : c.2 with
  | sect si => rfl
  | key ki =>
    rw [hi] at hc
    simp only [Bool.and_eq_true] at hc ⊢
    refine ⟨hc.1, ?_⟩
    have h3 := hc.2
    cases hp : ki.name == ['+'] with
    | true => rfl
    | false =>
      cases hm : ki.multi with
      | true => rfl
      | false =>
        rw [hp, hm] at h3
        cases hd : ki.dflt <;> rw [hd] at h3 <;> first | rfl | exact h3 | cases h3

theorem schemaOK_schemaWF (s : Schema) (h : schemaOK s = true) : schemaWF s = true := by
  unfold schemaOK at h
  unfold schemaWF typesWF
  simp only [Bool.and_eq_true, List.all_eq_true] at h ⊢
  obtain ⟨⟨h1, _⟩, h3⟩ := h
  refine ⟨stypeOK_typeWF s _ h1, ?_⟩
  intro p hp
  have := h3 p hp
  obtain ⟨n, te⟩ := p
  cases te with
  | abstract_ n' subs => rfl
  | concrete t =>
    simp only [Bool.and_eq_true] at this ⊢
    exact ⟨this.1, stypeOK_typeWF s t this.2⟩

/-- what `typeWF` says, as propositions -/
structure TOK (t : SType) : Prop where
  attrs : (t.children.map (·.2.attr)).Nodup
  key : KeysNamed t.children
  dflt : ∀ c ∈ t.children, ∀ ki d, c.2 = .key ki → ki.name ≠ ['+'] → ki.multi = false → ki.dflt = .one d →
    ki.minOccurs = 0

theorem typeWF_TOK (t : SType) (h : typeWF t = true) : TOK t := by
  unfold typeWF at h
  simp only [Bool.and_eq_true, nodupB_iff, List.all_eq_true] at h
  obtain ⟨h1, h2⟩ := h
  refine ⟨h1, ?_, ?_⟩
  · intro c hc ki hki
    have := h2 c hc
    simp only [hki, Bool.and_eq_true, beq_iff_eq, Bool.not_eq_true', List.isEmpty_eq_false_iff] at this
    exact ⟨this.1.1, this.1.2⟩
  · intro c hc ki d hki hp hm hd
    have := h2 c hc
    simp only [hki, Bool.and_eq_true, Bool.or_eq_true, beq_iff_eq, hd] at this
    rcases this.2 with (h | h) | h
    · exact absurd h hp
    · rw [hm] at h; cases h
    · exact h

def TypesOK (types : List (Str × TypeEntry)) : Prop :=
  ∀ n t, (n, TypeEntry.concrete t) ∈ types → t.name = some n ∧ TOK t

theorem typesWF_TypesOK (types : List (Str × TypeEntry)) (h : typesWF types = true) : TypesOK types := by
  intro n t hm
  unfold typesWF at h
  rw [List.all_eq_true] at h
  have := h _ hm
  simp only [Bool.and_eq_true, beq_iff_eq] at this
  exact ⟨this.1, typeWF_TOK t this.2⟩

def SOK (s : Schema) : Prop := TOK s.top ∧ TypesOK s.types

theorem schemaWF_SOK (s : Schema) (h : schemaWF s = true) : SOK s := by
  unfold schemaWF at h
  simp only [Bool.and_eq_true] at h
  exact ⟨typeWF_TOK _ h.1, typesWF_TypesOK _ h.2⟩

/-! ### the typing invariant of a matcher -/

/-- an option bag: what is left for sub-sections has at least a section name and a key -/
def BagOK (b : Bag) : Prop := ∀ it ∈ b.sectitems, 2 ≤ it.path.length

structure MOK (s : Schema) (m : Matcher) : Prop where
  tok : TOK m.ty
  fits : ∀ c ∈ m.ty.children, ∃ sl, getSlot m c.2.attr = some sl ∧ slotFits s c.2 sl
  bag : ∀ b, m.bag = some b → BagOK b

/-- the schema only grows: concrete types stay what they are -/
def SExt (s s' : Schema) : Prop := ∀ name t, s.gettype name = some (.concrete t) → s'.gettype name = some (.concrete t)

theorem SExt.refl (s : Schema) : SExt s s := fun _ _ h => h
theorem SExt.trans {a b c : Schema} (h1 : SExt a b) (h2 : SExt b c) : SExt a c := fun n t h => h2 n t (h1 n t h)

theorem sectValOK_mono {s s' : Schema} (h : SExt s s') (v : Val) (hv : sectValOK s v) : sectValOK s' v := by
  cases v <;> try exact hv
  obtain ⟨t, ht⟩ := hv
  exact ⟨t, h _ _ ht⟩

theorem slotFits_mono {s s' : Schema} (h : SExt s s') (ci : Info) (sl : Slot) (hf : slotFits s ci sl) :
    slotFits s' ci sl := by
  cases ci with
  | key ki => cases sl <;> exact hf
  | sect si =>
    cases sl with
    | sects vs => exact ⟨hf.1, fun v hv => sectValOK_mono h v (hf.2 v hv)⟩
    | sect v => exact ⟨hf.1, sectValOK_mono h v hf.2⟩
    | none => exact hf
    | one _ | many _ | map _ | mmap _ | done _ => exact hf

theorem MOK.mono {s s' : Schema} (h : SExt s s') {m : Matcher} (hm : MOK s m) : MOK s' m :=
  ⟨hm.tok, fun c hc => by
    obtain ⟨sl, h1, h2⟩ := hm.fits c hc
    exact ⟨sl, h1, slotFits_mono h _ _ h2⟩, hm.bag⟩

/-- what stays the same when a matcher receives a value or a section -/
def SameHead (m m' : Matcher) : Prop := m'.ty = m.ty ∧ m'.name = m.name ∧ m'.bag = m.bag

theorem SameHead.trans {a b c : Matcher} (h1 : SameHead a b) (h2 : SameHead b c) : SameHead a c :=
  ⟨h2.1.trans h1.1, h2.2.1.trans h1.2.1, h2.2.2.trans h1.2.2⟩

/-! ### reading and writing slots -/

theorem getSlot_setSlot (m : Matcher) (a a' : Str) (sl : Slot) :
    getSlot (setSlot m a sl) a' = if a' = a then (getSlot m a').map (fun _ => sl) else getSlot m a' := by
  unfold getSlot setSlot
  dsimp only
  rw [find_fst_map _ _ _ fun x => by split <;> simp_all]
  cases hf : m.values.find? (·.1 == a') with
  | none => simp
  | some p =>
    obtain rfl : p.1 = a' := by simpa using List.find?_some hf
    by_cases h : p.1 = a <;> simp [h]

theorem MOK.setSlot {s : Schema} {m : Matcher} (hm : MOK s m) (c : Option Str × Info) (hc : c ∈ m.ty.children)
    (sl : Slot) (hf : slotFits s c.2 sl) : MOK s (setSlot m c.2.attr sl) := by
  refine ⟨hm.tok, ?_, hm.bag⟩
  intro c' hc'
  rw [getSlot_setSlot]
  obtain ⟨sl0, h1, h2⟩ := hm.fits c' hc'
  by_cases h : c'.2.attr = c.2.attr
  · have : c' = c := nodup_map_inj (fun c : Option Str × Info => c.2.attr) _ hm.tok.attrs c' hc' c hc h
    subst this
    simp only [if_true, h1, Option.map_some]
    exact ⟨sl, rfl, hf⟩
  · simp only [h, if_false]
    exact ⟨sl0, h1, h2⟩

theorem slotFits_init (s : Schema) (ci : Info) : slotFits s ci (initSlot ci) := by
  cases ci with
  | key ki =>
    unfold initSlot
    by_cases hp : (ki.name == ['+']) = true
    · have hp' : ki.name = ['+'] := by simpa using hp
      simp only [hp, if_true]
      cases hm : ki.multi
      · exact ⟨hp', hm⟩
      · exact ⟨hp', hm⟩
    · have hp' : ki.name ≠ ['+'] := by simpa using hp
      simp only [hp, if_false, Bool.false_eq_true]
      cases hm : ki.multi
      · exact ⟨hp', hm⟩
      · exact ⟨hp', hm⟩
  | sect si =>
    unfold initSlot
    cases hm : si.multi
    · simp only [hm, Bool.false_eq_true, if_false]
      exact hm
    · simp only [hm, if_true]
      exact ⟨hm, fun v hv => by cases hv⟩

theorem MOK.new (s : Schema) (t : SType) (ht : TOK t) (name : Option Str) (bag : Option Bag)
    (hb : ∀ b, bag = some b → BagOK b) : MOK s (newMatcher t name bag) := by
  refine ⟨ht, ?_, hb⟩
  intro c hc
  refine ⟨initSlot c.2, ?_, slotFits_init s c.2⟩
  unfold getSlot newMatcher
  simp only
  rw [find_attr (fun c => initSlot c.2) c _ ht.attrs hc]
  rfl

/-! ### option bags -/

theorem mkBagStep_ok (conv : Conv) (t : SType) (b : Bag) (it : OptItem) (hb : BagOK b) (hit : it.path ≠ []) :
    Ends (mkBagStep conv t b it) BagOK NotInternal := by
  unfold mkBagStep
  split
  · rename_i h; exact absurd h hit
  · split
    · exact .ok hb
    · exact .error (ConvFail.notInternal ⟨_, _, rfl⟩)
  · rename_i h1 h2
    refine .ok fun x hx => ?_
    rcases List.mem_append.mp hx with hx | hx
    · exact hb x hx
    · cases List.mem_singleton.mp hx
      match hp : it.path with
      | [] => exact absurd hp hit
      | [k] => exact absurd hp (h2 k)
      | a :: b :: r => simp

theorem mkBag_ok (conv : Conv) (t : SType) (items : List OptItem) (hit : ∀ it ∈ items, it.path ≠ []) :
    Ends (mkBag conv t items) BagOK NotInternal := by
  rw [mkBag_eq]
  exact .foldlM (fun _ => nofun) fun b a ha hb => mkBagStep_ok conv t b a hb (hit a ha)

def bsiInv (acc : List OptItem × List OptItem) : Prop :=
  (∀ x ∈ acc.1, x.path ≠ []) ∧ (∀ x ∈ acc.2, 2 ≤ x.path.length)

theorem bsiStep_ok (ty : Str) (name : Option Str) (acc : List OptItem × List OptItem) (it : OptItem)
    (hacc : bsiInv acc) (hit : 2 ≤ it.path.length) : Ends (bsiStep ty name acc it) bsiInv NotInternal := by
  unfold bsiStep
  match hp : it.path with
  | [] => rw [hp] at hit; simp at hit
  | [_] => rw [hp] at hit; simp at hit
  | p0 :: p1 :: more =>
    have hL : bsiInv (acc.1 ++ [{ it with path := p1 :: more }], acc.2) :=
      ⟨fun x hx => (List.mem_append.mp hx).elim (hacc.1 x) fun h => by cases List.mem_singleton.mp h; exact nofun, hacc.2⟩
    have hR : bsiInv (acc.1, acc.2 ++ [it]) :=
      ⟨hacc.1, fun x hx => (List.mem_append.mp hx).elim (hacc.2 x) fun h => by cases List.mem_singleton.mp h; exact hit⟩
    dsimp only
    cases DT.basicKey p0 with
    | error _ => exact .error (.cfg _)
    | ok bk => exact .ite (fun _ => .ok hL) fun _ => .ite (fun _ => .ok hL) fun _ => .ok hR

theorem bagSectionInfo_ok (conv : Conv) (s : Schema) (b : Bag) (ty : Str) (name : Option Str) (hb : BagOK b)
    (hty : s.gettype ty = none ∨ ∃ t, s.gettype ty = some (.concrete t)) :
    Ends (bagSectionInfo conv s b ty name) (fun r => BagOK r.1 ∧ ∀ c, r.2 = some c → BagOK c) NotInternal := by
  rw [bagSectionInfo_eq]
  refine (Ends.foldlM (I := bsiInv) ⟨fun _ h => absurd h List.not_mem_nil, fun _ h => absurd h List.not_mem_nil⟩
    fun acc a ha hacc => bsiStep_ok ty name acc a hacc (hb a ha)).bind fun x hx => .ite (fun _ => .ok ⟨hb, nofun⟩) fun _ => ?_
  rcases hty with ht | ⟨t, ht⟩
  · rw [ht]
    exact .error (.cfg _)
  · rw [ht]
    exact (mkBag_ok conv t x.1 hx.1).bind fun child hchild => .ok ⟨hx.2, fun c hc => Option.some.inj hc ▸ hchild⟩

theorem addValueCore_ok (s : Schema) (m : Matcher) (hm : MOK s m) (key rk v : Str) (pos : Pos) :
    Ends (addValueCore m key rk v pos) (fun m' => MOK s m' ∧ SameHead m m') NotInternal := by
  refine addValueCore_ends m key rk v pos (fun _ => .cfg _) (fun k ki hmem hsl => ?_) fun k ki sl hmem hsl => ?_
  · obtain ⟨sl, h, _⟩ := hm.fits _ hmem
    cases hsl.symm.trans h
  · obtain ⟨sl', h, hf⟩ := hm.fits _ hmem
    cases hsl.symm.trans h
    obtain rfl : k = some ki.name := (hm.tok.key _ hmem ki rfl).1
    have harb : (some ki.name == some ['+']) = true ↔ ki.name = ['+'] :=
      beq_iff_eq.trans ⟨Option.some.inj, congrArg some⟩
    exact (slotStep_ends s ki _ rk _ sl).mono
      (fun r hr => ⟨hm.setSlot _ hmem r (hr.1 hf harb), rfl, rfl, rfl⟩) fun _ h => h.notInternal ⟨hf, harb⟩

theorem addValue_ok (s : Schema) (conv : Conv) (m : Matcher) (hm : MOK s m) (key v : Str) (pos : Pos) :
    Ends (addValue conv m key v pos) (fun m' => MOK s m' ∧ SameHead m m') NotInternal :=
  addValue_ends conv m key v pos (fun _ h => h.notInternal) (fun _ => ⟨hm, rfl, rfl, rfl⟩)
    fun rk => addValueCore_ok s m hm key rk v pos

theorem finishBag_ok (s : Schema) (conv : Conv) (m : Matcher) (hm : MOK s m) :
    Ends (finishBag conv m) (fun m' => MOK s m' ∧ m'.ty = m.ty ∧ m'.name = m.name) NotInternal := by
  rw [finishBag_eq]
  cases hb : m.bag with
  | none => exact .ok ⟨hm, rfl, rfl⟩
  | some b =>
    have step : ∀ k (m1 : Matcher) v, MOK s m1 ∧ SameHead m m1 →
        Ends (finishBagStep conv k m1 v) (fun m' => MOK s m' ∧ SameHead m m') NotInternal := by
      intro k m1 v h1
      unfold finishBagStep
      cases conv.key m1.ty.keytype k with
      | error e => exact .error (ConvFail.notInternal ⟨e, _, rfl⟩)
      | ok rk => exact (addValueCore_ok s m1 h1.1 k rk v _).mono (fun m' h => ⟨h.1, h1.2.trans h.2⟩) fun _ => id
    refine (Ends.foldlM (I := fun m' => MOK s m' ∧ SameHead m m') ⟨hm, rfl, rfl, rfl⟩
      fun m1 kv _ h1 => .foldlM h1 fun m2 v _ h2 => step kv.1 m2 v h2).bind fun m' h => ?_
    exact .ite (fun _ => .error (.cfg _)) fun _ => .ok ⟨⟨h.1.tok, h.1.fits, nofun⟩, h.2.1, h.2.2.1⟩

theorem finishMatcher'_ok (conv : Conv) (s : Schema) (m : Matcher) (hm : MOK s m) :
    Ends (finishMatcher' conv s m) (fun r => ∃ attrs, r.1 = .sect (m.ty.name.getD []) m.name attrs) NotInternal := by
  unfold finishMatcher'
  refine (Ends.mapM (R := fun _ p => slotFits s p.1 p.2) fun c hc => ?_).bind fun slots hslots => ?_
  · unfold fin1
    obtain ⟨sl, hsl, hf⟩ := hm.fits c hc
    rw [hsl]
    exact .map ((finishChild_ends s c.2 sl).mono (fun r hr => hr.1 hf)
      fun _ h => h.notInternal ⟨hf, fun ki d hki => hm.tok.dflt c hc ki d hki⟩)
  · refine (Ends.mapM_fails fun p hp => ?_).bind fun vals _ => .ok ⟨_, rfl⟩
    obtain ⟨c, _, hfit⟩ := hslots p hp
    refine .map ((constructChild_ends conv s p.1 p.2).mono (fun _ _ => trivial) fun f hf => ?_)
    rcases hf with ⟨w, _, h⟩ | h | ⟨_, h⟩
    · exact h.notInternal
    · exact h.notInternal
    · exact absurd hfit h

theorem finishMatcher_ok (conv : Conv) (s : Schema) (m : Matcher) (hm : MOK s m) :
    Ends (finishMatcher conv s m) (fun r => ∃ attrs, r.1 = .sect (m.ty.name.getD []) m.name attrs) NotInternal := by
  rw [finishMatcher_eq_bag]
  refine (finishBag_ok s conv m hm).bind fun m1 ⟨hm1, hty, hnm⟩ => ?_
  rw [← hty, ← hnm]
  exact finishMatcher'_ok conv s m1 hm1

theorem addSection_ok (s : Schema) (m : Matcher) (hm : MOK s m) (ty : Str) (name : Option Str) (v : Val)
    (hv : sectValOK s v) : Ends (addSection s m ty name v) (fun m' => MOK s m' ∧ SameHead m m') NotInternal := by
  rw [addSection_split]
  refine ((addSectionName_ends m name).fails fun _ h => h.notInternal).bind fun m1 ⟨used, h1⟩ => ?_
  subst h1
  have hm1 : MOK s { m with used := used } := ⟨hm.tok, hm.fits, hm.bag⟩
  unfold addSectionPlace
  refine ((getsectioninfo_ends s _ ty name).fails fun _ h => h.notInternal hm.tok.key).bind fun ci ⟨k, hk⟩ => ?_
  obtain ⟨sl, hsl, hf⟩ := hm1.fits _ hk
  rw [show getSlot _ ci.attr = some sl from hsl]
  exact .map ((sectStep_ends s ci v sl).mono
    (fun r hr => ⟨hm1.setSlot (k, .sect ci) hk r (hr.1 hf hv), rfl, rfl, rfl⟩) fun _ h => h.notInternal hf)

end ZCV.Cfg
