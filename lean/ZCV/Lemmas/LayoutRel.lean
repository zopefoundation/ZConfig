import ZCV.Lemmas.ParseRel
/-!
C15: line numbers reach nothing but the positions handed to `addValue` and quoted in errors.  Two runs of the parser whose
context states are related by a relation `R` that the context operations respect — whatever positions `addValue` is handed
(`PosSim`; the tree builder `treeCtx` is the instance, in `LayoutLoad.lean`) — stay related, and accept or reject together
(`parse_lineRel` of `ParseRel.lean`, where nothing is said of failures and of positions); for a context that does not look at
the position at all (`PosBlind`) the states are equal.  Hence inserting a blank or comment line anywhere in a text changes
nothing else, and a line may be respelled as long as `lineShape` does not change.
-/
namespace ZCV.Cfg
open ZCV

/-- both fail, or both succeed with related results -/
def relM {α} (R : α → α → Prop) (x y : M α) : Prop :=
  match x, y with
  | .ok a, .ok b => R a b
  | .error _, .error _ => True
  | _, _ => False

theorem relM_ok {α} {R : α → α → Prop} {a b : α} (h : R a b) : relM R (.ok a) (.ok b) := h
theorem relM_err {α} {R : α → α → Prop} (e e' : Fail) : relM R (.error e : M α) (.error e') := trivial

theorem relM_mono {α} {R S : α → α → Prop} {x y : M α} (h : relM R x y) (hRS : ∀ a b, R a b → S a b) : relM S x y := by
  cases x <;> cases y <;> first | exact hRS _ _ h | exact h

theorem relM_eq_of_toOption {α} {x y : M α} (h : x.toOption = y.toOption) : relM Eq x y := by
  cases x <;> cases y <;> simp_all [relM, Except.toOption]

theorem relM_toOption {α} {x y : M α} (h : relM Eq x y) : x.toOption = y.toOption := by
  cases x <;> cases y <;> simp_all [relM, Except.toOption]

theorem relM.rel {α} {R : α → α → Prop} {x y : M α} (h : relM R x y) : RelM R (fun _ => False) False x y := by
  cases x <;> cases y <;> first | exact h | exact False.elim

theorem RelM.relM {α} {R : α → α → Prop} {x y : M α} (h : RelM R (fun _ => False) False x y) : relM R x y := by
  cases x <;> cases y <;> first | exact h | trivial

theorem relM_bind {α β : Type} {R : α → α → Prop} {S : β → β → Prop} {x y : M α} {f g : α → M β}
    (h : relM R x y) (hf : ∀ a b, R a b → relM S (f a) (g b)) : relM S (x >>= f) (y >>= g) :=
  (h.rel.bind (fun a b hab => (hf a b hab).rel) fun _ _ hd => hd.elim).relM

/-- the context operations respect `R`, whatever positions `addValue` is handed -/
structure PosSim {σ} (c : PCtx σ) (R : σ → σ → Prop) : Prop where
  start : ∀ a b ty nm, R a b → relM R (c.start a ty nm) (c.start b ty nm)
  stop : ∀ a b ty nm, R a b → relM R (c.stop a ty nm) (c.stop b ty nm)
  value : ∀ a b k v p p', R a b → relM R (c.value a k v p) (c.value b k v p')
  imp : ∀ a b pkg, R a b → relM R (c.imp a pkg) (c.imp b pkg)

def RS {σ} (R : σ → σ → Prop) (x y : PS σ) : Prop := R x.ctx y.ctx ∧ x.stack = y.stack ∧ x.defs = y.defs

theorem RS_eq {σ} {x y : PS σ} (h : RS Eq x y) : x = y := by
  cases x; cases y
  obtain ⟨h1, h2, h3⟩ := h
  cases h1; cases h2; cases h3; rfl

theorem relM_replace (env : Env) (defs : List (Str × Str)) (url : Option Str) (line line' : Nat) (t : Str) :
    relM Eq (replace env defs url line t) (replace env defs url line' t) :=
  relM_eq_of_toOption (replace_indep env defs url url line line' t)

theorem PosSim.lineRel {σ} {c : PCtx σ} {R : σ → σ → Prop} (hc : PosSim c R) :
    LineRel c c (fun _ => True) (fun _ => R) (fun _ => False) False False where
  canInc := rfl
  canDef := rfl
  start _ _ h := (hc.start _ _ _ _ h).rel
  stop _ _ h := (hc.stop _ _ _ _ h).rel
  value _ _ _ h := (hc.value _ _ _ _ _ _ h).rel
  imp _ _ h := (hc.imp _ _ _ h).rel
  dead := .of_false c _
  deadX _ h := h.elim

theorem RS_iff {σ} {R : σ → σ → Prop} {S : Frames} {x y : PS σ} : PRel (fun _ => R) S x y ↔ RS R x y :=
  ⟨fun h => ⟨h.2.2, h.1, h.2.1⟩, fun h => ⟨h.2.1, h.2.2, h.1⟩⟩

theorem layout_parse_rel {σ} (c : PCtx σ) (R : σ → σ → Prop) (hc : PosSim c R) (env : Env)
    (fuel : Nat) (active : List Str) (url : Option Str) (lines : List Str) (n n' : Nat) (st st' : PS σ) (h : RS R st st') :
    relM (RS R) (parseLines fuel env c active url lines n st) (parseLines fuel env c active url lines n' st') :=
  relM_mono (parse_lineRel hc.lineRel env (fun _ _ _ _ _ _ _ _ _ => trivial) fuel active url url lines n n' st st' []
    (fun h => (h.elim id id).elim) .rfl' (fun _ _ => trivial) (RS_iff.2 h)).relM fun _ _ h => RS_iff.1 h.1

theorem layout_run_rel {σ} (c : PCtx σ) (R : σ → σ → Prop) (hc : PosSim c R) (env : Env) (fuel : Nat)
    (active : List Str) (url : Option Str) (lines : List Str) (n n' : Nat) (st st' : PS σ) (h : RS R st st') :
    relM (RS R) (runLines fuel env c active url lines n st) (runLines fuel env c active url lines n' st') :=
  relM_mono (run_lineRel hc.lineRel env (fun _ _ _ _ _ _ _ _ _ => trivial) fuel active url url lines n n' st st' []
    (fun h => (h.elim id id).elim) .rfl' (fun _ _ => trivial) (RS_iff.2 h)).relM fun _ _ h => RS_iff.1 h

theorem insert_skip_rel {σ} (c : PCtx σ) (R : σ → σ → Prop) (hc : PosSim c R) (env : Env) (fuel : Nat)
    (active : List Str) (url : Option Str) (A B : List Str) (l : Str) (n : Nat) (st st' : PS σ)
    (hl : lineShape (strip l) = .skip) (h : RS R st st') :
    relM (RS R) (parseLines fuel env c active url (A ++ l :: B) n st) (parseLines fuel env c active url (A ++ B) n st') := by
  rw [parseLines_append, parseLines_append]
  refine relM_bind (layout_run_rel c R hc env fuel active url A n n st st' h) ?_
  intro s1 s2 h12
  rw [parseLines, stepLine_of_skip hl]
  exact layout_parse_rel c R hc env fuel active url B _ _ s1 s2 h12

/-! ### contexts that do not look at positions -/

/-- the context's `addValue` does not depend on the position it is handed, up to acceptance (the event recorder
    `rec0`); contexts that store positions, like the tree builder, are covered by `PosSim` instead -/
def PosBlind {σ} (c : PCtx σ) : Prop :=
  ∀ s k v p p', (c.value s k v p).toOption = (c.value s k v p').toOption

theorem rec0_posBlind : PosBlind rec0 := fun _ _ _ _ _ => rfl

theorem PosBlind.posSim {σ} {c : PCtx σ} (hc : PosBlind c) : PosSim c Eq where
  start := fun _ _ _ _ h => h ▸ relM_eq_of_toOption rfl
  stop := fun _ _ _ _ h => h ▸ relM_eq_of_toOption rfl
  value := fun a _ k v p p' h => h ▸ relM_eq_of_toOption (hc a k v p p')
  imp := fun _ _ _ h => h ▸ relM_eq_of_toOption rfl

theorem lineShape_skip_iff (x : Str) : lineShape x = .skip ↔ (x = [] ∨ x.head? = some '#') := by
  have key : (x.take 1 == [] || x.take 1 == ['#']) = true ↔ (x = [] ∨ x.head? = some '#') := by
    cases x with
    | nil => simp
    | cons c t => simp
  rw [← key]
  constructor
  · intro h
    have v := lineShape_view x
    rw [h] at v
    cases v with
    | skip hs => exact hs
  · intro h
    unfold lineShape
    rw [if_pos h]

/-! Lines of the same shape: not only blank lines, any line may be respelled as long as `lineShape` does not change. -/

theorem stepLine_congr {σ} (fuel : Nat) (env : Env) (c : PCtx σ) (active : List Str) (url : Option Str) (line : Nat)
    (l l' : Str) (st : PS σ) (h : lineShape l = lineShape l') :
    stepLine fuel env c active url line l st = stepLine fuel env c active url line l' st := by
  rw [stepLine, stepLine.eq_def fuel env c active url line l' st, h]

end ZCV.Cfg
