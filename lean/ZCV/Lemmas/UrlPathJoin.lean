import ZCV.Lemmas.UrlPathParse
import ZCV.Lemmas.UrlPathSplit
/-! `urljoin` on a `file:///…` base.  First its segment loop against the specification's lexical resolution (the model's stack may
still carry the root marker: `StackRel`); then the join itself at the level of URL text: base path and reference are texts of
clean characters, and the result is stated with the segments of those texts — a relative path reference (also twice in a row), a
reference that starts at the root. -/
namespace ZCV.UrlPath
open ZCV
open ZCV.UrlPathSpec (step normalize resolve isName)

/-! ## the specification's walk -/

theorem up_step_nil (st : List Str) : step st [] = st := by
  unfold step
  rw [if_neg (by decide), if_pos (Or.inr rfl)]

theorem up_isName_iff (x : Str) : isName x = true ↔ (x ≠ [] ∧ x ≠ ['.']) ∧ x ≠ ['.', '.'] := by
  simp only [isName, Bool.and_eq_true, bne_iff_ne, ne_eq]

theorem up_step_name (st : List Str) (x : Str) (h : isName x = true) : step st x = st ++ [x] := by
  rw [up_isName_iff] at h
  unfold step
  rw [if_neg h.2, if_neg (by intro hh; rcases hh with hh | hh; exact h.1.2 hh; exact h.1.1 hh)]

theorem up_foldl_step_filter (st : List Str) (xs : List Str) :
    (xs.filter (· != [])).foldl step st = xs.foldl step st := by
  induction xs generalizing st with
  | nil => rfl
  | cons x t ih =>
    by_cases hx : x = []
    · subst hx
      rw [List.filter_cons_of_neg (by simp), List.foldl_cons, up_step_nil, ih]
    · rw [List.filter_cons_of_pos (by simpa using hx), List.foldl_cons, List.foldl_cons, ih]

theorem up_foldl_step_mem (st xs : List Str) :
    ∀ x ∈ xs.foldl step st, x ∈ st ∨ (x ∈ xs ∧ isName x = true) := by
  induction xs generalizing st with
  | nil => intro x hx; exact Or.inl hx
  | cons a t ih =>
    intro x hx
    rw [List.foldl_cons] at hx
    rcases ih (step st a) x hx with h | h
    · unfold step at h
      split at h
      · exact Or.inl (List.dropLast_subset _ h)
      · split at h
        · exact Or.inl h
        · rename_i h1 h2
          simp only [List.mem_append, List.mem_cons, List.not_mem_nil, or_false] at h
          rcases h with h | h
          · exact Or.inl h
          · subst h
            exact Or.inr ⟨by simp, (up_isName_iff _).2 ⟨⟨fun e => h2 (Or.inr e), fun e => h2 (Or.inl e)⟩, h1⟩⟩
    · exact Or.inr ⟨by simp [h.1], h.2⟩

theorem up_normalize_names (xs : List Str) : ∀ x ∈ normalize xs, x ∈ xs ∧ isName x = true := by
  intro x hx
  rcases up_foldl_step_mem [] xs x hx with h | h
  · simp at h
  · exact h

theorem up_foldl_step_names (st xs : List Str) (h : ∀ x ∈ xs, isName x = true) : xs.foldl step st = st ++ xs := by
  induction xs generalizing st with
  | nil => simp
  | cons a t ih =>
    rw [List.foldl_cons, up_step_name st a (h a (by simp)), ih _ (fun x hx => h x (by simp [hx]))]
    simp

theorem up_normalize_idem (xs : List Str) : normalize (normalize xs) = normalize xs := by
  have := up_foldl_step_names [] (normalize xs) (fun x hx => (up_normalize_names xs x hx).2)
  simpa [normalize] using this

theorem up_normalize_append (a b : List Str) : normalize (a ++ b) = b.foldl step (normalize a) := by
  simp only [normalize, List.foldl_append]

theorem up_resolve_normalize (a b : List Str) : resolve (normalize a) b = resolve a b := by
  unfold resolve
  rw [up_normalize_append, up_normalize_idem, ← up_normalize_append]

theorem up_normalize_name_last (xs : List Str) (l : Str) (h : isName l = true) :
    normalize (xs ++ [l]) = normalize xs ++ [l] := by
  unfold normalize
  rw [List.foldl_append, List.foldl_cons, List.foldl_nil, up_step_name _ _ h]

theorem up_normalize_nil_cons (xs : List Str) : normalize ([] :: xs) = normalize xs := by
  unfold normalize
  rw [List.foldl_cons, up_step_nil]

theorem up_resolve_name_last (a b : List Str) (l : Str) (h : isName l = true) :
    resolve a (b ++ [l]) = resolve a b ++ [l] := by
  unfold resolve
  rw [← List.append_assoc, up_normalize_name_last _ _ h]

theorem up_resolve_nil_cons (a b : List Str) : resolve ([] :: a) b = resolve a b :=
  up_normalize_nil_cons (a ++ b)

/-! ## the model's loop -/

theorem up_dotStep_nil_nil : dotStep [] [] = [[]] := by decide

/-- model stack vs. specification stack: equal, except that the model may still carry the root marker: the empty first
    segment `''` of an absolute path, with which its stack starts and which a `..` at the root pops -/
def StackRel (m s : List Str) : Prop := m = [] :: s ∨ m = s

theorem up_stackRel_step (m s : List Str) (x : Str) (hx : x ≠ []) (h : StackRel m s) :
    StackRel (dotStep m x) (step s x) := by
  unfold dotStep step dotdot dot
  by_cases h1 : x = ['.', '.']
  · rw [if_pos h1, if_pos h1]
    rcases h with h | h
    · subst h
      cases s with
      | nil => right; rfl
      | cons a t => left; rfl
    · subst h; right; rfl
  · rw [if_neg h1, if_neg h1]
    by_cases h2 : x = ['.']
    · rw [if_pos h2, if_pos (Or.inl h2)]; exact h
    · rw [if_neg h2, if_neg (by intro hh; rcases hh with hh | hh; exact h2 hh; exact hx hh)]
      rcases h with h | h
      · subst h; left; rfl
      · subst h; right; rfl

theorem up_stackRel_foldl (m s : List Str) (xs : List Str) (hx : ∀ x ∈ xs, x ≠ []) (h : StackRel m s) :
    StackRel (xs.foldl dotStep m) (xs.foldl step s) := by
  induction xs generalizing m s with
  | nil => exact h
  | cons a t ih =>
    rw [List.foldl_cons, List.foldl_cons]
    exact ih _ _ (fun x hx' => hx x (by simp [hx'])) (up_stackRel_step m s a (hx a (by simp)) h)

theorem up_filterMiddle (a : Str) (mid : List Str) (l : Str) :
    filterMiddle (a :: (mid ++ [l])) = a :: (mid.filter (· != []) ++ [l]) := by
  cases mid with
  | nil => rfl
  | cons b t =>
    show a :: (((b :: t) ++ [l]).dropLast.filter (· != []) ++ [((b :: t) ++ [l]).getLast (by simp)]) = _
    rw [List.dropLast_concat, List.getLast_concat]

/-! ## joining at the level of URL text -/

open ZCV.UrlPathSpec (render segments namesFile absFilePath)

theorem up_urlunparse_file (p : Str) (h2 : p.take 2 ≠ ['/', '/']) :
    urlunparse ⟨fileScheme, [], p, [], [], []⟩ =
      fileSlashes ++ (if p != [] && p.take 1 != ['/'] then '/' :: p else p) := by
  unfold urlunparse urlunsplit
  have h3 : (fileScheme != []) = true := by decide
  have h4 : (p.take 2 != ['/', '/']) = true := by simpa using h2
  simp only [bne_self_eq_false, Bool.false_eq_true, ↓reduceIte, up_file_tables.2.1, h3, h4, Bool.and_self, Bool.or_true,
    List.nil_append]
  rfl

theorem up_join_file_parsed (t r p : Str) (ht : ∀ c ∈ t, cleanChar c = true) (hrne : r ≠ [])
    (hparse : urlparse r fileScheme = ⟨fileScheme, [], p, [], [], []⟩) (hp : p ≠ []) :
    join (fileSlashes ++ '/' :: t) r = urlunparse ⟨fileScheme, [], mergePath ('/' :: t) p, [], [], []⟩ := by
  unfold join
  have hb : (fileSlashes ++ '/' :: t == []) = false := by simp [fileSlashes]
  have hr : (r == []) = false := by simpa using hrne
  have hp' : (p == []) = false := by simpa using hp
  simp only [hb, hr, hp', Bool.false_eq_true, ↓reduceIte, up_urlparse_file t [] ht, hparse,
    bne_self_eq_false, up_file_tables.2.1, up_file_tables.2.2, Bool.not_true, Bool.or_self, Bool.and_false, Bool.false_and]

theorem up_join_file_ref (t r : Str) (ht : ∀ c ∈ t, cleanChar c = true)
    (hrne : r ≠ [])
    (h0 : ∀ c, r.head? = some c → c0OrSpace c = false)
    (hc : ∀ c ∈ r, cleanChar c = true) (hns : ∀ c ∈ r.takeWhile (· != '/'), c ≠ ':')
    (hnl : r.take 2 ≠ ['/', '/']) :
    join (fileSlashes ++ '/' :: t) r = urlunparse ⟨fileScheme, [], mergePath ('/' :: t) r, [], [], []⟩ :=
  up_join_file_parsed t r r ht hrne (up_urlparse_ref r h0 hc hns hnl) hrne

/-! ## the path part -/

theorem up_getLast?_concat_ne (l : List Str) (x : Str) : (l ++ [x]).getLast? = some x := List.getLast?_concat

/-- where the loop ends for the merged segments `'' :: xs ++ [l]`: with the specification's stack, followed by the directory
    marker (an empty last segment `''`, which makes `'/'.join` end in a slash) unless the last segment is a name -/
theorem up_removeDots_rel (xs : List Str) (l : Str) :
    ∃ m, StackRel m (normalize (xs ++ [l])) ∧
      removeDots (filterMiddle ([] :: (xs ++ [l]))) = m ++ (if isName l then [] else [[]]) := by
  rw [up_filterMiddle]
  have hrel0 : StackRel ((xs.filter (· != [])).foldl dotStep [[]]) (normalize xs) := by
    have := up_stackRel_foldl [[]] [] (xs.filter (· != []))
      (by intro x hx; simp only [List.mem_filter, bne_iff_ne, ne_eq] at hx; exact hx.2) (Or.inl rfl)
    rw [up_foldl_step_filter] at this
    exact this
  have hlast : ([] :: (xs.filter (· != []) ++ [l])).getLast? = some l := by
    rw [← List.cons_append, List.getLast?_concat]
  have hn : normalize (xs ++ [l]) = step (normalize xs) l := by
    unfold normalize
    rw [List.foldl_append, List.foldl_cons, List.foldl_nil]
  unfold removeDots
  simp only [hlast]
  rw [List.foldl_cons, up_dotStep_nil_nil, List.foldl_append, List.foldl_cons, List.foldl_nil, hn]
  generalize List.foldl dotStep [[]] (List.filter (fun x => x != []) xs) = m0 at hrel0 ⊢
  by_cases hl : l = []
  · -- the loop itself appends the empty last segment
    subst hl
    exact ⟨m0, by rw [up_step_nil]; exact hrel0, rfl⟩
  · refine ⟨dotStep m0 l, up_stackRel_step _ _ l hl hrel0, ?_⟩
    by_cases hd : l = dot ∨ l = dotdot
    · have hn : isName l = false := by rcases hd with rfl | rfl <;> rfl
      rw [if_pos (by simpa using hd), hn]
      rfl
    · have hn : isName l = true :=
        (up_isName_iff _).2 ⟨⟨hl, fun e => hd (.inl e)⟩, fun e => hd (.inr e)⟩
      rw [if_neg (by simpa using hd), hn, if_pos rfl, List.append_nil]

theorem up_joinWith_head (x : Char) (a : Str) (l : List Str) : ∃ w, joinWith '/' ((x :: a) :: l) = x :: w := by
  cases l with
  | nil => exact ⟨a, rfl⟩
  | cons b l => exact ⟨a ++ '/' :: joinWith '/' (b :: l), rfl⟩

/-- the rendering of the final stack: `'/'.join(resolved_path) or '/'`, then `urlunparse`; `s` is the specification's
    stack (names without slashes), `mark` the directory marker: nothing, or `''` -/
theorem up_render_rel (m s mark : List Str) (h : StackRel m s) (hs : ∀ x ∈ s, x ≠ [] ∧ '/' ∉ x)
    (hmark : (mark = [] ∧ s ≠ []) ∨ mark = [[]]) :
    urlunparse ⟨fileScheme, [], (let r := joinWith '/' (m ++ mark); if r == [] then ['/'] else r), [], [], []⟩ =
      fileSlashes ++ '/' :: joinWith '/' (s ++ mark) := by
  cases s with
  | nil =>
    obtain rfl : mark = [[]] := hmark.resolve_left fun h => h.2 rfl
    rcases h with rfl | rfl <;> exact up_urlunparse_file ['/'] (by decide)
  | cons x l =>
    obtain ⟨hx1, hx2⟩ := hs x (by simp)
    obtain ⟨c, a, rfl⟩ := List.exists_cons_of_ne_nil hx1
    have hc : c ≠ '/' := fun e => hx2 (by simp [e])
    obtain ⟨w, hw⟩ := up_joinWith_head c a (l ++ mark)
    rcases h with rfl | rfl
    · rw [List.cons_append, up_joinWith_cons '/' [] _ (by simp), List.cons_append, hw]
      simp only [List.nil_append]
      rw [up_urlunparse_file _ (by simp [hc])]
      simp
    · rw [List.cons_append, hw]
      simp only
      rw [up_urlunparse_file _ (by simp [hc])]
      simp [hc]

/-- the loop over the merged segments and the rendering of what it leaves, as one equation -/
theorem up_merge_core (bp r : Str) (xs : List Str) (l : Str) (hseg : mergeSegments bp r = filterMiddle ([] :: (xs ++ [l])))
    (hx : ∀ x ∈ xs ++ [l], '/' ∉ x) :
    urlunparse ⟨fileScheme, [], mergePath bp r, [], [], []⟩ =
      fileSlashes ++ render (normalize (xs ++ [l]) ++ (if isName l then [] else [[]])) := by
  obtain ⟨m, hrel, hrd⟩ := up_removeDots_rel xs l
  unfold mergePath render
  rw [hseg, hrd, up_unsegments_eq]
  refine up_render_rel _ _ _ hrel (fun x hx' => ?_) ?_
  · obtain ⟨hmem, hname⟩ := up_normalize_names _ x hx'
    exact ⟨((up_isName_iff x).1 hname).1.1, hx x hmem⟩
  · cases hn : isName l with
    | false => exact .inr rfl
    | true => exact .inl ⟨rfl, by rw [up_normalize_name_last _ _ hn]; simp⟩

/-- the text of a relative reference: not empty, not starting with `/` or a C0/space character, no colon before its first
    slash (so that `urlsplit` finds neither a scheme nor a network location in it) -/
def RelText (r : Str) : Prop :=
  r ≠ [] ∧ (∀ c, r.head? = some c → c0OrSpace c = false ∧ c ≠ '/') ∧ ∀ c ∈ r.takeWhile (· != '/'), c ≠ ':'

theorem up_namesFile_eq (ref : Str) (rinit : List Str) (l : Str) (h : segments ref = rinit ++ [l]) :
    namesFile ref = isName l := by
  rw [namesFile, h, List.getLast?_concat]

theorem up_baseParts (bp : Str) (init : List Str) (file : Str) (h : splitOn '/' bp = init ++ [file]) :
    baseParts bp = if file = [] then init ++ [[]] else init := by
  unfold baseParts
  simp only [h, List.getLast?_concat, List.dropLast_concat]
  by_cases hfile : file = []
  · subst hfile; simp
  · simp [hfile]

/-- the path part of `urljoin`, for a base path that starts at the root and a non-empty reference that does not: pure segment
    algebra, no condition on the characters -/
theorem up_merge_text (t r : Str) (hne : r ≠ []) (h0 : r.head? ≠ some '/') :
    urlunparse ⟨fileScheme, [], mergePath ('/' :: t) r, [], [], []⟩ =
      fileSlashes ++ render (resolve (segments ('/' :: t)).dropLast (segments r) ++ (if namesFile r then [] else [[]])) := by
  obtain ⟨tinit, file, hT⟩ := up_splitOn_snoc '/' t
  obtain ⟨rinit, rlast, hR⟩ := up_splitOn_snoc '/' r
  have ht1 : ¬ (r.take 1 == ['/']) = true := by
    cases r with
    | nil => exact absurd rfl hne
    | cons c w => simpa using fun e : c = '/' => h0 (by rw [e]; rfl)
  have hbp := up_baseParts ('/' :: t) ([] :: tinit) file (by rw [up_splitOn_cons_sep, hT]; rfl)
  obtain ⟨bs, hms1, hms2, hbs⟩ : ∃ bs, mergeSegments ('/' :: t) r = filterMiddle ([] :: (bs ++ rinit ++ [rlast])) ∧
      normalize (bs ++ rinit ++ [rlast]) = resolve ([] :: tinit) (rinit ++ [rlast]) ∧ ∀ x ∈ bs, x ∈ tinit ∨ x = [] := by
    unfold mergeSegments
    rw [if_neg ht1, hbp, hR]
    by_cases hfile : file = []
    · refine ⟨tinit ++ [[]], by simp [hfile], ?_, by simp⟩
      simp only [resolve, normalize, List.foldl_append, List.foldl_cons, List.foldl_nil, up_step_nil, List.cons_append]
    · refine ⟨tinit, by simp [hfile], ?_, fun x hx => .inl hx⟩
      simp only [resolve, normalize, List.cons_append, List.foldl_cons, up_step_nil, List.append_assoc]
  rw [up_merge_core _ _ _ _ hms1, hms2, up_segments_eq, up_segments_eq, up_splitOn_cons_sep, hT, hR, ← List.cons_append,
    List.dropLast_concat, up_namesFile_eq r rinit rlast (by rw [up_segments_eq]; exact hR)]
  intro x hx
  rcases List.mem_append.1 hx with hx | hx
  · rcases List.mem_append.1 hx with hx | hx
    · rcases hbs x hx with h | rfl
      · exact up_splitOn_pieces '/' t x (by rw [hT]; simp [h])
      · simp
    · exact up_splitOn_pieces '/' r x (by rw [hR]; simp [hx])
  · exact up_splitOn_pieces '/' r x (by rw [hR]; simp [hx])

/-! ## a relative reference -/

/-- **joining at text level.**  Base `file://` + an absolute path text, reference a relative path text, both of clean characters
    (no `# ?`, tab, CR, LF): the result is `file://` + the lexical resolution of the reference's segments against the base's
    segments without the last, with a trailing slash unless the reference names a file. -/
theorem up_join_text (t r : Str) (ht : ∀ c ∈ t, cleanChar c = true) (hr : ∀ c ∈ r, cleanChar c = true) (hrel : RelText r) :
    join (fileSlashes ++ '/' :: t) r =
      fileSlashes ++ render (resolve (segments ('/' :: t)).dropLast (segments r) ++ (if namesFile r then [] else [[]])) := by
  obtain ⟨hne, h0, hns⟩ := hrel
  have hh : r.head? ≠ some '/' := fun e => (h0 _ e).2 rfl
  have hnl : r.take 2 ≠ ['/', '/'] := by
    cases r with
    | nil => exact absurd rfl hne
    | cons c w => intro e; cases w <;> simp at e; exact hh (by rw [e.1]; rfl)
  rw [up_join_file_ref t r ht hne (fun c hc => (h0 c hc).1) hr hns hnl]
  exact up_merge_text t r hne hh

theorem up_resolve_pieces (a b : Str) : ∀ x ∈ resolve (segments a).dropLast (segments b), '/' ∉ x ∧ ∀ c ∈ x, c ∈ a ∨ c ∈ b := by
  intro x hx
  rw [up_segments_eq, up_segments_eq] at hx
  rcases List.mem_append.1 (up_normalize_names _ x hx).1 with h | h
  · have h := List.dropLast_subset _ h
    exact ⟨up_splitOn_pieces '/' a x h, fun c hc => .inl (up_splitOn_mem '/' a x h c hc)⟩
  · exact ⟨up_splitOn_pieces '/' b x h, fun c hc => .inr (up_splitOn_mem '/' b x h c hc)⟩

theorem up_segments_render (L : List Str) (hne : L ≠ []) (hL : ∀ x ∈ L, '/' ∉ x) : segments (render L) = [] :: L := by
  unfold render
  rw [up_segments_eq, up_unsegments_eq, up_splitOn_cons_sep, up_splitOn_joinWith '/' L hne hL]

/-- **nested joining at text level**: joining `r2` to the result of joining a reference `r1` to a file resolves `r2` against the
    directory of the base followed by the directory part of `r1` -/
theorem up_join_text_nested (t r1 r2 : Str) (ht : ∀ c ∈ t, cleanChar c = true)
    (hr1 : ∀ c ∈ r1, cleanChar c = true) (hrel1 : RelText r1) (hn1 : namesFile r1 = true)
    (hr2 : ∀ c ∈ r2, cleanChar c = true) (hrel2 : RelText r2) :
    join (join (fileSlashes ++ '/' :: t) r1) r2 =
      fileSlashes ++ render (resolve ((segments ('/' :: t)).dropLast ++ (segments r1).dropLast) (segments r2) ++
        (if namesFile r2 then [] else [[]])) := by
  obtain ⟨r1init, l1, hR1⟩ := up_splitOn_snoc '/' r1
  have hl1 : isName l1 = true := by rw [← up_namesFile_eq r1 _ _ (by rw [up_segments_eq]; exact hR1)]; exact hn1
  have hp := up_resolve_pieces ('/' :: t) r1
  rw [up_join_text t r1 ht hr1 hrel1, hn1, if_pos rfl, List.append_nil]
  generalize hL : resolve (segments ('/' :: t)).dropLast (segments r1) = L at hp ⊢
  have hLe : L = resolve (segments ('/' :: t)).dropLast r1init ++ [l1] := by
    rw [← hL, up_segments_eq r1, hR1, up_resolve_name_last _ _ _ hl1]
  have hclean : ∀ c ∈ UrlPathSpec.unsegments L, cleanChar c = true := by
    intro c hc
    rw [up_unsegments_eq] at hc
    rcases up_mem_joinWith_inv '/' L c hc with rfl | ⟨x, hx, hcx⟩
    · exact up_cleanChar_slash
    · rcases (hp x hx).2 c hcx with h | h
      · rcases List.mem_cons.1 h with rfl | h
        · exact up_cleanChar_slash
        · exact ht c h
      · exact hr1 c h
  -- the first result is again `file://` + a clean absolute path text, whose segments are `'' :: L`
  show join (fileSlashes ++ '/' :: UrlPathSpec.unsegments L) r2 = _
  rw [up_join_text _ r2 hclean hr2 hrel2]
  show fileSlashes ++ render (resolve (segments (render L)).dropLast _ ++ _) = _
  rw [up_segments_render L (by rw [hLe]; simp) (fun x hx => (hp x hx).1), hLe, ← List.cons_append, List.dropLast_concat,
    up_resolve_nil_cons, up_segments_eq r1, hR1, List.dropLast_concat,
    show resolve (segments ('/' :: t)).dropLast r1init = normalize ((segments ('/' :: t)).dropLast ++ r1init) from rfl,
    up_resolve_normalize]

/-! ## a reference that starts at the root: an absolute path or a whole `file:///` URL -/

/-- an absolute path to a file starts with exactly one slash: its first segment is not empty -/
theorem up_absFilePath_text (q : Str) (hq : absFilePath q) : ∃ w, q = '/' :: w ∧ w.head? ≠ some '/' := by
  obtain ⟨mid, l, hseg, hmne, hl⟩ := hq
  rw [up_segments_eq] at hseg
  have e := up_joinWith_splitOn '/' q
  rw [hseg, up_joinWith_cons '/' [] _ (by simp)] at e
  refine ⟨_, e.symm, fun h => ?_⟩
  obtain ⟨w, hw⟩ := List.head?_eq_some_iff.1 h
  have h1 := up_splitOn_joinWith '/' (mid ++ [l]) (by simp) (fun s hs => up_splitOn_pieces '/' q s (by rw [hseg]; simp [hs]))
  rw [hw, up_splitOn_cons_sep] at h1
  cases mid with
  | nil => cases (List.cons.inj h1).1; exact absurd hl (by decide)
  | cons x mid' => exact hmne x (by simp) (List.cons.inj h1).1.symm

/-- the path part when the reference path is an absolute path to a file: the base path plays no role, the reference's own
    segments are normalised -/
theorem up_merge_abs_text (bp q : Str) (hq : absFilePath q) :
    urlunparse ⟨fileScheme, [], mergePath bp q, [], [], []⟩ = fileSlashes ++ render (normalize (segments q)) := by
  obtain ⟨w, hw, _⟩ := up_absFilePath_text q hq
  obtain ⟨mid, l, hseg, hmne, hl⟩ := hq
  rw [hseg, up_normalize_nil_cons]
  rw [up_segments_eq] at hseg
  have hsg : mergeSegments bp q = filterMiddle ([] :: (mid ++ [l])) := by
    unfold mergeSegments
    rw [if_pos (by rw [hw]; rfl), hseg, up_filterMiddle, List.filter_eq_self.2 (by intro s hs; simpa using hmne s hs)]
  rw [up_merge_core _ _ _ _ hsg (fun x hx => up_splitOn_pieces '/' q x (by rw [hseg]; exact List.mem_cons_of_mem _ hx)), hl,
    if_pos rfl, List.append_nil]

theorem up_join_abs_text (t q : Str) (ht : ∀ c ∈ t, cleanChar c = true) (hc : ∀ c ∈ q, cleanChar c = true) (hq : absFilePath q) :
    join (fileSlashes ++ '/' :: t) q = fileSlashes ++ render (normalize (segments q)) ∧
    join (fileSlashes ++ '/' :: t) (fileSlashes ++ q) = fileSlashes ++ render (normalize (segments q)) := by
  obtain ⟨w, rfl, hw⟩ := up_absFilePath_text q hq
  have hm := up_merge_abs_text ('/' :: t) _ hq
  constructor
  · rw [up_join_file_ref t _ ht (by simp) (by intro c hh; cases Option.some.inj hh; decide) hc
      (by rw [List.takeWhile_cons_of_neg (by decide)]; simp) (by cases w <;> simp at hw ⊢; exact hw), hm]
  · rw [up_join_file_parsed t _ ('/' :: w) ht (by simp [fileSlashes])
      (up_urlparse_file _ _ fun c h => hc c (List.mem_cons_of_mem _ h)) (by simp), hm]

end ZCV.UrlPath
