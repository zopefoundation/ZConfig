import ZCV.Lemmas.ElabTop
/-!
C10, "every violation is reported as a SchemaError": the schema-loader model never answers `internal …`.

The base: the predicate `NIx P x` ("every internal error of `x` satisfies `P`") with one rule per way a do block is put
together; `NIq P x Q`, the same with a claim `Q` about the result (the triple `Ends`), in which the steps of the tree walk
are stated; what the environment has to guarantee (`EnvNI`); and what of the type table the argument needs — which names
are there and whether each is concrete or abstract (`kinds`); `ContainerOK` says the top of the stack names a concrete one.
-/
namespace ZCV.Elab
open ZCV ZCV.Cfg

/-- every `internal` outcome of `x` satisfies `P` (`P := fun _ => False`: no internal error at all) -/
structure NIx {α} (P : String → Prop) (x : EM α) : Prop where
  out : ∀ e, x = .error (.internal e) → P e

section combinators
variable {P : String → Prop} {α β : Type}

theorem NIx.ok (a : α) : NIx P (.ok a : EM α) := ⟨fun _ h => by cases h⟩
theorem NIx.pure (a : α) : NIx P (pure a : EM α) := ⟨fun _ h => by cases h⟩
theorem NIx.serr (t : String) : NIx P (serr t : EM α) := ⟨fun _ h => by cases h⟩
theorem NIx.schema (t : String) : NIx P (.error (.schema t) : EM α) := ⟨fun _ h => by cases h⟩
theorem NIx.schemaResource (t : String) : NIx P (.error (.schemaResource t) : EM α) := ⟨fun _ h => by cases h⟩
theorem NIx.conversion (t : String) : NIx P (.error (.conversion t) : EM α) := ⟨fun _ h => by cases h⟩

theorem NIx.bind {x : EM α} {f : α → EM β} (hx : NIx P x) (hf : ∀ a, x = .ok a → NIx P (f a)) : NIx P (x >>= f) := by
  refine ⟨fun e h => ?_⟩
  cases x with
  | error e' =>
    change Except.error e' = Except.error (EFail.internal e) at h
    injection h with h
    exact hx.out e (by rw [h])
  | ok a => exact (hf a rfl).out e h

theorem NIx.map {x : EM α} {f : α → β} (hx : NIx P x) : NIx P (Except.map f x) := by
  refine ⟨fun e h => ?_⟩
  cases x with
  | error e' =>
    simp only [Except.map, Except.error.injEq] at h
    exact hx.out e (by rw [h])
  | ok a => cases h

theorem NIx.fmap {x : EM α} {f : α → β} (hx : NIx P x) : NIx P (f <$> x) := NIx.map hx

/-- the `if c then serr … ; rest` statement of a do block -/
theorem NIx.guard {c : Prop} [Decidable c] {x : EFail} {jp : Unit → EM α} (hx : ∀ e, x ≠ .internal e)
    (hj : ¬c → NIx P (jp ())) : NIx P (if c then (Except.error x : EM Unit) >>= jp else jp ()) := by
  refine ⟨fun e h => ?_⟩
  by_cases hc : c
  · simp only [hc, ↓reduceIte] at h
    change Except.error x = Except.error (EFail.internal e) at h
    injection h with h
    exact absurd h (hx e)
  · simp only [hc, ↓reduceIte] at h
    exact (hj hc).out e h

theorem NIx.ite {c : Prop} [Decidable c] {a b : EM α} (ha : c → NIx P a) (hb : ¬c → NIx P b) :
    NIx P (if c then a else b) := by
  by_cases hc : c
  · simp only [hc, ↓reduceIte]; exact ha hc
  · simp only [hc, ↓reduceIte]; exact hb hc

theorem NIx.of_ok {x : EM α} {a : α} (h : x = .ok a) : NIx P x := by rw [h]; exact NIx.ok a

theorem NIx.mono {Q : String → Prop} {x : EM α} (h : NIx P x) (hpq : ∀ e, P e → Q e) : NIx Q x :=
  ⟨fun e he => hpq e (h.out e he)⟩

/-- a step of the tree walk: every internal error of `x` satisfies `P`, and a result satisfies `Q` — the triple `Ends` with
the failure side of `NIx`, so that start handler, children and end handler of an element are gone through once
(`Ends.bind`) for both claims -/
abbrev NIq {α} (P : String → Prop) (x : EM α) (Q : α → Prop) : Prop := Ends x Q fun e => ∀ s, e = .internal s → P s

theorem NIq.ni {x : EM α} {Q : α → Prop} (h : NIq P x Q) : NIx P x := ⟨fun s hs => h.of_error hs s rfl⟩

theorem NIq.of_ni {x : EM α} {Q : α → Prop} (h : NIx P x) (hq : ∀ a, x = .ok a → Q a) : NIq P x Q :=
  Ends.intro hq fun _ he s hs => h.out s (hs ▸ he)

end combinators

/-! ### what the environment has to guarantee -/

structure EnvNI (env : Env) : Prop where
  /-- the datatype registry never *raises* for a dotted name (ImportError, AttributeError … from `__import__`) -/
  dotted : ∀ n e, env.dotted n ≠ .raises e
  /-- key types reject with ValueError only -/
  keyErr : ∀ kt s e, env.conv.key kt s = .error e → e = .valueError
  /-- a key type never turns a fixed name into one of the wildcard names (`addsection` asserts this) -/
  keyWild : ∀ kt s r, env.conv.key kt s = .ok r → Gen.anyNames.contains s = false → r ≠ ['*'] ∧ r ≠ ['+']

variable {P : String → Prop}

/-! ### datatypes and prefixes -/

theorem regGet_ni {env : Env} (hd : ∀ n e, env.dotted n ≠ .raises e) (name : Str) : NIx P (regGet env name) := by
  rw [regGet_eq]
  refine NIx.ite (fun _ => ?_) fun _ => NIx.ite (fun _ => NIx.ite (fun _ => NIx.ok _) fun _ => NIx.schema _) fun _ => NIx.schema _
  cases he : env.dotted name with
  | found c => exact NIx.ok _
  | valueError => exact NIx.schema _
  | raises e => exact absurd he (hd _ _)

theorem getClassname_ni {st : PSt} (hp : st.prefixes ≠ []) (name : Str) : NIx P (getClassname st name) := by
  refine ⟨fun e h => ?_⟩
  unfold getClassname at h
  split at h
  · split at h
    · cases h
    · rename_i hnil; exact absurd hnil hp
  · cases h

theorem getDatatype_ni {env : Env} {st : PSt} (hd : ∀ n e, env.dotted n ≠ .raises e) (hp : st.prefixes ≠ [])
    (attrs : Attrs) (key dflt : String) (base : Option Str) : NIx P (getDatatype env st attrs key dflt base) := by
  unfold getDatatype
  split
  · exact NIx.bind (getClassname_ni hp _) (fun n _ => regGet_ni hd n)
  · split
    · exact NIx.ok _
    · exact regGet_ni hd _

theorem getSectTypeinfo_ni {env : Env} {st : PSt} (hd : ∀ n e, env.dotted n ≠ .raises e) (hp : st.prefixes ≠ [])
    (attrs : Attrs) (base : Option (Str × Str)) : NIx P (getSectTypeinfo env st attrs base) := by
  unfold getSectTypeinfo
  refine NIx.bind (getDatatype_ni hd hp _ _ _ _) (fun kt _ => ?_)
  refine NIx.bind (getDatatype_ni hd hp _ _ _ _) (fun vt _ => ?_)
  exact NIx.bind (getDatatype_ni hd hp _ _ _ _) (fun dt _ => NIx.pure _)

/-- `pushPrefix` never fails internally: a prefix with a leading period is only accepted below another prefix -/
theorem pushPrefix_ni (st : PSt) (attrs : Attrs) : NIx P (pushPrefix st attrs) := by
  rw [pushPrefix_eq]
  split
  · exact NIx.ite (fun _ => NIx.ok _) fun _ => NIx.schema _
  · exact NIx.ok _

/-! ### the kinds of the entries of the type table -/

def entryKind : EEntry → Bool
  | .concrete _ => true
  | .abstract_ _ _ _ => false

def kinds (es : ES) : List (Str × Bool) := es.types.map fun p => (p.1, entryKind p.2)

def kindAt (es : ES) (n : Str) : Option Bool := ((kinds es).find? (·.1 == n)).map (·.2)

theorem kindAt_eq (es : ES) (n : Str) : kindAt es n = (es.types.find? (·.1 == n)).map (fun p => entryKind p.2) := by
  unfold kindAt kinds
  rw [List.find?_map, Option.map_map]
  rfl

theorem kindAt_concrete {es : ES} {n : Str} (h : kindAt es n = some true) :
    ∃ p t, es.types.find? (·.1 == n) = some (p, .concrete t) := by
  rw [kindAt_eq] at h
  cases hf : es.types.find? (·.1 == n) with
  | none => simp [hf] at h
  | some q =>
    obtain ⟨p, e⟩ := q
    cases e with
    | concrete t => exact ⟨p, t, rfl⟩
    | abstract_ a b c => simp [hf, entryKind] at h

theorem kindAt_abstract {es : ES} {n : Str} (h : kindAt es n = some false) :
    ∃ p a s d, es.types.find? (·.1 == n) = some (p, .abstract_ a s d) := by
  rw [kindAt_eq] at h
  cases hf : es.types.find? (·.1 == n) with
  | none => simp [hf] at h
  | some q =>
    obtain ⟨p, e⟩ := q
    cases e with
    | concrete t => simp [hf, entryKind] at h
    | abstract_ a b c => exact ⟨p, a, b, c, rfl⟩

theorem kindAt_congr {es es' : ES} (h : kinds es' = kinds es) (n : Str) : kindAt es' n = kindAt es n := by
  unfold kindAt; rw [h]

theorem kinds_map (es : ES) (g : Str × EEntry → Str × EEntry) (hg : ∀ p, (g p).1 = p.1 ∧ entryKind (g p).2 = entryKind p.2) :
    kinds { es with types := es.types.map g } = kinds es := by
  unfold kinds
  simp only [List.map_map]
  congr 1
  funext p
  simp only [Function.comp, (hg p).1, (hg p).2]

theorem kinds_absOnly (es : ES) {g} (hg : AbsOnly g) : kinds { es with types := es.types.map g } = kinds es :=
  kinds_map es g fun
    | (k, .concrete t) => by rw [hg.conc]; exact ⟨rfl, rfl⟩
    | (k, .abstract_ a b c) => by obtain ⟨b', c', e⟩ := hg.abs k a b c; rw [e]; exact ⟨rfl, rfl⟩

theorem kinds_updType (es : ES) (n : Str) (f : EType → EType) : kinds (es.updType n f) = kinds es := by
  unfold ES.updType
  refine kinds_map es _ ?_
  intro ⟨k, e⟩
  dsimp only
  split
  · cases e <;> exact ⟨rfl, rfl⟩
  · exact ⟨rfl, rfl⟩

theorem kinds_setTopOf (es : ES) (stack : List Frame) (ch : List (Option Str × EInfo)) :
    kinds (setTopOf es stack ch) = kinds es := by
  unfold setTopOf
  split
  · rfl
  · exact kinds_updType es _ _
  · rfl

/-- the container on top of the stack exists: the schema itself or a concrete type of the table -/
def ContainerOK (es : ES) : List Frame → Prop
  | .schema :: _ => True
  | .stype n :: _ => kindAt es n = some true
  | _ => False

theorem ContainerOK.congr {es es' : ES} (h : kinds es' = kinds es) {stack : List Frame} (hc : ContainerOK es stack) :
    ContainerOK es' stack := by
  unfold ContainerOK at hc ⊢
  split
  · trivial
  · rename_i n r; simp only at hc; rw [kindAt_congr h]; exact hc
  · rename_i h1 h2
    split at hc
    · exact (h1 _ rfl).elim
    · exact (h2 _ _ rfl).elim
    · exact hc

theorem topOf_ok {es : ES} {stack : List Frame} (hc : ContainerOK es stack) : ∃ ch, topOf es stack = .ok ch := by
  unfold ContainerOK at hc
  unfold topOf
  split at hc
  · exact ⟨_, rfl⟩
  · obtain ⟨p, t, hf⟩ := kindAt_concrete hc
    exact ⟨t.children, by simp only [hf]⟩
  · exact hc.elim

theorem topKeytype_ok {st : PSt} (hc : ContainerOK st.es st.stack) : ∃ kt, topKeytype st = .ok kt := by
  unfold ContainerOK at hc
  unfold topKeytype
  split at hc
  · rename_i r hs; rw [hs]; exact ⟨_, rfl⟩
  · rename_i n r hs
    obtain ⟨p, t, hf⟩ := kindAt_concrete hc
    rw [hs]
    exact ⟨t.keytype, by simp only [hf]⟩
  · exact hc.elim

theorem convKeyName_ni {env : Env} (hk : ∀ kt s e, env.conv.key kt s = .error e → e = .valueError) (kt name : Str) :
    NIx P (convKeyName env kt name) := by
  refine ⟨fun e h => ?_⟩
  unfold convKeyName at h
  split at h
  · cases h
  · cases h
  · rename_i he; cases hk _ _ _ he
  · rename_i he; cases hk _ _ _ he

theorem convDefaultKey_ni {env : Env} (hk : ∀ kt s e, env.conv.key kt s = .error e → e = .valueError) (kt name : Str) :
    NIx P (convDefaultKey env kt name) := by
  refine ⟨fun e h => ?_⟩
  unfold convDefaultKey at h
  split at h
  · cases h
  · cases h
  · rename_i he; cases hk _ _ _ he
  · rename_i he; cases hk _ _ _ he

theorem basicKeyE_ni (s : Str) : NIx P (basicKeyE s) := ⟨fun _ h => (basicKeyE_error h).elim⟩

theorem identifierE_ni (s : Str) : NIx P (identifierE s) := ⟨fun _ h => (identifierE_error h).elim⟩

theorem getHandler_ni (attrs : Attrs) : NIx P (getHandler attrs) := by
  unfold getHandler
  split
  · exact NIx.ok _
  · exact NIx.map (basicKeyE_ni _)

theorem getRequired_ni (attrs : Attrs) : NIx P (getRequired attrs) := ⟨fun _ h => (getRequired_error h).elim⟩

theorem nameTail_ni {env : Env} {st : PSt} (hk : ∀ kt s e, env.conv.key kt s = .error e → e = .valueError)
    (hc : ContainerOK st.es st.stack) (name : Str) (aname : Option Str) : NIx P (nameTail env st name aname) := by
  unfold nameTail
  split
  · split
    · exact NIx.pure _
    · exact NIx.serr _
  · obtain ⟨kt, hkt⟩ := topKeytype_ok hc
    refine NIx.bind (NIx.of_ok hkt) (fun kt' _ => ?_)
    refine NIx.bind (convKeyName_ni hk _ _) (fun nm _ => ?_)
    split
    · exact NIx.pure _
    · refine NIx.bind (basicKeyE_ni _) (fun a _ => ?_)
      exact NIx.bind (identifierE_ni _) (fun a' _ => NIx.pure _)

theorem attrNameE_ni (attrs : Attrs) : NIx P (attrNameE attrs) := ⟨fun _ h => (attrNameE_error h).elim⟩

theorem getNameInfo_ni {env : Env} {st : PSt} (hk : ∀ kt s e, env.conv.key kt s = .error e → e = .valueError)
    (hc : ContainerOK st.es st.stack) (attrs : Attrs) (dflt : Option Str) : NIx P (getNameInfo env st attrs dflt) := by
  rw [getNameInfo_nf]
  split
  · exact NIx.bind (attrNameE_ni _) fun _ _ => nameTail_ni hk hc _ _
  · exact NIx.serr _

end ZCV.Elab
