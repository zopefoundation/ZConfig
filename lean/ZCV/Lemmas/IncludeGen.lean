import ZCV.Lemmas.LayoutRel
/-!
C06: `%include` is textual inclusion of a balanced fragment — with `$` references in the argument, nested `%include`s in the
fragment, resolution against the includer's URL, flow of definitions.  Three independent facts carry it: sections open underneath
are carried along by lines that do not close them (`step_addStack`, an equation, for any context); the recording context ignores
the URL and the line number, errors aside (`run_pos_indep`, `run_lineRel` for a context that does not look at positions); the
two refusals that depend on how a resource is reached (recursion budget, cycle check) are the only place where fuel and the list
of active resources matter (`incgen_mono`).
`incgen_include_step` compares the `%include` line with the lines of the resource read in its place; `incgen_inline_of_step`
passes from the line to the whole text.
-/
namespace ZCV.Cfg
open ZCV

theorem incgen_replace_ok_indep (env : Env) (defs) (url url' : Option Str) (line line' : Nat) (t a : Str)
    (h : replace env defs url line t = .ok a) : replace env defs url' line' t = .ok a := by
  have := replace_indep env defs url url' line line' t
  rw [h] at this
  exact (toOption_eq_some.1 this.symm)

/-! ### the refusals that depend on how a resource is reached -/

/-- the recursion budget is exhausted (`RecursionError`), or the resource is already being read ("resource includes itself") -/
def incgenLimit : Fail → Prop
  | .internal exc => exc = "RecursionError"
  | .cfg e => e.tag = "resource includes itself"
  | .dtExc _ => False

/-- the result is not one of these two refusals -/
def incgenNoLimit {α} (r : M α) : Prop := ∀ f, r = .error f → ¬ incgenLimit f

theorem incgenNoLimit_ok {α} (a : α) : incgenNoLimit (.ok a : M α) := by
  intro f h; cases h

theorem incgenNoLimit_bind_left {α β} {x : M α} {g : α → M β} (h : incgenNoLimit (x >>= g)) : incgenNoLimit x := by
  intro f hf
  subst hf
  exact h f rfl

theorem incgenNoLimit_bind_right {α β} {x : M α} {g : α → M β} {a : α} (hx : x = .ok a) (h : incgenNoLimit (x >>= g)) :
    incgenNoLimit (g a) := by
  subst hx
  exact h

theorem incgen_option_map_eq_some {α β} {x : Option α} {g : α → β} {b : β} (h : x.map g = some b) :
    ∃ a, x = some a ∧ g a = b := by
  cases x with
  | none => cases h
  | some a => exact ⟨a, rfl, by simpa using h⟩

theorem incgen_mem_cons_of_subset {active active' : List Str} (hsub : ∀ w, w ∈ active' → w ∈ active) (u : Str) :
    ∀ w, w ∈ u :: active' → w ∈ u :: active := by
  intro w hw
  rcases List.mem_cons.1 hw with h | h
  · exact List.mem_cons.2 (.inl h)
  · exact List.mem_cons.2 (.inr (hsub w h))

theorem stepLine_fuel_indep {σ} (env : Env) (c : PCtx σ) (f f' : Nat) (active active' : List Str) (url : Option Str)
    (line : Nat) (l : Str) (st : PS σ) (hni : ∀ a, lineShape l ≠ .include_ a) :
    stepLine f' env c active' url line l st = stepLine f env c active url line l st := by
  cases hs : lineShape l with
  | include_ a => exact absurd hs (hni a)
  | skip => rw [stepLine_of_skip hs, stepLine_of_skip hs]
  | bad t => rw [stepLine_of_bad hs, stepLine_of_bad hs]
  | internal t => exact absurd hs (lineShape_no_internal l t)
  | close ty => rw [stepLine_of_close hs, stepLine_of_close hs]
  | open_ ty nm e => rw [stepLine_of_open hs, stepLine_of_open hs]
  | kv k raw => rw [stepLine_of_kv hs, stepLine_of_kv hs]
  | define a => rw [stepLine_define _ _ _ _ _ _ _ _ _ hs, stepLine_define _ _ _ _ _ _ _ _ _ hs]
  | import_ a => rw [stepLine_import _ _ _ _ _ _ _ _ _ hs, stepLine_import _ _ _ _ _ _ _ _ _ hs]

theorem run_fuel_indep {σ} (env : Env) (c : PCtx σ) (f f' : Nat) (active active' : List Str) (url : Option Str) :
    ∀ (F : List Str) (n : Nat) (st : PS σ), NoInclude F →
      runLines f' env c active' url F n st = runLines f env c active url F n st := by
  intro F
  induction F with
  | nil => intro n st _; rfl
  | cons l rest ih =>
    intro n st hni
    simp only [runLines]
    rw [stepLine_fuel_indep env c f f' active active' url (n + 1) (strip l) st (hni l List.mem_cons_self)]
    congr 1
    funext s
    exact ih (n + 1) s (fun x hx => hni x (List.mem_cons_of_mem _ hx))

theorem incgen_enter_mono {σ} (env : Env) (c : PCtx σ) (f f' : Nat) (active active' : List Str)
    (hle : f ≤ f') (hsub : ∀ w, w ∈ active' → w ∈ active)
    (ih : ∀ g g', f = g + 1 → f' = g' + 1 → ∀ (u : Str) (lines : List Str) (st : PS σ),
      incgenNoLimit (parseLines g env c (u :: active) (some u) lines 0 st) →
      parseLines g' env c (u :: active') (some u) lines 0 st = parseLines g env c (u :: active) (some u) lines 0 st)
    (p : Str × List Str) (st : PS σ) (hnl : incgenNoLimit (incgenEnter f env c active p st)) :
    incgenEnter f' env c active' p st = incgenEnter f env c active p st := by
  unfold incgenEnter at hnl ⊢
  by_cases hact : (p.1 != [] && active.contains p.1) = true
  · rw [if_pos hact] at hnl
    exact absurd rfl (hnl _ rfl)
  · have hact' : ¬ (p.1 != [] && active'.contains p.1) = true := by
      intro h
      apply hact
      simp only [Bool.and_eq_true, bne_iff_ne, ne_eq, List.contains_iff_mem] at h ⊢
      exact ⟨h.1, hsub _ h.2⟩
    rw [if_neg hact] at hnl
    rw [if_neg hact, if_neg hact']
    cases f with
    | zero => exact absurd rfl (hnl _ rfl)
    | succ g =>
      cases f' with
      | zero => omega
      | succ g' =>
        dsimp only at hnl ⊢
        rw [ih g g' rfl rfl p.1 p.2 (subState st) (incgenNoLimit_bind_left hnl)]

theorem incgen_step_mono {σ} (env : Env) (c : PCtx σ) (f f' : Nat) (active active' : List Str)
    (hle : f ≤ f') (hsub : ∀ w, w ∈ active' → w ∈ active)
    (ih : ∀ g g', f = g + 1 → f' = g' + 1 → ∀ (u : Str) (lines : List Str) (st : PS σ),
      incgenNoLimit (parseLines g env c (u :: active) (some u) lines 0 st) →
      parseLines g' env c (u :: active') (some u) lines 0 st = parseLines g env c (u :: active) (some u) lines 0 st)
    (url : Option Str) (line : Nat) (l : Str) (st : PS σ)
    (hnl : incgenNoLimit (stepLine f env c active url line l st)) :
    stepLine f' env c active' url line l st = stepLine f env c active url line l st := by
  by_cases hi : ∃ a, lineShape l = .include_ a
  · obtain ⟨arg, hs⟩ := hi
    rw [incgen_stepLine_include _ _ _ _ _ _ _ _ _ hs] at hnl ⊢
    rw [incgen_stepLine_include _ _ _ _ _ _ _ _ _ hs]
    cases ht : incgenTarget env c url line arg st.defs with
    | error e => rfl
    | ok p =>
      rw [ok_bind, ok_bind]
      exact incgen_enter_mono env c f f' active active' hle hsub ih p st
        (incgenNoLimit_bind_right (g := fun p => incgenEnter f env c active p st) ht hnl)
  · exact stepLine_fuel_indep env c f f' active active' url line l st (fun a ha => hi ⟨a, ha⟩)

/-- **fuel and the active list are irrelevant once sufficient**: a parse that ends — successfully or not — without exhausting
    the recursion budget and without meeting a resource that is already being read ends in exactly the same way (same state, or
    same error) with any larger fuel and any smaller set of active resources -/
theorem incgen_mono {σ} (env : Env) (c : PCtx σ) :
    ∀ (f f' : Nat) (active active' : List Str) (url : Option Str) (lines : List Str) (n : Nat) (st : PS σ),
      f ≤ f' → (∀ w, w ∈ active' → w ∈ active) →
      incgenNoLimit (parseLines f env c active url lines n st) →
      parseLines f' env c active' url lines n st = parseLines f env c active url lines n st := by
  intro f
  induction f using Nat.strongRecOn with
  | _ f ihf =>
    intro f' active active' url lines
    induction lines with
    | nil =>
      intro n st _ _ _
      rw [parseLines, parseLines]
    | cons l rest ihl =>
      intro n st hle hsub hnl
      rw [parseLines] at hnl ⊢
      rw [parseLines]
      have hstep := incgen_step_mono env c f f' active active' hle hsub
        (fun g g' hg hg' u lines st h =>
          ihf g (by omega) g' (u :: active) (u :: active') (some u) lines 0 st (by omega)
            (incgen_mem_cons_of_subset hsub u) h)
        url (n + 1) (strip l) st (incgenNoLimit_bind_left hnl)
      rw [hstep]
      cases hs : stepLine f env c active url (n + 1) (strip l) st with
      | error e => rfl
      | ok s =>
        rw [ok_bind, ok_bind]
        exact ihl (n + 1) s hle hsub (incgenNoLimit_bind_right hs hnl)

theorem incgen_run_mono {σ} (env : Env) (c : PCtx σ) (f f' : Nat) (active active' : List Str) (url : Option Str)
    (hle : f ≤ f') (hsub : ∀ w, w ∈ active' → w ∈ active) :
    ∀ (lines : List Str) (n : Nat) (st : PS σ),
      incgenNoLimit (runLines f env c active url lines n st) →
      runLines f' env c active' url lines n st = runLines f env c active url lines n st := by
  intro lines
  induction lines with
  | nil => intro n st _; rfl
  | cons l rest ih =>
    intro n st hnl
    simp only [runLines] at hnl ⊢
    have hstep := incgen_step_mono env c f f' active active' hle hsub
      (fun g g' _ _ u lines s h => incgen_mono env c g g' (u :: active) (u :: active') (some u) lines 0 s (by omega)
        (incgen_mem_cons_of_subset hsub u) h)
      url (n + 1) (strip l) st (incgenNoLimit_bind_left hnl)
    rw [hstep]
    cases hs : stepLine f env c active url (n + 1) (strip l) st with
    | error e => rfl
    | ok s =>
      rw [ok_bind, ok_bind]
      exact ih (n + 1) s (incgenNoLimit_bind_right (g := fun s => runLines f env c active url rest (n + 1) s) hs hnl)

/-! ### open sections underneath are carried along (any context) -/

theorem incgen_enter_addStack {σ} (fuel : Nat) (env : Env) (c : PCtx σ) (active : List Str) (p : Str × List Str)
    (S : List (Str × Option Str)) (st : PS σ) :
    incgenEnter fuel env c active p (addStack S st) = (incgenEnter fuel env c active p st).map (addStack S) := by
  unfold incgenEnter
  split
  · rfl
  · cases fuel with
    | zero => rfl
    | succ g =>
      dsimp only
      rw [show subState (addStack S st) = subState st from rfl]
      cases parseLines g env c (p.1 :: active) (some p.1) p.2 0 (subState st) <;> rfl

theorem step_addStack {σ} (fuel : Nat) (env : Env) (c : PCtx σ) (active : List Str) (url : Option Str) (line : Nat)
    (l : Str) (S : List (Str × Option Str)) (st : PS σ) (hcl : ∀ ty, lineShape l = .close ty → st.stack ≠ []) :
    stepLine fuel env c active url line l (addStack S st) =
      (stepLine fuel env c active url line l st).map (addStack S) := by
  cases hs : lineShape l with
  | skip => rw [stepLine_of_skip hs, stepLine_of_skip hs]; rfl
  | bad t => rw [stepLine_of_bad hs, stepLine_of_bad hs]; rfl
  | internal t => exact absurd hs (lineShape_no_internal l t)
  | close ty =>
    rw [stepLine_of_close hs, stepLine_of_close hs, closeSection_eq, closeSection_eq]
    cases hst : st.stack with
    | nil => exact absurd hst (hcl ty hs)
    | cons p T =>
      simp only [addStack, hst, List.cons_append]
      split
      · rfl
      · cases (c.stop st.ctx ty p.2).mapError (closeErr url line) <;> rfl
  | open_ ty nm e =>
    rw [stepLine_of_open hs, stepLine_of_open hs, openSection_eq, openSection_eq]
    dsimp only [addStack]
    cases (c.start st.ctx ty nm).mapError (startErr url line) with
    | error f => rfl
    | ok a =>
      cases e
      · rfl
      · simp only [ok_bind, if_true]
        cases (c.stop a ty nm).mapError (closeErr url line) <;> rfl
  | kv k raw =>
    rw [stepLine_of_kv hs, stepLine_of_kv hs]
    show replace env st.defs url line raw >>= _ = _
    cases replace env st.defs url line raw with
    | error f => rfl
    | ok v =>
      rw [ok_bind, ok_bind, kvCore_eq, kvCore_eq]
      dsimp only [addStack]
      cases (c.value st.ctx k v { line := line, url := url }).mapError (valueErr url line) <;> rfl
  | define a =>
    rw [stepLine_define _ _ _ _ _ _ _ _ _ hs, stepLine_define _ _ _ _ _ _ _ _ _ hs]
    unfold defStep
    split
    · rfl
    · show (define env url line a st.defs).map _ = _
      cases define env url line a st.defs <;> rfl
  | import_ a =>
    rw [stepLine_import _ _ _ _ _ _ _ _ _ hs, stepLine_import _ _ _ _ _ _ _ _ _ hs]
    unfold impStep
    show replace env st.defs url line (strip a) >>= _ = _
    cases replace env st.defs url line (strip a) with
    | error f => rfl
    | ok pkg =>
      rw [ok_bind, ok_bind]
      show (c.imp st.ctx pkg).map _ = _
      cases c.imp st.ctx pkg <;> rfl
  | include_ arg =>
    rw [incgen_stepLine_include _ _ _ _ _ _ _ _ _ hs, incgen_stepLine_include _ _ _ _ _ _ _ _ _ hs]
    show incgenTarget env c url line arg st.defs >>= _ = _
    cases incgenTarget env c url line arg st.defs with
    | error f => rfl
    | ok p => exact incgen_enter_addStack fuel env c active p S st

theorem run_addStack {σ} (fuel : Nat) (env : Env) (c : PCtx σ) (active : List Str) (url : Option Str)
    (S : List (Str × Option Str)) :
    ∀ (F : List Str) (n : Nat) (st : PS σ), neverBelow F st.stack.length = true →
      runLines fuel env c active url F n (addStack S st) = (runLines fuel env c active url F n st).map (addStack S) := by
  intro F
  induction F with
  | nil => intro n st _; rfl
  | cons l rest ih =>
    intro n st hnb
    simp only [neverBelow, Bool.and_eq_true, decide_eq_true_eq] at hnb
    have hcl : ∀ ty, lineShape (strip l) = .close ty → st.stack ≠ [] := by
      intro ty hty hnil
      have h0 := hnb.1
      unfold lineDelta at h0
      rw [hty, hnil] at h0
      simp at h0
    simp only [runLines]
    rw [step_addStack fuel env c active url (n + 1) (strip l) S st hcl]
    cases hs : stepLine fuel env c active url (n + 1) (strip l) st with
    | error e => rfl
    | ok s => exact ih (n + 1) s (by rw [step_len hs]; exact hnb.2)

/-! ### recording context: the URL and the line number only matter for error messages -/

theorem run_pos_indep (fuel : Nat) (env : Env) (active : List Str) (url url' : Option Str)
    (F : List Str) (n n' : Nat) (st : PS (List Ev0))
    (hrel : ∀ l ∈ F, ∀ arg, lineShape (strip l) = .include_ arg → ∀ a, env.resolve url a = env.resolve url' a) :
    (runLines fuel env rec0 active url F n st).toOption = (runLines fuel env rec0 active url' F n' st).toOption :=
  relM_toOption (relM_mono (run_lineRel rec0_posBlind.posSim.lineRel env (fun _ _ _ _ _ _ _ _ _ => trivial) fuel active url url'
    F n n' st st [] (fun h => (h.elim id id).elim) ⟨fun h => (h.elim id id).elim, hrel⟩ (fun _ _ => trivial)
    ⟨rfl, rfl, rfl⟩).relM fun _ _ h => RS_eq (RS_iff.1 h))

theorem parse_line_indep (fuel : Nat) (env : Env) (active : List Str) (url : Option Str) (lines : List Str) (n n' : Nat)
    (st : PS (List Ev0)) :
    (parseLines fuel env rec0 active url lines n st).toOption =
      (parseLines fuel env rec0 active url lines n' st).toOption :=
  relM_toOption (relM_mono (layout_parse_rel rec0 Eq rec0_posBlind.posSim env fuel active url lines n n' st st ⟨rfl, rfl, rfl⟩)
    fun _ _ => RS_eq)

/-! ### textual inclusion -/

/-- the `%include` line does what the lines of the balanced resource do in its place — read with fuel `g` and active
    resources `active'` — provided these lines, started with nothing open, are read with `g`, `active'`, under the includer's
    URL as they are read by the parser of the included resource -/
theorem incgen_include_step (fuel g : Nat) (env : Env) (active active' : List Str) (url : Option Str)
    (F : List Str) (inc arg a u : Str) (m k : Nat) (st : PS (List Ev0))
    (hshape : lineShape (strip inc) = .include_ arg)
    (hrep : replace env st.defs url k (strip arg) = .ok a)
    (hres : env.resolve url a = .url u) (hfile : env.res u = some F) (hact : u ∉ active) (hbal : Balanced F)
    (hrun : (runLines g env rec0 active' url F m (subState st)).toOption =
      (runLines fuel env rec0 (u :: active) (some u) F 0 (subState st)).toOption) :
    (stepLine (fuel + 1) env rec0 active url k (strip inc) st).toOption =
      (runLines g env rec0 active' url F m st).toOption := by
  rw [incgen_include_found fuel env rec0 active url k (strip inc) arg a u F st hshape rfl hrep hres hfile (.inr hact),
    parseLines_eq_run, bind_assoc, toOption_bind]
  have hst : st = addStack st.stack (subState st) := by cases st; simp [addStack, subState]
  conv => rhs; rw [hst, run_addStack g env rec0 active' url st.stack F m (subState st) hbal.1, toOption_map, hrun]
  apply option_bind_eq_map
  intro s hs
  -- a balanced resource leaves nothing open: the check at its end passes
  have hl := run_len F 0 (subState st) s (toOption_eq_some.1 hs)
  rw [hbal.2] at hl
  have hnil : s.stack = [] := by
    cases hss : s.stack with
    | nil => rfl
    | cons a b => rw [hss] at hl; simp [subState] at hl; omega
  have hfin : finish (some u) (0 + F.length) s = .ok s := by simp [finish, hnil]
  rw [hfin, ok_bind]
  simp [addStack, hnil]

/-- from the `%include` line to the whole text: the lines before (`A`) are read alike on both sides, the `%include` line does
    what the lines of `F` do, and so do the lines after (`B`) -/
theorem incgen_inline_of_step (f g : Nat) (env : Env) (active active' : List Str) (url : Option Str)
    (A F B : List Str) (inc : Str) (n : Nat) (st : PS (List Ev0))
    (hA : runLines f env rec0 active url A n st = runLines g env rec0 active' url A n st)
    (hstep : ∀ sA, runLines g env rec0 active' url A n st = .ok sA →
      (stepLine f env rec0 active url (n + A.length + 1) (strip inc) sA).toOption =
        (runLines g env rec0 active' url F (n + A.length) sA).toOption)
    (hB : ∀ sA s, runLines g env rec0 active' url A n st = .ok sA →
      runLines g env rec0 active' url F (n + A.length) sA = .ok s →
      (parseLines f env rec0 active url B (n + A.length + 1) s).toOption =
        (parseLines g env rec0 active' url B (n + A.length + F.length) s).toOption) :
    outcome (parseLines f env rec0 active url (A ++ [inc] ++ B) n st) =
    outcome (parseLines g env rec0 active' url (A ++ F ++ B) n st) := by
  rw [outcome_eq, outcome_eq]
  congr 1
  rw [List.append_assoc, List.append_assoc, parseLines_append, parseLines_append, hA, toOption_bind, toOption_bind]
  apply option_bind_congr
  intro sA hsA
  rw [toOption_eq_some] at hsA
  rw [List.singleton_append, parseLines, parseLines_append _ _ _ _ _ F B, toOption_bind, toOption_bind, hstep sA hsA]
  apply option_bind_congr
  intro s hs
  exact hB sA s hsA (toOption_eq_some.1 hs)

/-- **C06 with references in the argument** (the fragment itself contains no further `%include`).  `hprep`: with the
    definitions in force when the `%include` line is reached, the argument expands to something that resolves to `u`. -/
theorem incgen_inline_subst (fuel : Nat) (env : Env) (active : List Str) (url : Option Str)
    (A F B : List Str) (inc arg u : Str) (n : Nat) (st : PS (List Ev0))
    (hshape : lineShape (strip inc) = .include_ arg)
    (hprep : ∀ sA, runLines (fuel + 1) env rec0 active url A n st = .ok sA →
      ∃ a, replace env sA.defs url (n + A.length + 1) (strip arg) = .ok a ∧ env.resolve url a = .url u)
    (hfile : env.res u = some F)
    (hact : u ∉ active)
    (hbal : Balanced F) (hni : NoInclude F) :
    outcome (parseLines (fuel + 1) env rec0 active url (A ++ [inc] ++ B) n st) =
    outcome (parseLines (fuel + 1) env rec0 active url (A ++ F ++ B) n st) := by
  refine incgen_inline_of_step _ _ env active active url A F B inc n st rfl ?_ (fun _ _ _ _ => parse_line_indep _ _ _ _ _ _ _ _)
  intro sA hsA
  obtain ⟨a, hrep, hres⟩ := hprep sA hsA
  refine incgen_include_step fuel _ env active active url F inc arg a u _ _ sA hshape hrep hres hfile hact hbal ?_
  rw [run_fuel_indep env rec0 fuel (fuel + 1) (u :: active) active url F _ _ hni]
  exact run_pos_indep fuel env (u :: active) url (some u) F _ 0 _ (fun l hl arg' h' => absurd h' (hni l hl arg'))

/-- **C06 with nested `%include`s.**  The fragment may contain `%include` lines, to any depth.  `hrel`: if it does, their
    arguments resolve against the fragment's URL as they do against the includer's (the inlined copy is read under the
    includer's URL).  `hnl`: the text with the `%include` line is not refused for want of fuel or for an include cycle. -/
theorem incgen_inline_nested (fuel : Nat) (env : Env) (active : List Str) (url : Option Str)
    (A F B : List Str) (inc arg u : Str) (n : Nat) (st : PS (List Ev0))
    (hshape : lineShape (strip inc) = .include_ arg)
    (hprep : ∀ sA, runLines (fuel + 1) env rec0 active url A n st = .ok sA →
      ∃ a, replace env sA.defs url (n + A.length + 1) (strip arg) = .ok a ∧ env.resolve url a = .url u)
    (hfile : env.res u = some F)
    (hact : u ∉ active)
    (hbal : Balanced F)
    (hrel : ∀ l ∈ F, ∀ arg', lineShape (strip l) = .include_ arg' → ∀ a, env.resolve (some u) a = env.resolve url a)
    (hnl : incgenNoLimit (parseLines (fuel + 1) env rec0 active url (A ++ [inc] ++ B) n st)) :
    outcome (parseLines (fuel + 1) env rec0 active url (A ++ [inc] ++ B) n st) =
    outcome (parseLines (fuel + 1) env rec0 active url (A ++ F ++ B) n st) := by
  refine incgen_inline_of_step _ _ env active active url A F B inc n st rfl ?_ (fun _ _ _ _ => parse_line_indep _ _ _ _ _ _ _ _)
  intro sA hsA
  obtain ⟨a, hrep, hres⟩ := hprep sA hsA
  -- the sub-parse of the fragment does not hit a limit
  have hnl1 : incgenNoLimit (runLines fuel env rec0 (u :: active) (some u) F 0 (subState sA)) := by
    rw [List.append_assoc, parseLines_append] at hnl
    have h1 := incgenNoLimit_bind_right
      (g := parseLines (fuel + 1) env rec0 active url ([inc] ++ B) (n + A.length)) hsA hnl
    rw [List.singleton_append, parseLines] at h1
    have h2 := incgenNoLimit_bind_left h1
    rw [incgen_include_found fuel env rec0 active url _ (strip inc) arg a u F sA hshape rfl hrep hres hfile (.inr hact)] at h2
    have h3 := incgenNoLimit_bind_left h2
    rw [parseLines_eq_run] at h3
    exact incgenNoLimit_bind_left h3
  refine incgen_include_step fuel _ env active active url F inc arg a u _ _ sA hshape hrep hres hfile hact hbal ?_
  -- … so one more unit of fuel and one active resource less change nothing; nor do the URL and the line numbers
  rw [← incgen_run_mono env rec0 fuel (fuel + 1) (u :: active) active (some u) (by omega)
    (fun w hw => List.mem_cons.2 (.inr hw)) F 0 (subState sA) hnl1]
  exact run_pos_indep (fuel + 1) env active url (some u) F _ 0 _ (fun l hl arg' h' a => (hrel l hl arg' h' a).symm)

/-- **C06 with nested `%include`s, from the inlined text.**  `hnl`: the INLINED text, read as if `u` were already being read
    (so that it may not include `u`), is not refused for want of fuel or for an include cycle.  Then the text with the
    `%include` line, read with one more unit of fuel, has the same outcome as the inlined text. -/
theorem incgen_inline_nested_rev (fuel : Nat) (env : Env) (active : List Str) (url : Option Str)
    (A F B : List Str) (inc arg u : Str) (n : Nat) (st : PS (List Ev0))
    (hshape : lineShape (strip inc) = .include_ arg)
    (hprep : ∀ sA, runLines (fuel + 1) env rec0 (u :: active) url A n st = .ok sA →
      ∃ a, replace env sA.defs url (n + A.length + 1) (strip arg) = .ok a ∧ env.resolve url a = .url u)
    (hfile : env.res u = some F)
    (hact : u ∉ active)
    (hbal : Balanced F)
    (hrel : ∀ l ∈ F, ∀ arg', lineShape (strip l) = .include_ arg' → ∀ a, env.resolve (some u) a = env.resolve url a)
    (hnl : incgenNoLimit (parseLines (fuel + 1) env rec0 (u :: active) url (A ++ F ++ B) n st)) :
    outcome (parseLines (fuel + 2) env rec0 active url (A ++ [inc] ++ B) n st) =
    outcome (parseLines (fuel + 1) env rec0 active url (A ++ F ++ B) n st) := by
  have hsub : ∀ w, w ∈ active → w ∈ u :: active := fun w hw => List.mem_cons.2 (.inr hw)
  -- the inlined text does not care whether `u` is considered active
  rw [incgen_mono env rec0 (fuel + 1) (fuel + 1) (u :: active) active url (A ++ F ++ B) n st (Nat.le_refl _) hsub hnl]
  rw [List.append_assoc, parseLines_append] at hnl
  refine incgen_inline_of_step _ _ env active (u :: active) url A F B inc n st
    (incgen_run_mono env rec0 (fuel + 1) (fuel + 2) (u :: active) active url (by omega) hsub A n st
      (incgenNoLimit_bind_left hnl)) ?_ ?_
  · intro sA hsA
    obtain ⟨a, hrep, hres⟩ := hprep sA hsA
    exact incgen_include_step (fuel + 1) _ env active (u :: active) url F inc arg a u _ _ sA hshape hrep hres hfile hact hbal
      (run_pos_indep (fuel + 1) env (u :: active) url (some u) F _ 0 _ (fun l hl arg' h' a => (hrel l hl arg' h' a).symm))
  · intro sA s hsA hs
    have hnlB := incgenNoLimit_bind_right (g := parseLines (fuel + 1) env rec0 (u :: active) url (F ++ B) (n + A.length)) hsA hnl
    rw [parseLines_append] at hnlB
    rw [parse_line_indep (fuel + 2) env active url B (n + A.length + 1) (n + A.length + F.length) s,
      incgen_mono env rec0 (fuel + 1) (fuel + 2) (u :: active) active url B _ s (by omega) hsub
        (incgenNoLimit_bind_right hs hnlB)]

/-! ### which URL is opened; where the definitions go -/

/-- definitions (and events) flow through an `%include` line: in with `defs := st.defs`, out with `defs := sub.defs`; the open
    sections of the includer are untouched -/
theorem incgen_flow_step (fuel : Nat) (env : Env) (active : List Str) (url : Option Str) (line : Nat)
    (l arg a u : Str) (F : List Str) (st : PS (List Ev0))
    (hshape : lineShape l = .include_ arg)
    (hrep : replace env st.defs url line (strip arg) = .ok a)
    (hres : env.resolve url a = .url u) (hfile : env.res u = some F) (hact : u = [] ∨ u ∉ active) :
    outcome (stepLine (fuel + 1) env rec0 active url line l st) =
      (outcome (parseLines fuel env rec0 (u :: active) (some u) F 0 (subState st))).map
        (fun r => (r.1, r.2.1, st.stack)) := by
  rw [incgen_include_found fuel env rec0 active url line l arg a u F st hshape rfl hrep hres hfile hact]
  show outcome (parseLines fuel env rec0 (u :: active) (some u) F 0 (subState st) >>= _) =
    (outcome (parseLines fuel env rec0 (u :: active) (some u) F 0 (subState st))).map _
  cases parseLines fuel env rec0 (u :: active) (some u) F 0 (subState st) <;> rfl

theorem incgen_flow (fuel : Nat) (env : Env) (active : List Str) (url : Option Str)
    (A F B : List Str) (inc arg u : Str) (n : Nat) (st : PS (List Ev0))
    (hshape : lineShape (strip inc) = .include_ arg)
    (hprep : ∀ sA, runLines (fuel + 1) env rec0 active url A n st = .ok sA →
      ∃ a, replace env sA.defs url (n + A.length + 1) (strip arg) = .ok a ∧ env.resolve url a = .url u)
    (hfile : env.res u = some F) (hact : u = [] ∨ u ∉ active) :
    outcome (parseLines (fuel + 1) env rec0 active url (A ++ [inc] ++ B) n st) =
      (runLines (fuel + 1) env rec0 active url A n st).toOption.bind fun sA =>
        (outcome (parseLines fuel env rec0 (u :: active) (some u) F 0 (subState sA))).bind fun r =>
          outcome (parseLines (fuel + 1) env rec0 active url B (n + A.length + 1)
            { ctx := r.1, stack := sA.stack, defs := r.2.1 }) := by
  rw [List.append_assoc, List.singleton_append]
  cases hA : runLines (fuel + 1) env rec0 active url A n st with
  | error e =>
    rw [parseLines_append, hA]
    rfl
  | ok sA =>
    obtain ⟨a, hrep, hres⟩ := hprep sA hA
    rw [incgen_parse_at_include fuel env rec0 active url A B inc arg a u F n st sA hA hshape rfl hrep hres hfile hact]
    simp only [toOption_ok, Option.bind_some]
    show outcome (parseLines fuel env rec0 (u :: active) (some u) F 0 (subState sA) >>= _) =
      (outcome (parseLines fuel env rec0 (u :: active) (some u) F 0 (subState sA))).bind _
    cases parseLines fuel env rec0 (u :: active) (some u) F 0 (subState sA) <;> rfl

end ZCV.Cfg
