import ZCV.Lemmas.FailKinds
import ZCV.Lemmas.Misc
/-!
The parser's own steps, each taken apart once.  `replace` and `define` only fail with an error of the parser that names the line
being read (`define` also with the `IndexError` of an argument without a first word).  A failure of the context is rewritten by a
function of the position — `startErr`, `closeErr`, `valueErr`, with the fix-up `fixPos` — so that `closeFixup`, `openSection`,
`closeSection` and `kvCore` are `Except.mapError`s; `closeFixup_ends` and `kvCore_ends` spell the two fix-up sites out case by case.
Last, what follows for the position of an error raised while a key line or a closing line is handled.
-/
namespace ZCV.Cfg
open ZCV

/-! ### the position fix-up -/

/-- what `handle_key_value` and `_end_section` do to the position of an error raised by the context: a missing or negative line
    number becomes the parser's, a missing or empty URL becomes the resource's -/
def fixPos (url : Option Str) (line : Nat) (e : Err) : Err :=
  { e with line := (match e.line with | some l => if l < 0 then some (line : Int) else some l | none => some (line : Int)),
           url := (match e.url with | some u => if u == [] then url else some u | none => url) }

theorem fixPos_kind (url : Option Str) (line : Nat) (e : Err) : (fixPos url line e).kind = e.kind := rfl
theorem fixPos_tag (url : Option Str) (line : Nat) (e : Err) : (fixPos url line e).tag = e.tag := rfl
theorem fixPos_value (url : Option Str) (line : Nat) (e : Err) : (fixPos url line e).value = e.value := rfl

theorem fixPos_nopos (url : Option Str) (line : Nat) (e : Err) (h1 : e.line = none) (h2 : e.url = none) :
    (fixPos url line e).line = some (line : Int) ∧ (fixPos url line e).url = url := by
  simp [fixPos, h1, h2]

theorem fixPos_same (url : Option Str) (line : Nat) (e : Err) (h1 : e.line = some (line : Int)) (h2 : e.url = url) :
    fixPos url line e = e := by
  obtain ⟨kind, l, u, tag, value⟩ := e
  simp only at h1 h2
  subst h1 h2
  have hl : (if (line : Int) < 0 then some (line : Int) else some (line : Int)) = some (line : Int) := by split <;> rfl
  have hu : (match u with | some v => if v == [] then u else some v | none => u) = u := by
    cases u with
    | none => rfl
    | some v =>
      dsimp only
      split
      · rename_i hn
        rw [eq_of_beq hn]
      · rfl
  simp only [fixPos, hl, hu]

theorem fixPos_keep (url : Option Str) (line : Nat) (e : Err) (l : Int) (u : Str) (h1 : e.line = some l) (hl : 0 ≤ l)
    (h2 : e.url = some u) (hu : u ≠ []) : (fixPos url line e).line = some l ∧ (fixPos url line e).url = some u := by
  simp only [fixPos, h1, h2]
  constructor
  · rw [if_neg (by omega)]
  · rw [if_neg (by simpa using hu)]

theorem fixPos_line (url : Option Str) (line : Nat) (e : Err) : ∃ n : Int, (fixPos url line e).line = some n ∧ 0 ≤ n := by
  unfold fixPos
  dsimp only
  split
  · rename_i l _
    split
    · exact ⟨line, rfl, by omega⟩
    · exact ⟨l, rfl, by omega⟩
  · exact ⟨line, rfl, by omega⟩

theorem fixPos_line_ne (url : Option Str) (line : Nat) (e : Err) : (fixPos url line e).line ≠ none := by
  unfold fixPos
  dsimp only
  split
  · split <;> nofun
  · nofun

/-! ### what the parser makes of a failure of the context

The parser calls an operation of its context, rewrites its failure by a function of the position, and stores the new state:
`start_section` turns a configuration error into a syntax error of the line, `end_section` fixes up a conversion error and turns
any other configuration error into a syntax error, `handle_key_value` fixes up every configuration error; what is no
configuration error passes through. -/

def startErr (url : Option Str) (line : Nat) : Fail → Fail
  | .cfg e => synErr url line ("start:" ++ e.tag)
  | f => f

def closeErr (url : Option Str) (line : Nat) : Fail → Fail
  | .cfg e => if e.kind == .conversion then .cfg (fixPos url line e) else synErr url line ("close:" ++ e.tag)
  | f => f

def valueErr (url : Option Str) (line : Nat) : Fail → Fail
  | .cfg e => .cfg (fixPos url line e)
  | f => f

theorem closeFixup_eq {σ} (url : Option Str) (line : Nat) (r : M σ) :
    closeFixup url line r = r.mapError (closeErr url line) := by
  cases r with
  | ok s => rfl
  | error f =>
    cases f with
    | cfg e => unfold closeFixup closeErr; dsimp only [Except.mapError]; split <;> rfl
    | internal x => rfl
    | dtExc n => rfl

theorem openSection_eq {σ} (c : PCtx σ) (url : Option Str) (line : Nat) (ty : Str) (nm : Option Str) (e : Bool)
    (st : PS σ) :
    openSection c url line ty nm e st =
      (c.start st.ctx ty nm).mapError (startErr url line) >>= fun a =>
        if e then ((c.stop a ty nm).mapError (closeErr url line)).map fun a' => { st with ctx := a' }
        else .ok { st with ctx := a, stack := (ty, nm) :: st.stack } := by
  unfold openSection
  cases c.start st.ctx ty nm with
  | error f => cases f <;> rfl
  | ok a => cases e <;> simp only [closeFixup_eq] <;> rfl

theorem closeSection_eq {σ} (c : PCtx σ) (url : Option Str) (line : Nat) (ty : Str) (st : PS σ) :
    closeSection c url line ty st =
      match st.stack with
      | [] => .error (synErr url line "unexpected section end")
      | (ot, nm) :: T =>
        if ty != ot then .error (synErr url line "unbalanced section end")
        else ((c.stop st.ctx ty nm).mapError (closeErr url line)).map fun a => { st with ctx := a, stack := T } := by
  unfold closeSection
  simp only [closeFixup_eq]
  cases st.stack <;> rfl

theorem kvCore_eq {σ} (c : PCtx σ) (url : Option Str) (line : Nat) (k v : Str) (st : PS σ) :
    kvCore c url line k v st =
      ((c.value st.ctx k v { line := line, url := url }).mapError (valueErr url line)).map fun a => { st with ctx := a } := by
  unfold kvCore
  cases c.value st.ctx k v { line := line, url := url } with
  | ok a => rfl
  | error f => cases f <;> rfl

theorem closeFixup_ok_iff {σ} (url : Option Str) (line : Nat) (r : M σ) (s : σ) :
    closeFixup url line r = .ok s ↔ r = .ok s := by
  rw [closeFixup_eq]
  exact mapError_ok_iff

/-! ### `replace`, `define` -/

/-- raised by the parser itself (`self.error(...)`, or `replace`) while it reads line `line` of `url` -/
def ParserErr (url : Option Str) (line : Nat) (f : Fail) : Prop :=
  ∃ e, f = .cfg e ∧ e.line = some (line : Int) ∧ e.url = url ∧
    (e.kind = .syntax ∨ e.kind = .replacement ∨ e.kind = .substSyntax) ∧ e.value = none

theorem ParserErr.syn (url : Option Str) (line : Nat) (tag : String) : ParserErr url line (synErr url line tag) :=
  ⟨_, rfl, rfl, rfl, .inl rfl, rfl⟩

theorem ParserErr.notInternal {url : Option Str} {line : Nat} {f : Fail} (h : ParserErr url line f) : NotInternal f := by
  obtain ⟨e, rfl, _⟩ := h
  exact .cfg e

theorem replace_error (env : Env) (defs) (url : Option Str) (line : Nat) (raw : Str) (f : Fail)
    (h : replace env defs url line raw = .error f) :
    ∃ e, f = .cfg e ∧ e.line = some (line : Int) ∧ e.url = url ∧ (e.kind = .replacement ∨ e.kind = .substSyntax) ∧
      e.value = none := by
  unfold replace at h
  split at h
  · cases h
  · cases h; exact ⟨_, rfl, rfl, rfl, .inl rfl, rfl⟩
  · cases h; exact ⟨_, rfl, rfl, rfl, .inr rfl, rfl⟩

theorem replace_ends (env : Env) (defs) (url : Option Str) (line : Nat) (t : Str) :
    Ends (replace env defs url line t) (fun _ => True) (ParserErr url line) :=
  .intro (fun _ _ => trivial) fun f h =>
    let ⟨e, he, hl, hu, hk, hv⟩ := replace_error env defs url line t f h
    ⟨e, he, hl, hu, .inr hk, hv⟩

/-- the `IndexError` of `parts[0]` needs an argument without a first word -/
theorem define_ends (env : Env) (url : Option Str) (line : Nat) (rest : Str) (defs : List (Str × Str)) :
    Ends (define env url line rest defs) (fun _ => True)
      (fun f => ParserErr url line f ∨ (Internal f ∧ splitWS1 rest = [])) := by
  unfold define
  split
  · rename_i h
    exact .error (.inr ⟨⟨_, rfl⟩, h⟩)
  · rename_i p0 more _
    have hr := (replace_ends env defs url line (defValue more)).fails fun f h =>
      (.inl h : ParserErr url line f ∨ (Internal f ∧ splitWS1 rest = []))
    have tail : Ends (do
        if !Subst.isname (lower p0) then throw (synErr url line "not a substitution legal name")
        let nv ← replace env defs url line (defValue more)
        pure (setDef defs (lower p0) nv) : M (List (Str × Str))) (fun _ => True)
        (fun f => ParserErr url line f ∨ (Internal f ∧ splitWS1 rest = [])) :=
      .ite (fun _ => .error (.inl (.syn _ _ _))) fun _ => hr.bind fun _ _ => .ok trivial
    dsimp only
    cases lookupDef defs (lower p0) with
    | none => exact tail
    | some cur => exact hr.bind fun nv _ => .ite (fun _ => .error (.inl (.syn _ _ _))) fun _ => tail

/-! ### the two fix-up sites -/

/-- `closeFixup` passes a result, and a failure that is no configuration error, through; a conversion error is fixed up, any
    other configuration error becomes a syntax error of this line -/
theorem closeFixup_ends {σ} (url : Option Str) (line : Nat) (r : M σ) :
    Ends (closeFixup url line r) (fun s => r = .ok s)
      (fun f => (∃ e', r = .error (.cfg e') ∧
          ((e'.kind = .conversion ∧ f = .cfg (fixPos url line e')) ∨
           (e'.kind ≠ .conversion ∧ f = synErr url line ("close:" ++ e'.tag)))) ∨
        ((∀ e, f ≠ .cfg e) ∧ r = .error f)) := by
  rw [closeFixup_eq]
  cases r with
  | ok s => exact rfl
  | error f =>
    cases f with
    | cfg e =>
      show Ends (.error (if e.kind == .conversion then _ else _)) _ _
      by_cases hk : (e.kind == .conversion) = true
      · rw [if_pos hk]; exact .error (.inl ⟨e, rfl, .inl ⟨by simpa using hk, rfl⟩⟩)
      · rw [if_neg hk]; exact .error (.inl ⟨e, rfl, .inr ⟨by simpa using hk, rfl⟩⟩)
    | internal x => exact .error (.inr ⟨fun _ h => (nomatch h), rfl⟩)
    | dtExc n => exact .error (.inr ⟨fun _ h => (nomatch h), rfl⟩)

theorem closeFixup_error {σ} (url : Option Str) (line : Nat) (r : M σ) (e : Err)
    (h : closeFixup url line r = .error (.cfg e)) :
    ∃ e', r = .error (.cfg e') ∧
      ((e'.kind = .conversion ∧ e = fixPos url line e') ∨
       (e'.kind ≠ .conversion ∧ e = { kind := .syntax, line := some (line : Int), url := url, tag := "close:" ++ e'.tag })) := by
  rcases (closeFixup_ends url line r).of_error h with ⟨e', he', h'⟩ | ⟨hf, _⟩
  · exact ⟨e', he', h'.imp (fun h => ⟨h.1, Fail.cfg.inj h.2⟩) fun h => ⟨h.1, Fail.cfg.inj h.2⟩⟩
  · exact absurd rfl (hf e)

/-- `kvCore` likewise: every configuration error of `addValue` is fixed up -/
theorem kvCore_ends {σ} (c : PCtx σ) (url : Option Str) (line : Nat) (key v : Str) (st : PS σ) :
    Ends (kvCore c url line key v st)
      (fun st' => ∃ a, c.value st.ctx key v { line := line, url := url } = .ok a ∧ st' = { st with ctx := a })
      (fun f => (∃ e', c.value st.ctx key v { line := line, url := url } = .error (.cfg e') ∧ f = .cfg (fixPos url line e')) ∨
        ((∀ e, f ≠ .cfg e) ∧ c.value st.ctx key v { line := line, url := url } = .error f)) := by
  rw [kvCore_eq]
  cases h : c.value st.ctx key v { line := line, url := url } with
  | ok a => exact .ok ⟨a, rfl, rfl⟩
  | error f =>
    cases f with
    | cfg e => exact .error (.inl ⟨e, rfl, rfl⟩)
    | internal x => exact .error (.inr ⟨fun _ h => (nomatch h), rfl⟩)
    | dtExc n => exact .error (.inr ⟨fun _ h => (nomatch h), rfl⟩)

theorem kvCore_error_other {σ} (c : PCtx σ) (url : Option Str) (line : Nat) (key v : Str) (st : PS σ) (f : Fail)
    (hf : ∀ e, f ≠ .cfg e) (h : kvCore c url line key v st = .error f) :
    c.value st.ctx key v { line := line, url := url } = .error f := by
  rcases (kvCore_ends c url line key v st).of_error h with ⟨e', _, rfl⟩ | ⟨_, h'⟩
  · exact absurd rfl (hf _)
  · exact h'

/-! ### the position of an error raised on a key line or a closing line -/

theorem replace_error_position (env : Env) (defs) (url : Option Str) (line : Nat) (raw : Str) (e : Err)
    (h : replace env defs url line raw = .error (.cfg e)) : e.line = some (line : Int) ∧ e.url = url := by
  obtain ⟨_, he, h1, h2, _⟩ := replace_error env defs url line raw _ h
  cases he
  exact ⟨h1, h2⟩

/-- what goes wrong on a key line: the substitution, or `addValue` (fixed up) -/
theorem keyValue_cases {σ} (env : Env) (c : PCtx σ) (url : Option Str) (line : Nat) (key raw : Str) (st : PS σ)
    (e : Err) (h : keyValue env c url line key raw st = .error (.cfg e)) :
    replace env st.defs url line raw = .error (.cfg e) ∨
    ∃ v e', c.value st.ctx key v { line := line, url := url } = .error (.cfg e') ∧ e = fixPos url line e' := by
  rw [keyValue_eq] at h
  cases hv : (if raw == [] then pure [] else replace env st.defs url line raw : M Str) with
  | error f =>
    rw [hv] at h
    cases h
    split at hv
    · cases hv
    · exact .inl hv
  | ok v =>
    rw [hv] at h
    rcases (kvCore_ends c url line key v st).of_error h with ⟨e', he', h'⟩ | ⟨hf, _⟩
    · exact .inr ⟨v, e', he', Fail.cfg.inj h'⟩
    · exact absurd rfl (hf e)

end ZCV.Cfg
