import ZCV.Lemmas.LogFormatParse
import ZCV.Lemmas.Lists
/-!
The `template` / `safe-template` log formats (C20).  The scanner: what `scanDollar` finds, by the shape of the text after the
`$`; `scan` without its fuel computes exactly the declarative tokenisation `Tokens` of `ZCV/Spec/LogTemplate.lean`, and
therefore gives the source text back.  Then acceptance and safety: when `substitute` / `safe_substitute` over the pieces
succeed, the load-time verdicts on the sample record, formatting a record.
-/
namespace ZCV.LogTemplateLemmas
open ZCV ZCV.LogFormat ZCV.LogTemplate ZCV.LogTemplateSpec ZCV.LogFormatLemmas

theorem lt_ne_dollar {c : Char} (h : ¬ (c == '$') = true) : (c != '$') = true := by
  simp only [bne, Bool.not_eq_true'] at *
  simp [h]

theorem lt_idStart_dollar : isIdStart '$' = false := by decide
theorem lt_idStart_lbrace : isIdStart '{' = false := by decide
theorem lt_idChar_rbrace : isIdChar '}' = false := by decide

theorem lt_idStart_ne_dollar {c : Char} (h : isIdStart c = true) : (c == '$') = false := by
  cases hc : c == '$' with
  | false => rfl
  | true =>
    simp only [beq_iff_eq] at hc
    subst hc
    rw [lt_idStart_dollar] at h
    cases h

theorem lt_scanDollar_escaped (rest : Str) : scanDollar ('$' :: rest) = (.escaped, rest) := by
  simp [scanDollar]

theorem lt_scanDollar_named (n rest : Str) (hn : isIdent n = true) (hr : NoIdCharAhead rest) :
    scanDollar (n ++ rest) = (.named n, rest) := by
  cases n with
  | nil => cases hn
  | cons c n' =>
    simp only [isIdent, Bool.and_eq_true, List.all_eq_true] at hn
    obtain ⟨h1, h2⟩ := hn
    obtain ⟨ht, hd⟩ := takeWhile_dropWhile_stop isIdChar n' rest (List.all_eq_true.mpr h2) (forall_mem_head? hr)
    simp only [scanDollar, List.cons_append, lt_idStart_ne_dollar h1, Bool.false_eq_true, if_false, h1, if_true, ht, hd]

theorem lt_scanDollar_braced (n rest : Str) (hn : isIdent n = true) :
    scanDollar ('{' :: (n ++ '}' :: rest)) = (.braced n, rest) := by
  cases n with
  | nil => cases hn
  | cons c n' =>
    simp only [isIdent, Bool.and_eq_true, List.all_eq_true] at hn
    obtain ⟨h1, h2⟩ := hn
    obtain ⟨ht, hd⟩ := takeWhile_dropWhile_stop isIdChar n' ('}' :: rest) (List.all_eq_true.mpr h2)
      (fun c h => by cases h; exact lt_idChar_rbrace)
    have hb : ('{' == '$') = false := by decide
    simp only [scanDollar, List.cons_append, hb, Bool.false_eq_true, if_false, lt_idStart_lbrace, beq_self_eq_true, if_true,
      h1, hd, ht]

theorem lt_scanDollar_invalid (rest : Str) (h : NoPlaceholderAhead rest) : scanDollar rest = (.invalid, rest) := by
  obtain ⟨h1, h2⟩ := h
  unfold scanDollar
  split
  · rfl
  · rename_i c t'
    obtain ⟨hc1, hc2⟩ := h1 c t' rfl
    have hb : (c == '$') = false := by simp [hc1]
    simp only [hb, Bool.false_eq_true, if_false, hc2]
    split
    · rename_i hbr
      simp only [beq_iff_eq] at hbr
      subst hbr
      split
      · rfl
      · rename_i c2 t2
        split
        · rename_i hs
          split
          · rename_i c3 t3 hd
            split
            · rename_i h3
              simp only [beq_iff_eq] at h3
              subst h3
              exfalso
              refine h2 (c2 :: t2.takeWhile isIdChar) t3 ?_ ?_
              · simp only [isIdent, hs, Bool.true_and, List.all_eq_true]
                intro x hx
                exact mem_takeWhile_imp hx
              · rw [List.cons_append, ← hd, List.takeWhile_append_dropWhile]
            · rfl
          · rfl
        · rfl
    · rfl

theorem lt_ident_brace {n t t2 : Str} {c2 : Char} (hn : isIdent n = true) (h : c2 :: t2 = n ++ '}' :: t) :
    isIdStart c2 = true ∧ t2.dropWhile isIdChar = '}' :: t := by
  cases n with
  | nil => cases hn
  | cons a n' =>
    simp only [isIdent, Bool.and_eq_true, List.all_eq_true] at hn
    rw [List.cons_append] at h
    injection h with h1 h2
    subst h1 h2
    exact ⟨hn.1, (takeWhile_dropWhile_stop isIdChar n' ('}' :: t) (List.all_eq_true.mpr hn.2)
      (fun c h => by cases h; exact lt_idChar_rbrace)).2⟩

theorem lt_dollar_cases (t : Str) :
    (∃ rest, t = '$' :: rest) ∨
    (∃ n rest, t = n ++ rest ∧ isIdent n = true ∧ NoIdCharAhead rest) ∨
    (∃ n rest, t = '{' :: (n ++ '}' :: rest) ∧ isIdent n = true) ∨
    NoPlaceholderAhead t := by
  cases t with
  | nil => exact .inr (.inr (.inr ⟨fun c t h => (by cases h), fun n t _ h => (by cases h)⟩))
  | cons c t' =>
    by_cases hc : c = '$'
    · subst hc; exact .inl ⟨t', rfl⟩
    by_cases hs : isIdStart c = true
    · refine .inr (.inl ⟨c :: t'.takeWhile isIdChar, t'.dropWhile isIdChar, ?_, ?_, ?_⟩)
      · rw [List.cons_append, List.takeWhile_append_dropWhile]
      · simp only [isIdent, hs, Bool.true_and, List.all_eq_true]
        exact fun _ => mem_takeWhile_imp
      · exact fun x y hxy => dropWhile_head_not isIdChar t' x y hxy
    have hs' : isIdStart c = false := by simpa using hs
    -- from here on `c` is neither `$` nor the start of an identifier: only `{identifier}` is left
    have hfirst : ∀ c' t'', c :: t' = c' :: t'' → c' ≠ '$' ∧ isIdStart c' = false := by
      intro c' t'' h
      injection h with h1 _
      subst h1
      exact ⟨hc, hs'⟩
    by_cases hbr : ∃ c2 t2 t3, c :: t' = '{' :: c2 :: t2 ∧ isIdStart c2 = true ∧ t2.dropWhile isIdChar = '}' :: t3
    · obtain ⟨c2, t2, t3, h, hs2, hd⟩ := hbr
      refine .inr (.inr (.inl ⟨c2 :: t2.takeWhile isIdChar, t3, ?_, ?_⟩))
      · rw [h, List.cons_append, ← hd, List.takeWhile_append_dropWhile]
      · simp only [isIdent, hs2, Bool.true_and, List.all_eq_true]
        exact fun _ => mem_takeWhile_imp
    · refine .inr (.inr (.inr ⟨hfirst, fun n t hn h => hbr ?_⟩))
      cases hnt : n ++ '}' :: t with
      | nil => cases n <;> cases hnt
      | cons c2 t2 => exact ⟨c2, t2, t, by rw [h, hnt], lt_ident_brace hn hnt.symm⟩

theorem lt_scanDollar_length (t : Str) : (scanDollar t).2.length ≤ t.length := by
  rcases lt_dollar_cases t with ⟨rest, rfl⟩ | ⟨n, rest, rfl, hn, hr⟩ | ⟨n, rest, rfl, hn⟩ | hr
  · rw [lt_scanDollar_escaped]; exact Nat.le_succ _
  · rw [lt_scanDollar_named n rest hn hr, List.length_append]; exact Nat.le_add_left _ _
  · rw [lt_scanDollar_braced n rest hn]
    simp only [List.length_cons, List.length_append]
    omega
  · rw [lt_scanDollar_invalid t hr]; exact Nat.le_refl _

theorem lt_scanAux_fuel : ∀ (f1 f2 : Nat) (s : Str), s.length ≤ f1 → s.length ≤ f2 → scanAux f1 s = scanAux f2 s := by
  intro f1
  induction f1 with
  | zero =>
    intro f2 s h1 _
    have : s = [] := List.eq_nil_of_length_eq_zero (by omega)
    subst this
    cases f2 <;> rfl
  | succ f1 ih =>
    intro f2 s h1 h2
    cases s with
    | nil => cases f2 <;> rfl
    | cons c t =>
      simp only [List.length_cons] at h1 h2
      cases f2 with
      | zero => omega
      | succ f2 =>
        unfold scanAux
        split
        · have := lt_scanDollar_length t
          rw [ih f2 _ (by omega) (by omega)]
        · rename_i hc
          have hp := lt_ne_dollar hc
          have hl : ((c :: t).dropWhile (· != '$')).length ≤ t.length := by
            rw [List.dropWhile_cons_of_pos (p := (· != '$')) hp]; exact length_dropWhile_le _ t
          rw [ih f2 _ (by omega) (by omega)]

theorem lt_scan_nil : scan [] = [] := rfl

theorem lt_scan_dollar (t : Str) : scan ('$' :: t) = (scanDollar t).1 :: scan (scanDollar t).2 := by
  have hl := lt_scanDollar_length t
  show scanAux (t.length + 1) ('$' :: t) = _
  unfold scanAux
  simp only [beq_self_eq_true, if_true]
  unfold scan
  rw [lt_scanAux_fuel t.length (scanDollar t).2.length _ hl (Nat.le_refl _)]

theorem lt_scan_lit (c : Char) (t : Str) (hc : c ≠ '$') :
    scan (c :: t) = .lit (c :: t.takeWhile (· != '$')) :: scan (t.dropWhile (· != '$')) := by
  have hp : (c != '$') = true := by simp [bne, hc]
  have hb : ¬ (c == '$') = true := by simp [hc]
  show scanAux (t.length + 1) (c :: t) = _
  unfold scanAux
  simp only [hb, Bool.false_eq_true, if_false]
  rw [List.takeWhile_cons_of_pos (p := (· != '$')) hp, List.dropWhile_cons_of_pos (p := (· != '$')) hp]
  unfold scan
  rw [lt_scanAux_fuel t.length (t.dropWhile (· != '$')).length _ (length_dropWhile_le _ t) (Nat.le_refl _)]

theorem lt_tokens_scan {s : Str} {ps : List Piece} (h : Tokens s ps) : scan s = ps := by
  induction h with
  | nil => rfl
  | lit l rest ps hl hd hr _ ih =>
    cases l with
    | nil => exact absurd rfl hl
    | cons c l' =>
      have hc : c ≠ '$' := hd c (List.mem_cons_self)
      obtain ⟨ht, hdw⟩ := takeWhile_dropWhile_stop (· != '$') l' rest
        (List.all_eq_true.mpr fun x hx => by simp [bne, hd x (List.mem_cons_of_mem _ hx)])
        (forall_mem_head? fun x t hx => by simp [bne, hr x t hx])
      rw [List.cons_append, lt_scan_lit c _ hc, ht, hdw, ih]
  | escaped rest ps _ ih => rw [lt_scan_dollar, lt_scanDollar_escaped, ih]
  | named n rest ps hn hr _ ih => rw [lt_scan_dollar, lt_scanDollar_named n rest hn hr, ih]
  | braced n rest ps hn _ ih => rw [lt_scan_dollar, lt_scanDollar_braced n rest hn, ih]
  | invalid rest ps hr _ ih => rw [lt_scan_dollar, lt_scanDollar_invalid rest hr, ih]

theorem lt_scan_tokens : ∀ (k : Nat) (s : Str), s.length ≤ k → Tokens s (scan s) := by
  intro k
  induction k with
  | zero =>
    intro s hs
    have : s = [] := List.eq_nil_of_length_eq_zero (by omega)
    subst this
    exact Tokens.nil
  | succ k ih =>
    intro s hs
    cases s with
    | nil => exact Tokens.nil
    | cons c t =>
      simp only [List.length_cons] at hs
      by_cases hc : c = '$'
      · subst hc
        rw [lt_scan_dollar]
        rcases lt_dollar_cases t with ⟨rest, rfl⟩ | ⟨n, rest, rfl, hn, hr⟩ | ⟨n, rest, rfl, hn⟩ | hr
        · rw [lt_scanDollar_escaped]
          exact Tokens.escaped rest _ (ih rest (by simp only [List.length_cons] at hs; omega))
        · rw [lt_scanDollar_named n rest hn hr]
          exact Tokens.named n rest _ hn hr (ih rest (by simp only [List.length_append] at hs; omega))
        · rw [lt_scanDollar_braced n rest hn]
          exact Tokens.braced n rest _ hn
            (ih rest (by simp only [List.length_cons, List.length_append] at hs; omega))
        · rw [lt_scanDollar_invalid t hr]
          exact Tokens.invalid t _ hr (ih t (by omega))
      · rw [lt_scan_lit c t hc]
        have hp : (c != '$') = true := by simp [bne, hc]
        have := Tokens.lit (c :: t.takeWhile (· != '$')) (t.dropWhile (· != '$')) (scan (t.dropWhile (· != '$')))
          (by simp)
          (by
            intro x hx
            rcases List.mem_cons.mp hx with h | h
            · subst h; exact hc
            · have := mem_takeWhile_imp (p := (· != '$')) h
              simpa [bne] using this)
          (by
            intro x y hxy
            have := dropWhile_head_not (· != '$') t x y hxy
            simpa [bne] using this)
          (ih _ (by have := length_dropWhile_le (· != '$') t; omega))
        rw [List.cons_append, List.takeWhile_append_dropWhile] at this
        exact this

theorem lt_tokens_text {s : Str} {ps : List Piece} (h : Tokens s ps) : ps.flatMap Piece.text = s := by
  induction h with
  | nil => rfl
  | lit l rest ps _ _ _ _ ih => rw [List.flatMap_cons, ih]; rfl
  | escaped rest ps _ ih => rw [List.flatMap_cons, ih]; rfl
  | named n rest ps _ _ _ ih => rw [List.flatMap_cons, ih]; rfl
  | braced n rest ps _ _ ih => rw [List.flatMap_cons, ih]; simp [Piece.text]
  | invalid rest ps _ _ ih => rw [List.flatMap_cons, ih]; rfl

theorem lt_scan_text (s : Str) : (scan s).flatMap Piece.text = s := lt_tokens_text (lt_scan_tokens s.length s (Nat.le_refl _))

theorem lt_mem_scan_infix {s : Str} {p : Piece} (h : p ∈ scan s) : ∃ pre post, s = pre ++ (p.text ++ post) := by
  obtain ⟨a, b, hab⟩ := List.append_of_mem h
  refine ⟨a.flatMap Piece.text, b.flatMap Piece.text, ?_⟩
  have := lt_scan_text s
  rw [hab, List.flatMap_append, List.flatMap_cons] at this
  exact this.symm

/-! # Acceptance and safety -/

/-! ## `runPieces` -/

theorem lt_runPieces_ok (f : Piece → Except PyErr Unit) (ps : List Piece) :
    runPieces f ps = .ok () ↔ ∀ p ∈ ps, f p = .ok () := by
  induction ps with
  | nil => simp [runPieces]
  | cons p rest ih =>
    simp only [runPieces, List.mem_cons, forall_eq_or_imp]
    cases hp : f p with
    | error e => simp
    | ok u => simp only [ih, true_and]

theorem lt_runPieces_error (f : Piece → Except PyErr Unit) (ps : List Piece) (e : PyErr)
    (h : runPieces f ps = .error e) : ∃ p ∈ ps, f p = .error e := by
  induction ps with
  | nil => simp [runPieces] at h
  | cons p rest ih =>
    simp only [runPieces] at h
    cases hp : f p with
    | error e' =>
      simp only [hp, Except.error.injEq] at h
      subst h
      exact ⟨p, List.mem_cons_self, hp⟩
    | ok u =>
      simp only [hp] at h
      obtain ⟨q, hq, hf⟩ := ih h
      exact ⟨q, List.mem_cons_of_mem _ hq, hf⟩

theorem lt_mem_refs {ps : List Piece} {n : Str} : n ∈ refs ps ↔ ∃ p ∈ ps, p.ref = some n := by
  simp only [refs, List.mem_filterMap]

theorem lt_any_invalid (ps : List Piece) : ps.any Piece.isInvalid = true ↔ Piece.invalid ∈ ps := by
  rw [List.any_eq_true]
  constructor
  · rintro ⟨p, hp, hi⟩
    cases p <;> first | exact hp | cases hi
  · intro h
    exact ⟨.invalid, h, rfl⟩

/-! ## `str()` -/

theorem lt_strOk_iff_prints (v : Value) : StrOk v ↔ LogFormatSpec.Prints v := by
  cases v <;> simp [-Nat.reducePow, StrOk, LogFormatSpec.Prints, intMaxStrDigits]

theorem lt_strCheck_ok (v : Value) : strCheck v = .ok () ↔ StrOk v :=
  (lf_strCheck_ok v).trans (lt_strOk_iff_prints v).symm

theorem lt_strOkB (v : Value) (h : strOkB v = true) : StrOk v := by
  intro n hn
  subst hn
  simpa [strOkB] using h

theorem lt_substPiece_ok (d : Dict) (p : Piece) :
    substPiece d p = .ok () ↔ p ≠ .invalid ∧ ∀ n, p.ref = some n → ∃ v, d n = some v ∧ StrOk v := by
  cases p with
  | lit s => simp [substPiece, Piece.ref]
  | escaped => simp [substPiece, Piece.ref]
  | invalid => simp [substPiece]
  | named n | braced n =>
    simp only [substPiece, Piece.ref, Option.some.injEq, ne_eq, reduceCtorEq, not_false_eq_true, true_and, forall_eq']
    cases hd : d n with
    | none => simp
    | some v => simp [lt_strCheck_ok]

theorem lt_safePiece_ok (d : Dict) (p : Piece) :
    safePiece d p = .ok () ↔ ∀ n v, p.ref = some n → d n = some v → StrOk v := by
  cases p with
  | lit s => simp [safePiece, Piece.ref]
  | escaped => simp [safePiece, Piece.ref]
  | invalid => simp [safePiece, Piece.ref]
  | named n | braced n =>
    simp only [safePiece, Piece.ref, Option.some.injEq]
    constructor
    · intro h m w hm hw
      subst hm
      simp only [hw] at h
      exact (lt_strCheck_ok w).mp h
    · intro h
      cases hd : d n with
      | none => rfl
      | some v => exact (lt_strCheck_ok v).mpr (h n v rfl hd)

theorem lt_substitute_ok (fmt : Str) (d : Dict) :
    substitute fmt d = .ok () ↔
      Piece.invalid ∉ scan fmt ∧ ∀ n ∈ refs (scan fmt), ∃ v, d n = some v ∧ StrOk v := by
  unfold substitute
  rw [lt_runPieces_ok]
  constructor
  · intro h
    refine ⟨fun hi => ((lt_substPiece_ok d _).mp (h _ hi)).1 rfl, fun n hn => ?_⟩
    obtain ⟨p, hp, hr⟩ := lt_mem_refs.mp hn
    exact ((lt_substPiece_ok d p).mp (h p hp)).2 n hr
  · rintro ⟨h1, h2⟩ p hp
    rw [lt_substPiece_ok]
    exact ⟨fun he => h1 (he ▸ hp), fun n hr => h2 n (lt_mem_refs.mpr ⟨p, hp, hr⟩)⟩

theorem lt_safeSubstitute_ok (fmt : Str) (d : Dict) :
    safeSubstitute fmt d = .ok () ↔ ∀ n ∈ refs (scan fmt), ∀ v, d n = some v → StrOk v := by
  unfold safeSubstitute
  rw [lt_runPieces_ok]
  constructor
  · intro h n hn v hv
    obtain ⟨p, hp, hr⟩ := lt_mem_refs.mp hn
    exact (lt_safePiece_ok d p).mp (h p hp) n v hr hv
  · intro h p hp
    rw [lt_safePiece_ok]
    exact fun n v hr hv => h n (lt_mem_refs.mpr ⟨p, hp, hr⟩) v hv

/-- the exceptions of `substitute`: ValueError (invalid `$`, or `str()` of a huge int) and KeyError, nothing else -/
theorem lt_substitute_error (fmt : Str) (d : Dict) (e : PyErr) (h : substitute fmt d = .error e) :
    e = .valueError ∨ e = .keyError := by
  obtain ⟨p, _, hf⟩ := lt_runPieces_error _ _ _ h
  cases p with
  | lit s => cases hf
  | escaped => cases hf
  | invalid => injection hf with hf; exact .inl hf.symm
  | named n | braced n =>
    simp only [substPiece] at hf
    split at hf
    · injection hf with hf; exact .inr hf.symm
    · exact .inl (lf_strCheck_error _ e hf)

theorem lt_safeSubstitute_error (fmt : Str) (d : Dict) (e : PyErr) (h : safeSubstitute fmt d = .error e) :
    e = .valueError := by
  obtain ⟨p, _, hf⟩ := lt_runPieces_error _ _ _ h
  cases p with
  | lit s => cases hf
  | escaped => cases hf
  | invalid => cases hf
  | named n | braced n =>
    simp only [safePiece] at hf
    split at hf
    · cases hf
    · exact lf_strCheck_error _ e hf

/-! ## The sample record -/

theorem knownNames_eq : knownNames = sampleVars.map (·.1) := LogRecord.knownNames_keys.trans LogRecord.sampleVars_keys.symm

theorem lt_sample_known (k : Str) : k ∈ knownNames ↔ ∃ v, sampleDict k = some v := by
  rw [knownNames_eq, List.mem_map]
  constructor
  · rintro ⟨⟨k', v⟩, hm, rfl⟩
    exact ⟨v, (lf_sample_iff _ _).mpr hm⟩
  · rintro ⟨v, hv⟩
    exact ⟨(k, v), (lf_sample_iff _ _).mp hv, rfl⟩

theorem lt_sample_printable (k : Str) (v : Value) (h : sampleDict k = some v) : StrOk v :=
  (lt_strCheck_ok v).mp (lf_strCheck_of_good v (lf_sample_good_of k v h))

theorem lt_sample_known' (k : Str) : k ∈ knownNames ↔ ∃ v, sampleDict k = some v ∧ StrOk v := by
  rw [lt_sample_known]
  exact ⟨fun ⟨v, hv⟩ => ⟨v, hv, lt_sample_printable k v hv⟩, fun ⟨v, hv, _⟩ => ⟨v, hv⟩⟩

/-! ## Load-time verdicts -/

theorem lt_validate_ok (fmt : Str) :
    validate fmt = .ok () ↔
      Piece.invalid ∉ scan (effectiveTemplate fmt) ∧ refs (scan (effectiveTemplate fmt)) ≠ [] := by
  unfold validate
  by_cases h1 : (scan (effectiveTemplate fmt)).any Piece.isInvalid = true
  · simp only [h1, if_true, reduceCtorEq, false_iff]
    exact fun h => h.1 ((lt_any_invalid _).mp h1)
  · have h1' : Piece.invalid ∉ scan (effectiveTemplate fmt) := fun h => h1 ((lt_any_invalid _).mpr h)
    simp only [h1]
    cases hr : refs (scan (effectiveTemplate fmt)) with
    | nil => simp
    | cons a t => simp [h1']

theorem lt_acceptsTemplate_iff (fmt : Str) :
    acceptsTemplate fmt = true ↔
      substitute (effectiveTemplate fmt) sampleDict = .ok () ∧ validate fmt = .ok () := by
  unfold acceptsTemplate loadCheckTemplate buildTemplateFormatter
  cases h1 : substitute (effectiveTemplate fmt) sampleDict with
  | error e => simp
  | ok u =>
    cases h2 : validate fmt with
    | error e => simp
    | ok u => simp

theorem lt_templateAccepted_iff (fmt : Str) : acceptsTemplate fmt = true ↔ TemplateAccepted fmt := by
  rw [lt_acceptsTemplate_iff, lt_substitute_ok, lt_validate_ok]
  constructor
  · rintro ⟨⟨h1, h2⟩, _, h3⟩
    exact ⟨h1, fun n hn => (lt_sample_known' n).mpr (h2 n hn), h3⟩
  · rintro ⟨h1, h2, h3⟩
    exact ⟨⟨h1, fun n hn => (lt_sample_known' n).mp (h2 n hn)⟩, h1, h3⟩

theorem lt_acceptsSafeTemplate (fmt : Str) : acceptsSafeTemplate fmt = true := by
  unfold acceptsSafeTemplate loadCheckSafeTemplate buildSafeTemplateFormatter
  have : safeSubstitute (effectiveTemplate fmt) sampleDict = .ok () :=
    (lt_safeSubstitute_ok _ _).mpr (fun n _ v hv => lt_sample_printable n v hv)
  simp only [this]

/-! ## Formatting a record -/

theorem lt_formatTemplate_ok (fmt : Str) (r : Dict) :
    formatTemplate fmt r = .ok () ↔ substitute (effectiveTemplate fmt) r = .ok () := by
  unfold formatTemplate
  cases h : substitute (effectiveTemplate fmt) r with
  | ok u => simp
  | error e => cases e <;> simp

theorem lt_hasInfix_of_piece {s : Str} {p : Piece} (h : p ∈ scan s) : hasInfix p.text s = true := by
  obtain ⟨pre, post, hs⟩ := lt_mem_scan_infix h
  rw [hs]
  exact lf_hasInfix_append _ _ _

/-- a placeholder `$asctime` or `${asctime}` among the pieces is an infix of the format, which is what `usesTimeTemplate`
    tests -/
theorem lt_usesTime_of_ref (fmt : Str) (h : "asctime".toList ∈ refs (scan (effectiveTemplate fmt))) :
    usesTimeTemplate fmt = true := by
  obtain ⟨p, hp, hr⟩ := lt_mem_refs.mp h
  have hi := lt_hasInfix_of_piece hp
  unfold usesTimeTemplate
  cases p with
  | named n =>
    simp only [Piece.ref, Option.some.injEq] at hr
    subst hr
    rw [(by char_lits; rfl : "$asctime".toList = (Piece.named "asctime".toList).text), hi]
    rfl
  | braced n =>
    simp only [Piece.ref, Option.some.injEq] at hr
    subst hr
    rw [(by char_lits; rfl : "${asctime}".toList = (Piece.braced "asctime".toList).text), hi]
    exact Bool.or_true _
  | lit s | escaped | invalid => cases hr

theorem lt_hasKnown_of_table (tbl : List (Str × Value)) (h : hasKnownTable tbl = true) : HasKnown (lookup tbl) := by
  intro k hk
  simp only [hasKnownTable, List.all_eq_true] at h
  have := h k hk
  split at this
  · rename_i v hv
    exact ⟨v, hv, lt_strOkB v this⟩
  · cases this

/-- `lf_printable_of_table` for the `Printable` of the template specification (`StrOk` values) -/
theorem lt_printable_of_table (tbl : List (Str × Value)) (h : printableTable tbl = true) : Printable (lookup tbl) := by
  intro k v hv
  simp only [printableTable, List.all_eq_true] at h
  exact lt_strOkB v (h (k, v) (lf_lookup_mem hv))

end ZCV.LogTemplateLemmas
