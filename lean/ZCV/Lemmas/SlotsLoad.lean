import ZCV.Lemmas.SlotsImport
import ZCV.Lemmas.Grammar
import ZCV.Lemmas.TextLoad
import ZCV.Lemmas.Include
import ZCV.Lemmas.SlotsInfo
/-!
C12 and C13, the part that needs whole parses.  A reflexive, transitive relation on the context's state that every context
operation respects is respected by a whole parse (any fuel, any include depth), by every PREFIX of a parse (`runLines`) and by
every line: "related to the state at the start" is an invariant in the sense of `LineInv` (`OpsRel.lineInv`, then
`run_lineInv`).  Which lines are allowed (`okLine`) is a parameter, so that `%import` can be excluded (C13) or allowed
(components only grow: C12).  Two instances for the loader context: `opsRel_schema` (the schema is the same) and `opsRel_grows`
(the packages are the same and the component list only grows).  Then `LoadReq`, `runHistory` and `PlainLine`, on which the model
file `Model/History.lean` builds; texts without `%import` lines leave the schema alone (every prefix of one, too); shapes of
closed lines for the examples; and C12 within one load: what the `%import` of a component not read before adds
(`lsImport_defines_and_registers`, `lsImport_ext`).
-/
namespace ZCV.Cfg
open ZCV

structure OpsRel {σ : Type} (c : PCtx σ) (R : σ → σ → Prop) : Prop where
  refl : ∀ a, R a a
  trans : ∀ a b d, R a b → R b d → R a d
  start : ∀ s ty nm s', c.start s ty nm = .ok s' → R s s'
  stop : ∀ s ty nm s', c.stop s ty nm = .ok s' → R s s'
  value : ∀ s k v p s', c.value s k v p = .ok s' → R s s'

section
variable {σ : Type} {c : PCtx σ} {R : σ → σ → Prop}

theorem OpsRel.lineInv (H : OpsRel c R) (okLine : Str → Prop)
    (himp : ∀ l a, okLine l → lineShape (strip l) = .import_ a → ∀ s pkg s', c.imp s pkg = .ok s' → R s s') (s0 : σ) :
    LineInv c okLine fun _ a => R s0 a where
  start _ _ hj h := H.trans _ _ _ hj (H.start _ _ _ _ h)
  stop hj h := H.trans _ _ _ hj (H.stop _ _ _ _ h)
  value hj h := H.trans _ _ _ hj (H.value _ _ _ _ _ h)
  imp hl hs hj h := H.trans _ _ _ hj (himp _ _ hl hs _ _ _ h)

theorem step_rel (H : OpsRel c R) (env : Env) (okLine : Str → Prop)
    (himp : ∀ l a, okLine l → lineShape (strip l) = .import_ a → ∀ s pkg s', c.imp s pkg = .ok s' → R s s')
    (hinc : ∀ l a, okLine l → lineShape (strip l) = .include_ a →
      ∀ u ls, env.res u = some ls → ∀ l' ∈ ls, okLine l')
    (fuel : Nat) (active : List Str) (url : Option Str) (line : Nat) (l : Str) (st st' : PS σ) (hl : okLine l)
    (h : stepLine fuel env c active url line (strip l) st = .ok st') : R st.ctx st'.ctx :=
  step_lineInv (H.lineInv okLine himp st.ctx) env (fun l a u ls hl hs => hinc l a hl hs u ls) [] hl (H.refl _) h

theorem run_rel (H : OpsRel c R) (env : Env) (okLine : Str → Prop)
    (himp : ∀ l a, okLine l → lineShape (strip l) = .import_ a → ∀ s pkg s', c.imp s pkg = .ok s' → R s s')
    (hinc : ∀ l a, okLine l → lineShape (strip l) = .include_ a →
      ∀ u ls, env.res u = some ls → ∀ l' ∈ ls, okLine l')
    (fuel : Nat) (active : List Str) (url : Option Str) (lines : List Str) (n : Nat) (st st' : PS σ)
    (hl : ∀ l ∈ lines, okLine l) (h : runLines fuel env c active url lines n st = .ok st') : R st.ctx st'.ctx :=
  run_lineInv (H.lineInv okLine himp st.ctx) env (fun l a u ls hl hs => hinc l a hl hs u ls) fuel active url lines n st st' []
    hl (H.refl _) h

theorem parse_rel (H : OpsRel c R) (env : Env) (okLine : Str → Prop)
    (himp : ∀ l a, okLine l → lineShape (strip l) = .import_ a → ∀ s pkg s', c.imp s pkg = .ok s' → R s s')
    (hinc : ∀ l a, okLine l → lineShape (strip l) = .include_ a →
      ∀ u ls, env.res u = some ls → ∀ l' ∈ ls, okLine l')
    (fuel : Nat) (active : List Str) (url : Option Str) (lines : List Str) (n : Nat) (st st' : PS σ)
    (hl : ∀ l ∈ lines, okLine l) (h : parseLines fuel env c active url lines n st = .ok st') : R st.ctx st'.ctx :=
  parse_lineInv (H.lineInv okLine himp st.ctx) env (fun l a u ls hl hs => hinc l a hl hs u ls) fuel active url lines n st st' []
    hl (H.refl _) h

end

/-! ### instances for the loader context -/

theorem opsRel_schema : OpsRel loaderCtx (fun a b : LS => b.schema = a.schema) :=
  ⟨fun _ => rfl, fun _ _ _ h1 h2 => h2.trans h1, fun _ _ _ _ h => (congrArg LS.schema (lsStart_frame _ _ _ _ h) :),
   fun _ _ _ _ h => (congrArg LS.schema (lsStop_frame _ _ _ _ h) :),
   fun _ _ _ _ _ h => (congrArg LS.schema (lsValue_frame _ _ _ _ _ h) :)⟩

def Grows (a b : LS) : Prop := b.pkgs = a.pkgs ∧ ∀ u, a.schema.components.contains u = true → b.schema.components.contains u = true

theorem opsRel_grows : OpsRel loaderCtx Grows := by
  refine ⟨fun _ => ⟨rfl, fun _ h => h⟩, fun _ _ _ h1 h2 => ⟨h2.1.trans h1.1, fun u h => h2.2 u (h1.2 u h)⟩, ?_, ?_, ?_⟩
  · intro s ty nm s' h
    exact ⟨(congrArg LS.pkgs (lsStart_frame _ _ _ _ h) :), fun u hu => by rw [lsStart_frame _ _ _ _ h]; exact hu⟩
  · intro s ty nm s' h
    exact ⟨(congrArg LS.pkgs (lsStop_frame _ _ _ _ h) :), fun u hu => by rw [lsStop_frame _ _ _ _ h]; exact hu⟩
  · intro s k v p s' h
    exact ⟨(congrArg LS.pkgs (lsValue_frame _ _ _ _ _ h) :), fun u hu => by rw [lsValue_frame _ _ _ _ _ h]; exact hu⟩

theorem lsImport_grows (st st' : LS) (pkg : Str) (h : lsImport st pkg = .ok st') : Grows st st' := by
  refine ⟨(lsImport_frame st st' pkg h).2.2.1, ?_⟩
  intro u hu
  obtain ⟨url, types, impls, hp⟩ := lsImport_ok_component st st' pkg h
  rw [lsImport_components st st' pkg url types impls hp h]
  split
  · exact hu
  · simp only [List.contains_iff_mem, List.mem_append] at hu ⊢
    exact .inl hu

end ZCV.Cfg

/-! ### load requests and histories -/
namespace ZCV.Cfg
open ZCV

/-- `_active_urls` at the start of a load -/
def activeOf (url : Option Str) : List Str := match url with | some u => if u == [] then [] else [u] | none => []

structure LoadReq where
  url : Option Str
  lines : List Str
  specs : List Str

/-- loads one after the other against ONE schema object: each load sees the schema the previous one left behind
    (`schemaAfter`; a failed load reports none in the model and the schema is kept).  Returns the outcomes in order and
    the schema at the end. -/
def runHistory (conv : Conv) (env : Env) (pkgs : Str → Pkg) : Schema → List LoadReq → List (M LoadResult) × Schema
  | s, [] => ([], s)
  | s, q :: rest =>
    let r := load conv env pkgs s q.url q.lines q.specs
    let s' := match r with | .ok x => x.schemaAfter | .error _ => s
    let out := runHistory conv env pkgs s' rest
    (r :: out.1, out.2)

/-! ### import-free loads -/

def PlainLine (l : Str) : Prop := NoImportLine l ∧ ∀ a, lineShape (strip l) ≠ .include_ a

theorem run_without_import_keeps_schema (env : Env)
    (hres : ∀ u ls, env.res u = some ls → ∀ l ∈ ls, NoImportLine l)
    (fuel : Nat) (active : List Str) (url : Option Str) (lines : List Str) (n : Nat) (st st' : PS LS)
    (hl : ∀ l ∈ lines, NoImportLine l)
    (h : runLines fuel env loaderCtx active url lines n st = .ok st') : st'.ctx.schema = st.ctx.schema :=
  run_rel opsRel_schema env NoImportLine (fun _ a hl hs => absurd hs (hl a)) (fun _ _ _ _ u ls hu => hres u ls hu)
    fuel active url lines n st st' hl h

theorem parse_without_import_keeps_schema (env : Env)
    (hres : ∀ u ls, env.res u = some ls → ∀ l ∈ ls, NoImportLine l)
    (fuel : Nat) (active : List Str) (url : Option Str) (lines : List Str) (n : Nat) (st st' : PS LS)
    (hl : ∀ l ∈ lines, NoImportLine l)
    (h : parseLines fuel env loaderCtx active url lines n st = .ok st') : st'.ctx.schema = st.ctx.schema :=
  parse_rel opsRel_schema env NoImportLine (fun _ a hl hs => absurd hs (hl a)) (fun _ _ _ _ u ls hu => hres u ls hu)
    fuel active url lines n st st' hl h

theorem parse_plain_keeps_schema (env : Env)
    (fuel : Nat) (active : List Str) (url : Option Str) (lines : List Str) (n : Nat) (st st' : PS LS)
    (hl : ∀ l ∈ lines, PlainLine l)
    (h : parseLines fuel env loaderCtx active url lines n st = .ok st') : st'.ctx.schema = st.ctx.schema :=
  parse_rel opsRel_schema env PlainLine (fun _ a hl hs => absurd hs (hl.1 a)) (fun _ a hl hs => absurd hs (hl.2 a))
    fuel active url lines n st st' hl h

/-! ### closed examples: lines as the parser classifies them -/

/-- `lineShape_of_classify` with one decidable hypothesis, for closed lines: `by char_lits; decide +kernel` -/
theorem shape_closed (line : Str) (sh : LineShape)
    (h : '\n' ∉ line ∧ toSpec sh ≠ .bad ∧ Grammar.classify line = toSpec sh) : lineShape (strip line) = sh :=
  lineShape_of_classify line h.1 sh h.2.2 h.2.1

theorem load_closed (conv : Conv) (env : Env) (pkgs : Str → Pkg) (s : Schema) {url : Option Str} {lines : List Str}
    {r : M (PS LS)}
    (hp : parseLines 64 env loaderCtx (Conf.activeOf url) url lines 0 { ctx := Conf.loadSt0 conv pkgs s, stack := [], defs := [] } = r) :
    load conv env pkgs s url lines [] = r >>= fun ps => Conf.loadFin conv s ps.ctx := by
  rw [Conf.load_nil_eq, hp]

/-! ### C12: `%import` within a load -/

theorem LS_eta_private (st : LS) (h : st.privateSchema = true) : { st with privateSchema := true } = st := by
  cases st
  simp only at h
  subst h
  rfl

theorem lsImport_defines_and_registers (st st1 : LS) (pkg url : Str) (types : List (Str × TypeEntry))
    (impls : List (Str × Str)) (hp : st.pkgs pkg = .component url types impls)
    (hnew : st.schema.components.contains url = false) (himp : lsImport st pkg = .ok st1)
    (c a : Str) (e : TypeEntry) (hmem : (c, a) ∈ impls) (hc : (c, e) ∈ types)
    (hla : lower a = a) (habs : isAbstract st.schema a = true) :
    isSubtype st1.schema a c = true ∧
      (∀ tc, e = .concrete tc → lower c = c → st1.schema.gettype c = some (.concrete tc)) := by
  obtain ⟨hf, rfl⟩ := lsImport_ok_new st st1 pkg url types impls hp hnew himp
  constructor
  · rw [isSubtype_iff_mem]
    exact withComponent_registers _ types impls c a hla habs hmem (List.mem_map.mpr ⟨_, hc, rfl⟩)
  · intro tc he hlc
    subst he
    obtain ⟨pre, post, rfl⟩ := List.append_of_mem hc
    exact withComponent_defines _ impls c tc pre post hlc hf

theorem lsImport_ext (st st1 : LS) (pkg url : Str) (types : List (Str × TypeEntry))
    (impls : List (Str × Str)) (hp : st.pkgs pkg = .component url types impls)
    (hnew : st.schema.components.contains url = false) (himp : lsImport st pkg = .ok st1) :
    Ext impls (types.map (·.1)) { st.schema with components := st.schema.components ++ [url] } st1.schema := by
  obtain ⟨_, rfl⟩ := lsImport_ok_new st st1 pkg url types impls hp hnew himp
  exact Ext_withComponent _ types impls

end ZCV.Cfg
