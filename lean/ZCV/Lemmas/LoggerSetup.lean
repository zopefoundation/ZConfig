import ZCV.Model.LoggerSetup
/-!
C20 — the hand-written set-up model (`ZCV/Model/LoggerSetup.lean`): the logging world as a finite map, `Factory.__call__`
memoisation, and what calling a logger factory leaves behind — exactly, when factory and handler factories are fresh and the
world is well formed; in ANY state of the handler factories and ANY world (`OnlyAdds`, `lgs_call_gen`: name, level, propagate,
the other loggers, the old handlers); then `configureLoggers`, every logger factory of a loaded configuration called in order.
-/
namespace ZCV.LogSetup
open ZCV

/-! ## the world as a finite map -/

theorem lgs_lookup_setAssoc_same (k : Str) (st : LoggerState) (l : List (Str × LoggerState)) :
    (setAssoc k st l).lookup k = some st := by
  induction l with
  | nil => simp [setAssoc]
  | cons p t ih =>
    obtain ⟨k', s'⟩ := p
    simp only [setAssoc]
    split
    · simp [List.lookup]
    · rename_i hne
      have : (k == k') = false := by
        rw [Bool.eq_false_iff]; intro h; apply hne; simp only [beq_iff_eq] at h ⊢; exact h.symm
      simp only [List.lookup, this, ih]

theorem lgs_lookup_setAssoc_other {k k' : Str} (hne : k' ≠ k) (st : LoggerState) (l : List (Str × LoggerState)) :
    (setAssoc k st l).lookup k' = l.lookup k' := by
  induction l with
  | nil =>
    have : (k' == k) = false := by simpa using hne
    simp [setAssoc, List.lookup, this]
  | cons p t ih =>
    obtain ⟨k₀, s₀⟩ := p
    simp only [setAssoc]
    split
    · rename_i h
      simp only [beq_iff_eq] at h
      subst h
      have : (k' == k₀) = false := by simpa using hne
      simp only [List.lookup, this]
    · simp only [List.lookup, ih]

@[simp] theorem lgs_get_set_same (w : World) (k : Str) (st : LoggerState) : (w.set k st).get k = st := by
  simp only [World.get, World.set, lgs_lookup_setAssoc_same]

theorem lgs_get_set_other (w : World) {k k' : Str} (hne : k' ≠ k) (st : LoggerState) : (w.set k st).get k' = w.get k' := by
  simp only [World.get, World.set, lgs_lookup_setAssoc_other hne]

@[simp] theorem lgs_nextId_set (w : World) (k : Str) (st : LoggerState) : (w.set k st).nextId = w.nextId := rfl

theorem lgs_get_bump (w : World) (n : Nat) (k : Str) : (⟨w.loggers, n⟩ : World).get k = w.get k := rfl

/-! ## `setLevel`, `propagate = …`, `addHandler` -/

theorem lgs_setLevel_get (w : World) (k : Str) (lv : Int) : (setLevel w k lv).get k = ⟨lv, (w.get k).propagate, (w.get k).handlers⟩ := by
  simp only [setLevel, lgs_get_set_same]

theorem lgs_setLevel_other (w : World) {k k' : Str} (hne : k' ≠ k) (lv : Int) : (setLevel w k lv).get k' = w.get k' := by
  simp only [setLevel, lgs_get_set_other w hne]

theorem lgs_setLevel_nextId (w : World) (k : Str) (lv : Int) : (setLevel w k lv).nextId = w.nextId := rfl

theorem lgs_setPropagate_get (w : World) (k : Str) (p : Bool) :
    (setPropagate w k p).get k = ⟨(w.get k).level, p, (w.get k).handlers⟩ := by
  simp only [setPropagate, lgs_get_set_same]

theorem lgs_setPropagate_other (w : World) {k k' : Str} (hne : k' ≠ k) (p : Bool) :
    (setPropagate w k p).get k' = w.get k' := by
  simp only [setPropagate, lgs_get_set_other w hne]

theorem lgs_setPropagate_nextId (w : World) (k : Str) (p : Bool) : (setPropagate w k p).nextId = w.nextId := rfl

theorem lgs_addHandler_new (w : World) (k : Str) (h : Handler) (hnew : ∀ x ∈ (w.get k).handlers, x.id ≠ h.id) :
    (addHandler w k h).get k = ⟨(w.get k).level, (w.get k).propagate, (w.get k).handlers ++ [h]⟩ := by
  unfold addHandler
  have : (w.get k).handlers.any (·.id == h.id) = false := by
    rw [Bool.eq_false_iff]
    intro hany
    obtain ⟨x, hx, hid⟩ := List.any_eq_true.1 hany
    exact hnew x hx (by simpa using hid)
  simp only [this, Bool.false_eq_true, ↓reduceIte, lgs_get_set_same]

theorem lgs_addHandler_old (w : World) (k : Str) (h : Handler) (hold : ∃ x ∈ (w.get k).handlers, x.id = h.id) :
    addHandler w k h = w := by
  unfold addHandler
  have : (w.get k).handlers.any (·.id == h.id) = true := by
    obtain ⟨x, hx, hid⟩ := hold
    exact List.any_eq_true.2 ⟨x, hx, by simpa using hid⟩
  simp only [this, ↓reduceIte]

theorem lgs_addHandler_other (w : World) {k k' : Str} (hne : k' ≠ k) (h : Handler) : (addHandler w k h).get k' = w.get k' := by
  unfold addHandler
  dsimp only
  split
  · rfl
  · exact lgs_get_set_other w hne _

theorem lgs_addHandler_nextId (w : World) (k : Str) (h : Handler) : (addHandler w k h).nextId = w.nextId := by
  unfold addHandler
  dsimp only
  split <;> rfl

/-! ## `Factory.__call__` -/

theorem lgs_factoryCall_idem {F α σ : Type} (getInst : F → Option α) (setInst : F → α → F) (create : F → σ → α × F × σ)
    (hgs : ∀ f a, getInst (setInst f a) = some a) (f : F) (w : σ) :
    factoryCall getInst setInst create (factoryCall getInst setInst create f w).2.1 (factoryCall getInst setInst create f w).2.2
      = factoryCall getInst setInst create f w := by
  unfold factoryCall
  cases hi : getInst f with
  | some a => simp only [hi]
  | none => simp only [hgs]

theorem lgs_factoryCall_inst {F α σ : Type} (getInst : F → Option α) (setInst : F → α → F) (create : F → σ → α × F × σ)
    (hgs : ∀ f a, getInst (setInst f a) = some a) (f : F) (w : σ) :
    getInst (factoryCall getInst setInst create f w).2.1 = some (factoryCall getInst setInst create f w).1 := by
  unfold factoryCall
  cases hi : getInst f with
  | some a => simp only [hi]
  | none => simp only [hgs]

theorem lgs_factoryCall_some {F α σ : Type} (getInst : F → Option α) (setInst : F → α → F) (create : F → σ → α × F × σ)
    (f : F) (w : σ) (a : α) (h : getInst f = some a) : factoryCall getInst setInst create f w = (a, f, w) := by
  unfold factoryCall; simp only [h]

theorem lgs_factoryCall_none {F α σ : Type} (getInst : F → Option α) (setInst : F → α → F) (create : F → σ → α × F × σ)
    (f : F) (w : σ) (h : getInst f = none) :
    factoryCall getInst setInst create f w = ((create f w).1, setInst (create f w).2.1 (create f w).1, (create f w).2.2) := by
  unfold factoryCall; simp only [h]

/-! ## handler factories -/

theorem lgs_handler_call_fresh (hf : HandlerFactory) (w : World) (h : hf.inst = none) :
    hf.call w = ({ id := w.nextId, cfg := some hf.cfg },
                 { hf with inst := some { id := w.nextId, cfg := some hf.cfg } },
                 { w with nextId := w.nextId + 1 }) := by
  unfold HandlerFactory.call
  rw [lgs_factoryCall_none _ _ _ _ _ h]
  rfl

/-- the handlers a list of fresh handler factories creates, the first with identity `n` -/
def newHandlers (n : Nat) : List HandlerFactory → List Handler
  | [] => []
  | hf :: rest => { id := n, cfg := some hf.cfg } :: newHandlers (n + 1) rest

/-- the same factories with their memos filled in -/
def filledFactories (n : Nat) : List HandlerFactory → List HandlerFactory
  | [] => []
  | hf :: rest => { hf with inst := some { id := n, cfg := some hf.cfg } } :: filledFactories (n + 1) rest

theorem lgs_newHandlers_cfg (n : Nat) (hfs : List HandlerFactory) :
    (newHandlers n hfs).map (·.cfg) = hfs.map (fun hf => some hf.cfg) := by
  induction hfs generalizing n with
  | nil => rfl
  | cons hf rest ih => simp only [newHandlers, List.map_cons, ih]

theorem lgs_newHandlers_ids (n : Nat) (hfs : List HandlerFactory) :
    (newHandlers n hfs).map (·.id) = List.range' n hfs.length := by
  induction hfs generalizing n with
  | nil => rfl
  | cons hf rest ih => simp only [newHandlers, List.map_cons, ih, List.length_cons, List.range'_succ]

theorem lgs_newHandlers_length (n : Nat) (hfs : List HandlerFactory) : (newHandlers n hfs).length = hfs.length := by
  have := congrArg List.length (lgs_newHandlers_cfg n hfs)
  simpa using this

theorem lgs_filledFactories_cfg (n : Nat) (hfs : List HandlerFactory) :
    (filledFactories n hfs).map (·.cfg) = hfs.map (·.cfg) := by
  induction hfs generalizing n with
  | nil => rfl
  | cons hf rest ih => simp only [filledFactories, List.map_cons, ih]

theorem lgs_filledFactories_inst (n : Nat) (hfs : List HandlerFactory) :
    (filledFactories n hfs).map (·.inst) = (newHandlers n hfs).map some := by
  induction hfs generalizing n with
  | nil => rfl
  | cons hf rest ih => simp only [filledFactories, newHandlers, List.map_cons, ih]

theorem lgs_addConfigured_fresh (k : Str) (hfs : List HandlerFactory) (w : World)
    (hfresh : ∀ hf ∈ hfs, hf.inst = none) (hold : ∀ x ∈ (w.get k).handlers, x.id < w.nextId) :
    (addConfiguredHandlers k hfs w).1 = filledFactories w.nextId hfs ∧
    (addConfiguredHandlers k hfs w).2.nextId = w.nextId + hfs.length ∧
    (hfs ≠ [] → (addConfiguredHandlers k hfs w).2.get k =
      ⟨(w.get k).level, (w.get k).propagate, (w.get k).handlers ++ newHandlers w.nextId hfs⟩) ∧
    (∀ k', k' ≠ k → (addConfiguredHandlers k hfs w).2.get k' = w.get k') := by
  induction hfs generalizing w with
  | nil =>
    refine ⟨rfl, rfl, fun h => absurd rfl h, fun _ _ => rfl⟩
  | cons hf rest ih =>
    have hf0 : hf.inst = none := hfresh hf List.mem_cons_self
    have hrest : ∀ x ∈ rest, x.inst = none := fun x hx => hfresh x (List.mem_cons_of_mem _ hx)
    let h0 : Handler := { id := w.nextId, cfg := some hf.cfg }
    let w1 : World := addHandler ⟨w.loggers, w.nextId + 1⟩ k h0
    have hnew : ∀ x ∈ ((⟨w.loggers, w.nextId + 1⟩ : World).get k).handlers, x.id ≠ h0.id := by
      intro x hx; exact Nat.ne_of_lt (hold x hx)
    have hw1k : w1.get k = ⟨(w.get k).level, (w.get k).propagate, (w.get k).handlers ++ [h0]⟩ :=
      lgs_addHandler_new _ k h0 hnew
    have hw1n : w1.nextId = w.nextId + 1 := lgs_addHandler_nextId _ k h0
    have hold1 : ∀ x ∈ (w1.get k).handlers, x.id < w1.nextId := by
      rw [hw1k, hw1n]
      intro x hx
      rcases List.mem_append.1 hx with hx | hx
      · exact Nat.lt_succ_of_lt (hold x hx)
      · rw [List.mem_singleton.1 hx]; exact Nat.lt_succ_self _
    obtain ⟨ih1, ih2, ih3, ih4⟩ := ih w1 hrest hold1
    have hunf : addConfiguredHandlers k (hf :: rest) w =
        ({ hf with inst := some h0 } :: (addConfiguredHandlers k rest w1).1, (addConfiguredHandlers k rest w1).2) := by
      rw [addConfiguredHandlers, lgs_handler_call_fresh hf w hf0]
    rw [hunf]
    refine ⟨?_, ?_, ?_, ?_⟩
    · simp only [filledFactories, ih1, hw1n, h0]
    · simp only [ih2, hw1n, List.length_cons]; omega
    · intro _
      by_cases hr : rest = []
      · subst hr
        simp only [addConfiguredHandlers, newHandlers]
        exact hw1k
      · simp only [ih3 hr, hw1k, hw1n, newHandlers, List.append_assoc, List.singleton_append, h0]
    · intro k' hk'
      simp only [ih4 k' hk']
      exact lgs_addHandler_other _ hk' h0

/-! ## logger factories -/

/-- a logger factory as it comes out of the configuration loader: nothing has been called yet, neither the logger
    factory's memo nor any of its handler factories' memos is filled -/
def LoggerFactory.Fresh (f : LoggerFactory) : Prop := f.inst = none ∧ ∀ hf ∈ f.handlerFactories, hf.inst = none

instance (f : LoggerFactory) : Decidable f.Fresh := by unfold LoggerFactory.Fresh; infer_instance

theorem lgs_handlerFactoryOf_fresh (handlers : List HandlerCfg) : ∀ hf ∈ handlers.map handlerFactoryOf, hf.inst = none := by
  intro hf hm
  obtain ⟨c, _, rfl⟩ := List.mem_map.1 hm
  rfl

theorem lgs_eventLogFactoryOf_fresh (level : Int) (handlers : List HandlerCfg) : (eventLogFactoryOf level handlers).Fresh :=
  ⟨rfl, lgs_handlerFactoryOf_fresh handlers⟩

theorem lgs_loggerFactoryOf_fresh (name : Option Str) (level : Int) (propagate : Bool) (handlers : List HandlerCfg) :
    (loggerFactoryOf name level propagate handlers).Fresh :=
  ⟨rfl, lgs_handlerFactoryOf_fresh handlers⟩

/-- the handlers `create` puts on the logger when every handler factory is fresh: one per handler factory in order,
    or a single `NullHandler` when there is none -/
def createdHandlers (n : Nat) (hfs : List HandlerFactory) : List Handler :=
  if hfs.isEmpty then [{ id := n, cfg := none }] else newHandlers n hfs

theorem lgs_createdHandlers_cfg (n : Nat) (hfs : List HandlerFactory) :
    (createdHandlers n hfs).map (·.cfg) = if hfs.isEmpty then [none] else hfs.map (fun hf => some hf.cfg) := by
  unfold createdHandlers
  split
  · rfl
  · exact lgs_newHandlers_cfg n hfs

theorem lgs_createdHandlers_ids (n : Nat) (hfs : List HandlerFactory) :
    (createdHandlers n hfs).map (·.id) = List.range' n (createdHandlers n hfs).length := by
  unfold createdHandlers
  split
  · rfl
  · rw [lgs_newHandlers_ids, lgs_newHandlers_length]

theorem lgs_createdHandlers_length (n : Nat) (hfs : List HandlerFactory) :
    (createdHandlers n hfs).length = if hfs.isEmpty then 1 else hfs.length := by
  unfold createdHandlers
  split
  · rfl
  · exact lgs_newHandlers_length n hfs

theorem lgs_addNullHandler (w : World) (k : Str) (hold : ∀ x ∈ (w.get k).handlers, x.id < w.nextId) :
    (addNullHandler w k).get k = ⟨(w.get k).level, (w.get k).propagate, (w.get k).handlers ++ [⟨w.nextId, none⟩]⟩ ∧
    (∀ k', k' ≠ k → (addNullHandler w k).get k' = w.get k') ∧
    (addNullHandler w k).nextId = w.nextId + 1 := by
  unfold addNullHandler
  have hb : ∀ k', (⟨w.loggers, w.nextId + 1⟩ : World).get k' = w.get k' := fun _ => rfl
  refine ⟨?_, ?_, ?_⟩
  · have hnew : ∀ x ∈ ((⟨w.loggers, w.nextId + 1⟩ : World).get k).handlers, x.id ≠ (⟨w.nextId, none⟩ : Handler).id :=
      fun x hx => Nat.ne_of_lt (hold x hx)
    rw [lgs_addHandler_new _ k _ hnew, hb]
  · intro k' hk'
    rw [lgs_addHandler_other _ hk', hb]
  · rw [lgs_addHandler_nextId]

/-- What setting a logger up leaves behind when its handler factories are fresh, exactly: `r` is the result of
    `baseCreate`, `create` or `call` in the world `w`; `p` is the propagate flag the logger ends with and `f'` the factory
    afterwards (the only two things in which the three differ).  The logger gets the handlers it had, then the created ones. -/
structure FreshSetup (f : LoggerFactory) (w : World) (p : Bool) (f' : LoggerFactory) (r : Str × LoggerFactory × World) :
    Prop where
  name : r.1 = loggerKey f.name
  factory : r.2.1 = f'
  logger : r.2.2.get (loggerKey f.name) =
    ⟨f.level, p, (w.get (loggerKey f.name)).handlers ++ createdHandlers w.nextId f.handlerFactories⟩
  other : ∀ k', k' ≠ loggerKey f.name → r.2.2.get k' = w.get k'
  nextId : r.2.2.nextId = w.nextId + (createdHandlers w.nextId f.handlerFactories).length

theorem lgs_baseCreate_fresh (f : LoggerFactory) (w : World) (hfresh : ∀ hf ∈ f.handlerFactories, hf.inst = none)
    (hold : ∀ x ∈ (w.get (loggerKey f.name)).handlers, x.id < w.nextId) :
    FreshSetup f w (w.get (loggerKey f.name)).propagate
      { f with handlerFactories := filledFactories w.nextId f.handlerFactories } (f.baseCreate w) := by
  generalize hk : loggerKey f.name = k at hold
  have hw1k : (setLevel w k f.level).get k = ⟨f.level, (w.get k).propagate, (w.get k).handlers⟩ := lgs_setLevel_get w k f.level
  have hold1 : ∀ x ∈ ((setLevel w k f.level).get k).handlers, x.id < (setLevel w k f.level).nextId := by
    rw [hw1k]; exact hold
  unfold LoggerFactory.baseCreate
  by_cases he : f.handlerFactories.isEmpty = true
  · -- no handler configured: a NullHandler
    have hnil : f.handlerFactories = [] := List.isEmpty_iff.1 he
    have hcr : createdHandlers w.nextId f.handlerFactories = [⟨w.nextId, none⟩] := by
      unfold createdHandlers; rw [if_pos he]
    obtain ⟨hA, hB, hC⟩ := lgs_addNullHandler (setLevel w k f.level) k hold1
    rw [hw1k, lgs_setLevel_nextId] at hA
    rw [lgs_setLevel_nextId] at hC
    simp only [he, ↓reduceIte, hk]
    refine ⟨hk.symm, ?_, by rw [hk, hcr]; exact hA, ?_, by rw [hcr]; exact hC⟩
    · clear hA hB hC hold1 hw1k hold hk he hfresh hcr
      cases f
      simp only at hnil
      subst hnil
      rfl
    · intro k' hk'
      rw [hk] at hk'
      exact (hB k' hk').trans (lgs_setLevel_other w hk' _)
  · have hne : f.handlerFactories ≠ [] := fun h => he (List.isEmpty_iff.2 h)
    have hcr : createdHandlers w.nextId f.handlerFactories = newHandlers w.nextId f.handlerFactories := by
      unfold createdHandlers; rw [if_neg he]
    obtain ⟨h1, h2, h3, h4⟩ := lgs_addConfigured_fresh k f.handlerFactories (setLevel w k f.level) hfresh hold1
    have h3' := h3 hne
    rw [hw1k] at h3'
    rw [lgs_setLevel_nextId] at h1 h2 h3'
    simp only [he, Bool.false_eq_true, ↓reduceIte, hk]
    refine ⟨hk.symm, by rw [h1], by rw [hk, hcr]; exact h3', ?_, by rw [hcr, lgs_newHandlers_length]; exact h2⟩
    intro k' hk'
    rw [hk] at hk'
    exact (h4 k' hk').trans (lgs_setLevel_other w hk' _)

theorem lgs_create_fresh (f : LoggerFactory) (w : World) (hfresh : ∀ hf ∈ f.handlerFactories, hf.inst = none)
    (hold : ∀ x ∈ (w.get (loggerKey f.name)).handlers, x.id < w.nextId) :
    FreshSetup f w (f.propagate.getD (w.get (loggerKey f.name)).propagate)
      { f with handlerFactories := filledFactories w.nextId f.handlerFactories } (f.create w) := by
  obtain ⟨h1, h2, h3, h4, h5⟩ := lgs_baseCreate_fresh f w hfresh hold
  unfold LoggerFactory.create
  cases hp : f.propagate with
  | none => exact ⟨h1, by rw [h2, hp], h3, h4, h5⟩
  | some p =>
    simp only
    refine ⟨h1, by rw [h2, hp], ?_, ?_, ?_⟩
    · rw [h1, lgs_setPropagate_get, h3]; rfl
    · intro k' hk'
      rw [h1, lgs_setPropagate_other _ hk', h4 k' hk']
    · rw [lgs_setPropagate_nextId, h5]

/-! ## calling logger factories -/

theorem lgs_call_idem (f : LoggerFactory) (w : World) : (f.call w).2.1.call (f.call w).2.2 = f.call w :=
  lgs_factoryCall_idem (F := LoggerFactory) (·.inst) (fun f n => { f with inst := some n }) LoggerFactory.create
    (fun _ _ => rfl) f w

theorem lgs_call_inst (f : LoggerFactory) (w : World) : (f.call w).2.1.inst = some (f.call w).1 :=
  lgs_factoryCall_inst (F := LoggerFactory) (·.inst) (fun f n => { f with inst := some n }) LoggerFactory.create
    (fun _ _ => rfl) f w

theorem lgs_handler_call_idem (hf : HandlerFactory) (w : World) : (hf.call w).2.1.call (hf.call w).2.2 = hf.call w :=
  lgs_factoryCall_idem (F := HandlerFactory) (·.inst) (fun hf h => { hf with inst := some h }) HandlerFactory.create
    (fun _ _ => rfl) hf w

theorem lgs_call_called (f : LoggerFactory) (w : World) (n : Str) (h : f.inst = some n) : f.call w = (n, f, w) :=
  lgs_factoryCall_some _ _ _ f w n h

/-- first call: only `f.inst = none` is assumed (the handler factories may have been called) -/
theorem lgs_call_first (f : LoggerFactory) (w : World) (h : f.inst = none) :
    f.call w = ((f.create w).1, { (f.create w).2.1 with inst := some (f.create w).1 }, (f.create w).2.2) :=
  lgs_factoryCall_none _ _ _ f w h

/-- every handler on every logger was allocated before `nextId` (the all-loggers form of the hypothesis `hold` of the
    lemmas above) -/
def World.WF (w : World) : Prop := ∀ k, ∀ x ∈ (w.get k).handlers, x.id < w.nextId

theorem lgs_wf_empty (n : Nat) : World.WF ⟨[], n⟩ := by
  intro k x hx
  simp [World.get, List.lookup, freshLogger] at hx

theorem lgs_mem_createdHandlers {n : Nat} {hfs : List HandlerFactory} {x : Handler} (hx : x ∈ createdHandlers n hfs) :
    n ≤ x.id ∧ x.id < n + (createdHandlers n hfs).length := by
  have : x.id ∈ (createdHandlers n hfs).map (·.id) := List.mem_map.2 ⟨x, hx, rfl⟩
  rw [lgs_createdHandlers_ids, List.mem_range'_1] at this
  exact this

theorem lgs_call_fresh_wf (f : LoggerFactory) (w : World) (hf : f.Fresh) (hw : w.WF) :
    FreshSetup f w (f.propagate.getD (w.get (loggerKey f.name)).propagate)
      { f with handlerFactories := filledFactories w.nextId f.handlerFactories, inst := some (loggerKey f.name) }
      (f.call w) ∧
    (f.call w).2.2.WF := by
  obtain ⟨h1, h2, h3, h4, h5⟩ := lgs_create_fresh f w hf.2 (hw _)
  rw [lgs_call_first f w hf.1]
  refine ⟨⟨h1, ?_, h3, h4, h5⟩, ?_⟩
  · simp only [h1, h2]
  · intro k x hx
    simp only at hx ⊢
    rw [h5]
    by_cases hk : k = loggerKey f.name
    · subst hk
      rw [h3] at hx
      rcases List.mem_append.1 hx with hx | hx
      · exact Nat.lt_of_lt_of_le (hw _ x hx) (Nat.le_add_right _ _)
      · exact (lgs_mem_createdHandlers hx).2
    · rw [h4 k hk] at hx
      exact Nat.lt_of_lt_of_le (hw _ x hx) (Nat.le_add_right _ _)

/-! ## any state of the handler factories, any world -/

/-- `w'` differs from `w` on the logger `k` only by appended handlers, and not at all on the other loggers -/
structure OnlyAdds (k : Str) (w w' : World) : Prop where
  level : (w'.get k).level = (w.get k).level
  propagate : (w'.get k).propagate = (w.get k).propagate
  handlers : (w.get k).handlers <+: (w'.get k).handlers
  other : ∀ k', k' ≠ k → w'.get k' = w.get k'
  nextId : w.nextId ≤ w'.nextId

theorem OnlyAdds.refl (k : Str) (w : World) : OnlyAdds k w w :=
  ⟨rfl, rfl, List.prefix_refl _, fun _ _ => rfl, Nat.le_refl _⟩

theorem OnlyAdds.trans {k : Str} {w1 w2 w3 : World} (h12 : OnlyAdds k w1 w2) (h23 : OnlyAdds k w2 w3) : OnlyAdds k w1 w3 :=
  ⟨h23.level.trans h12.level, h23.propagate.trans h12.propagate, h12.handlers.trans h23.handlers,
   fun k' hk' => (h23.other k' hk').trans (h12.other k' hk'), Nat.le_trans h12.nextId h23.nextId⟩

theorem lgs_addHandler_onlyAdds (w : World) (k : Str) (h : Handler) :
    OnlyAdds k w (addHandler w k h) ∧ ∃ x ∈ ((addHandler w k h).get k).handlers, x.id = h.id := by
  by_cases hold : ∃ x ∈ (w.get k).handlers, x.id = h.id
  · rw [lgs_addHandler_old w k h hold]
    exact ⟨OnlyAdds.refl k w, hold⟩
  · have hnew : ∀ x ∈ (w.get k).handlers, x.id ≠ h.id := fun x hx hid => hold ⟨x, hx, hid⟩
    have hg := lgs_addHandler_new w k h hnew
    refine ⟨⟨by rw [hg], by rw [hg], by rw [hg]; exact List.prefix_append _ _,
      fun k' hk' => lgs_addHandler_other w hk' h, Nat.le_of_eq (lgs_addHandler_nextId w k h).symm⟩, ?_⟩
    rw [hg]
    exact ⟨h, List.mem_append_right _ List.mem_cons_self, rfl⟩

theorem lgs_handler_call_gen (hf : HandlerFactory) (w : World) :
    (hf.call w).2.2.loggers = w.loggers ∧ w.nextId ≤ (hf.call w).2.2.nextId ∧
    (hf.call w).2.1.inst = some (hf.call w).1 ∧ (hf.call w).2.1.cfg = hf.cfg := by
  cases hi : hf.inst with
  | some h =>
    have : hf.call w = (h, hf, w) := lgs_factoryCall_some _ _ _ hf w h hi
    rw [this]
    exact ⟨rfl, Nat.le_refl _, hi, rfl⟩
  | none =>
    rw [lgs_handler_call_fresh hf w hi]
    exact ⟨rfl, Nat.le_succ _, rfl, rfl⟩

theorem lgs_get_of_loggers_eq {w w' : World} (h : w'.loggers = w.loggers) (k : Str) : w'.get k = w.get k := by
  unfold World.get; rw [h]

theorem lgs_onlyAdds_of_loggers_eq {w w' : World} (h : w'.loggers = w.loggers) (hn : w.nextId ≤ w'.nextId) (k : Str) :
    OnlyAdds k w w' :=
  ⟨by rw [lgs_get_of_loggers_eq h], by rw [lgs_get_of_loggers_eq h], by rw [lgs_get_of_loggers_eq h]; exact List.prefix_refl _,
   fun k' _ => lgs_get_of_loggers_eq h k', hn⟩

theorem lgs_addConfigured_gen (k : Str) (hfs : List HandlerFactory) (w : World) :
    OnlyAdds k w (addConfiguredHandlers k hfs w).2 ∧
    (addConfiguredHandlers k hfs w).1.map (·.cfg) = hfs.map (·.cfg) ∧
    ∀ hf ∈ (addConfiguredHandlers k hfs w).1, ∃ h, hf.inst = some h ∧
      ∃ x ∈ ((addConfiguredHandlers k hfs w).2.get k).handlers, x.id = h.id := by
  induction hfs generalizing w with
  | nil => exact ⟨OnlyAdds.refl k w, rfl, fun hf hm => absurd hm List.not_mem_nil⟩
  | cons hf rest ih =>
    obtain ⟨hc1, hc2, hc3, hc4⟩ := lgs_handler_call_gen hf w
    obtain ⟨ha1, ha2⟩ := lgs_addHandler_onlyAdds (hf.call w).2.2 k (hf.call w).1
    obtain ⟨ih1, ih2, ih3⟩ := ih (addHandler (hf.call w).2.2 k (hf.call w).1)
    have hunf : addConfiguredHandlers k (hf :: rest) w =
        ((hf.call w).2.1 :: (addConfiguredHandlers k rest (addHandler (hf.call w).2.2 k (hf.call w).1)).1,
         (addConfiguredHandlers k rest (addHandler (hf.call w).2.2 k (hf.call w).1)).2) := by
      rw [addConfiguredHandlers]
    rw [hunf]
    refine ⟨((lgs_onlyAdds_of_loggers_eq hc1 hc2 k).trans ha1).trans ih1, ?_, ?_⟩
    · simp only [List.map_cons, hc4, ih2]
    · intro g hg
      rcases List.mem_cons.1 hg with rfl | hg
      · refine ⟨_, hc3, ?_⟩
        obtain ⟨x, hx, hid⟩ := ha2
        exact ⟨x, ih1.handlers.subset hx, hid⟩
      · exact ih3 g hg

theorem lgs_addNullHandler_onlyAdds (w : World) (k : Str) : OnlyAdds k w (addNullHandler w k) :=
  (lgs_onlyAdds_of_loggers_eq (w := w) (w' := ⟨w.loggers, w.nextId + 1⟩) rfl (Nat.le_succ _) k).trans
    (lgs_addHandler_onlyAdds _ k ⟨w.nextId, none⟩).1

/-- `LoggerFactoryBase.create`, in general: after `setLevel` the world only gains handlers on the logger, whichever branch
    is taken -/
theorem lgs_baseCreate_gen (f : LoggerFactory) (w : World) :
    (f.baseCreate w).1 = loggerKey f.name ∧
    ((f.baseCreate w).2.2.get (loggerKey f.name)).level = f.level ∧
    ((f.baseCreate w).2.2.get (loggerKey f.name)).propagate = (w.get (loggerKey f.name)).propagate ∧
    (w.get (loggerKey f.name)).handlers <+: ((f.baseCreate w).2.2.get (loggerKey f.name)).handlers ∧
    (∀ k', k' ≠ loggerKey f.name → (f.baseCreate w).2.2.get k' = w.get k') ∧
    (f.baseCreate w).2.1.handlerFactories.map (·.cfg) = f.handlerFactories.map (·.cfg) ∧
    (f.handlerFactories ≠ [] → ∀ hf ∈ (f.baseCreate w).2.1.handlerFactories, ∃ h, hf.inst = some h ∧
      ∃ x ∈ ((f.baseCreate w).2.2.get (loggerKey f.name)).handlers, x.id = h.id) := by
  generalize hk : loggerKey f.name = k
  have hg := lgs_setLevel_get w k f.level
  have key : ∀ w2, OnlyAdds k (setLevel w k f.level) w2 →
      (w2.get k).level = f.level ∧ (w2.get k).propagate = (w.get k).propagate ∧
      (w.get k).handlers <+: (w2.get k).handlers ∧ ∀ k', k' ≠ k → w2.get k' = w.get k' :=
    fun w2 g => ⟨by rw [g.level, hg], by rw [g.propagate, hg], by have := g.handlers; rw [hg] at this; exact this,
      fun k' hk' => by rw [g.other k' hk', lgs_setLevel_other w hk']⟩
  unfold LoggerFactory.baseCreate
  simp only [hk]
  by_cases he : f.handlerFactories.isEmpty = true
  · simp only [he, ↓reduceIte]
    obtain ⟨a, b, c, d⟩ := key _ (lgs_addNullHandler_onlyAdds (setLevel w k f.level) k)
    exact ⟨trivial, a, b, c, d, trivial, fun h => absurd (List.isEmpty_iff.1 he) h⟩
  · simp only [he, Bool.false_eq_true, ↓reduceIte]
    obtain ⟨g1, g2, g3⟩ := lgs_addConfigured_gen k f.handlerFactories (setLevel w k f.level)
    obtain ⟨a, b, c, d⟩ := key _ g1
    exact ⟨trivial, a, b, c, d, g2, fun _ => g3⟩

/-- what a call of a not-yet-called logger factory guarantees in every world and every state of its handler factories -/
structure SetupResult (f : LoggerFactory) (w : World) (r : Str × LoggerFactory × World) : Prop where
  name : r.1 = loggerKey f.name
  level : (r.2.2.get (loggerKey f.name)).level = f.level
  propagate : (r.2.2.get (loggerKey f.name)).propagate = f.propagate.getD (w.get (loggerKey f.name)).propagate
  oldHandlers : (w.get (loggerKey f.name)).handlers <+: (r.2.2.get (loggerKey f.name)).handlers
  other : ∀ k', k' ≠ loggerKey f.name → r.2.2.get k' = w.get k'
  sections : r.2.1.handlerFactories.map (·.cfg) = f.handlerFactories.map (·.cfg)
  products : f.handlerFactories ≠ [] → ∀ hf ∈ r.2.1.handlerFactories, ∃ h, hf.inst = some h ∧
      ∃ x ∈ (r.2.2.get (loggerKey f.name)).handlers, x.id = h.id

theorem lgs_create_gen (f : LoggerFactory) (w : World) : SetupResult f w (f.create w) := by
  obtain ⟨h1, h2, h3, h4, h5, h7, h8⟩ := lgs_baseCreate_gen f w
  unfold LoggerFactory.create
  cases hp : f.propagate with
  | none => exact ⟨h1, h2, by rw [h3, hp]; rfl, h4, h5, h7, h8⟩
  | some p =>
    simp only
    have hg := lgs_setPropagate_get (f.baseCreate w).2.2 (f.baseCreate w).1 p
    rw [h1] at hg ⊢
    refine ⟨rfl, ?_, ?_, ?_, ?_, h7, ?_⟩
    · simp only [hg, h2]
    · simp only [hg, hp]; rfl
    · simp only [hg]; exact h4
    · intro k' hk'
      simp only [lgs_setPropagate_other _ hk', h5 k' hk']
    · intro hne hf hm
      obtain ⟨h, hh1, hh2⟩ := h8 hne hf hm
      refine ⟨h, hh1, ?_⟩
      simp only [hg]; exact hh2

theorem lgs_call_gen (f : LoggerFactory) (w : World) (hi : f.inst = none) :
    SetupResult f w (f.call w) ∧ (f.call w).2.1.inst = some (loggerKey f.name) := by
  have hc := lgs_create_gen f w
  rw [lgs_call_first f w hi]
  exact ⟨⟨hc.name, hc.level, hc.propagate, hc.oldHandlers, hc.other, hc.sections, hc.products⟩, by simp only [hc.name]⟩

/-! ## `configureLoggers` -/

/-- what the handler sections of a logger section configure: one entry per section in order (`some cfg`), or the single
    `NullHandler` (`none`) when there is no handler section -/
def LoggerFactory.cfgs (f : LoggerFactory) : List (Option HandlerCfg) :=
  if f.handlerFactories.isEmpty then [none] else f.handlerFactories.map (fun hf => some hf.cfg)

theorem lgs_callAll_cons (f : LoggerFactory) (rest : List LoggerFactory) (w : World) :
    callAll (f :: rest) w = ((f.call w).2.1 :: (callAll rest (f.call w).2.2).1, (callAll rest (f.call w).2.2).2) := by
  rw [callAll]

theorem lgs_callAll_called (fs : List LoggerFactory) (w : World) (h : ∀ f ∈ fs, ∃ n, f.inst = some n) :
    callAll fs w = (fs, w) := by
  induction fs with
  | nil => rfl
  | cons f rest ih =>
    obtain ⟨n, hn⟩ := h f List.mem_cons_self
    rw [lgs_callAll_cons, lgs_call_called f w n hn]
    simp only [ih (fun g hg => h g (List.mem_cons_of_mem _ hg))]

theorem lgs_callAll_insts (fs : List LoggerFactory) (w : World) : ∀ f ∈ (callAll fs w).1, ∃ n, f.inst = some n := by
  induction fs generalizing w with
  | nil => intro f hf; cases hf
  | cons g rest ih =>
    intro f hf
    rw [lgs_callAll_cons] at hf
    rcases List.mem_cons.1 hf with rfl | hf
    · exact ⟨_, lgs_call_inst g w⟩
    · exact ih _ f hf

theorem lgs_callAll_idem (fs : List LoggerFactory) (w : World) :
    callAll (callAll fs w).1 (callAll fs w).2 = callAll fs w :=
  lgs_callAll_called _ _ (lgs_callAll_insts fs w)

theorem lgs_callAll_fresh (fs : List LoggerFactory) (w : World) (hfresh : ∀ f ∈ fs, f.Fresh) (hw : w.WF)
    (hd : (fs.map (fun f => loggerKey f.name)).Nodup) :
    (∀ f ∈ fs,
      ((callAll fs w).2.get (loggerKey f.name)).level = f.level ∧
      ((callAll fs w).2.get (loggerKey f.name)).propagate =
        (f.propagate.getD (w.get (loggerKey f.name)).propagate) ∧
      ∃ new, ((callAll fs w).2.get (loggerKey f.name)).handlers = (w.get (loggerKey f.name)).handlers ++ new ∧
        new.map (·.cfg) = f.cfgs) ∧
    (∀ k, k ∉ fs.map (fun f => loggerKey f.name) → (callAll fs w).2.get k = w.get k) ∧
    (callAll fs w).2.WF := by
  induction fs generalizing w with
  | nil => exact ⟨fun f hf => absurd hf List.not_mem_nil, fun _ _ => rfl, hw⟩
  | cons g rest ih =>
    obtain ⟨⟨hg1, hg2, hg3, hg4, hg5⟩, hg6⟩ := lgs_call_fresh_wf g w (hfresh g List.mem_cons_self) hw
    simp only [List.map_cons, List.nodup_cons] at hd
    obtain ⟨ih1, ih2, ih3⟩ := ih (g.call w).2.2 (fun f hf => hfresh f (List.mem_cons_of_mem _ hf)) hg6 hd.2
    rw [lgs_callAll_cons]
    refine ⟨?_, ?_, ih3⟩
    · intro f hf
      rcases List.mem_cons.1 hf with rfl | hf
      · simp only [ih2 _ hd.1, hg3]
        exact ⟨trivial, trivial, _, rfl, lgs_createdHandlers_cfg _ _⟩
      · have hne : loggerKey f.name ≠ loggerKey g.name := by
          intro heq
          exact hd.1 (heq ▸ List.mem_map.2 ⟨f, hf, rfl⟩)
        have := ih1 f hf
        rw [hg4 _ hne] at this
        exact this
    · intro k hk
      simp only [List.map_cons, List.mem_cons, not_or] at hk
      simp only [ih2 k hk.2, hg4 k hk.1]

end ZCV.LogSetup
