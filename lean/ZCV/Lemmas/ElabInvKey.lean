import ZCV.Lemmas.ElabElem
import ZCV.Spec.Conforms
/-!
The invariant of the schema loader state (`ES`) behind `elab_schemaOK`: `ESInv` says of the top type and of every concrete
entry of the type table, on the loader's own objects, what `Conf.stypeOK` says of them after `toSchema`.  Then the two
places where it is at stake while a schema is read.  Key objects: `adddefault`, `finish`, `computedefault` — hence the
character-data children of a `<key>` / `<multikey>` element and its end handler — keep the shape `stypeOK` asks for
(`KeyShape`) and never touch name or attribute (`SameKey`); `adddefault`, `normDefault` and a character-data child are
stated together with the failures they can end in (`Ends`), which is what `ElabNoInt*` reads of them.  The container on top
of the stack: writing children that are `ChildrenOK`, in particular appending a child (`addChild_inv`), keeps the invariant.
-/
namespace ZCV.Elab
open ZCV ZCV.Cfg

/-- `Conf.nodupB_iff` (`Lemmas/LoadSlot.lean`), stated here so that the invariant tower need not import the configuration loader's modules -/
theorem nodupB_iff' (l : List Str) : Conf.nodupB l = true ↔ l.Nodup := by
  induction l with
  | nil => simp [Conf.nodupB]
  | cons a t ih => simp [Conf.nodupB, ih]

/-- the default of a `name="+"` key is a mapping of the right kind -/
def plusShape (multi : Bool) : Default → Prop
  | .keyed _ => multi = false
  | .keyedMany _ => multi = true
  | _ => False

/-- what `stypeOK` asks of a key (and, for `+` keys, of the raw defaults `computedefault` starts from) -/
def KeyShape (k : EKey) : Prop :=
  k.name ≠ [] ∧
  (if k.name = ['+'] then plusShape k.multi k.dflt ∧ (∀ r, k.raw = some r → plusShape k.multi r)
   else if k.multi = true then (∃ l, k.dflt = .many l)
   else (k.dflt = .none ∨ ∃ v, k.dflt = .one v ∧ k.minOccurs = 0))

/-- is `x` a key of the type table? -/
def knownIn (tys : List (Str × EEntry)) (x : Str) : Bool := tys.any (·.1 == x)

def ChildOK (tys : List (Str × EEntry)) (c : Option Str × EInfo) : Prop :=
  match c.2 with
  | .key k => c.1 = some k.name ∧ KeyShape k
  | .sect si =>
    (if si.name = ['*'] ∨ si.name = ['+'] then c.1 = none else c.1 = some si.name ∧ si.name ≠ []) ∧
    (si.multi = true → si.name = ['*'] ∨ si.name = ['+']) ∧
    knownIn tys (lower si.ty) = true

structure ChildrenOK (tys : List (Str × EEntry)) (ch : List (Option Str × EInfo)) : Prop where
  attrs : (ch.map (·.2.attr)).Nodup
  keys : (ch.filterMap (·.1)).Nodup
  child : ∀ c ∈ ch, ChildOK tys c

def EntryOK (tys : List (Str × EEntry)) (n : Str) : EEntry → Prop
  | .concrete t => t.name = some n ∧ ChildrenOK tys t.children
  | .abstract_ n' _ _ => n' = n

/-- the loader-state invariant: the top type is unnamed, its children are `ChildrenOK`, type-table keys are distinct, each
entry is stored under its own name with `ChildrenOK` children -/
structure ESInv (es : ES) : Prop where
  topName : es.top.name = none
  top : ChildrenOK es.types es.top.children
  keys : (es.types.map (·.1)).Nodup
  entries : ∀ p ∈ es.types, EntryOK es.types p.1 p.2

/-! ### monotonicity in the type table -/

theorem ChildOK.mono {tys tys' : List (Str × EEntry)} (hm : ∀ x, knownIn tys x = true → knownIn tys' x = true)
    {c : Option Str × EInfo} (h : ChildOK tys c) : ChildOK tys' c := by
  unfold ChildOK at h ⊢
  split
  · rename_i k hk; simp only [hk] at h; exact h
  · rename_i si hs; simp only [hs] at h; exact ⟨h.1, h.2.1, hm _ h.2.2⟩

theorem ChildrenOK.mono {tys tys' : List (Str × EEntry)} (hm : ∀ x, knownIn tys x = true → knownIn tys' x = true)
    {ch : List (Option Str × EInfo)} (h : ChildrenOK tys ch) : ChildrenOK tys' ch :=
  ⟨h.attrs, h.keys, fun c hc => (h.child c hc).mono hm⟩

theorem EntryOK.mono {tys tys' : List (Str × EEntry)} (hm : ∀ x, knownIn tys x = true → knownIn tys' x = true)
    {n : Str} {e : EEntry} (h : EntryOK tys n e) : EntryOK tys' n e := by
  cases e with
  | concrete t => exact ⟨h.1, h.2.mono hm⟩
  | abstract_ n' s d => exact h

theorem ChildrenOK.nil (tys : List (Str × EEntry)) : ChildrenOK tys [] :=
  ⟨by simp, by simp, by intro c hc; cases hc⟩

theorem knownIn_map (tys : List (Str × EEntry)) (g : Str × EEntry → Str × EEntry) (hk : ∀ p, (g p).1 = p.1) (x : Str) :
    knownIn (tys.map g) x = knownIn tys x := by
  unfold knownIn
  rw [List.any_map]
  congr 1
  funext p
  simp only [Function.comp, hk]

theorem knownIn_append (tys tys2 : List (Str × EEntry)) (x : Str) :
    knownIn (tys ++ tys2) x = (knownIn tys x || knownIn tys2 x) := by
  unfold knownIn; rw [List.any_append]

/-- a key-preserving rewrite of the entries that keeps each entry well-formed keeps the invariant -/
theorem ESInv.map {es : ES} (hinv : ESInv es) (g : Str × EEntry → Str × EEntry) (hk : ∀ p, (g p).1 = p.1)
    (he : ∀ p ∈ es.types, EntryOK es.types p.1 p.2 → EntryOK es.types p.1 (g p).2) :
    ESInv { es with types := es.types.map g } := by
  have hm : ∀ x, knownIn es.types x = true → knownIn (es.types.map g) x = true := by
    intro x hx; rw [knownIn_map _ _ hk]; exact hx
  refine ⟨hinv.topName, hinv.top.mono hm, ?_, ?_⟩
  · show ((es.types.map g).map (·.1)).Nodup
    rw [List.map_map]
    have : ((fun x : Str × EEntry => x.1) ∘ g) = (fun x => x.1) := by funext p; exact hk p
    rw [this]; exact hinv.keys
  · intro q hq
    simp only [List.mem_map] at hq
    obtain ⟨p, hp, rfl⟩ := hq
    rw [hk p]
    exact (he p hp (hinv.entries p hp)).mono hm

theorem ESInv.absOnly {es : ES} (hinv : ESInv es) {g} (hg : AbsOnly g) : ESInv { es with types := es.types.map g } :=
  hinv.map g hg.fst fun
    | (k, .concrete t), _, h => by rw [hg.conc]; exact h
    | (k, .abstract_ a b c), _, h => by obtain ⟨b', c', e⟩ := hg.abs k a b c; rw [e]; exact h

theorem ESInv.top_congr {es : ES} (hinv : ESInv es) (t : EType) (hn : t.name = es.top.name) (hc : t.children = es.top.children) :
    ESInv { es with top := t } :=
  ⟨by show t.name = none; rw [hn]; exact hinv.topName, by show ChildrenOK es.types t.children; rw [hc]; exact hinv.top,
   hinv.keys, hinv.entries⟩

theorem ESInv.set_top_children {es : ES} (hinv : ESInv es) (ch : List (Option Str × EInfo)) (hc : ChildrenOK es.types ch) :
    ESInv { es with top := { es.top with children := ch } } :=
  ⟨hinv.topName, hc, hinv.keys, hinv.entries⟩

theorem ESInv.emptyES : ESInv emptyES :=
  ⟨rfl, ChildrenOK.nil _, by simp [Elab.emptyES], by intro p hp; simp [Elab.emptyES] at hp⟩

theorem find_key_unique {tys : List (Str × EEntry)} (hn : (tys.map (·.1)).Nodup) {n : Str} {p q : Str × EEntry}
    (h : tys.find? (·.1 == n) = some p) (hq : q ∈ tys) (hqn : q.1 = n) : q = p :=
  nodup_map_inj (·.1) tys hn q hq p (find_fst_some _ _ _ h).2 (hqn.trans (find_fst_some _ _ _ h).1.symm)

theorem Grows.known {a b : ES} (h : Grows a b) {x : Str} (hx : knownIn a.types x = true) : knownIn b.types x = true := by
  obtain ⟨more, hm⟩ := h
  unfold knownIn at hx ⊢
  rw [List.any_eq_true] at hx ⊢
  obtain ⟨p, hp, hpx⟩ := hx
  have : p.1 ∈ b.types.map (·.1) := by
    rw [← hm]; exact List.mem_append_left _ (List.mem_map.mpr ⟨p, hp, rfl⟩)
  obtain ⟨q, hq, hqp⟩ := List.mem_map.mp this
  exact ⟨q, hq, by rw [hqp]; exact hpx⟩

/-! ## key objects while the schema is read -/

/-- same identity: name, attribute, multiplicity, `minOccurs` -/
structure SameKey (k k' : EKey) : Prop where
  name : k'.name = k.name
  attr : k'.attr = k.attr
  multi : k'.multi = k.multi
  minOccurs : k'.minOccurs = k.minOccurs

theorem SameKey.refl (k : EKey) : SameKey k k := ⟨rfl, rfl, rfl, rfl⟩
theorem SameKey.trans {a b c : EKey} (h1 : SameKey a b) (h2 : SameKey b c) : SameKey a c :=
  ⟨h2.name.trans h1.name, h2.attr.trans h1.attr, h2.multi.trans h1.multi, h2.minOccurs.trans h1.minOccurs⟩

theorem KeyShape.congr {k k' : EKey} (h : KeyShape k) (hn : k'.name = k.name) (hm : k'.multi = k.multi)
    (hd : k'.dflt = k.dflt) (hr : k'.raw = k.raw) (ho : k'.minOccurs = k.minOccurs) : KeyShape k' := by
  unfold KeyShape at h ⊢
  rw [hn, hm, hd, hr, ho]; exact h

theorem addDflt_ends {multi : Bool} {d : Default} (hd : plusShape multi d) (vi : VI) (key : Str) :
    Ends (addDflt multi d vi key) (plusShape multi) (·.isSchema) := by
  unfold addDflt
  cases multi with
  | false =>
    rw [if_neg Bool.false_ne_true]
    cases d <;> first | cases hd | skip
    exact Ends.ite (fun _ => Ends.error trivial) fun _ => Ends.ok (P := plusShape false) (a := .keyed _) rfl
  | true =>
    rw [if_pos rfl]
    cases d <;> first | cases hd | skip
    exact Ends.ite (fun _ => Ends.ok (P := plusShape true) (a := .keyedMany _) rfl) fun _ =>
      Ends.ok (P := plusShape true) (a := .keyedMany _) rfl

/-- `add_valueinfo`; a plain single key only ever gets a default when it is optional (`hopt`) -/
theorem addValueInfo_ends {k : EKey} (hs : KeyShape k) (hopt : k.minOccurs = 0) (vi : VI) (key : Option Str) :
    Ends (addValueInfo k vi key) (fun k' => KeyShape k' ∧ SameKey k k' ∧ k'.raw = k.raw) (·.isSchema) := by
  rw [addValueInfo_nf]
  obtain ⟨hne, hsh⟩ := hs
  refine Ends.map ?_
  by_cases hp : k.name = ['+']
  · rw [if_pos hp] at hsh ⊢
    refine (addDflt_ends hsh.1 vi _).weaken fun d hd => ⟨⟨hne, ?_⟩, ⟨rfl, rfl, rfl, rfl⟩, rfl⟩
    rw [if_pos (show ({ k with dflt := d } : EKey).name = ['+'] from hp)]
    exact ⟨hd, hsh.2⟩
  · rw [if_neg hp] at hsh ⊢
    have out : ∀ d : Default, (if k.multi = true then ∃ l, d = .many l else d = .none ∨ ∃ v, d = .one v ∧ k.minOccurs = 0) →
        KeyShape { k with dflt := d } ∧ SameKey k { k with dflt := d } ∧ ({ k with dflt := d } : EKey).raw = k.raw :=
      fun d hd => ⟨⟨hne, by rw [if_neg (show ({ k with dflt := d } : EKey).name ≠ ['+'] from hp)]; exact hd⟩, ⟨rfl, rfl, rfl, rfl⟩, rfl⟩
    unfold addDfltFixed
    by_cases hm : k.multi = true
    · rw [if_pos hm] at hsh ⊢
      obtain ⟨l, hl⟩ := hsh
      rw [hl]
      exact Ends.ok (out _ (by rw [if_pos hm]; exact ⟨_, rfl⟩))
    · rw [if_neg hm]
      cases k.dflt with
      | none => exact Ends.ok (out _ (by rw [if_neg hm]; exact .inr ⟨vi, rfl, hopt⟩))
      | _ => exact Ends.error trivial

theorem addDefault_ends {k : EKey} (hs : KeyShape k) (hopt : k.minOccurs = 0) (value : Str) (key : Option Str) :
    Ends (addDefault k value key) (fun k' => KeyShape k' ∧ SameKey k k' ∧ k'.raw = k.raw) (·.isSchema) := by
  unfold addDefault
  exact Ends.ite (fun _ => Ends.error trivial) fun _ => Ends.ite (fun _ => Ends.error trivial) fun _ =>
    Ends.ite (fun _ => Ends.error trivial) fun _ => addValueInfo_ends hs hopt _ _
theorem finishKey_shape (k k' : EKey) (hs : KeyShape k) (h : finishKey k = .ok k') :
    KeyShape k' ∧ SameKey k k' := by
  unfold finishKey at h
  split at h
  · cases h
  · simp only [Except.ok.injEq] at h
    subst h
    exact ⟨hs.congr rfl rfl rfl rfl rfl, ⟨rfl, rfl, rfl, rfl⟩⟩

theorem KeyShape.rawShape {k : EKey} (hs : KeyShape k) (hp : k.name = ['+']) : plusShape k.multi (k.raw.getD k.dflt) := by
  have hsh := hs.2
  rw [if_pos hp] at hsh
  cases hr : k.raw with
  | none => exact hsh.1
  | some r => exact hsh.2 r hr

theorem normDefault_ends {env : Env} {kt : Str} {Q : EFail → Prop} (hQ : ∀ e : EFail, e.isSchema → Q e)
    (hkey : ∀ s, Ends (convDefaultKey env kt s) (fun _ => True) Q) {multi : Bool} {raw : Default}
    (hraw : plusShape multi raw) : Ends (normDefault env kt multi raw) (plusShape multi) Q := by
  unfold normDefault
  split
  · exact Ends.foldlM (show plusShape multi (.keyed []) from hraw) fun b p _ hb =>
      (hkey _).bind fun _ _ => (addDflt_ends hb _ _).fails hQ
  · exact Ends.foldlM (show plusShape multi (.keyedMany []) from hraw) fun b p _ hb =>
      (hkey _).bind fun _ _ => Ends.foldlM hb fun b1 vi _ hb1 => (addDflt_ends hb1 _ _).fails hQ
  · rename_i h1 h2
    cases raw <;> first | exact (h1 _ rfl).elim | exact (h2 _ rfl).elim | cases hraw

theorem normDefault_shape {env : Env} {kt : Str} {multi : Bool} {raw d : Default} (hraw : plusShape multi raw)
    (h : normDefault env kt multi raw = .ok d) : plusShape multi d :=
  (normDefault_ends (Q := fun _ => True) (fun _ _ => trivial) (fun _ => Ends.intro (fun _ _ => trivial) fun _ _ => trivial)
    hraw).of_ok h

theorem computeDefault_shape (env : Env) (kt : Str) (k k' : EKey) (hs : KeyShape k)
    (h : computeDefault env kt k = .ok k') : KeyShape k' ∧ SameKey k k' := by
  obtain ⟨hp, _⟩ := computeDefault_ok h
  have hraw := hs.rawShape hp
  rw [computeDefault_eq env kt k hp] at h
  cases hd : normDefault env kt k.multi (k.raw.getD k.dflt) with
  | error e => rw [hd] at h; cases h
  | ok d =>
    rw [hd] at h
    cases h
    refine ⟨⟨hs.1, ?_⟩, ⟨rfl, rfl, rfl, rfl⟩⟩
    rw [if_pos (show ({ k with raw := some (k.raw.getD k.dflt), dflt := d } : EKey).name = ['+'] from hp)]
    exact ⟨normDefault_shape hraw hd, fun r hr => by cases hr; exact hraw⟩

/-- `computedefault` never touches name, attribute, multiplicity, `minOccurs` — needs no `KeyShape` hypothesis, unlike
`computeDefault_shape` -/
theorem computeDefault_same (env : Env) (kt : Str) (k k' : EKey) (h : computeDefault env kt k = .ok k') : SameKey k k' := by
  obtain ⟨_, d, rfl⟩ := computeDefault_ok h
  exact ⟨rfl, rfl, rfl, rfl⟩

/-! ### the key frame while the children of `<key>` / `<multikey>` are read, and when the element ends -/

open ZCV.SchemaRules (endObj) in
theorem endObj_shape {env : Env} {multi : Bool} {ktm : EM Str} {k k' : EKey} (hk : KeyShape k)
    (h : endObj multi env ktm k = .ok k') : KeyShape k' ∧ SameKey k k' := by
  rw [SchemaRules.endObj_eq] at h
  rcases ite_ok h with ⟨_, h⟩ | ⟨_, h⟩
  · obtain ⟨kt, _, h⟩ := bind_ok_inv h
    obtain ⟨k1, h1, h⟩ := bind_ok_inv h
    obtain ⟨s1, e1⟩ := computeDefault_shape env kt k k1 hk h1
    obtain ⟨s2, e2⟩ := finishKey_shape _ _ s1 h
    exact ⟨s2, e1.trans e2⟩
  · rcases ite_ok h with ⟨_, h⟩ | ⟨_, h⟩
    · exact finishKey_shape _ _ hk h
    · cases h; exact ⟨hk, .refl k⟩

theorem localStep_key_ends {isC : Bool} {t : Str} {a : Attrs} {data : Str} {k : EKey} (hk : KeyShape k) :
    Ends (localStep isC t a data (.key k)) (fun f' => ∃ k', f' = .key k' ∧ KeyShape k' ∧ SameKey k k')
      fun e => Gen.cdataTags.contains t = true → e.isSchema := by
  unfold localStep
  dsimp only
  have flag : ∀ k' : EKey, k'.name = k.name → k'.attr = k.attr → k'.multi = k.multi → k'.dflt = k.dflt → k'.raw = k.raw →
      k'.minOccurs = k.minOccurs → ∃ k1, Frame.key k' = .key k1 ∧ KeyShape k1 ∧ SameKey k k1 :=
    fun k' hn ha hm hd hr ho => ⟨k', rfl, hk.congr hn hm hd hr ho, ⟨hn, ha, hm, ho⟩⟩
  refine Ends.ite (fun _ => Ends.ite (fun _ => Ends.error fun _ => trivial) fun hm => Ends.map ?_) fun h1 => ?_
  · exact (addDefault_ends hk (by simpa using hm) _ _).mono (fun k1 h => ⟨k1, rfl, h.1, h.2.1⟩) fun _ he _ => he
  refine Ends.ite (fun _ => Ends.ite (fun _ => Ends.error fun _ => trivial) fun _ => Ends.ok (flag _ rfl rfl rfl rfl rfl rfl))
    fun h2 => ?_
  refine Ends.ite (fun _ => Ends.ite (fun _ => Ends.error fun _ => trivial) fun _ => Ends.ok (flag _ rfl rfl rfl rfl rfl rfl))
    fun h3 => ?_
  refine Ends.ite (fun _ => Ends.ok ⟨k, rfl, hk, .refl k⟩) fun h4 => Ends.error fun hcd => ?_
  -- the last branch is for tags that are not character-data tags
  rcases cdataTags_cases hcd with rfl | rfl | rfl | rfl
  · exact absurd (beq_self_eq_true _) h2
  · exact absurd (beq_self_eq_true _) h4
  · exact absurd (beq_self_eq_true _) h3
  · exact absurd (beq_self_eq_true _) h1

theorem leafBodyE_keyShape {isC : Bool} {parent : Str} (c : List Node) {k : EKey} {f' : Frame} (hk : KeyShape k)
    (h : leafBodyE isC parent c (.key k) = .ok f') : ∃ k', f' = .key k' ∧ KeyShape k' ∧ SameKey k k' :=
  (leafBodyE_ends (Q := fun _ => True) (I := fun f => ∃ k', f = .key k' ∧ KeyShape k' ∧ SameKey k k') (fun _ _ => trivial)
    (fun _ _ _ => Ends.intro (fun _ _ => trivial) fun _ _ => trivial)
    (fun t a data f _ ⟨k1, e1, hk1, s1⟩ => e1 ▸ (localStep_key_ends hk1).mono
      (fun _ ⟨k2, e2, hk2, s2⟩ => ⟨k2, e2, hk2, s1.trans s2⟩) fun _ _ => trivial)
    c _ ⟨k, rfl, hk, .refl k⟩).of_ok h

/-! ## writing the children of the container on top of the stack -/

theorem setTopOf_inv {es : ES} {stack : List Frame} {ch ch' : List (Option Str × EInfo)} (hinv : ESInv es)
    (ht : topOf es stack = .ok ch) (hc : ChildrenOK es.types ch → ChildrenOK es.types ch') :
    ESInv (setTopOf es stack ch') ∧ topOf (setTopOf es stack ch') stack = .ok ch' := by
  refine ⟨?_, topOf_setTopOf ht⟩
  rcases topOf_ok_cases ht with ⟨_, rfl, rfl⟩ | ⟨n', rest, t, rfl, hf, rfl⟩
  · exact hinv.set_top_children ch' (hc hinv.top)
  · let g : Str × EEntry → Str × EEntry := fun p =>
      if p.1 == n' then (p.1, match p.2 with | .concrete t => .concrete { t with children := ch' } | a => a) else (p.1, p.2)
    have hg : setTopOf es (.stype n' :: rest) ch' = { es with types := es.types.map g } := rfl
    have hk : ∀ p, (g p).1 = p.1 := by intro p; simp only [g]; split <;> rfl
    rw [hg]
    refine hinv.map g hk ?_
    intro p hp hpe
    by_cases hpn : p.1 = n'
    · have := find_key_unique hinv.keys hf hp hpn
      subst this
      simp only [g, beq_self_eq_true, ↓reduceIte]
      exact ⟨hpe.1, hc hpe.2⟩
    · have : (p.1 == n') = false := by simpa using hpn
      simp only [g, this, Bool.false_eq_true, ↓reduceIte]
      exact hpe

theorem ChildrenOK.snoc {tys : List (Str × EEntry)} {ch : List (Option Str × EInfo)} (h : ChildrenOK tys ch)
    (key : Option Str) (info : EInfo) (ha : ∀ c ∈ ch, c.2.attr ≠ info.attr) (hk : ∀ c ∈ ch, ∀ k, key = some k → c.1 ≠ some k)
    (hc : ChildOK tys (key, info)) : ChildrenOK tys (ch ++ [(key, info)]) := by
  refine ⟨?_, ?_, ?_⟩
  · rw [List.map_append, List.nodup_append]
    refine ⟨h.attrs, by simp, ?_⟩
    intro a ha' b hb
    simp only [List.map_cons, List.map_nil, List.mem_singleton] at hb
    subst hb
    simp only [List.mem_map] at ha'
    obtain ⟨c, hc', rfl⟩ := ha'
    exact ha c hc'
  · rw [List.filterMap_append, List.nodup_append]
    refine ⟨h.keys, ?_, ?_⟩
    · cases key <;> simp
    · intro a ha' b hb
      cases key with
      | none => simp at hb
      | some k =>
        simp only [List.filterMap_cons, List.filterMap_nil, List.mem_singleton] at hb
        subst hb
        simp only [List.mem_filterMap] at ha'
        obtain ⟨c, hc', hca⟩ := ha'
        intro hab
        subst hab
        exact hk c hc' a rfl hca
  · intro c hc'
    rcases List.mem_append.mp hc' with hc' | hc'
    · exact h.child c hc'
    · simp only [List.mem_singleton] at hc'
      subst hc'
      exact hc

/-- `_add_child` keeps the invariant, the stack and the prefixes; the new child ends up last in the container on top of
the stack -/
theorem addChild_inv {st st' : PSt} {key : Option Str} {info : EInfo} (hinv : ESInv st.es)
    (h : addChild st key info = .ok st') (hattr : info.attr ≠ []) (hkey : ∀ k, key = some k → k ≠ [])
    (hc : ChildOK st.es.types (key, info)) :
    ESInv st'.es ∧ st'.stack = st.stack ∧ st'.prefixes = st.prefixes ∧
      ∃ ch, topOf st'.es st.stack = .ok (ch ++ [(key, info)]) := by
  obtain ⟨ch, ht, hk1, hk2, rfl⟩ := addChild_ok h
  rw [topChildren_eq] at ht
  rw [setTopChildren_eq]
  have := setTopOf_inv (ch' := ch ++ [(key, info)]) hinv ht fun hch => hch.snoc key info ?_ ?_ hc
  · exact ⟨this.1, rfl, rfl, ch, this.2⟩
  · exact fun c hcm heq => hk2 ⟨hattr, List.mem_map.2 ⟨c, hcm, heq⟩⟩
  · intro c hcm k hkk heq
    subst hkk
    refine hk1 ⟨?_, List.mem_map.2 ⟨c, hcm, heq⟩⟩
    cases k with
    | nil => exact absurd rfl (hkey _ rfl)
    | cons a b => rfl

end ZCV.Elab
