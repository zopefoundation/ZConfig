import ZCV.Lemmas.ImportOvEval
/-!
Command-line overrides on texts with `%import` lines.  From text to top-level items (`load_eq_runTopsOv`, an instance of
`parse_eq_runTops`): `Cfg.load` with specifiers = splitting the specifiers, cooking the option bag, building the top-level
items of the text (`treeOfI`) and running them from the state the load starts with (`stOv`, with the bag); compared are
acceptance, the configuration, the handler list and the schema the load ends with (`loadFin`).  Then the load of top-level
items with overrides against the load, without overrides, of the items edited against the schema `S` the load started with
(`editBodyI`): the edit keeps the `%import` lines where they are and the headers in lower case, so the edited items meet the
hypotheses of C12 again; `finT` is the end of a load seen from what the top level yields (`run_finT`), a bag emptied on the
way supplies its lines there (`finT_emptied`), one that is not refuses (`finT_left`); hence `tops_elim`.
-/
namespace ZCV.Conf
open ZCV ZCV.Cfg

theorem load_eq_runTopsOv (conv : Conv) (env : Env) (pkgs : Str → Pkg) (s : Schema) (url : Option Str) (lines : List Str)
    (specs : List Str) (htop : importsAtTop env url lines) :
    (load conv env pkgs s url lines specs).toOption =
      (specs.mapM addOption).toOption.bind fun ovs =>
        (bagOf conv s ovs).toOption.bind fun bag =>
          (treeOfI env url lines).toOption.bind fun tops =>
            (runTops (stOv conv pkgs s bag) tops >>= loadFin conv s).toOption := by
  rw [load_ov_eq]
  cases hsp : specs.mapM addOption with
  | error e => rfl
  | ok ovs =>
    simp only [toOption_ok, Option.bind_some]
    show ((bagOf conv s ovs >>= fun bag =>
      parseLines 64 env loaderCtx (activeOf url) url lines 0 { ctx := stOv conv pkgs s bag, stack := [], defs := [] } >>=
        fun ps => loadFin conv s ps.ctx).toOption) = _
    cases hb : bagOf conv s ovs with
    | error e => rfl
    | ok bag =>
      simp only [toOption_ok, Option.bind_some]
      exact parse_eq_runTops conv env s url lines (stOv conv pkgs s bag) htop

/-! ### top-level items with overrides = the edited items without -/

/-! ### what the edit keeps -/

theorem lowItem_single (i : Item) (h : lowItem i = true) : lowItems [i] = true := by
  rw [lowItems, h, lowItems]; rfl

theorem lowItems_kept : KeptByEdit lowItems where
  nil := by rw [lowItems]
  cons := fun i l => by rw [lowItems, lowItems, lowItems, Bool.and_true]
  kv := fun k v p => by rw [lowItems, lowItem, lowItems]; rfl
  sect := fun ty nm sub sub' h => by
    rw [lowItems, lowItem, lowItems, Bool.and_true, Bool.and_eq_true] at h
    exact ⟨h.2, fun h' => by rw [lowItems, lowItem, lowItems, h.1, h']; rfl⟩

theorem lowTops_append : ∀ (a b : List TopItem), lowTops (a ++ b) = (lowTops a && lowTops b)
  | [], b => by rw [List.nil_append, lowTops, Bool.true_and]
  | .item i :: a, b => by rw [List.cons_append, lowTops, lowTops, lowTops_append a b, Bool.and_assoc]
  | .imp p :: a, b => by rw [List.cons_append, lowTops, lowTops, lowTops_append a b]

theorem extendBy_items_append (pkgs : Str → Pkg) (s : Schema) : ∀ (l : List Item) (r : List TopItem),
    extendBy pkgs s (l.map .item ++ r) = extendBy pkgs s r
  | [], r => by rw [List.map_nil, List.nil_append]
  | i :: l, r => by rw [List.map_cons, List.cons_append, extendBy]; exact extendBy_items_append pkgs s l r

theorem importsOK_items_append (pkgs : Str → Pkg) (s : Schema) : ∀ (l : List Item) (r : List TopItem),
    importsOK pkgs s (l.map .item ++ r) = importsOK pkgs s r
  | [], r => by rw [List.map_nil, List.nil_append]
  | i :: l, r => by rw [List.map_cons, List.cons_append, importsOK]; exact importsOK_items_append pkgs s l r

theorem editTops_keeps (conv : Conv) (S : Schema) (asGiven : Bool) (norm : Str → Except ConvErr Str) (keys : List Str)
    (pkgs : Str → Pkg) (l : List Item) : ∀ (tops : List TopItem) (pend : List OptItem) (tops' : List TopItem) (pend' : List OptItem),
      editTops conv S asGiven norm keys tops pend = .ok (tops', pend') →
      (∀ s, extendBy pkgs s (tops' ++ l.map .item) = extendBy pkgs s tops ∧
        importsOK pkgs s (tops' ++ l.map .item) = importsOK pkgs s tops) ∧
        (lowTops tops = true → lowItems l = true → lowTops (tops' ++ l.map .item) = true)
  | [], pend, tops', pend', h => by
    rw [editTops] at h
    cases h
    have h1 := extendBy_items_append pkgs
    have h2 := importsOK_items_append pkgs
    refine ⟨fun s => ?_, fun _ hl => by rw [List.nil_append, lowTops_items]; exact hl⟩
    rw [List.nil_append, ← List.append_nil (l.map _), h1, h2]
    exact ⟨rfl, rfl⟩
  | .imp p :: r, pend, tops', pend', h => by
    rw [editTops] at h
    split at h
    · cases h
    · rename_i rs pend1 h1
      cases h
      obtain ⟨ih1, ih2⟩ := editTops_keeps conv S asGiven norm keys pkgs l r _ _ _ h1
      refine ⟨fun s => ?_, by rw [List.cons_append, lowTops, lowTops]; exact ih2⟩
      rw [List.cons_append, extendBy, extendBy, importsOK, importsOK]
      cases extend s (pkgs p) with
      | none => exact ⟨rfl, rfl⟩
      | some s' => simp only; exact ⟨(ih1 s').1, by rw [(ih1 s').2]⟩
  | .item i :: r, pend, tops', pend', h => by
    rw [editTops] at h
    split at h
    · cases h
    · rename_i is pend1 h1
      split at h
      · cases h
      · rename_i rs pend2 h2
        cases h
        obtain ⟨ih1, ih2⟩ := editTops_keeps conv S asGiven norm keys pkgs l r _ _ _ h2
        rw [List.append_assoc]
        refine ⟨fun s => by rw [extendBy_items_append, importsOK_items_append, extendBy, importsOK]; exact ih1 s,
          fun hl hl' => ?_⟩
        rw [lowTops, Bool.and_eq_true] at hl
        rw [lowTops_append, lowTops_items, editItem_pres lowItems_kept conv S asGiven i (lowItem_single i hl.1) _ _ _ _ _ h1,
          ih2 hl.2 hl']
        rfl

theorem closeTops_ok (asGiven : Bool) (G : List (Str × List (Str × Str))) (r : Except Reject (List TopItem × List OptItem))
    (tops' : List TopItem) (h : closeTops asGiven G r = .ok tops') :
    ∃ ts, r = .ok (ts, []) ∧ tops' = ts ++ (newLines asGiven G).map .item := by
  unfold closeTops at h
  split at h
  · cases h
  · cases h; exact ⟨_, rfl, rfl⟩
  · cases h

theorem editBodyI_ok (conv : Conv) (S : Schema) (asGiven : Bool) (tops : List TopItem) (ovs : List OptItem)
    (tops' : List TopItem) (h : editBodyI conv S asGiven tops ovs = .ok tops') :
    ∃ ks ss ts, splitOvs (conv.key S.top.keytype) ovs = .ok (ks, ss) ∧
      editTops conv S asGiven (conv.key S.top.keytype) ((groupsOf ks).map (·.1)) tops ss = .ok (ts, []) ∧
      tops' = ts ++ (newLines asGiven (groupsOf ks)).map .item := by
  unfold editBodyI at h
  split at h
  · cases h
  · rename_i ks ss hs
    obtain ⟨ts, h1, h2⟩ := closeTops_ok _ _ _ _ h
    exact ⟨ks, ss, ts, hs, h1, h2⟩

theorem editBodyI_keeps (conv : Conv) (S : Schema) (asGiven : Bool) (pkgs : Str → Pkg) (tops : List TopItem)
    (ovs : List OptItem) (tops' : List TopItem) (h : editBodyI conv S asGiven tops ovs = .ok tops') (s : Schema) :
    extendBy pkgs s tops' = extendBy pkgs s tops ∧ importsOK pkgs s tops' = importsOK pkgs s tops ∧
      (lowTops tops = true → lowTops tops' = true) := by
  obtain ⟨ks, ss, ts, _, h2, rfl⟩ := editBodyI_ok conv S asGiven tops ovs tops' h
  obtain ⟨e1, e2⟩ := editTops_keeps conv S asGiven _ _ pkgs (newLines asGiven (groupsOf ks)) tops ss ts [] h2
  exact ⟨(e1 s).1, (e1 s).2, fun hl => e2 hl (lowItems_kept.kvs _ (newLines_kv asGiven _))⟩

/-! ### no overrides: nothing to edit -/

theorem editTops_nopend (conv : Conv) (S : Schema) (asGiven : Bool) (norm : Str → Except ConvErr Str) :
    ∀ (tops : List TopItem), editTops conv S asGiven norm [] tops [] = .ok (tops, [])
  | [] => by rw [editTops]
  | .imp p :: r => by rw [editTops, editTops_nopend conv S asGiven norm r]
  | .item (.kv k v p) :: r => by
    rw [editTops, editItem, overridden_nil]
    simp only [Bool.false_eq_true, if_false]
    rw [editTops_nopend conv S asGiven norm r]
    rfl
  | .item (.sect ty nm sub) :: r => by
    rw [editTops, editItem]
    simp only [List.filter_nil, List.isEmpty_nil, if_true]
    rw [editTops_nopend conv S asGiven norm r]
    rfl

theorem editBodyI_nil (conv : Conv) (S : Schema) (asGiven : Bool) (tops : List TopItem) :
    editBodyI conv S asGiven tops [] = .ok tops := by
  unfold editBodyI
  rw [splitOvs]
  simp only
  rw [show groupsOf [] = [] from rfl, List.map_nil, editTops_nopend]
  show Except.ok (tops ++ (newLines asGiven []).map .item) = _
  rw [show newLines asGiven [] = [] from rfl, List.map_nil, List.append_nil]

/-! ### the end of a load -/

theorem loadFin_fst (conv : Conv) (S : Schema) (x : M LS) :
    (x >>= loadFin conv S).toOption.map (·.value) = (x >>= topsFin conv S).toOption.map (·.1) := by
  cases x with
  | error e => rfl
  | ok st =>
    show (loadFin conv S st).toOption.map (·.value) = (topsFin conv S st).toOption.map (·.1)
    rw [← loadFin_topsFin, Option.map_map]
    rfl

/-- the end of a load, from what the top level yields: the document's container is finished, the schema's datatype and
    the schema's handler come last -/
def finT (conv : Conv) (S : Schema) (x : Schema × RH) : Option LoadResult :=
  (closeH conv x.1 x.2).toOption.bind fun vh =>
    (conv.sect S.top.datatype vh.1).toOption.map fun r =>
      { value := r, handlers := vh.2 ++ (match S.handler with | some h => [(h, r)] | none => []), schemaAfter := x.1 }

theorem run_finT (conv : Conv) (pkgs : Str → Pkg) (S : Schema) (tops : List TopItem) (st : LS) (m : Matcher)
    (hst : st.stack = [m]) (hconv : st.conv = conv) (hpk : st.pkgs = pkgs)
    (hbs : m.bag = none ∨ st.bagSchema = some S) (hh : st.handlers = []) :
    (runTops st tops >>= loadFin conv S).toOption = (evalTopsH conv pkgs S st.schema m tops).bind (finT conv S) := by
  have hrun := runTops_evalH conv pkgs S tops st m hst hconv hpk hbs
  cases he : evalTopsH conv pkgs S st.schema m tops with
  | none =>
    rw [he] at hrun
    obtain ⟨e, hr⟩ := hrun
    rw [hr]
    rfl
  | some x =>
    rw [he] at hrun
    obtain ⟨st', hr, hstk, hsch, hhs⟩ := hrun
    rw [hr, hh, List.nil_append] at *
    show (loadFin conv S st').toOption = finT conv S x
    unfold loadFin finT closeH
    rw [hstk, hsch, hhs]
    simp only [bind, Except.bind, pure, Except.pure, throw, throwThe, MonadExceptOf.throw]
    cases finishMatcher conv x.1 x.2.1 with
    | error e => rfl
    | ok vh =>
      dsimp only [Except.map, toOption_ok, Option.bind_some]
      cases conv.sect S.top.datatype vh.1 <;> rfl

theorem finT_left (conv : Conv) (S : Schema) (kp : List (Str × List Str)) (o : OptItem) (left : List OptItem)
    (x : Option (Schema × RH)) :
    (x.map (rebagT (some { keypairs := kp, sectitems := o :: left }))).bind (finT conv S) = none := by
  cases x with
  | none => rfl
  | some x =>
    obtain ⟨e, he⟩ := closeH_left conv x.1 kp o left x.2
    show finT conv S (rebagT _ x) = none
    unfold finT rebagT
    dsimp only
    rw [he]
    rfl

theorem finT_emptied (conv : Conv) (pkgs : Str → Pkg) (S : Schema) (asGiven : Bool) (ks : List KeyOv)
    (x : Option (Schema × RH)) (hx : ∀ y, x = some y → y.2.1.ty = S.top ∧ y.2.1.bag = none)
    (hG : GroupsOK conv asGiven S.top.keytype (groupsOf ks)) :
    (x.map (rebagT (some { keypairs := strip (groupsOf ks), sectitems := [] }))).bind (finT conv S) =
      (x.bind fun y => (evalTopsH conv pkgs S y.1 y.2.1 ((newLines asGiven (groupsOf ks)).map .item)).map (afterT y.2.2)).bind
        (finT conv S) := by
  cases x with
  | none => rfl
  | some y =>
    obtain ⟨hty, hb⟩ := hx y rfl
    show finT conv S (rebagT _ y) = ((evalTopsH conv pkgs S y.1 y.2.1 _).map (afterT y.2.2)).bind (finT conv S)
    rw [evalTopsH_items]
    unfold finT rebagT
    dsimp only
    rw [closeH_emptied conv S y.1 asGiven ks y.2 hb (by rw [hty]; exact hG)]
    cases evalsH conv S y.1 y.2.1 (newLines asGiven (groupsOf ks)) <;> rfl

/-- **Bag elimination, whole result** (C14 for texts with `%import` lines): configuration, handler list and final schema
    at once -/
theorem tops_elim (conv : Conv) (pkgs : Str → Pkg) (S : Schema) (asGiven : Bool) (hsp : SpellOK conv S asGiven)
    (tops : List TopItem) (o : OptItem) (ovs : List OptItem) (hok : importsOK pkgs S tops = true) (hl : lowTops tops = true)
    (hovs : OvsOK (o :: ovs)) :
    ((mkBag conv S.top (o :: ovs)).toOption.bind fun bag =>
        (evalTopsH conv pkgs S S (newMatcher S.top none (some bag)) tops).bind (finT conv S)) =
      (editBodyI conv S asGiven tops (o :: ovs)).toOption.bind fun tops' =>
        (evalTopsH conv pkgs S S (newMatcher S.top none none) tops').bind (finT conv S) := by
  have hmk := mkBag_spec conv S.top (o :: ovs)
  unfold editBodyI
  cases hsp' : splitOvs (conv.key S.top.keytype) (o :: ovs) with
  | error r =>
    rw [hsp'] at hmk
    obtain ⟨e, he⟩ := hmk
    rw [he]
    rfl
  | ok p =>
    obtain ⟨ks, ss⟩ := p
    rw [hsp'] at hmk
    simp only at hmk ⊢
    rw [hmk, toOption_ok, Option.bind_some, newMatcher_withBag]
    have hinv := splitOvs_inv _ _ ks ss hsp'
    have hG := groupsOK_of conv S asGiven hsp S.top (Or.inl rfl) ks hinv.1
    have hs := simTopsS conv pkgs S asGiven hsp tops S hok hl (SubSchema.refl S) (newMatcher S.top none none)
      (strip (groupsOf ks)) ss rfl (pendOK_of_ovsOK _ ss hovs hinv.2)
    rw [strip_keys, show (newMatcher S.top none none).ty.keytype = S.top.keytype from rfl] at hs
    cases hed : editTops conv S asGiven (conv.key S.top.keytype) ((groupsOf ks).map (·.1)) tops ss with
    | error r =>
      rw [hed] at hs
      simp only at hs
      rw [hs]
      rfl
    | ok q =>
      obtain ⟨ts, left⟩ := q
      rw [hed] at hs
      simp only at hs
      rw [hs]
      cases left with
      | cons o' left' => exact finT_left conv S _ o' left' _
      | nil =>
        show _ = (evalTopsH conv pkgs S S _ (ts ++ (newLines asGiven (groupsOf ks)).map .item)).bind (finT conv S)
        rw [evalTopsH_append]
        exact finT_emptied conv pkgs S asGiven ks _
          (fun y hy => evalTopsH_pres conv pkgs S ts S _ y rfl hy) hG


end ZCV.Conf
