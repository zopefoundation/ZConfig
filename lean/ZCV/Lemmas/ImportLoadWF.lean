import ZCV.Lemmas.ImportLoadGrow
/-!
`schemaOK` is preserved by `%import` of a component whose own types are well-formed with respect to the extended
schema (`compOK`): the type table after the import consists of the old entries and the component's entries, each with
at most a longer implementer list (`mem_withComponent`).
-/
namespace ZCV.Conf
open ZCV ZCV.Cfg

/-- the per-entry check of `schemaOK` -/
def entryOK (s : Schema) (p : Str × TypeEntry) : Bool :=
  match p.2 with
  | .concrete t => t.name == some p.1 && stypeOK s t
  | .abstract_ n' _ => n' == p.1

/-- the component's types are well-formed with respect to the schema `s'` (the schema AFTER the import): stored under
    their own names, children well-shaped, slot types known to `s'` -/
def compOK (s' : Schema) (types : List (Str × TypeEntry)) : Bool := types.all (entryOK s')

theorem schemaOK_iff (s : Schema) :
    schemaOK s = true ↔ stypeOK s s.top = true ∧ s.top.name = none ∧ ∀ p ∈ s.types, entryOK s p = true := by
  unfold schemaOK
  simp only [Bool.and_eq_true, List.all_eq_true, beq_iff_eq]
  constructor
  · rintro ⟨⟨h1, h2⟩, h3⟩
    refine ⟨h1, h2, ?_⟩
    intro p hp
    have := h3 p hp
    obtain ⟨n, te⟩ := p
    unfold entryOK
    cases te with
    | concrete t => simpa using this
    | abstract_ n' subs => simpa using this
  · rintro ⟨h1, h2, h3⟩
    refine ⟨⟨h1, h2⟩, ?_⟩
    intro p hp
    have := h3 p hp
    obtain ⟨n, te⟩ := p
    unfold entryOK at this
    cases te with
    | concrete t => simpa using this
    | abstract_ n' subs => simpa using this

theorem known_grow {s s' : Schema} (hg : Grow s s') (x : Str) (h : (s.gettype x).isSome = true) :
    (s'.gettype x).isSome = true := by
  rcases gettype_grow hg x h with ⟨t, _, h2⟩ | ⟨_, h2⟩
  · rw [h2]; rfl
  · unfold isAbstract at h2
    split at h2
    · rename_i e; rw [e]; rfl
    · cases h2

theorem stypeOK_mono {s s' : Schema} (hk : ∀ x, (s.gettype x).isSome = true → (s'.gettype x).isSome = true)
    (t : SType) (h : stypeOK s t = true) : stypeOK s' t = true := by
  unfold stypeOK at h ⊢
  simp only [Bool.and_eq_true, List.all_eq_true] at h ⊢
  refine ⟨h.1, ?_⟩
  intro c hc
  have := h.2 c hc
  cases hi : c.2 with
  | key ki => rw [hi] at this; exact this
  | sect si =>
    rw [hi] at this
    simp only [Bool.and_eq_true] at this ⊢
    exact ⟨this.1, hk _ this.2⟩

theorem entryOK_desc {s s' : Schema} (hk : ∀ x, (s.gettype x).isSome = true → (s'.gettype x).isSome = true)
    (p q : Str × TypeEntry) (hpq : EntRel p q) (h : entryOK s p = true) : entryOK s' q = true := by
  obtain ⟨h1, h2⟩ := hpq
  unfold entryOK at h ⊢
  cases hp : p.2 with
  | concrete t =>
    rw [hp] at h h2
    simp only at h2
    rw [h2, h1]
    simp only [Bool.and_eq_true] at h ⊢
    exact ⟨h.1, stypeOK_mono hk t h.2⟩
  | abstract_ n subs =>
    rw [hp] at h h2
    obtain ⟨subs', hs'⟩ := h2
    rw [hs', h1]
    exact h

theorem schemaOK_extend (s s' : Schema) (url : Str) (types : List (Str × TypeEntry)) (impls : List (Str × Str))
    (hs : schemaOK s = true) (he : extend s (.component url types impls) = some s') (hc : compOK s' types = true) :
    schemaOK s' = true := by
  have hg := Grow_of_extend s s' _ he
  rw [extend_eq_importSchema, toOption_eq_some] at he
  simp only [importSchema] at he
  split at he
  · cases he; exact hs
  · split at he
    · cases he
      rw [schemaOK_iff] at hs ⊢
      obtain ⟨h1, h2, h3⟩ := hs
      refine ⟨?_, by rw [hg.top]; exact h2, ?_⟩
      · rw [hg.top]
        exact stypeOK_mono (known_grow hg) _ h1
      · intro q hq
        obtain ⟨p, hp, hpq⟩ := mem_withComponent _ types impls q hq
        rcases List.mem_append.mp hp with hp | hp
        · exact entryOK_desc (known_grow hg) p q hpq (h3 p hp)
        · unfold compOK at hc
          rw [List.all_eq_true] at hc
          exact entryOK_desc (fun _ h => h) p q hpq (hc p hp)
    · cases he

/-- every component imported by the text is well-formed with respect to the schema it produces -/
def compsOK (pkgs : Str → Pkg) : Schema → List TopItem → Bool
  | _, [] => true
  | s, .item _ :: r => compsOK pkgs s r
  | s, .imp p :: r =>
    match extend s (pkgs p) with
    | some s' => (match pkgs p with | .component _ types _ => compOK s' types | _ => true) && compsOK pkgs s' r
    | none => true

theorem importsOK_of_compsOK (pkgs : Str → Pkg) : ∀ (tops : List TopItem) (s : Schema), schemaOK s = true →
    compsOK pkgs s tops = true → importsOK pkgs s tops = true
  | [], s, hs, _ => by rw [importsOK]; exact hs
  | .item _ :: r, s, hs, hc => by
    rw [compsOK] at hc
    rw [importsOK]
    exact importsOK_of_compsOK pkgs r s hs hc
  | .imp p :: r, s, hs, hc => by
    rw [compsOK] at hc
    rw [importsOK, Bool.and_eq_true]
    refine ⟨hs, ?_⟩
    cases hx : extend s (pkgs p) with
    | none => rfl
    | some s1 =>
      rw [hx] at hc
      simp only [Bool.and_eq_true] at hc ⊢
      apply importsOK_of_compsOK pkgs r s1 ?_ hc.2
      cases hp : pkgs p with
      | component url types impls =>
        rw [hp] at hx hc
        exact schemaOK_extend s s1 url types impls hs hx hc.1
      | _ => rw [hp] at hx; cases hx

end ZCV.Conf
