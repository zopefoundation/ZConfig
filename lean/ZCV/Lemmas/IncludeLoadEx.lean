import ZCV.Lemmas.IncludeLoad
import ZCV.Lemmas.IncludeGenEx
/-!
A concrete instance of the loader-level C06 theorems (non-vacuity): the three resources of `IncludeGenEx`

    d/top:   %define n f          d/f:   %define y 2          d/g:   j $y$n
             %include $n                 %include g
             i $y

loaded by `Cfg.load` under the URL `d/top` (so that `d/top` counts as being read), with a schema that accepts any key.
-/
namespace ZCV.Cfg.IncEx
open ZCV ZCV.Cfg ZCV.Conf

/-- a schema whose top level is one `<key name="+">`: every key is accepted -/
def anyKey : KeyInfo :=
  { name := "+".toList, attr := "m".toList, multi := false, minOccurs := 0, dt := "string".toList, dflt := .keyed [],
    handler := none }

def schema : Schema :=
  { types := [],
    top := { name := none, keytype := "basic-key".toList, datatype := "null".toList,
             children := [(some "+".toList, .key anyKey)] },
    handler := none, components := [] }

theorem schema_ok : schemaOK schema = true := by decide

/-- datatypes that convert nothing -/
def conv0 : Conv := { key := fun _ k => .ok k, val := fun _ v => .ok (.str v), sect := fun _ v => .ok v }

theorem active_ut : activeOf ut = ["d/top".toList] := by char_lits; decide +kernel

theorem noImport_A : ∀ l ∈ A, NoImportLine l := by
  intro l hl a
  simp only [A, List.mem_singleton] at hl
  subst hl
  rw [sh_def_n]
  exact fun h => by cases h

theorem noImport_B : ∀ l ∈ B, NoImportLine l := by
  intro l hl a
  simp only [B, List.mem_singleton] at hl
  subst hl
  rw [sh_i]
  exact fun h => by cases h

theorem noImport_res : ∀ u ls, env.res u = some ls → ∀ l ∈ ls, NoImportLine l := by
  intro u ls h l hl a
  change (if u = "d/f".toList then some F else if u = "d/g".toList then some G else none) = some ls at h
  split at h
  · cases h
    simp only [F, List.mem_cons, List.not_mem_nil, or_false] at hl
    rcases hl with hl | hl <;> subst hl
    · rw [sh_def_y]; exact fun h => by cases h
    · rw [sh_inc_g]; exact fun h => by cases h
  · split at h
    · cases h
      simp only [G, List.mem_singleton] at hl
      subst hl
      rw [sh_j]
      exact fun h => by cases h
    · cases h

/-- the hypotheses of `load_include_eq_inline_nested` hold for this text, any datatypes, any package table -/
theorem load_nested_instance (conv : Conv) (pkgs : Str → Pkg) :
    (load conv env pkgs schema ut (A ++ ["%include $n".toList] ++ B) []).toOption.map (·.value) =
      (load conv env pkgs schema ut (A ++ F ++ B) []).toOption.map (·.value) := by
  refine load_include_eq_inline_nested conv env pkgs schema ut A F B _ "$n".toList "d/f".toList schema_ok noImport_A
    noImport_B noImport_res sh_inc_n res_f (prep_A _ _ _) (by rw [active_ut]; char_lits; decide +kernel) balanced_F
    (fun _ _ _ _ => rel_F) ?_
  rw [active_ut, show recSt0 = s0 from rfl, show (64 : Nat) = 62 + 2 from rfl,
    parse_top_act 62 _ (by char_lits; decide +kernel) (by char_lits; decide +kernel)]
  exact incgenNoLimit_ok _

/-- … and both texts are ACCEPTED (with datatypes that convert nothing), with the configuration `{i: 2, j: 2f}`:
    obtained for the inlined text from the theorem and the events of the text with the `%include` line -/
theorem load_inlined_value (pkgs : Str → Pkg) :
    (load conv0 env pkgs schema ut (A ++ F ++ B) []).toOption.map (·.value) =
      some (.sect [] none [("m".toList, .map [("j".toList, .str "2f".toList), ("i".toList, .str "2".toList)])]) := by
  rw [← load_nested_instance conv0 pkgs,
    load_value_events conv0 env pkgs schema ut _ schema_ok
      (noImport_include_text A B _ _ sh_inc_n noImport_A noImport_B) noImport_res]
  unfold recOutcome
  rw [active_ut, show recSt0 = s0 from rfl, show (64 : Nat) = 62 + 2 from rfl, parse_top_act 62 _ (by char_lits; decide +kernel) (by char_lits; decide +kernel)]
  rfl

end ZCV.Cfg.IncEx
