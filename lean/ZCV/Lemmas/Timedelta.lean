import ZCV.Spec.Timedelta
import ZCV.Lemmas.Datatypes2Float
import ZCV.Lemmas.Datatypes2Split
/-!
`timedelta`: the loop of the model computes the contract `DTSpec.IsTimedelta`.
-/
namespace ZCV.DT
open ZCV ZCV.DTSpec

/-- the assignments of the loop over well-formed parts, starting from `acc` -/
def tdOver (acc : TimedeltaVal) (parts : List TdPart) : TimedeltaVal :=
  { weeks := (tdAmount 'w' parts).or acc.weeks, days := (tdAmount 'd' parts).or acc.days,
    hours := (tdAmount 'h' parts).or acc.hours, minutes := (tdAmount 'm' parts).or acc.minutes,
    seconds := (tdAmount 's' parts).or acc.seconds }

theorem td_amount_nil (u : Char) : tdAmount u [] = none := rfl

theorem td_amount_cons (u : Char) (p : TdPart) (ps : List TdPart) :
    tdAmount u (p :: ps) = (tdAmount u ps).or (if p.2 == u then some p.1 else none) := by
  unfold tdAmount
  rw [List.reverse_cons, List.find?_append]
  cases hf : List.find? (fun p => p.2 == u) ps.reverse with
  | some q => simp
  | none =>
    by_cases hu : (p.2 == u) = true
    · simp [List.find?, hu]
    · simp [List.find?, hu]

theorem td_over_nil (acc : TimedeltaVal) : tdOver acc [] = acc := by
  cases acc; simp [tdOver, td_amount_nil]

theorem td_over_empty (parts : List TdPart) : tdOver {} parts = tdValue parts := by
  simp [tdOver, tdValue]

theorem td_over_cons (acc : TimedeltaVal) (p : TdPart) (ps : List TdPart) :
    tdOver (tdOver acc [p]) ps = tdOver acc (p :: ps) := by
  simp only [tdOver, td_amount_cons _ p ps, td_amount_cons _ p [], td_amount_nil, Option.none_or, Option.or_assoc]

theorem td_assign_good (acc : TimedeltaVal) (p : TdPart) (h : p.2 ∈ tdUnits) :
    tdAssign acc p.2 p.1 = .ok (tdOver acc [p]) := by
  obtain ⟨lit, u⟩ := p
  simp only [tdUnits, List.mem_cons, List.not_mem_nil, or_false] at h
  rcases h with rfl | rfl | rfl | rfl | rfl <;> rfl

theorem td_assign_bad (acc : TimedeltaVal) (u : Char) (lit : Str) (h : u ∉ tdUnits) :
    tdAssign acc u lit = .error .typeError := by
  simp only [tdUnits, List.mem_cons, List.not_mem_nil, or_false, not_or] at h
  obtain ⟨h1, h2, h3, h4, h5⟩ := h
  simp [tdAssign, h1, h2, h3, h4, h5]

theorem td_floatOk_nil : floatOk [] = false := by decide

theorem td_loop_step (acc : TimedeltaVal) (p : TdPart) (rest : List Str) (h : TdGood p) :
    timedeltaLoop (tdText p :: rest) acc = timedeltaLoop rest (tdOver acc [p]) := by
  rw [timedeltaLoop]
  simp only [tdText, List.dropLast_concat, (dt2_floatOk_iff p.1).mpr h.1, Bool.not_true, Bool.false_eq_true,
    if_false, List.getLast?_concat, td_assign_good acc p h.2]

theorem td_loop_good (good : List TdPart) (acc : TimedeltaVal) (rest : List Str) (h : ∀ p ∈ good, TdGood p) :
    timedeltaLoop (good.map tdText ++ rest) acc = timedeltaLoop rest (tdOver acc good) := by
  induction good generalizing acc with
  | nil => rw [td_over_nil]; rfl
  | cons p ps ih =>
    rw [List.map_cons, List.cons_append, td_loop_step acc p _ (h p (List.mem_cons_self ..)),
      ih _ (fun q hq => h q (List.mem_cons_of_mem _ hq)), td_over_cons]

theorem td_dropLast_getLast (w : Str) (hw : w ≠ []) : ∃ u, w.getLast? = some u ∧ w = w.dropLast ++ [u] := by
  refine ⟨w.getLast hw, List.getLast?_eq_some_getLast hw, ?_⟩
  exact (List.dropLast_concat_getLast hw).symm

theorem td_loop_badAmount (acc : TimedeltaVal) (w : Str) (rest : List Str)
    (h : ¬ ∃ lit u, w = lit ++ [u] ∧ FloatLit lit) : timedeltaLoop (w :: rest) acc = .error .valueError := by
  rw [timedeltaLoop]
  cases hf : floatOk w.dropLast with
  | false => rfl
  | true =>
    exfalso
    have hw : w ≠ [] := by
      rintro rfl
      rw [List.dropLast_nil, td_floatOk_nil] at hf; cases hf
    obtain ⟨u, _, hu⟩ := td_dropLast_getLast w hw
    exact h ⟨w.dropLast, u, hu, (dt2_floatOk_iff _).mp hf⟩

theorem td_loop_badUnit (acc : TimedeltaVal) (lit : Str) (u : Char) (rest : List Str)
    (hl : FloatLit lit) (hu : u ∉ tdUnits) : timedeltaLoop ((lit ++ [u]) :: rest) acc = .error .typeError := by
  rw [timedeltaLoop]
  simp only [List.dropLast_concat, (dt2_floatOk_iff lit).mpr hl, Bool.not_true, Bool.false_eq_true,
    if_false, List.getLast?_concat, td_assign_bad acc u lit hu]

/-- every list of non-empty words is: all well-formed parts; or well-formed parts up to a first word that is not a
    float literal plus one character; or up to a first word that is a float literal plus a non-unit character -/
theorem td_classify (ws : List Str) (hne : ∀ w ∈ ws, w ≠ []) :
    (∃ parts : List TdPart, ws = parts.map tdText ∧ ∀ p ∈ parts, TdGood p) ∨
    (∃ (good : List TdPart) (w : Str) (rest : List Str), ws = good.map tdText ++ w :: rest ∧ (∀ p ∈ good, TdGood p) ∧
      ¬ ∃ lit u, w = lit ++ [u] ∧ FloatLit lit) ∨
    (∃ (good : List TdPart) (lit : Str) (u : Char) (rest : List Str), ws = good.map tdText ++ (lit ++ [u]) :: rest ∧
      (∀ p ∈ good, TdGood p) ∧ FloatLit lit ∧ u ∉ tdUnits) := by
  induction ws with
  | nil => exact Or.inl ⟨[], rfl, fun p hp => by cases hp⟩
  | cons w ws ih =>
    have ih := ih (fun x hx => hne x (List.mem_cons_of_mem _ hx))
    obtain ⟨u, _, hu⟩ := td_dropLast_getLast w (hne w (List.mem_cons_self ..))
    by_cases hl : FloatLit w.dropLast
    · by_cases hm : u ∈ tdUnits
      · -- a well-formed part: prepend it to the analysis of the rest
        have hg : TdGood (w.dropLast, u) := ⟨hl, hm⟩
        have hall : ∀ (good : List TdPart), (∀ p ∈ good, TdGood p) → ∀ p ∈ (w.dropLast, u) :: good, TdGood p := by
          intro good h p hp
          rcases List.mem_cons.mp hp with rfl | hp
          · exact hg
          · exact h p hp
        have htx : tdText (w.dropLast, u) = w := hu.symm
        rcases ih with ⟨parts, rfl, hp⟩ | ⟨good, w', rest, rfl, hp, hb⟩ | ⟨good, lit, u', rest, rfl, hp, hb1, hb2⟩
        · exact Or.inl ⟨(w.dropLast, u) :: parts, by rw [List.map_cons, htx], hall parts hp⟩
        · exact Or.inr (Or.inl ⟨(w.dropLast, u) :: good, w', rest, by rw [List.map_cons, htx]; rfl, hall good hp, hb⟩)
        · exact Or.inr (Or.inr ⟨(w.dropLast, u) :: good, lit, u', rest, by rw [List.map_cons, htx]; rfl,
            hall good hp, hb1, hb2⟩)
      · exact Or.inr (Or.inr ⟨[], w.dropLast, u, ws, by rw [← hu]; rfl, (fun p hp => by cases hp), hl, hm⟩)
    · refine Or.inr (Or.inl ⟨[], w, ws, rfl, (fun p hp => by cases hp), ?_⟩)
      rintro ⟨lit, u', hw, hlit⟩
      apply hl
      rw [hw, List.dropLast_concat]; exact hlit

/-- `timedelta` computes its contract (up to the arithmetic of the `datetime.timedelta` constructor) -/
theorem td_timedelta_spec (s : Str) (r : R TimedeltaVal) : timedelta s = r ↔ IsTimedelta s r := by
  constructor
  · rintro rfl
    have hw : Words s (splitWS s) := (dt2_splitWS_iff s _).mpr rfl
    have hne : ∀ w ∈ splitWS s, w ≠ [] := fun w hw' => (dt2_words_elems s _ hw w hw').1
    unfold timedelta
    rcases td_classify (splitWS s) hne with ⟨parts, he, hp⟩ | ⟨good, w, rest, he, hp, hb⟩ |
        ⟨good, lit, u, rest, he, hp, hb1, hb2⟩
    · have := td_loop_good parts {} [] hp
      rw [List.append_nil] at this
      rw [he, this, td_over_empty]
      rw [he] at hw
      exact IsTimedelta.ok parts hw hp
    · rw [he, td_loop_good good {} _ hp, td_loop_badAmount _ w rest hb]
      rw [he] at hw
      exact IsTimedelta.badAmount good w rest hw hp hb
    · rw [he, td_loop_good good {} _ hp, td_loop_badUnit _ lit u rest hb1 hb2]
      rw [he] at hw
      exact IsTimedelta.badUnit good lit u rest hw hp hb1 hb2
  · intro h
    unfold timedelta
    cases h with
    | ok parts hw hp =>
      have := td_loop_good parts {} [] hp
      rw [List.append_nil] at this
      rw [(dt2_splitWS_iff s _).mp hw, this, td_over_empty]
      rfl
    | badAmount good w rest hw hp hb =>
      rw [(dt2_splitWS_iff s _).mp hw, td_loop_good good {} _ hp, td_loop_badAmount _ w rest hb]
    | badUnit good lit u rest hw hp hb1 hb2 =>
      rw [(dt2_splitWS_iff s _).mp hw, td_loop_good good {} _ hp, td_loop_badUnit _ lit u rest hb1 hb2]

theorem td_isTimedelta_total (s : Str) (r : R TimedeltaVal) (h : IsTimedelta s r) :
    (∃ v, r = .ok v) ∨ r = .error .valueError ∨ r = .error .typeError := by
  cases h with
  | ok parts _ _ => exact Or.inl ⟨_, rfl⟩
  | badAmount => exact Or.inr (Or.inl rfl)
  | badUnit => exact Or.inr (Or.inr rfl)

/-- the range check of the constructor adds `ValueError`s, nothing else -/
theorem td_checked_total (fits : TimedeltaVal → Bool) (s : Str) :
    (∃ v, timedeltaChecked fits s = .ok v ∧ timedelta s = .ok v ∧ fits v = true) ∨
    timedeltaChecked fits s = .error .valueError ∨ timedeltaChecked fits s = .error .typeError := by
  unfold timedeltaChecked
  rcases td_isTimedelta_total s _ ((td_timedelta_spec s _).mp rfl) with ⟨v, h⟩ | h | h <;> rw [h]
  · cases hf : fits v <;> simp [hf]
  · exact Or.inr (Or.inl rfl)
  · exact Or.inr (Or.inr rfl)

end ZCV.DT
