import ZCV.Lemmas.Datatypes2Chars
import ZCV.Spec.Datatypes2
/-! `strip` and `int(str)`: the model functions `strip`, `stripInt`, the digit readers `pyDigits` / `pyNat`, and `pyInt` against
    the grammar `DTSpec.IntLit`. -/
namespace ZCV.DT
open ZCV ZCV.DTSpec

/-! ## `strip`, for any character class `p` (`str.strip()` is `p = pySpace`; what `int()`/`float()` skip is `p = intSpace`) -/

theorem dt2_allP_reverse (p : Char → Bool) (g : Str) (h : ∀ c ∈ g, p c = true) : ∀ c ∈ g.reverse, p c = true :=
  fun c hc => h c (List.mem_reverse.mp hc)

def dt2StripP (p : Char → Bool) (s : Str) : Str := ((s.dropWhile p).reverse.dropWhile p).reverse

theorem dt2_stripP_mid (p : Char → Bool) (pre mid post : Str) (hpre : ∀ c ∈ pre, p c = true)
    (hpost : ∀ c ∈ post, p c = true)
    (hm : mid = [] ∨ ((∃ c t, mid = c :: t ∧ p c = false) ∧ ∃ l, mid.getLast? = some l ∧ p l = false)) :
    dt2StripP p (pre ++ mid ++ post) = mid := by
  unfold dt2StripP
  rw [stripP_pad p pre mid post (List.all_eq_true.mpr hpre) (List.all_eq_true.mpr hpost)]
  rcases hm with rfl | ⟨⟨c, t, rfl, hc⟩, l, hl, hl2⟩
  · rfl
  · exact stripP_clean p _ (fun d hd => by cases hd; exact hc) (fun d hd => by rw [hl] at hd; cases hd; exact hl2)

theorem dt2_stripP_decomp (p : Char → Bool) (s : Str) :
    ∃ pre post, s = pre ++ dt2StripP p s ++ post ∧ (∀ c ∈ pre, p c = true) ∧ (∀ c ∈ post, p c = true) := by
  refine ⟨s.takeWhile p, ((s.dropWhile p).reverse.takeWhile p).reverse, ?_, fun _ => mem_takeWhile_imp,
    dt2_allP_reverse p _ fun _ => mem_takeWhile_imp⟩
  have h1 : s = s.takeWhile p ++ s.dropWhile p := (List.takeWhile_append_dropWhile).symm
  have h2 : s.dropWhile p = dt2StripP p s ++ ((s.dropWhile p).reverse.takeWhile p).reverse := by
    unfold dt2StripP
    rw [← List.reverse_append, List.takeWhile_append_dropWhile, List.reverse_reverse]
  rw [List.append_assoc, ← h2, ← h1]

theorem dt2_strip_eq (s : Str) : strip s = dt2StripP pySpace s := rfl
theorem dt2_stripInt_eq (s : Str) : stripInt s = dt2StripP intSpace s := rfl

/-! ### `str.strip()` -/

theorem dt2_dropWhile_allSpace (pre x : Str) (h : AllSpace pre) :
    (pre ++ x).dropWhile pySpace = x.dropWhile pySpace := List.dropWhile_append_of_pos h

theorem dt2_dropWhile_all_nil (g : Str) (h : AllSpace g) : g.dropWhile pySpace = [] :=
  dropWhile_all_nil pySpace g (List.all_eq_true.mpr h)

theorem dt2_allSpace_reverse (g : Str) (h : AllSpace g) : AllSpace g.reverse := dt2_allP_reverse pySpace g h

theorem dt2_strip_mid (pre mid post : Str) (hpre : AllSpace pre) (hpost : AllSpace post)
    (hm : mid = [] ∨ ((∃ c t, mid = c :: t ∧ pySpace c = false) ∧ ∃ l, mid.getLast? = some l ∧ pySpace l = false)) :
    strip (pre ++ mid ++ post) = mid := dt2_stripP_mid pySpace pre mid post hpre hpost hm

theorem dt2_strip_decomp (s : Str) : ∃ pre post, s = pre ++ strip s ++ post ∧ AllSpace pre ∧ AllSpace post :=
  dt2_stripP_decomp pySpace s

/-! ### the white space `int()` / `float()` skip -/

theorem dt2_intSpace_iff (c : Char) :
    intSpace c = true ↔ pySpace c = true ∧ c.toNat ∉ Gen.intSpaceExcluded := by
  unfold intSpace
  rw [Bool.and_eq_true, Bool.not_eq_true', ← Bool.not_eq_true, List.contains_iff_mem]

theorem dt2_intSpace_space (c : Char) (h : intSpace c = true) : pySpace c = true := ((dt2_intSpace_iff c).mp h).1

theorem dt2_not_space_not_intSpace (c : Char) (h : pySpace c = false) : intSpace c = false := by
  cases hi : intSpace c with
  | false => rfl
  | true => rw [dt2_intSpace_space c hi] at h; cases h

theorem dt2_allIntSpace_allSpace (g : Str) (h : AllIntSpace g) : AllSpace g :=
  fun c hc => dt2_intSpace_space c (h c hc)

theorem dt2_stripInt_mid (pre mid post : Str) (hpre : AllIntSpace pre) (hpost : AllIntSpace post)
    (hm : mid = [] ∨ ((∃ c t, mid = c :: t ∧ intSpace c = false) ∧ ∃ l, mid.getLast? = some l ∧ intSpace l = false)) :
    stripInt (pre ++ mid ++ post) = mid := dt2_stripP_mid intSpace pre mid post hpre hpost hm

/-- the same from the stronger "neither starts nor ends with `str.isspace` white space" -/
theorem dt2_stripInt_mid' (pre mid post : Str) (hpre : AllIntSpace pre) (hpost : AllIntSpace post)
    (hm : (∃ c t, mid = c :: t ∧ pySpace c = false) ∧ ∃ l, mid.getLast? = some l ∧ pySpace l = false) :
    stripInt (pre ++ mid ++ post) = mid := by
  obtain ⟨⟨c, t, h1, h2⟩, l, h3, h4⟩ := hm
  exact dt2_stripInt_mid pre mid post hpre hpost
    (Or.inr ⟨⟨c, t, h1, dt2_not_space_not_intSpace c h2⟩, l, h3, dt2_not_space_not_intSpace l h4⟩)

theorem dt2_stripInt_decomp (s : Str) :
    ∃ pre post, s = pre ++ stripInt s ++ post ∧ AllIntSpace pre ∧ AllIntSpace post :=
  dt2_stripP_decomp intSpace s

/-! ## digits -/

theorem dt2_pyDigit_val (c : Char) : pyDigit c = true ↔ ∃ v, pyDigitVal c = some v := by
  unfold pyDigit
  rw [Option.isSome_iff_exists]

theorem dt2_pyDigit_of_val (c : Char) (v : Nat) (h : pyDigitVal c = some v) : pyDigit c = true :=
  (dt2_pyDigit_val c).mpr ⟨v, h⟩

theorem dt2_underscore_not_digit : pyDigit '_' = false := by decide

theorem dt2_digit_ne_underscore (c : Char) (h : pyDigit c = true) : c ≠ '_' := by
  rintro rfl; rw [dt2_underscore_not_digit] at h; cases h

theorem dt2_intBody_head (b : Str) (ds : List Nat) (h : IntBody b ds) : ∃ c t, b = c :: t ∧ pyDigit c = true := by
  cases h with
  | one c v hv => exact ⟨c, [], rfl, dt2_pyDigit_of_val c v hv⟩
  | cons c v t ds hv _ => exact ⟨c, t, rfl, dt2_pyDigit_of_val c v hv⟩
  | under c v t ds hv _ => exact ⟨c, _, rfl, dt2_pyDigit_of_val c v hv⟩

theorem dt2_intBody_last (b : Str) (ds : List Nat) (h : IntBody b ds) :
    ∃ l, b.getLast? = some l ∧ pyDigit l = true := by
  induction h with
  | one c v hv => exact ⟨c, rfl, dt2_pyDigit_of_val c v hv⟩
  | cons c v t ds hv ht ih =>
    obtain ⟨l, hl, hd⟩ := ih
    obtain ⟨c', t', rfl, _⟩ := dt2_intBody_head t ds ht
    exact ⟨l, by rw [List.getLast?_cons_cons]; exact hl, hd⟩
  | under c v t ds hv ht ih =>
    obtain ⟨l, hl, hd⟩ := ih
    obtain ⟨c', t', rfl, _⟩ := dt2_intBody_head t ds ht
    exact ⟨l, by rw [List.getLast?_cons_cons, List.getLast?_cons_cons]; exact hl, hd⟩

theorem dt2_intBody_length (b : Str) (ds : List Nat) (h : IntBody b ds) : ds ≠ [] := by
  cases h <;> simp

theorem dt2_pyDigits_of_body (b : Str) (ds : List Nat) (h : IntBody b ds) : pyDigits b = some ds := by
  induction h with
  | one c v hv =>
    have := dt2_digit_ne_underscore c (dt2_pyDigit_of_val c v hv)
    simp [pyDigits, this, hv]
  | cons c v t ds hv ht ih =>
    have := dt2_digit_ne_underscore c (dt2_pyDigit_of_val c v hv)
    simp [pyDigits, this, hv, ih]
  | under c v t ds hv ht ih =>
    have := dt2_digit_ne_underscore c (dt2_pyDigit_of_val c v hv)
    obtain ⟨d, t', rfl, hd⟩ := dt2_intBody_head t ds ht
    rw [pyDigits, if_neg this]
    simp only [hv]
    rw [pyDigits, if_pos rfl]
    simp only [hd, ↓reduceIte, ih, Option.map_some]

/-- the three shapes of a text `pyDigits` accepts -/
theorem dt2_body_of_pyDigits (b : Str) : ∀ ds, pyDigits b = some ds →
    (b = [] ∧ ds = []) ∨ ((∃ c t, b = c :: t ∧ pyDigit c = true) ∧ IntBody b ds) ∨
      (∃ b', b = '_' :: b' ∧ (∃ c t, b' = c :: t ∧ pyDigit c = true) ∧ IntBody b' ds) := by
  induction b with
  | nil => intro ds h; simp [pyDigits] at h; exact Or.inl ⟨rfl, h⟩
  | cons c t ih =>
    intro ds h
    rw [pyDigits.eq_def] at h
    simp only at h
    by_cases hc : c = '_'
    · subst hc
      rw [if_pos rfl] at h
      cases t with
      | nil => simp at h
      | cons d t' =>
        simp only at h
        by_cases hd : pyDigit d = true
        · rw [if_pos hd] at h
          rcases ih ds h with ⟨h1, _⟩ | ⟨_, h2⟩ | ⟨b', h1, _⟩
          · cases h1
          · exact Or.inr (Or.inr ⟨_, rfl, ⟨d, t', rfl, hd⟩, h2⟩)
          · injection h1 with h1 _; subst h1; rw [dt2_underscore_not_digit] at hd; cases hd
        · rw [if_neg hd] at h; cases h
    · rw [if_neg hc] at h
      cases hv : pyDigitVal c with
      | none => rw [hv] at h; cases h
      | some v =>
        rw [hv] at h
        simp only at h
        cases ht : pyDigits t with
        | none => rw [ht] at h; cases h
        | some ds' =>
          rw [ht] at h
          simp only [Option.map_some, Option.some.injEq] at h
          subst h
          have hcd := dt2_pyDigit_of_val c v hv
          refine Or.inr (Or.inl ⟨⟨c, t, rfl, hcd⟩, ?_⟩)
          rcases ih ds' ht with ⟨rfl, rfl⟩ | ⟨_, h2⟩ | ⟨b', rfl, _, h2⟩
          · exact IntBody.one c v hv
          · exact IntBody.cons c v t ds' hv h2
          · exact IntBody.under c v b' ds' hv h2

theorem dt2_digitsVal_acc (ds : List Nat) (a : Nat) :
    ds.foldl (fun a d => a * 10 + d) a = a * 10 ^ ds.length + decimal ds := by
  induction ds generalizing a with
  | nil => simp [decimal]
  | cons d ds ih =>
    rw [List.foldl_cons, ih, decimal, List.length_cons, Nat.pow_succ, Nat.add_mul]
    rw [Nat.mul_assoc, Nat.mul_comm 10, Nat.add_assoc]

theorem dt2_digitsVal_decimal (ds : List Nat) : digitsVal ds = decimal ds := by
  unfold digitsVal
  rw [dt2_digitsVal_acc]; simp

theorem dt2_pyNat_iff (b : Str) (n : Nat) : pyNat b = some n ↔ ∃ ds, IntBody b ds ∧ n = decimal ds := by
  constructor
  · intro h
    unfold pyNat at h
    cases b with
    | nil => cases h
    | cons c t =>
      simp only at h
      by_cases hc : pyDigit c = true
      · rw [if_pos hc] at h
        cases hd : pyDigits (c :: t) with
        | none => rw [hd] at h; cases h
        | some ds =>
          rw [hd] at h
          simp only [Option.map_some, Option.some.injEq] at h
          refine ⟨ds, ?_, by rw [← h, dt2_digitsVal_decimal]⟩
          rcases dt2_body_of_pyDigits _ ds hd with ⟨h1, _⟩ | ⟨_, h2⟩ | ⟨b', h1, _⟩
          · cases h1
          · exact h2
          · injection h1 with h1 _; subst h1; rw [dt2_underscore_not_digit] at hc; cases hc
      · rw [if_neg hc] at h; cases h
  · rintro ⟨ds, hb, rfl⟩
    obtain ⟨c, t, rfl, hc⟩ := dt2_intBody_head b ds hb
    unfold pyNat
    simp only [hc, ↓reduceIte, dt2_pyDigits_of_body _ ds hb, Option.map_some, dt2_digitsVal_decimal]

/-! ## `int(str)` -/

theorem dt2_plus_not_space : pySpace '+' = false := by decide
theorem dt2_minus_not_space : pySpace '-' = false := by decide
theorem dt2_plus_not_digit : pyDigit '+' = false := by decide
theorem dt2_minus_not_digit : pyDigit '-' = false := by decide

/-- starts with a character that is neither whitespace nor a sign, ends with a non-whitespace character -/
def dt2Solid (t : Str) : Prop :=
  (∃ c r, t = c :: r ∧ pySpace c = false ∧ c ≠ '+' ∧ c ≠ '-') ∧ ∃ l, t.getLast? = some l ∧ pySpace l = false

theorem dt2_digits_solid (d : Str) (h : Digits d) : dt2Solid d := by
  obtain ⟨ds, hb⟩ := h
  obtain ⟨c, r, rfl, hc⟩ := dt2_intBody_head d ds hb
  obtain ⟨l, hl, hld⟩ := dt2_intBody_last _ ds hb
  refine ⟨⟨c, r, rfl, dt2_digit_not_space c hc, ?_, ?_⟩, l, hl, dt2_digit_not_space l hld⟩
  · rintro rfl; rw [dt2_plus_not_digit] at hc; cases hc
  · rintro rfl; rw [dt2_minus_not_digit] at hc; cases hc

theorem dt2_signed_solid_ends (sg t : Str) (hs : IsSign sg) (ht : dt2Solid t) :
    (∃ c r, sg ++ t = c :: r ∧ pySpace c = false) ∧ ∃ l, (sg ++ t).getLast? = some l ∧ pySpace l = false := by
  obtain ⟨⟨c, r, rfl, h1, _, _⟩, l, hl, hl2⟩ := ht
  refine ⟨?_, l, by rw [getLast?_append_cons]; exact hl, hl2⟩
  rcases hs with rfl | rfl | rfl
  · exact ⟨c, r, rfl, h1⟩
  · exact ⟨'+', c :: r, rfl, dt2_plus_not_space⟩
  · exact ⟨'-', c :: r, rfl, dt2_minus_not_space⟩

/-- `int(str)`: the model accepts exactly the integer literals, with their decimal value -/
theorem dt2_pyInt_iff (s : Str) (n : Int) : pyInt s = some n ↔ IntLit s n := by
  constructor
  · intro h
    obtain ⟨pre, post, hs, hpre, hpost⟩ := dt2_stripInt_decomp s
    unfold pyInt at h
    split at h
    · rename_i t ht
      cases hk : pyNat t with
      | none => rw [hk] at h; cases h
      | some k =>
        rw [hk] at h
        simp only [Option.map_some, Option.some.injEq] at h
        obtain ⟨ds, hb, rfl⟩ := (dt2_pyNat_iff t k).mp hk
        refine ⟨pre, ['-'], t, post, ds, ?_, hpre, hpost, hb, Or.inr ⟨rfl, h.symm⟩⟩
        rw [hs, ht]; simp
    · rename_i t ht
      cases hk : pyNat t with
      | none => rw [hk] at h; cases h
      | some k =>
        rw [hk] at h
        simp only [Option.map_some, Option.some.injEq] at h
        obtain ⟨ds, hb, rfl⟩ := (dt2_pyNat_iff t k).mp hk
        refine ⟨pre, ['+'], t, post, ds, ?_, hpre, hpost, hb, Or.inl ⟨Or.inr rfl, h.symm⟩⟩
        rw [hs, ht]; simp
    · cases hk : pyNat (stripInt s) with
      | none => rw [hk] at h; cases h
      | some k =>
        rw [hk] at h
        simp only [Option.map_some, Option.some.injEq] at h
        obtain ⟨ds, hb, rfl⟩ := (dt2_pyNat_iff _ k).mp hk
        exact ⟨pre, [], stripInt s, post, ds, by rw [List.append_nil]; exact hs, hpre, hpost, hb,
          Or.inl ⟨Or.inl rfl, h.symm⟩⟩
  · rintro ⟨pre, sg, body, post, ds, rfl, hpre, hpost, hb, hn⟩
    have hsg : IsSign sg := by
      rcases hn with ⟨h | h, _⟩ | ⟨h, _⟩
      · exact Or.inl h
      · exact Or.inr (Or.inl h)
      · exact Or.inr (Or.inr h)
    have hstrip : stripInt (pre ++ sg ++ body ++ post) = sg ++ body := by
      rw [List.append_assoc pre sg body]
      exact dt2_stripInt_mid' pre (sg ++ body) post hpre hpost (dt2_signed_solid_ends sg body hsg (dt2_digits_solid body ⟨ds, hb⟩))
    have hnat : pyNat body = some (decimal ds) := (dt2_pyNat_iff body _).mpr ⟨ds, hb, rfl⟩
    unfold pyInt
    rw [hstrip]
    rcases hn with ⟨rfl | rfl, rfl⟩ | ⟨rfl, rfl⟩
    · obtain ⟨c, t, rfl, hc⟩ := dt2_intBody_head body ds hb
      have h1 : c ≠ '-' := by rintro rfl; rw [dt2_minus_not_digit] at hc; cases hc
      have h2 : c ≠ '+' := by rintro rfl; rw [dt2_plus_not_digit] at hc; cases hc
      rw [List.nil_append]
      split
      · rename_i heq; injection heq with h _; exact absurd h h1
      · rename_i heq; injection heq with h _; exact absurd h h2
      · rw [hnat]; rfl
    · show (pyNat body).map Int.ofNat = _
      rw [hnat]; rfl
    · show (pyNat body).map (fun n => - Int.ofNat n) = _
      rw [hnat]; rfl

theorem dt2_integer_spec (s : Str) : IsInteger s (integer s) := by
  unfold IsInteger integer
  cases h : pyInt s with
  | some n => exact Or.inl ⟨n, (dt2_pyInt_iff s n).mp h, rfl⟩
  | none =>
    refine Or.inr ⟨?_, rfl⟩
    rintro ⟨n, hn⟩
    rw [(dt2_pyInt_iff s n).mpr hn] at h; cases h

end ZCV.DT
