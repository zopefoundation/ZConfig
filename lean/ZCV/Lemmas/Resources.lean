import ZCV.Model.Resources
/-! Lemmas about the first model (`Model/Resources.lean`): every trace is `Nested`, hence well bracketed with as many `ropen` as
`rclose`; without faults the load completes. -/
namespace ZCV.Res

def isOpen : Ev → Bool | .ropen _ => true | _ => false
def isClose : Ev → Bool | .rclose _ => true | _ => false

/-- The shape of every trace of the model: a stream is closed by the next event, and a resource is opened right after its
    stream and closed after a trace of the same shape. -/
inductive Nested : List Ev → Prop
  | nil : Nested []
  | stream (r : Nat) : Nested [.sopen r, .sclose r]
  | res (r : Nat) {e : List Ev} : Nested e → Nested ([.sopen r, .sclose r, .ropen r] ++ e ++ [.rclose r])
  | append {a b : List Ev} : Nested a → Nested b → Nested (a ++ b)

theorem Nested.wb_append {e : List Ev} (h : Nested e) : ∀ rest st, wb (e ++ rest) st = wb rest st := by
  induction h with
  | nil => intros; rfl
  | stream r => simp [wb]
  | res r _ ih => simp [wb, ih]
  | append _ _ iha ihb => simp [iha, ihb]

theorem Nested.wb {e : List Ev} (h : Nested e) : wb e [] = true := by
  have := h.wb_append [] []
  rw [List.append_nil] at this
  exact this

theorem Nested.count {e : List Ev} (h : Nested e) : (e.filter isOpen).length = (e.filter isClose).length := by
  induction h with
  | nil => rfl
  | stream r => rfl
  | res r _ ih => simp [List.filter_cons, isOpen, isClose, ih]
  | append _ _ iha ihb => simp [iha, ihb]

theorem runRes_nested_of {f : Pt → Bool} {r : Nat} {steps : List Step} (h : Nested (runSteps f r 0 steps).1) :
    Nested (runRes f r steps).1 := by
  rw [runRes]
  split
  · exact .nil
  split
  · exact .stream r
  split
  · exact .stream r
  exact .res r h

theorem runSteps_nested (f : Pt → Bool) (r k : Nat) : ∀ steps, Nested (runSteps f r k steps).1
  | [] => by rw [runSteps]; exact .nil
  | .work :: tl => by
    rw [runSteps]
    split
    · exact .nil
    · exact runSteps_nested f r (k+1) tl
  | .sub c cs :: tl => by
    have h := runRes_nested_of (runSteps_nested f c 0 cs)
    rw [runSteps]
    dsimp only
    split
    · exact h
    · exact .append h (runSteps_nested f r (k+1) tl)
termination_by steps => sizeOf steps
decreasing_by all_goals simp <;> omega

theorem runRes_nested (f : Pt → Bool) (r : Nat) (steps : List Step) : Nested (runRes f r steps).1 :=
  runRes_nested_of (runSteps_nested f r 0 steps)

theorem wb_runSteps (f : Pt → Bool) (r : Nat) (k : Nat) (steps : List Step) (rest : List Ev) (st : List Nat) :
    wb ((runSteps f r k steps).1 ++ rest) st = wb rest st :=
  (runSteps_nested f r k steps).wb_append rest st

theorem cnt_runSteps (f : Pt → Bool) (r : Nat) (k : Nat) (steps : List Step) :
    ((runSteps f r k steps).1.filter isOpen).length = ((runSteps f r k steps).1.filter isClose).length :=
  (runSteps_nested f r k steps).count

theorem ok_runRes_of {r : Nat} {steps : List Step} (h : (runSteps (fun _ => false) r 0 steps).2 = true) :
    (runRes (fun _ => false) r steps).2 = true := by
  rw [runRes]
  exact h

theorem ok_runSteps (r : Nat) (k : Nat) (steps : List Step) : (runSteps (fun _ => false) r k steps).2 = true := by
  match steps with
  | [] => rw [runSteps]
  | .work :: tl =>
    rw [runSteps]
    exact ok_runSteps r (k+1) tl
  | .sub c cs :: tl =>
    rw [runSteps]
    simp only [ok_runRes_of (ok_runSteps c 0 cs)]
    exact ok_runSteps r (k+1) tl
termination_by sizeOf steps
decreasing_by all_goals simp <;> omega

end ZCV.Res
