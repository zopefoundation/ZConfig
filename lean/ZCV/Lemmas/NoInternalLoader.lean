import ZCV.Lemmas.NoInternalMatcher
import ZCV.Lemmas.OverrideEval
import ZCV.Lemmas.SlotsImport
import ZCV.Lemmas.Lower
import ZCV.Lemmas.NoInternalParse
import ZCV.Lemmas.SlotsInfo
/-!
C07, loader part: the invariant `LSInv n` of the loader state (the matcher stack has `n + 1` well-typed matchers, all
but the bottom one belong to a section type that can be looked up under its own name; the — possibly extended —
schema is well-formed; the importable components are well-formed) is preserved by the four callbacks of `loaderCtx`,
none of which ends in `.internal` under it.  Then `load` from the parse on (`loadRest_no_internal`).  That a type can be found
again under its own name rests on `lower_idem` (a fact about the generated Unicode table).
-/
namespace ZCV.Cfg
open ZCV ZCV.Conf

/-! ### the matcher stack -/

/-- the section type can be found again under its own name (child bags, section datatypes) -/
def NamedT (s : Schema) (t : SType) : Prop := ∃ t', s.gettype (t.name.getD []) = some (.concrete t')

def stackOK (s : Schema) : List Matcher → Prop
  | [] => False
  | m :: rest => MOK s m ∧ (match rest with | [] => True | _ :: _ => NamedT s m.ty ∧ stackOK s rest)

theorem stackOK_one {s : Schema} {m : Matcher} : stackOK s [m] ↔ MOK s m := by
  unfold stackOK
  simp

theorem stackOK_two {s : Schema} {m r : Matcher} {rs : List Matcher} :
    stackOK s (m :: r :: rs) ↔ MOK s m ∧ NamedT s m.ty ∧ stackOK s (r :: rs) := by
  rw [stackOK]

theorem stackOK_head {s : Schema} {m : Matcher} {rest : List Matcher} (h : stackOK s (m :: rest)) : MOK s m := by
  cases rest with
  | nil => exact stackOK_one.mp h
  | cons r rs => exact (stackOK_two.mp h).1

theorem stackOK_replace {s : Schema} {p p' : Matcher} {below : List Matcher} (h : stackOK s (p :: below))
    (hp : MOK s p') (hty : p'.ty = p.ty) : stackOK s (p' :: below) := by
  cases below with
  | nil => exact stackOK_one.mpr hp
  | cons r rs =>
    have h' := stackOK_two.mp h
    exact stackOK_two.mpr ⟨hp, hty ▸ h'.2.1, h'.2.2⟩

theorem stackOK_mono {s s' : Schema} (hx : SExt s s') : ∀ (l : List Matcher), stackOK s l → stackOK s' l := by
  intro l
  induction l with
  | nil => intro h; exact absurd h (by unfold stackOK; exact id)
  | cons m rest ih =>
    intro h
    cases rest with
    | nil => exact stackOK_one.mpr (MOK.mono hx (stackOK_one.mp h))
    | cons r rs =>
      obtain ⟨h1, ⟨t', ht'⟩, h3⟩ := stackOK_two.mp h
      exact stackOK_two.mpr ⟨MOK.mono hx h1, ⟨t', hx _ _ ht'⟩, ih h3⟩

/-- an abstract type stays an abstract type -/
def AExt (s s' : Schema) : Prop :=
  ∀ name a l, s.gettype name = some (.abstract_ a l) → ∃ a' l', s'.gettype name = some (.abstract_ a' l')

theorem AExt.refl (s : Schema) : AExt s s := fun _ a l h => ⟨a, l, h⟩
theorem AExt.trans {a b c : Schema} (h1 : AExt a b) (h2 : AExt b c) : AExt a c := fun n x l h => by
  obtain ⟨x', l', h'⟩ := h1 n x l h
  exact h2 n x' l' h'

/-- the schema the option bags consult (`OptionBag.schema`, the one the load started with) is an earlier stage of the
    schema of the load: its concrete types are still what they were, its abstract types are still abstract -/
def BagSchOK (bs : Option Schema) (s : Schema) : Prop := ∀ S0, bs = some S0 → SExt S0 s ∧ AExt S0 s

theorem BagSchOK.lookup {bs : Option Schema} {s : Schema} (h : BagSchOK bs s) (n : Str) (t : SType)
    (hn : s.gettype n = some (.concrete t)) :
    (bs.getD s).gettype n = none ∨ ∃ t', (bs.getD s).gettype n = some (.concrete t') := by
  cases bs with
  | none => exact .inr ⟨t, hn⟩
  | some S0 =>
    obtain ⟨h1, h2⟩ := h S0 rfl
    show S0.gettype n = none ∨ ∃ t', S0.gettype n = some (.concrete t')
    cases hg : S0.gettype n with
    | none => exact .inl rfl
    | some te =>
      cases te with
      | concrete t' => exact .inr ⟨t', rfl⟩
      | abstract_ a l =>
        obtain ⟨a', l', h'⟩ := h2 n a l hg
        rw [hn] at h'
        cases h'

structure LSInv (n : Nat) (st : LS) : Prop where
  len : st.stack.length = n + 1
  sok : SOK st.schema
  stk : stackOK st.schema st.stack
  pkgs : ∀ p, pkgWF (st.pkgs p) = true
  bsx : BagSchOK st.bagSchema st.schema

theorem named_of_gettype (s : Schema) (hs : SOK s) (ty : Str) (t : SType)
    (h : s.gettype ty = some (.concrete t)) : TOK t ∧ s.gettype (t.name.getD []) = some (.concrete t) := by
  obtain ⟨n, hmem, hn⟩ := gettype_mem s ty _ h
  obtain ⟨hname, htok⟩ := hs.2 n t hmem
  refine ⟨htok, ?_⟩
  rw [hname]
  simp only [Option.getD_some]
  unfold Schema.gettype at h ⊢
  rw [hn, lower_idem]
  exact h

/-! ### `startSection`, `endSection`, `addValue` -/

theorem LSInv.stack_ne {n : Nat} {st : LS} (h : LSInv n st) : st.stack ≠ [] := fun h0 => by
  have := h.len
  rw [h0] at this
  cases this

theorem lsStart_ok (n : Nat) (st : LS) (ty : Str) (nm : Option Str)
    (hinv : LSInv n st) : Ends (lsStart st ty nm) (LSInv (n + 1)) NotInternal := by
  unfold lsStart
  cases hstk : st.stack with
  | nil => exact absurd hstk hinv.stack_ne
  | cons parent below =>
    have hso := hinv.stk
    have hlen := hinv.len
    rw [hstk] at hso hlen
    have hpar := stackOK_head hso
    dsimp only
    split
    · exact .error (.cfg _)
    · exact .error (.cfg _)
    · rename_i t hgt
      obtain ⟨htok, hnamed⟩ := named_of_gettype st.schema hinv.sok ty t hgt
      have push : ∀ (cb : Option Bag) (p' : Matcher), (∀ b, cb = some b → BagOK b) → stackOK st.schema (p' :: below) →
          LSInv (n + 1) { st with stack := newMatcher t nm cb :: p' :: below } := fun cb p' hcb hp' =>
        ⟨congrArg (· + 1) hlen, hinv.sok, stackOK_two.mpr ⟨MOK.new st.schema t htok nm cb hcb, ⟨t, hnamed⟩, hp'⟩,
          hinv.pkgs, hinv.bsx⟩
      refine ((getsectioninfo_ends st.schema parent.ty (t.name.getD []) nm).fails
        fun _ h => h.notInternal hpar.tok.key).bind fun ci _ => ?_
      refine .ite (fun _ => .error (.cfg _)) fun _ => .ite (fun _ => .error (.cfg _)) fun _ => ?_
      cases hb : parent.bag with
      | none => exact .ok (push none parent nofun hso)
      | some b =>
        refine (bagSectionInfo_ok st.conv (st.bagSchema.getD st.schema) b (t.name.getD []) nm (hpar.bag b hb)
          (hinv.bsx.lookup _ t hnamed)).bind fun r hr => ?_
        exact .ok (push r.2 _ hr.2 (stackOK_replace hso ⟨hpar.tok, hpar.fits, fun b0 hb0 => Option.some.inj hb0 ▸ hr.1⟩ rfl))

theorem lsValue_ok (n : Nat) (st : LS) (k v : Str) (pos : Pos) (hinv : LSInv n st) :
    Ends (lsValue st k v pos) (LSInv n) NotInternal := by
  unfold lsValue
  cases hstk : st.stack with
  | nil => exact absurd hstk hinv.stack_ne
  | cons cur below =>
    have hso := hinv.stk
    have hlen := hinv.len
    rw [hstk] at hso hlen
    exact .map ((addValue_ok st.schema st.conv cur (stackOK_head hso) k v pos).mono
      (fun m h => ⟨hlen, hinv.sok, stackOK_replace hso h.1 h.2.1, hinv.pkgs, hinv.bsx⟩) fun _ => id)

theorem lsStop_ok (n : Nat) (st : LS) (ty : Str) (nm : Option Str) (hinv : LSInv (n + 1) st) :
    Ends (lsStop st ty nm) (LSInv n) NotInternal := by
  have hlen := hinv.len
  have hso := hinv.stk
  match hstk : st.stack with
  | [] => rw [hstk] at hlen; cases hlen
  | [x] => rw [hstk] at hlen; cases hlen
  | child :: parent :: below =>
    rw [hstk] at hso hlen
    rw [lsStop_eq st child parent below ty nm hstk]
    obtain ⟨hchild, ⟨tc, htc⟩, hrest⟩ := stackOK_two.mp hso
    have hfin := finishMatcher_ok st.conv st.schema child hchild
    cases hf : finishMatcher st.conv st.schema child with
    | error f => exact .error (hfin.of_error hf)
    | ok r =>
      obtain ⟨v, hs⟩ := r
      obtain ⟨attrs, hr⟩ := hfin.of_ok hf
      cases hr
      exact .map ((addSection_ok st.schema parent (stackOK_head hrest) ty nm (.sect (child.ty.name.getD []) child.name attrs)
        ⟨tc, htc⟩).mono
        (fun p' hp' => ⟨Nat.succ.inj hlen, hinv.sok, stackOK_replace hrest hp'.1 hp'.2.1, hinv.pkgs, hinv.bsx⟩) fun _ => id)

/-! ### `%import`: the schema grows (`lsImport` is taken apart in `ZCV.Lemmas.SlotsImport`) -/

/-- read off the closed form of the import (`Schema.withComponent`): the entries of `sc` and those of the component, each with
    registrations added, and a registration does not change a concrete entry -/
theorem TypesOK_withComponent (sc : Schema) (types : List (Str × TypeEntry)) (impls : List (Str × Str))
    (h1 : TypesOK sc.types) (h2 : TypesOK types) : TypesOK (sc.withComponent types impls).types := by
  intro n t hm
  obtain ⟨⟨k, e⟩, hp, hk, hrel⟩ := mem_withComponent sc types impls _ hm
  cases e with
  | abstract_ a l => obtain ⟨_, hq⟩ := hrel; cases hq
  | concrete t0 => cases hrel; cases hk; exact (List.mem_append.mp hp).elim (h1 _ _) (h2 _ _)

theorem AExt_of_abs {s s' : Schema} (h : ∀ x, isAbstract s x = true → isAbstract s' x = true) : AExt s s' := by
  intro name a l hg
  have := h name (by unfold isAbstract; rw [hg])
  unfold isAbstract at this
  split at this
  · exact ⟨_, _, by assumption⟩
  · cases this

theorem lsImport_ok (n : Nat) (st : LS) (pkg : Str) (hinv : LSInv n st) :
    Ends (lsImport st pkg) (LSInv n) NotInternal := by
  cases hp : st.pkgs pkg with
  | component url types impls =>
    rw [lsImport_component st pkg url types impls hp]
    have htypes : TypesOK types := typesWF_TypesOK types (by have := hinv.pkgs pkg; rwa [hp] at this)
    refine .ite (fun _ => .ok ⟨hinv.len, hinv.sok, hinv.stk, hinv.pkgs, hinv.bsx⟩) fun _ => .map (.intro (fun sch h => ?_) ?_)
    · have hx := Ext_fold impls types _ sch h
      have hsx : SExt st.schema sch := hx.conc
      have hty : TypesOK sch.types := by
        rw [fold_addStep_eq] at h
        split at h
        · cases h; exact TypesOK_withComponent _ types impls hinv.sok.2 htypes
        · cases h
      refine ⟨hinv.len, ⟨hx.top ▸ hinv.sok.1, hty⟩,
        stackOK_mono hsx _ hinv.stk, hinv.pkgs, fun S0 hS0 => ?_⟩
      obtain ⟨b1, b2⟩ := hinv.bsx S0 hS0
      exact ⟨b1.trans hsx, b2.trans (AExt_of_abs hx.abs)⟩
    · intro f h
      rw [fold_error impls types _ f h]
      exact .cfg _
  | notImportable | notPackage | noComponent | illegalName => rw [lsImport_eq, hp]; exact .error (.cfg _)

theorem loaderCtx_ok : CtxOK loaderCtx LSInv :=
  { start := fun n a ty nm h => (lsStart_ok n a ty nm h).ni
    stop := fun n a ty nm h => (lsStop_ok n a ty nm h).ni
    value := fun n a k v p h => (lsValue_ok n a k v p h).ni
    imp := fun n a pkg h => (lsImport_ok n a pkg h).ni }

/-! ### `addOption` and `load` -/

theorem splitOn_ne_nil (c : Char) : ∀ (s : Str), addOption.splitOn s c ≠ [] := by
  intro s
  cases s with
  | nil => rw [addOption.splitOn]; simp
  | cons x t =>
    rw [addOption.splitOn]
    split
    · simp
    · split <;> simp

theorem addOption_ok (spec : Str) : Ends (addOption spec) (fun it => it.path ≠ []) NotInternal :=
  .ite (fun _ => .error (.cfg _)) fun _ => .ite (fun _ => .error (.cfg _)) fun _ => .ok (splitOn_ne_nil _ _)

theorem loadRest_no_internal (conv : Conv) (env : Env) (pkgs : Str → Pkg) (s : Schema) (url : Option Str) (lines : List Str) (bag : Option Bag)
    (urls : List Str)
    (hsok : SOK s) (hp : ∀ p, pkgWF (pkgs p) = true) (henv : EnvOK env urls) (hlen : urls.length ≤ 64)
    (hbagok : ∀ b, bag = some b → BagOK b) :
    Ends (parseLines 64 env loaderCtx (activeOf url) url lines 0 { ctx := stOv conv pkgs s bag, stack := [], defs := [] } >>=
      fun ps => loadFin conv s ps.ctx) (fun _ => True) NotInternal := by
  have hinv0 : LSInv 0 { schema := s, privateSchema := false, handlers := [], stack := [newMatcher s.top Option.none bag],
                         pkgs := pkgs, conv := conv, bagSchema := bag.map fun _ => s } :=
    ⟨rfl, hsok, stackOK_one.mpr (MOK.new s s.top hsok.1 none bag hbagok), hp, by
      intro S0 hS0
      cases bag with
      | none => cases hS0
      | some b => cases hS0; exact ⟨SExt.refl s, AExt.refl s⟩⟩
  have P := parseLines_no_internal loaderCtx LSInv loaderCtx_ok env urls (fun _ => henv) 64
    (activeOf url) url lines 0 { ctx := _, stack := [], defs := [] } 0
    (Nat.le_trans (List.length_filter_le _ _) hlen) hinv0
  refine (P.mono (fun _ h => h.2) fun f h e he => ?_).bind fun ps hinv => ?_
  · rcases (h e he).1.2 with h | h <;> cases h
  · unfold loadFin
    have hlen1 := hinv.len
    match hst : ps.ctx.stack with
    | [] => rw [hst] at hlen1; cases hlen1
    | _ :: _ :: _ => rw [hst] at hlen1; cases hlen1
    | [top] =>
      have htop : MOK ps.ctx.schema top := stackOK_one.mp (hst ▸ hinv.stk)
      refine ((finishMatcher_ok conv ps.ctx.schema top htop).mono (fun _ _ => trivial) fun _ => id).bind fun r _ => ?_
      obtain ⟨v, hs⟩ := r
      dsimp only
      cases conv.sect s.top.datatype v with
      | ok v' => exact .ok trivial
      | error e => exact .error (ConvFail.notInternal ⟨e, _, rfl⟩)

end ZCV.Cfg
