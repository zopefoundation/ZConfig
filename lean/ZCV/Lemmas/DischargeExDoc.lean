import ZCV.Lemmas.ElabInv
/-!
A closed instance for the `example`s next to the end-to-end theorems: the schema document of `Elab.Example`
(`ZCV/Lemmas/ElabInv.lean`; it extends a base schema and imports a component) is accepted with the stock key types.
-/
namespace ZCV.DischargeEx
open ZCV ZCV.Cfg

theorem dis_ex_doc_accepted : ∃ S, Elab.elabSchema Elab.Example.env 1 Elab.Example.doc = .ok S :=
  let ⟨S, h, _⟩ := Elab.Example.doc_accepted; ⟨S, h⟩

/-- … and the schema it yields declares nothing at top level -/
theorem dis_ex_doc_accepted_empty :
    ∃ S, Elab.elabSchema Elab.Example.env 1 Elab.Example.doc = .ok S ∧ S.top.children = [] :=
  Elab.Example.doc_accepted

theorem dis_ex_env_stock : Elab.Example.env.conv = stockConv := rfl

end ZCV.DischargeEx
