import ZCV.Lemmas.RoundtripRun
import ZCV.Lemmas.Lower
/-!
What the schema-less loader can produce (C17): every state it goes through holds well-formed sections only (`parse_keeps`),
which is why a successful load ends in a `WF` tree — provided the environment the `$(NAME)` references consult hands
out clean, non-empty texts (anything else is pasted into values unchanged).
-/
namespace ZCV.Roundtrip
open ZCV ZCV.Cfg ZCV.SubstSpec ZCV.Rx

/-! ### reading a classification backwards -/

theorem suffix_last {v s : Str} (h : v <:+ s) (hv : v ≠ []) : v.getLast? = s.getLast? := by
  obtain ⟨t, rfl⟩ := h
  exact (getLast?_append_ne t v hv).symm

theorem prefix_head {p s : Str} {a : Char} {p' : Str} (h : p <+: s) (hp : p = a :: p') : ∃ s', s = a :: s' := by
  obtain ⟨t, rfl⟩ := h
  exact ⟨p' ++ t, by rw [hp]; rfl⟩

theorem strip_last (x : Str) (c : Char) (h : (strip x).getLast? = some c) : pySpace c = false := by
  unfold strip rstrip at h
  rw [List.getLast?_reverse] at h
  cases hd : (lstrip x).reverse.dropWhile pySpace with
  | nil => rw [hd] at h; simp at h
  | cons a t =>
    rw [hd] at h
    simp only [List.head?_cons, Option.some.injEq] at h
    rw [← h]
    exact dropWhile_head_not _ _ _ _ hd

theorem rstrip_prefix (s : Str) : rstrip s <+: s := by
  obtain ⟨w, _, e⟩ := rstrip_decomp s
  exact ⟨w, e.symm⟩

theorem dropLastN_prefix (s : Str) (k : Nat) : dropLastN s k <+: s := List.take_prefix _ _

theorem lower_wordTok {s : Str} (h : wordTok s = true) : wordTok (lower s) = true := by
  have hne := wordTok_ne h
  unfold wordTok at h ⊢
  rw [Bool.and_eq_true] at h ⊢
  refine ⟨?_, lower_all_isWord s h.2⟩
  cases s with
  | nil => exact absurd rfl hne
  | cons _ _ => rfl

theorem lower_tokOK {s : Str} (h : wordTok s = true) : tokOK (lower s) = true := by
  unfold tokOK
  rw [Bool.and_eq_true, lower_wordTok h, lower_idem]
  simp

theorem cleanVal_of_suffix {v l : Str} (hne : v ≠ []) (hsuf : v <:+ l) (hhead : ∀ c, v.head? = some c → pySpace c = false)
    (hn : '\n' ∉ l) (hlast : ∀ c, l.getLast? = some c → pySpace c = false) : cleanVal v = true :=
  cleanVal_intro (fun hm => hn (hsuf.subset hm)) hhead (by rw [suffix_last hsuf hne]; exact hlast)

theorem kv_inv {l key raw : Str} (h : lineShape l = .kv key raw) (hn : '\n' ∉ l)
    (hlast : ∀ c, l.getLast? = some c → pySpace c = false) :
    keyOK key = true ∧ cleanVal raw = true := by
  have v := lineShape_view l
  rw [h] at v
  cases v with
  | kv _ v? hd hkv =>
    rw [kvMatch_eq_keyValue l hn] at hkv
    obtain ⟨hw, hpre, hv⟩ := keyValue_inv hkv
    refine ⟨?_, ?_⟩
    · -- the key is a prefix of the line, so it starts as the line does
      have ht : key.take 1 = l.take 1 := by
        obtain ⟨s', rfl⟩ := hpre
        cases key with
        | nil => exact absurd rfl (wordTok_ne hw)
        | cons a k' => rfl
      unfold keyOK
      rw [hw, ht]
      simp [hd.notComment, hd.notSection, hd.notDirective]
    · cases v? with
      | none => rfl
      | some v =>
        obtain ⟨hne, hsuf, hhead⟩ := hv v rfl
        exact cleanVal_of_suffix hne hsuf hhead hn hlast

theorem import_inv {l arg : Str} (h : lineShape l = .import_ arg) (hn : '\n' ∉ l)
    (hlast : ∀ c, l.getLast? = some c → pySpace c = false) :
    arg ≠ [] ∧ cleanVal arg = true := by
  have v := lineShape_view l
  rw [h] at v
  cases v with
  | import_ a? _ hkv hne =>
    have hsuf : l.drop 1 <:+ l := List.drop_suffix 1 l
    rw [kvMatch_eq_keyValue _ (fun hm => hn (hsuf.subset hm))] at hkv
    obtain ⟨_, _, hv⟩ := keyValue_inv hkv
    cases a? with
    | none => exact absurd rfl hne
    | some a =>
      obtain ⟨hne, hsufa, hhead⟩ := hv a rfl
      exact ⟨hne, cleanVal_of_suffix hne (hsufa.trans hsuf) hhead hn hlast⟩

theorem hdrText_prefix (l : Str) : hdrText l <+: l.drop 1 := by
  unfold hdrText
  refine (rstrip_prefix _).trans ?_
  split
  · exact (dropLastN_prefix _ _).trans (dropLastN_prefix _ _)
  · exact dropLastN_prefix _ _

theorem open_inv {l ty : Str} {nm : Option Str} {e : Bool} (h : lineShape l = .open_ ty nm e) (hn : '\n' ∉ l) :
    tyOK ty = true ∧ nameOK nm = true := by
  have v := lineShape_view l
  rw [h] at v
  cases v with
  | open_ ty0 nm0 h1 h2 _ hh =>
    have hpre := hdrText_prefix l
    rw [hdrMatch_eq_header _ (fun hm => hn ((List.drop_suffix 1 l).subset (hpre.subset hm)))] at hh
    obtain ⟨hw, hp0, hname⟩ := header_inv hh
    refine ⟨?_, ?_⟩
    · unfold tyOK
      rw [Bool.and_eq_true, lower_tokOK hw]
      refine ⟨rfl, ?_⟩
      cases hty0 : ty0 with
      | nil => rw [hty0] at hw; exact absurd rfl (wordTok_ne hw)
      | cons a ty' =>
        -- the type word begins the text after `<`, which does not begin with `/`
        obtain ⟨R', hR'⟩ := prefix_head (hp0.trans hpre) hty0
        have ha : a ≠ '/' := by
          intro ea
          apply h2
          cases l with
          | nil => cases h1
          | cons c t =>
            simp only [List.drop_succ_cons, List.drop_zero] at hR'
            simp only [List.take_succ_cons, List.take_zero, List.cons.injEq, and_true] at h1
            rw [hR', h1, ea]; rfl
        show (([lowerChar a] : Str) != ['/']) = true
        simpa using lowerChar_ne_slash a ha
    · cases nm0 with
      | none => rfl
      | some n =>
        have hwn := hname n rfl
        have : (n == []) = false := by rw [beq_eq_false_iff_ne]; exact wordTok_ne hwn
        simp only [hdrName, this, Bool.false_eq_true, ↓reduceIte, nameOK]
        exact lower_tokOK hwn

/-! ### `$`-substitution keeps values clean when the environment is -/

/-- the texts `$(NAME)` can paste in are non-empty and clean -/
def EnvClean (getenv : Str → Option Str) : Prop := ∀ name v, getenv name = some v → v ≠ [] ∧ cleanVal v = true

/-- the statement carried through the recursion of `spec` -/
def SpecClean (env : Str → Option Str) (src s : Str) : Prop :=
  ∀ v, spec (fun _ => none) env src s = .ok v → '\n' ∉ s → (∀ c, s.getLast? = some c → pySpace c = false) →
    '\n' ∉ v ∧ (s ≠ [] → v ≠ []) ∧ (∀ d, v.getLast? = some d → pySpace d = false) ∧
      ((∀ c, s.head? = some c → pySpace c = false) → ∀ d, v.head? = some d → pySpace d = false)

/-- one step of `spec_clean`: the result `p ++ v'` of a text `s` whose first piece gives `p` and whose rest `s'` gives
    `v'` has no newline, is non-empty and does not end in whitespace when `p` and (by induction) `v'` are so; when the
    rest is empty, `p` is what ends the result -/
theorem clean_piece {env : Str → Option Str} {src s s' p v' : Str} (ih : SpecClean env src s')
    (hv' : spec (fun _ => none) env src s' = .ok v') (hsuf : s' <:+ s) (hp : p ≠ []) (hpn : '\n' ∈ p → '\n' ∈ s)
    (hpl : s' = [] → ∀ d, p.getLast? = some d → s.getLast? = some d ∨ pySpace d = false)
    (hn : '\n' ∉ s) (hlast : ∀ c, s.getLast? = some c → pySpace c = false) :
    '\n' ∉ p ++ v' ∧ p ++ v' ≠ [] ∧ (∀ d, (p ++ v').getLast? = some d → pySpace d = false) := by
  obtain ⟨ih1, ih2, ih3, _⟩ := ih v' hv' (fun hm => hn (hsuf.subset hm)) (by
    intro c hc
    have hne : s' ≠ [] := by intro e; rw [e] at hc; cases hc
    rw [suffix_last hsuf hne] at hc
    exact hlast c hc)
  refine ⟨fun hm => (List.mem_append.1 hm).elim (fun h => hn (hpn h)) ih1, by simp [hp], fun d hd => ?_⟩
  by_cases hv : v' = []
  · subst hv
    rw [List.append_nil] at hd
    exact (hpl (Classical.not_not.1 fun hs => ih2 hs rfl) d hd).elim (hlast d) id
  · rw [getLast?_append_ne _ _ hv] at hd
    exact ih3 d hd

theorem spec_clean (env : Str → Option Str) (henv : EnvClean env) (src s : Str) : SpecClean env src s := by
  induction s using Subst.construct_induct with
  | nil => intro v hv _ _; rw [spec_nil] at hv; cases hv; simp
  | lit c t hc ih =>
    intro v hv hn hlast
    rw [spec_lit _ _ _ _ _ hc] at hv
    obtain ⟨v', hv', rfl⟩ := map_ok_inv hv
    have g := clean_piece (p := [c]) ih hv' (List.suffix_cons _ _) (by simp)
      (fun hm => by cases List.mem_singleton.1 hm; exact List.mem_cons_self) (fun e d hd => .inl (by rw [e]; exact hd)) hn hlast
    exact ⟨g.1, fun _ => g.2.1, g.2.2, fun hh d hd => by cases hd; exact hh c rfl⟩
  | mal t k hk => intro v hv; rw [Subst.spec_malformed _ _ _ hk] at hv; cases hv
  | esc r ih =>
    intro v hv hn hlast
    rw [Subst.spec_esc] at hv
    obtain ⟨v', hv', rfl⟩ := map_ok_inv hv
    have g := clean_piece (p := ['$']) ih hv' ((List.suffix_cons _ _).trans (List.suffix_cons _ _)) (by simp) (by simp)
      (fun e d hd => .inl (by rw [e]; exact hd)) hn hlast
    exact ⟨g.1, fun _ => g.2.1, g.2.2, fun hh d hd => by cases hd; exact hh '$' rfl⟩
  | ref t n vt r href ih =>
    intro v hv hn hlast
    rw [Subst.spec_ref _ _ _ href] at hv
    obtain ⟨x, hx⟩ := Subst.substcor_isRef_suffix href
    cases hl : Subst.lookupRef (fun _ => none) env vt n with
    | none => rw [hl] at hv; cases hv
    | some ev =>
      rw [hl] at hv
      obtain ⟨v', hv', rfl⟩ := map_ok_inv hv
      cases vt with
      | define => cases hl
      | env =>
        obtain ⟨hevne, hevc⟩ := henv n ev hl
        have g := clean_piece (p := ev) ih hv' (List.IsSuffix.trans (show r <:+ t from ⟨x, hx.symm⟩) (List.suffix_cons _ _)) hevne
          (fun hm => absurd hm (cleanVal_nonl hevc)) (fun _ d hd => .inr (cleanVal_last hevc d hd)) hn hlast
        refine ⟨g.1, fun _ => g.2.1, g.2.2, fun _ d hd => ?_⟩
        rw [head?_append_ne _ _ hevne] at hd
        exact cleanVal_head hevc d hd

theorem replace_clean (getenv : Str → Option Str) (henv : EnvClean getenv) (url : Option Str) (n : Nat) (raw v : Str)
    (h : replace (envOf getenv) [] url n raw = .ok v) (hc : cleanVal raw = true) :
    (raw ≠ [] → v ≠ []) ∧ cleanVal v = true := by
  unfold replace at h
  have h04 := ZCV.Props.C04.C04_substitute_eq_spec (lookupDef []) getenv raw
  cases hs : Subst.substitute (lookupDef []) getenv raw with
  | error e => rw [hs] at h; cases e <;> cases h
  | ok r =>
    rw [hs] at h h04
    cases h
    obtain ⟨a1, a2, a3, a4⟩ := spec_clean getenv henv raw raw v h04.symm (cleanVal_nonl hc) (cleanVal_last hc)
    exact ⟨a2, cleanVal_intro a1 (a4 (cleanVal_head hc)) a3⟩

/-! ### the loader's invariant -/

def topOK (t : Sec) : Prop := t.type = [] ∧ t.name = none ∧ kvsOK t.kvs = true ∧ wfSubs t.sections = true

/-- the open sections, innermost first; the last one is the top -/
def stackOK : List Sec → Prop
  | [] => False
  | [top] => topOK top
  | s :: x :: r => wfSub s = true ∧ stackOK (x :: r)

/-- no definitions (they are refused), clean imports, well-formed open sections -/
def Inv (st : PSt) : Prop := st.defs = [] ∧ impsOK st.ctx.imports = true ∧ stackOK st.ctx.stack

theorem stackOK_head {t : Str} {n : Option Str} {k : List (Str × List Str)} {ss rest : List Sec}
    (h : stackOK (Sec.mk t n k ss :: rest)) : kvsOK k = true ∧ wfSubs ss = true := by
  cases rest with
  | nil => exact ⟨h.2.2.1, h.2.2.2⟩
  | cons x r => have := wfSub_parts h.1; exact ⟨this.2.2.1, this.2.2.2⟩

theorem stackOK_upd {t : Str} {n : Option Str} {k k' : List (Str × List Str)} {ss ss' rest : List Sec}
    (h : stackOK (Sec.mk t n k ss :: rest)) (hk : kvsOK k' = true) (hs : wfSubs ss' = true) :
    stackOK (Sec.mk t n k' ss' :: rest) := by
  cases rest with
  | nil => exact ⟨h.1, h.2.1, hk, hs⟩
  | cons x r =>
    have := wfSub_parts h.1
    refine ⟨?_, h.2⟩
    rw [wfSub, this.1, this.2.1, hk, hs]; rfl

theorem stackOK_push {s : Sec} {stk : List Sec} (h : stackOK stk) (hs : wfSub s = true) : stackOK (s :: stk) := by
  cases stk with
  | nil => exact absurd h (by simp [stackOK])
  | cons x r => exact ⟨hs, h⟩

theorem wfSubs_snoc : ∀ (ss : List Sec) (c : Sec), wfSubs ss = true → wfSub c = true → wfSubs (ss ++ [c]) = true
  | [], c, _, hc => by rw [List.nil_append, wfSubs, hc]; rfl
  | s :: r, c, h, hc => by
    obtain ⟨h1, h2⟩ := wfSubs_cons h
    rw [List.cons_append, wfSubs, h1, wfSubs_snoc r c h2 hc]; rfl

theorem kvsOK_add {kvs : List (Str × List Str)} {key v : Str} (h : kvsOK kvs = true) (hk : keyOK key = true)
    (hv : cleanVal v = true) : kvsOK (secAddValue kvs key v) = true := by
  obtain ⟨hall, hnd⟩ := kvsOK_iff.1 h
  unfold secAddValue
  split
  · -- the key is there: its list grows
    refine kvsOK_iff.2 ⟨?_, ?_⟩
    · intro q hq
      obtain ⟨p, hp, rfl⟩ := List.mem_map.1 hq
      obtain ⟨a1, a2, a3⟩ := hall p hp
      split
      · refine ⟨a1, by cases p.2 <;> rfl, fun x hx => ?_⟩
        rcases List.mem_append.1 hx with hx | hx
        · exact a3 x hx
        · cases List.mem_singleton.1 hx; exact hv
      · exact ⟨a1, a2, a3⟩
    · rw [List.map_map]
      refine (List.map_congr_left fun p _ => ?_) ▸ hnd
      dsimp only [Function.comp]
      split <;> rfl
  · rename_i hany
    refine kvsOK_iff.2 ⟨?_, ?_⟩
    · intro q hq
      rcases List.mem_append.1 hq with hq | hq
      · exact hall q hq
      · cases List.mem_singleton.1 hq
        exact ⟨hk, rfl, fun x hx => by cases List.mem_singleton.1 hx; exact hv⟩
    · rw [List.map_append, List.nodup_append]
      refine ⟨hnd, by simp, fun a ha b hb e => hany ?_⟩
      cases List.mem_singleton.1 hb
      obtain ⟨p, hp, rfl⟩ := List.mem_map.1 ha
      exact List.any_eq_true.2 ⟨p, hp, by simp [e]⟩

theorem impsOK_add {imps : List Str} {p : Str} (h : impsOK imps = true) (hne : p ≠ []) (hp : cleanVal p = true) :
    impsOK (if imps.contains p then imps else imps ++ [p]) = true := by
  split
  · exact h
  · rename_i hc
    obtain ⟨hall, hnd⟩ := impsOK_iff.1 h
    refine impsOK_iff.2 ⟨?_, ?_⟩
    · intro q hq
      rcases List.mem_append.1 hq with hq | hq
      · exact hall q hq
      · cases List.mem_singleton.1 hq; exact ⟨hne, hp⟩
    · rw [List.nodup_append]
      refine ⟨hnd, by simp, fun a ha b hb e => hc ?_⟩
      cases List.mem_singleton.1 hb
      exact List.contains_iff_mem.2 (e ▸ ha)

theorem slStop_keeps {ctx ctx' : SL} {ty : Str} {nm : Option Str} (h : slStop ctx ty nm = .ok ctx')
    (hs : stackOK ctx.stack) : ctx'.imports = ctx.imports ∧ stackOK ctx'.stack := by
  unfold slStop at h
  split at h
  · rename_i child t n k ss rest hstk
    cases h
    rw [hstk] at hs
    have hc : wfSub child = true := hs.1
    have hp : stackOK (Sec.mk t n k ss :: rest) := hs.2
    obtain ⟨hk, hss⟩ := stackOK_head hp
    exact ⟨rfl, stackOK_upd hp hk (wfSubs_snoc ss child hss hc)⟩
  · cases h

theorem step_keeps (getenv : Str → Option Str) (henv : EnvClean getenv) (url : Option Str) (n : Nat) (l : Str)
    (st st' : PSt) (hinv : Inv st) (hn : '\n' ∉ l) (hlast : ∀ c, l.getLast? = some c → pySpace c = false)
    (h : stepS getenv url n l st = .ok st') : Inv st' := by
  obtain ⟨hdefs, himps, hstk⟩ := hinv
  have hnew : ∀ {ty nm e}, lineShape l = .open_ ty nm e → wfSub (Sec.mk ty nm [] []) = true := by
    intro ty nm e hs
    obtain ⟨hty, hnm⟩ := open_inv hs hn
    rw [wfSub, hty, hnm]; rfl
  cases stepLine_ok h with
  | skip _ => exact ⟨hdefs, himps, hstk⟩
  | @close ty nm _ _ _ _ hstop =>
    have := slStop_keeps (ty := ty) (nm := nm) hstop hstk
    exact ⟨hdefs, this.1 ▸ himps, this.2⟩
  | open_ hs hstart =>
    cases hstart
    exact ⟨hdefs, himps, stackOK_push hstk (hnew hs)⟩
  | @empty ty nm _ _ hs hstart hstop =>
    cases hstart
    have := slStop_keeps (ty := ty) (nm := nm) hstop (stackOK_push hstk (hnew hs))
    exact ⟨hdefs, this.1 ▸ himps, this.2⟩
  | @kv k _ v _ hs hv hval =>
    obtain ⟨hkey, hraw⟩ := kv_inv hs hn hlast
    rw [hdefs] at hv
    have hvc := (replace_clean getenv henv url n _ _ hv hraw).2
    change slValue st.ctx k v ⟨n, url⟩ = _ at hval
    unfold slValue at hval
    split at hval
    · rename_i t nm0 k ss rest hs0
      cases hval
      rw [hs0] at hstk
      obtain ⟨hk, hss⟩ := stackOK_head hstk
      exact ⟨hdefs, himps, stackOK_upd hstk (kvsOK_add hk hkey hvc) hss⟩
    · cases hval
  | define _ hcd _ => cases hcd
  | import_ hs hp himp =>
    obtain ⟨hane, hac⟩ := import_inv hs hn hlast
    rw [strip_clean _ (cleanVal_head hac) (cleanVal_last hac), hdefs] at hp
    obtain ⟨hpne, hpc⟩ := replace_clean getenv henv url n _ _ hp hac
    cases himp
    refine ⟨hdefs, ?_, ?_⟩
    · have := impsOK_add himps (hpne hane) hpc
      split
      · exact himps
      · rename_i hc; simp only [hc, Bool.false_eq_true, ↓reduceIte] at this; exact this
    · split <;> exact hstk
  | include_ _ _ hci => cases hci

theorem parse_keeps (getenv : Str → Option Str) (henv : EnvClean getenv) (url : Option Str) :
    ∀ (lines : List Str) (n : Nat) (st st' : PSt), (∀ l ∈ lines, '\n' ∉ l) → Inv st →
      parseLines 8 (envOf getenv) schemalessCtx [] url lines n st = .ok st' → Inv st'
  | [], n, st, st', _, hinv, h => by
    rw [parseLines] at h
    split at h
    · cases h
    · cases h; exact hinv
  | l :: rest, n, st, st', hl, hinv, h => by
    rw [parseLines] at h
    obtain ⟨st1, hstep, h⟩ := bind_ok_inv h
    have hn : '\n' ∉ strip l := fun hm => hl l List.mem_cons_self (mem_strip hm)
    exact parse_keeps getenv henv url rest (n + 1) st1 st' (fun x hx => hl x (List.mem_cons_of_mem _ hx))
      (step_keeps getenv henv url (n + 1) (strip l) st st1 hinv hn (strip_last l) hstep) h

theorem inv_st0 : Inv st0 := ⟨rfl, rfl, rfl, rfl, rfl, rfl⟩

end ZCV.Roundtrip
