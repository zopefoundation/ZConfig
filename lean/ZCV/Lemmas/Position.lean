import ZCV.Lemmas.StepView
/-!
C08, parse level: where the configuration error that ends a parse comes from, and which position it carries.  `Culprit` is the
line (resource, 1-based number, parser state) at which a failing parse fails, through `%include`s at any depth: every failing
parse has exactly one, the error has one of the origins `LineErr` there, and the culprit lies in the resource being read or in
one reached from it (`parse_error_origin`); `culprit_of_firstBad_none/_some` give it in terms of line indices (`firstBad`).  `LineErr.position` and its companions
say what the origin tells about the position, and `<type/>` is compared with `<type>` followed by `</type>`.  Last section:
a context may keep the `(text, position)` pairs `addValue` hands it and raise a conversion error about one of them later (when the
enclosing section closes); `Handed` says which pairs a parse hands over, `Records` what it means for a context to keep nothing
else, and `culprit_rec` that whatever the context holds at the culprit line was there at the start or was handed over earlier
in the same parse (at any `%include` depth).
-/
namespace ZCV.Cfg
open ZCV

/-! ### entering an included resource -/

theorem Enters.unique {σ} {fuel : Nat} {env : Env} {c : PCtx σ} {active : List Str} {url : Option Str} {line : Nat} {l : Str}
    {st : PS σ} {f1 f2 : Nat} {u1 u2 : Str} {s1 s2 : List Str}
    (h1 : Enters fuel env c active url line l st f1 u1 s1) (h2 : Enters fuel env c active url line l st f2 u2 s2) :
    f1 = f2 ∧ u1 = u2 ∧ s1 = s2 := by
  obtain ⟨arg1, a1, hs1, hr1, _, hres1, hsub1, _, hf1⟩ := h1
  obtain ⟨arg2, a2, hs2, hr2, _, hres2, hsub2, _, hf2⟩ := h2
  rw [hs1] at hs2
  cases hs2
  rw [hr1] at hr2
  cases hr2
  rw [hres1] at hres2
  cases hres2
  rw [hsub1] at hsub2
  cases hsub2
  exact ⟨by omega, rfl, rfl⟩

theorem stepLine_enters {σ} {fuel : Nat} {env : Env} {c : PCtx σ} {active : List Str} {url : Option Str} {line : Nat} {l : Str}
    {st : PS σ} {fuel' : Nat} {u : Str} {sub : List Str} (h : Enters fuel env c active url line l st fuel' u sub) :
    stepLine fuel env c active url line l st =
      (parseLines fuel' env c (u :: active) (some u) sub 0 (subState st) >>= fun r =>
        .ok { st with ctx := r.ctx, defs := r.defs }) := by
  obtain ⟨arg, a, hs, hr, hc, hres, hsub, hact, hf⟩ := h
  subst hf
  exact incgen_include_found _ env c active url line l arg a u sub st hs hc hr hres hsub
    (of_not_active hact)

/-! ### what the origins say about the position -/

/-- the error brings no usable position of its own: no line number or a negative one, no URL or an empty one -/
def NoPos (e : Err) : Prop := (∀ l, e.line = some l → l < 0) ∧ (∀ u, e.url = some u → u = [])

/-- `fixPos_nopos` for an error whose position is unusable (`NoPos`) rather than absent -/
theorem fixPos_of_noPos (url : Option Str) (line : Nat) (e : Err) (h : NoPos e) :
    (fixPos url line e).line = some (line : Int) ∧ (fixPos url line e).url = url := by
  obtain ⟨h1, h2⟩ := h
  unfold fixPos
  dsimp only
  constructor
  · cases hl : e.line with
    | none => rfl
    | some l => simp only; rw [if_pos (h1 l hl)]
  · cases hu : e.url with
    | none => rfl
    | some u => simp only; rw [h2 u hu]; rfl

theorem LineErr.line_or_exception {σ} {c : PCtx σ} {u : Option Str} {n : Nat} {sF : PS σ} {e : Err}
    (h : LineErr c u n sF e) :
    (∃ m : Int, e.line = some m ∧ 0 ≤ m) ∨ (∃ pkg, c.imp sF.ctx pkg = .error (.cfg e)) ∨ IncludeRefusal e := by
  cases h with
  | parser hl hu hk hv => exact .inl ⟨n, hl, by omega⟩
  | value key v e' h he => subst he; exact .inl (fixPos_line _ _ _)
  | stop ctx ty nm e' hctx h hk he => subst he; exact .inl (fixPos_line _ _ _)
  | imp pkg h => exact .inr (.inl ⟨pkg, h⟩)
  | include_ h => exact .inr (.inr h)

/-- the kinds of error the property speaks about -/
def lineKind (k : Kind) : Prop := k = .syntax ∨ k = .conversion ∨ k = .replacement ∨ k = .substSyntax

theorem LineErr.has_line {σ} {c : PCtx σ} {u : Option Str} {n : Nat} {sF : PS σ} {e : Err}
    (h : LineErr c u n sF e) (hk : lineKind e.kind)
    (himp : ∀ pkg e', c.imp sF.ctx pkg = .error (.cfg e') → lineKind e'.kind → ∃ m : Int, e'.line = some m ∧ 0 ≤ m) :
    ∃ m : Int, e.line = some m ∧ 0 ≤ m := by
  rcases h.line_or_exception with h | ⟨pkg, h⟩ | ⟨h, _⟩
  · exact h
  · exact himp pkg e h hk
  · rw [h] at hk
    rcases hk with hk | hk | hk | hk <;> cases hk

/-- the position, given what the fix-up makes of a conversion error of `endSection` -/
theorem LineErr.position_of {σ} {c : PCtx σ} {u : Option Str} {n : Nat} {sF : PS σ} {e : Err}
    (h : LineErr c u n sF e)
    (hv : ∀ key v e', c.value sF.ctx key v { line := n, url := u } = .error (.cfg e') →
      NoPos e' ∨ (e'.line = some (n : Int) ∧ e'.url = u))
    (hs : ∀ ctx ty nm e', (ctx = sF.ctx ∨ c.start sF.ctx ty nm = .ok ctx) → c.stop ctx ty nm = .error (.cfg e') →
      e'.kind = .conversion → e = fixPos u n e' → NoPos e') :
    (e.line = some (n : Int) ∧ e.url = u) ∨ (∃ pkg, c.imp sF.ctx pkg = .error (.cfg e)) ∨ IncludeRefusal e := by
  cases h with
  | parser hl hu hk hv => exact .inl ⟨hl, hu⟩
  | value key v e' h he =>
    subst he
    rcases hv _ _ _ h with h | ⟨h1, h2⟩
    · exact .inl (fixPos_of_noPos _ _ _ h)
    · exact .inl (by rw [fixPos_same _ _ _ h1 h2]; exact ⟨h1, h2⟩)
  | stop ctx ty nm e' hctx h hk he =>
    have := hs _ _ _ _ hctx h hk he
    subst he
    exact .inl (fixPos_of_noPos _ _ _ this)
  | imp pkg h => exact .inr (.inl ⟨pkg, h⟩)
  | include_ h => exact .inr (.inr h)

/-- the exact position: when the context's own errors bring no position (or, for `addValue`, the one they were given), the
    error names the culprit line and its resource -/
theorem LineErr.position {σ} {c : PCtx σ} {u : Option Str} {n : Nat} {sF : PS σ} {e : Err}
    (h : LineErr c u n sF e)
    (hv : ∀ key v e', c.value sF.ctx key v { line := n, url := u } = .error (.cfg e') →
      NoPos e' ∨ (e'.line = some (n : Int) ∧ e'.url = u))
    (hs : ∀ ctx ty nm e', (ctx = sF.ctx ∨ c.start sF.ctx ty nm = .ok ctx) → c.stop ctx ty nm = .error (.cfg e') →
      e'.kind = .conversion → NoPos e') :
    (e.line = some (n : Int) ∧ e.url = u) ∨ (∃ pkg, c.imp sF.ctx pkg = .error (.cfg e)) ∨ IncludeRefusal e :=
  h.position_of hv fun ctx ty nm e' hctx h' hk _ => hs ctx ty nm e' hctx h' hk

theorem LineErr.position_nonconv {σ} {c : PCtx σ} {u : Option Str} {n : Nat} {sF : PS σ} {e : Err}
    (h : LineErr c u n sF e) (hk : e.kind ≠ .conversion)
    (hv : ∀ key v e', c.value sF.ctx key v { line := n, url := u } = .error (.cfg e') →
      NoPos e' ∨ (e'.line = some (n : Int) ∧ e'.url = u)) :
    (e.line = some (n : Int) ∧ e.url = u) ∨ (∃ pkg, c.imp sF.ctx pkg = .error (.cfg e)) ∨ IncludeRefusal e :=
  h.position_of hv fun _ _ _ _ _ _ hk' he => absurd (he ▸ hk' : e.kind = .conversion) hk

/-! ### `<type/>` is `<type>` followed by `</type>` on the same line -/

/-- the self-closing form does exactly what the opening line followed by the closing line does, results and errors alike,
    the closing line being given the number of the `<type/>` line -/
theorem openSection_empty_eq {σ} (c : PCtx σ) (url : Option Str) (line : Nat) (ty : Str) (nm : Option Str) (st : PS σ) :
    openSection c url line ty nm true st =
      (openSection c url line ty nm false st >>= closeSection c url line ty) := by
  rw [openSection_eq, openSection_eq]
  cases (c.start st.ctx ty nm).mapError (startErr url line) with
  | error f => rfl
  | ok a =>
    simp only [if_true, Bool.false_eq_true, if_false, ok_bind, closeSection_eq, bne_self_eq_false]

/-- the number given to a closing line only shows in the line number of the error, and only when the error brought none -/
theorem closeSection_line_shift {σ} (c : PCtx σ) (url : Option Str) (line line2 : Nat) (ty : Str) (st : PS σ) (e2 : Err)
    (h : closeSection c url line2 ty st = .error (.cfg e2)) :
    ∃ e1, closeSection c url line ty st = .error (.cfg e1) ∧ e1.kind = e2.kind ∧ e1.url = e2.url ∧ e1.tag = e2.tag ∧
      e1.value = e2.value ∧ (e1.line = e2.line ∨ (e1.line = some (line : Int) ∧ e2.line = some (line2 : Int))) := by
  unfold closeSection at h ⊢
  cases hst : st.stack with
  | nil =>
    rw [hst] at h
    cases h
    exact ⟨_, rfl, rfl, rfl, rfl, rfl, .inr ⟨rfl, rfl⟩⟩
  | cons p T =>
    obtain ⟨ot, name⟩ := p
    rw [hst] at h
    dsimp only at h ⊢
    by_cases hne : (ty != ot) = true
    · rw [if_pos hne] at h ⊢
      cases h
      exact ⟨_, rfl, rfl, rfl, rfl, rfl, .inr ⟨rfl, rfl⟩⟩
    · rw [if_neg hne] at h ⊢
      cases hcf : closeFixup url line2 (c.stop st.ctx ty name) with
      | ok s => rw [hcf] at h; cases h
      | error f =>
        rw [hcf] at h
        cases h
        obtain ⟨e', he', h2⟩ := closeFixup_error _ _ _ _ hcf
        rw [he']
        unfold closeFixup
        dsimp only
        rcases h2 with ⟨hk, rfl⟩ | ⟨hk, rfl⟩
        · rw [if_pos (by simp [hk])]
          refine ⟨_, rfl, rfl, rfl, rfl, rfl, ?_⟩
          cases hl : e'.line with
          | none => exact .inr ⟨rfl, by simp [fixPos, hl]⟩
          | some l =>
            by_cases hneg : l < 0
            · exact .inr ⟨by simp [hneg], by simp [fixPos, hl, hneg]⟩
            · exact .inl (by simp [fixPos, hl, hneg])
        · rw [if_neg (by simpa using hk)]
          exact ⟨_, rfl, rfl, rfl, rfl, rfl, .inr ⟨rfl, rfl⟩⟩

/-! ### the culprit line of a failing parse -/

/-- `Culprit env c fuel active url lines lineno st f u n sF`: reading `lines` (the rest of resource `url`, `lineno` lines of which
    have been read already) from parser state `st` fails with `f`, and the failure arises at line `n` of resource `u`, which the
    parser reads in state `sF`.  Walk down the lines: a line that succeeds is passed (`next`); a line that fails without
    entering another resource is the culprit (`here`); when an `%include` line has opened its resource the culprit is looked for
    in there, where lines are counted from 1 again (`inner`); and when the lines are exhausted with sections still open, the
    culprit is the end of the resource, numbered like the last line read (`eof`). -/
inductive Culprit {σ} (env : Env) (c : PCtx σ) :
    Nat → List Str → Option Str → List Str → Nat → PS σ → Fail → Option Str → Nat → PS σ → Prop
  | eof (fuel active url lineno st) (h : st.stack ≠ []) :
      Culprit env c fuel active url [] lineno st (synErr url lineno "unclosed sections") url lineno st
  | here (fuel active url l rest lineno st f)
      (hne : ∀ fuel' u sub, ¬ Enters fuel env c active url (lineno + 1) (strip l) st fuel' u sub)
      (h : stepLine fuel env c active url (lineno + 1) (strip l) st = .error f) :
      Culprit env c fuel active url (l :: rest) lineno st f url (lineno + 1) st
  | inner (fuel active url l rest lineno st fuel' u sub f u' n sF)
      (hen : Enters fuel env c active url (lineno + 1) (strip l) st fuel' u sub)
      (h : Culprit env c fuel' (u :: active) (some u) sub 0 (subState st) f u' n sF) :
      Culprit env c fuel active url (l :: rest) lineno st f u' n sF
  | next (fuel active url l rest lineno st st1 f u n sF)
      (h1 : stepLine fuel env c active url (lineno + 1) (strip l) st = .ok st1)
      (h : Culprit env c fuel active url rest (lineno + 1) st1 f u n sF) :
      Culprit env c fuel active url (l :: rest) lineno st f u n sF

/-- a culprit is the culprit of a parse that fails, with exactly that failure -/
theorem culprit_sound {σ} {env : Env} {c : PCtx σ} {fuel : Nat} {active : List Str} {url : Option Str} {lines : List Str}
    {lineno : Nat} {st : PS σ} {f : Fail} {u : Option Str} {n : Nat} {sF : PS σ}
    (h : Culprit env c fuel active url lines lineno st f u n sF) :
    parseLines fuel env c active url lines lineno st = .error f := by
  induction h with
  | eof fuel active url lineno st h => exact parse_nil_error h
  | here fuel active url l rest lineno st f hne h => exact parse_cons_error h
  | inner fuel active url l rest lineno st fuel' u sub f u' n sF hen h ih =>
    refine parse_cons_error ((stepLine_enters hen).trans ?_)
    rw [ih]
    rfl
  | next fuel active url l rest lineno st st1 f u n sF h1 h ih => exact parse_cons h1 ih

/-- every failing parse has a culprit -/
theorem culprit_complete {σ} (env : Env) (c : PCtx σ) :
    ∀ (fuel : Nat) (active : List Str) (url : Option Str) (lines : List Str) (lineno : Nat) (st : PS σ) (f : Fail),
      parseLines fuel env c active url lines lineno st = .error f →
      ∃ u n sF, Culprit env c fuel active url lines lineno st f u n sF := by
  intro fuel
  induction fuel using Nat.strongRecOn with
  | _ fuel ihf =>
    intro active url lines
    induction lines with
    | nil =>
      intro lineno st f h
      rw [parseLines] at h
      split at h
      · rename_i hne
        cases h
        exact ⟨_, _, _, .eof _ _ _ _ _ (by simpa using hne)⟩
      · cases h
    | cons l rest ihl =>
      intro lineno st f h
      rw [parseLines] at h
      cases h1 : stepLine fuel env c active url (lineno + 1) (strip l) st with
      | ok st1 =>
        rw [h1] at h
        obtain ⟨u, n, sF, hc⟩ := ihl _ _ _ h
        exact ⟨u, n, sF, .next _ _ _ _ _ _ _ _ _ _ _ _ h1 hc⟩
      | error g =>
        rw [h1] at h
        cases h
        by_cases hen : ∃ fuel' u sub, Enters fuel env c active url (lineno + 1) (strip l) st fuel' u sub
        · obtain ⟨fuel', u, sub, hen⟩ := hen
          rw [stepLine_enters hen] at h1
          cases hp : parseLines fuel' env c (u :: active) (some u) sub 0 (subState st) with
          | ok r => rw [hp] at h1; cases h1
          | error g' =>
            rw [hp] at h1
            cases h1
            have hlt : fuel' < fuel := by
              obtain ⟨_, _, _, _, _, _, _, _, hf⟩ := hen
              omega
            obtain ⟨u', n, sF, hc⟩ := ihf fuel' hlt _ _ _ _ _ _ hp
            exact ⟨u', n, sF, .inner _ _ _ _ _ _ _ _ _ _ _ _ _ _ hen hc⟩
        · exact ⟨_, _, _, .here _ _ _ _ _ _ _ _ (fun f' u sub he => hen ⟨f', u, sub, he⟩) h1⟩

/-- the failure, the culprit line and the state in which it is read are determined by the parse -/
theorem culprit_unique {σ} {env : Env} {c : PCtx σ} {fuel : Nat} {active : List Str} {url : Option Str} {lines : List Str}
    {lineno : Nat} {st : PS σ} {f : Fail} {u : Option Str} {n : Nat} {sF : PS σ}
    (h : Culprit env c fuel active url lines lineno st f u n sF) :
    ∀ {f' : Fail} {u' : Option Str} {n' : Nat} {sF' : PS σ},
      Culprit env c fuel active url lines lineno st f' u' n' sF' → f = f' ∧ u = u' ∧ n = n' ∧ sF = sF' := by
  induction h with
  | eof fuel active url lineno st h =>
    intro f' u' n' sF' h'
    cases h'
    exact ⟨rfl, rfl, rfl, rfl⟩
  | here fuel active url l rest lineno st f hne h =>
    intro f' u' n' sF' h'
    cases h' with
    | here _ _ _ _ _ _ _ _ _ h2 => rw [h] at h2; cases h2; exact ⟨rfl, rfl, rfl, rfl⟩
    | inner _ _ _ _ _ _ _ _ _ _ _ _ _ _ hen _ => exact absurd hen (hne _ _ _)
    | next _ _ _ _ _ _ _ _ _ _ _ _ h1 _ => rw [h] at h1; cases h1
  | inner fuel active url l rest lineno st fuel' u sub f u' n sF hen h ih =>
    intro f' u'' n' sF' h'
    cases h' with
    | here _ _ _ _ _ _ _ _ hne _ => exact absurd hen (hne _ _ _)
    | inner _ _ _ _ _ _ _ _ _ _ _ _ _ _ hen2 h2 =>
      obtain ⟨rfl, rfl, rfl⟩ := Enters.unique hen hen2
      exact ih h2
    | next _ _ _ _ _ _ _ _ _ _ _ _ h1 _ =>
      rw [stepLine_enters hen, culprit_sound h] at h1
      cases h1
  | next fuel active url l rest lineno st st1 f u n sF h1 h ih =>
    intro f' u' n' sF' h'
    cases h' with
    | here _ _ _ _ _ _ _ _ _ h2 => rw [h1] at h2; cases h2
    | inner _ _ _ _ _ _ _ _ _ _ _ _ _ _ hen h2 =>
      rw [stepLine_enters hen, culprit_sound h2] at h1
      cases h1
    | next _ _ _ _ _ _ _ _ _ _ _ _ h1' h2 =>
      rw [h1] at h1'
      cases h1'
      exact ih h2

/-- a configuration error that ends a parse has one of the origins listed in `LineErr`, at the culprit line -/
theorem culprit_lineErr {σ} {env : Env} {c : PCtx σ} {fuel : Nat} {active : List Str} {url : Option Str} {lines : List Str}
    {lineno : Nat} {st : PS σ} {e : Err} {u : Option Str} {n : Nat} {sF : PS σ}
    (h : Culprit env c fuel active url lines lineno st (.cfg e) u n sF) : LineErr c u n sF e := by
  generalize hf : Fail.cfg e = f at h
  induction h with
  | eof fuel active url lineno st h =>
    cases hf
    exact .parser rfl rfl (.inl rfl) rfl
  | here fuel active url l rest lineno st f hne h =>
    subst hf
    cases stepLine_fails h with
    | subst h' =>
      obtain ⟨_, he, h1, h2, h3, h4⟩ := replace_error _ _ _ _ _ _ h'
      cases he
      exact .parser h1 h2 (.inr h3) h4
    | own _ h' => exact h'.1
    | refusal _ h' => exact .include_ h'
    | ctx hf => exact absurd rfl (hf e)
    | sub hen => exact absurd hen (hne _ _ _)
  | inner fuel active url l rest lineno st fuel' u sub f u' n sF hen h ih => exact ih hf
  | next fuel active url l rest lineno st st1 f u n sF h1 h ih => exact ih hf

/-! ### the culprit in terms of line indices -/

/-- index (0-based, within `lines`) of the first line whose processing fails; `none` when every line is processed -/
def firstBad {σ} (fuel : Nat) (env : Env) (c : PCtx σ) (active : List Str) (url : Option Str) :
    List Str → Nat → PS σ → Option Nat
  | [], _, _ => none
  | l :: rest, n, st =>
    match stepLine fuel env c active url (n + 1) (strip l) st with
    | .ok st' => (firstBad fuel env c active url rest (n + 1) st').map (· + 1)
    | .error _ => some 0

/-- `firstBad = some k`: the first `k` lines are processed, line `k` (numbered `lineno + k + 1`) fails -/
theorem firstBad_some {σ} (fuel : Nat) (env : Env) (c : PCtx σ) (active : List Str) (url : Option Str) :
    ∀ (lines : List Str) (lineno : Nat) (st : PS σ) (k : Nat),
      firstBad fuel env c active url lines lineno st = some k ↔
        ∃ l st' f, lines[k]? = some l ∧ runLines fuel env c active url (lines.take k) lineno st = .ok st' ∧
          stepLine fuel env c active url (lineno + k + 1) (strip l) st' = .error f := by
  intro lines
  induction lines with
  | nil => intro lineno st k; simp [firstBad]
  | cons l rest ih =>
    intro lineno st k
    rw [firstBad]
    cases h1 : stepLine fuel env c active url (lineno + 1) (strip l) st with
    | error f =>
      dsimp only
      constructor
      · intro hk
        cases hk
        exact ⟨l, st, f, rfl, rfl, h1⟩
      · rintro ⟨l', st', f', hl, hrun, hstep⟩
        cases k with
        | zero => rfl
        | succ k =>
          rw [List.take_succ_cons, runLines, h1] at hrun
          cases hrun
    | ok st1 =>
      dsimp only
      cases k with
      | zero =>
        constructor
        · intro hk
          cases hfb : firstBad fuel env c active url rest (lineno + 1) st1 <;> rw [hfb] at hk <;> cases hk
        · rintro ⟨l', st', f', hl, hrun, hstep⟩
          simp only [List.getElem?_cons_zero, Option.some.injEq] at hl
          subst hl
          rw [List.take_zero, runLines] at hrun
          cases hrun
          rw [h1] at hstep
          cases hstep
      | succ k =>
        have hk : ((firstBad fuel env c active url rest (lineno + 1) st1).map (· + 1) = some (k + 1)) ↔
            firstBad fuel env c active url rest (lineno + 1) st1 = some k := by
          cases firstBad fuel env c active url rest (lineno + 1) st1 <;> simp
        rw [hk, ih]
        have harith : lineno + 1 + k + 1 = lineno + (k + 1) + 1 := by omega
        simp only [List.getElem?_cons_succ, List.take_succ_cons, runLines, h1, ok_bind, harith]

/-- `firstBad = none`: all lines are processed -/
theorem firstBad_none {σ} (fuel : Nat) (env : Env) (c : PCtx σ) (active : List Str) (url : Option Str) :
    ∀ (lines : List Str) (lineno : Nat) (st : PS σ),
      firstBad fuel env c active url lines lineno st = none ↔
        ∃ st', runLines fuel env c active url lines lineno st = .ok st' := by
  intro lines
  induction lines with
  | nil => intro lineno st; simp [firstBad, runLines]
  | cons l rest ih =>
    intro lineno st
    rw [firstBad, runLines]
    cases h1 : stepLine fuel env c active url (lineno + 1) (strip l) st with
    | error f =>
      dsimp only
      constructor
      · intro h; cases h
      · rintro ⟨st', h⟩; cases h
    | ok st1 =>
      dsimp only
      rw [ok_bind, ← ih]
      cases firstBad fuel env c active url rest (lineno + 1) st1 <;> simp

/-- all lines are processed: the culprit is the end of the resource -/
theorem culprit_of_firstBad_none {σ} {env : Env} {c : PCtx σ} {fuel : Nat} {active : List Str} {url : Option Str}
    {lines : List Str} {lineno : Nat} {st : PS σ} {f : Fail} {u : Option Str} {n : Nat} {sF : PS σ}
    (h : Culprit env c fuel active url lines lineno st f u n sF)
    (hfb : firstBad fuel env c active url lines lineno st = none) :
    f = synErr url (lineno + lines.length) "unclosed sections" ∧ u = url ∧ n = lineno + lines.length ∧
      runLines fuel env c active url lines lineno st = .ok sF := by
  induction h with
  | eof fuel active url lineno st h => exact ⟨rfl, rfl, rfl, rfl⟩
  | here fuel active url l rest lineno st f hne h => rw [firstBad, h] at hfb; cases hfb
  | inner fuel active url l rest lineno st fuel' u sub f u' n sF hen h ih =>
    rw [firstBad, stepLine_enters hen, culprit_sound h] at hfb
    cases hfb
  | next fuel active url l rest lineno st st1 f u n sF h1 h ih =>
    rw [firstBad, h1] at hfb
    dsimp only at hfb
    have hfb' : firstBad fuel env c active url rest (lineno + 1) st1 = none := by
      cases hx : firstBad fuel env c active url rest (lineno + 1) st1 with
      | none => rfl
      | some k => rw [hx] at hfb; cases hfb
    obtain ⟨r1, r2, r3, r4⟩ := ih hfb'
    have harith : lineno + 1 + rest.length = lineno + (l :: rest).length := by simp only [List.length_cons]; omega
    rw [harith] at r1 r3
    refine ⟨r1, r2, r3, ?_⟩
    rw [runLines, h1]
    exact r4

/-- line `k` is the first that fails: either it is the culprit, or it is an `%include` that has opened its resource and the
    culprit is the culprit of that resource -/
theorem culprit_of_firstBad_some {σ} {env : Env} {c : PCtx σ} {fuel : Nat} {active : List Str} {url : Option Str}
    {lines : List Str} {lineno : Nat} {st : PS σ} {f : Fail} {u : Option Str} {n : Nat} {sF : PS σ}
    (h : Culprit env c fuel active url lines lineno st f u n sF) {k : Nat}
    (hfb : firstBad fuel env c active url lines lineno st = some k) :
    ∃ l st', lines[k]? = some l ∧ runLines fuel env c active url (lines.take k) lineno st = .ok st' ∧
      ((u = url ∧ n = lineno + k + 1 ∧ sF = st' ∧
          (∀ fuel' u1 sub, ¬ Enters fuel env c active url (lineno + k + 1) (strip l) st' fuel' u1 sub) ∧
          stepLine fuel env c active url (lineno + k + 1) (strip l) st' = .error f) ∨
       (∃ fuel' u1 sub, Enters fuel env c active url (lineno + k + 1) (strip l) st' fuel' u1 sub ∧
          Culprit env c fuel' (u1 :: active) (some u1) sub 0 (subState st') f u n sF)) := by
  induction h generalizing k with
  | eof fuel active url lineno st h => simp [firstBad] at hfb
  | here fuel active url l rest lineno st f hne h =>
    rw [firstBad, h] at hfb
    cases hfb
    exact ⟨l, st, rfl, rfl, .inl ⟨rfl, rfl, rfl, hne, h⟩⟩
  | inner fuel active url l rest lineno st fuel' u sub f u' n sF hen h ih =>
    rw [firstBad, stepLine_enters hen, culprit_sound h] at hfb
    cases hfb
    exact ⟨l, st, rfl, rfl, .inr ⟨fuel', u, sub, hen, h⟩⟩
  | next fuel active url l rest lineno st st1 f u n sF h1 h ih =>
    rw [firstBad, h1] at hfb
    dsimp only at hfb
    cases hx : firstBad fuel env c active url rest (lineno + 1) st1 with
    | none => rw [hx] at hfb; cases hfb
    | some k' =>
      rw [hx] at hfb
      cases hfb
      obtain ⟨l', st', hl, hrun, hcase⟩ := ih hx
      have harith : lineno + 1 + k' + 1 = lineno + (k' + 1) + 1 := by omega
      rw [harith] at hcase
      refine ⟨l', st', by simpa using hl, ?_, hcase⟩
      rw [List.take_succ_cons, runLines, h1]
      exact hrun

/-! ### where the culprit lies -/

/-- `Reach env url v`: resource `v` is `url` itself or is reached from it through `%include` arguments that resolve to
    readable resources -/
inductive Reach (env : Env) : Option Str → Option Str → Prop
  | refl (u : Option Str) : Reach env u u
  | step (url : Option Str) (a u : Str) (sub : List Str) (v : Option Str)
      (h1 : env.resolve url a = .url u) (h2 : env.res u = some sub) (h : Reach env (some u) v) : Reach env url v

/-- the culprit is a line (or the end) of the resource being read, or of a resource reached from it by `%include`, and its
    number lies within that resource -/
theorem culprit_where {σ} {env : Env} {c : PCtx σ} {fuel : Nat} {active : List Str} {url : Option Str} {lines : List Str}
    {lineno : Nat} {st : PS σ} {f : Fail} {u : Option Str} {n : Nat} {sF : PS σ}
    (h : Culprit env c fuel active url lines lineno st f u n sF) :
    Reach env url u ∧
      ((u = url ∧ lineno ≤ n ∧ n ≤ lineno + lines.length) ∨
       (∃ u' L, u = some u' ∧ env.res u' = some L ∧ n ≤ L.length)) := by
  induction h with
  | eof fuel active url lineno st h => exact ⟨.refl _, .inl ⟨rfl, Nat.le_refl _, by simp⟩⟩
  | here fuel active url l rest lineno st f hne h =>
    exact ⟨.refl _, .inl ⟨rfl, by omega, by simp only [List.length_cons]; omega⟩⟩
  | inner fuel active url l rest lineno st fuel' u sub f u' n sF hen h ih =>
    obtain ⟨arg, a, _, _, _, hres, hsub, _, _⟩ := hen
    obtain ⟨hr, hw⟩ := ih
    refine ⟨.step _ a u sub _ hres hsub hr, .inr ?_⟩
    rcases hw with ⟨rfl, _, h2⟩ | hw
    · exact ⟨u, sub, rfl, hsub, by simpa using h2⟩
    · exact hw
  | next fuel active url l rest lineno st st1 f u n sF h1 h ih =>
    obtain ⟨hr, hw⟩ := ih
    refine ⟨hr, ?_⟩
    rcases hw with ⟨rfl, h1, h2⟩ | hw
    · exact .inl ⟨rfl, by omega, by simp only [List.length_cons]; omega⟩
    · exact .inr hw

/-- **a configuration error that ends a parse**: the line at which the parse fails, where that line lies, and the origin
    of the error there -/
theorem parse_error_origin {σ} {env : Env} {c : PCtx σ} {fuel : Nat} {active : List Str} {url : Option Str} {lines : List Str}
    {lineno : Nat} {st : PS σ} {e : Err} (h : parseLines fuel env c active url lines lineno st = .error (.cfg e)) :
    ∃ u n sF, Culprit env c fuel active url lines lineno st (.cfg e) u n sF ∧ Reach env url u ∧ LineErr c u n sF e := by
  obtain ⟨u, n, sF, hc⟩ := culprit_complete env c fuel active url lines lineno st _ h
  exact ⟨u, n, sF, hc, (culprit_where hc).1, culprit_lineErr hc⟩

/-! ### positions recorded with values -/

/-- `Handed env c fuel active url lines lineno st key v p`: while reading `lines` from state `st` (as far as the parse gets),
    the parser reaches a key line and calls `addValue(key, v, p)`: `v` is the text after substitution, `p` the number of that
    line and the URL of the resource that contains it.  (`hv` spells the value as `handle_key_value` computes it: an empty
    value is not passed through `replace`.) -/
inductive Handed {σ} (env : Env) (c : PCtx σ) :
    Nat → List Str → Option Str → List Str → Nat → PS σ → Str → Str → Pos → Prop
  | here (fuel active url l rest lineno st key raw v)
      (hs : lineShape (strip l) = .kv key raw)
      (hv : (if raw == [] then pure [] else replace env st.defs url (lineno + 1) raw) = .ok v) :
      Handed env c fuel active url (l :: rest) lineno st key v { line := ((lineno + 1 : Nat) : Int), url := url }
  | inner (fuel active url l rest lineno st fuel' u sub key v p)
      (hen : Enters fuel env c active url (lineno + 1) (strip l) st fuel' u sub)
      (h : Handed env c fuel' (u :: active) (some u) sub 0 (subState st) key v p) :
      Handed env c fuel active url (l :: rest) lineno st key v p
  | next (fuel active url l rest lineno st st1 key v p)
      (h1 : stepLine fuel env c active url (lineno + 1) (strip l) st = .ok st1)
      (h : Handed env c fuel active url rest (lineno + 1) st1 key v p) :
      Handed env c fuel active url (l :: rest) lineno st key v p

/-- `Rec s v p`: the context state `s` holds text `v` with position `p`.  The context only ever adds what `addValue` gives it. -/
structure Records {σ} (c : PCtx σ) (Rec : σ → Str → Pos → Prop) : Prop where
  start : ∀ s ty nm s' v p, c.start s ty nm = .ok s' → Rec s' v p → Rec s v p
  stop : ∀ s ty nm s' v p, c.stop s ty nm = .ok s' → Rec s' v p → Rec s v p
  imp : ∀ s pkg s' v p, c.imp s pkg = .ok s' → Rec s' v p → Rec s v p
  value : ∀ s k w q s' v p, c.value s k w q = .ok s' → Rec s' v p → Rec s v p ∨ (v = w ∧ p = q)

theorem stepLine_rec {σ} {c : PCtx σ} {Rec : σ → Str → Pos → Prop} (hR : Records c Rec) (env : Env) (fuel : Nat)
    (ih : ∀ f, fuel = f + 1 → ∀ (active : List Str) (url : Option Str) (lines : List Str) (n : Nat) (st st' : PS σ) v p,
      parseLines f env c active url lines n st = .ok st' → Rec st'.ctx v p →
      Rec st.ctx v p ∨ ∃ key, Handed env c f active url lines n st key v p)
    (active : List Str) (url : Option Str) (lineno : Nat) (l : Str) (rest : List Str) (st st1 : PS σ) (v : Str) (p : Pos)
    (h : stepLine fuel env c active url (lineno + 1) (strip l) st = .ok st1) (hr : Rec st1.ctx v p) :
    Rec st.ctx v p ∨ ∃ key, Handed env c fuel active url (l :: rest) lineno st key v p := by
  cases stepLine_ok h with
  | skip => exact .inl hr
  | close _ _ h1 => exact .inl (hR.stop _ _ _ _ _ _ h1 hr)
  | open_ _ h1 => exact .inl (hR.start _ _ _ _ _ _ h1 hr)
  | empty _ h1 h2 => exact .inl (hR.start _ _ _ _ _ _ h1 (hR.stop _ _ _ _ _ _ h2 hr))
  | kv hs hv h1 =>
    rcases hR.value _ _ _ _ _ _ _ h1 hr with h2 | ⟨rfl, rfl⟩
    · exact .inl h2
    · refine .inr ⟨_, .here _ _ _ _ _ _ _ _ _ _ hs ?_⟩
      -- the parser's special case for an empty value: `replace` leaves it alone
      split
      · rename_i he
        rw [eq_of_beq he, replace_nodollar _ _ _ _ _ List.not_mem_nil] at hv
        exact hv
      · exact hv
  | define => exact .inl hr
  | import_ _ _ h1 => exact .inl (hR.imp _ _ _ _ _ h1 hr)
  | include_ hs hrep hci hres hsub hact hf hp =>
    rcases ih _ hf _ _ _ _ _ _ _ _ hp hr with h2 | ⟨key, h2⟩
    · exact .inl h2
    · exact .inr ⟨key, .inner _ _ _ _ _ _ _ _ _ _ _ _ _ ⟨_, _, hs, hrep, hci, hres, hsub, not_active hact, hf⟩ h2⟩

/-- what the context holds after a successful parse was there before or has been handed over by the parse -/
theorem parse_rec {σ} {c : PCtx σ} {Rec : σ → Str → Pos → Prop} (hR : Records c Rec) (env : Env) :
    ∀ (fuel : Nat) (active : List Str) (url : Option Str) (lines : List Str) (n : Nat) (st st' : PS σ) (v : Str) (p : Pos),
      parseLines fuel env c active url lines n st = .ok st' → Rec st'.ctx v p →
      Rec st.ctx v p ∨ ∃ key, Handed env c fuel active url lines n st key v p := by
  intro fuel
  induction fuel using Nat.strongRecOn with
  | _ fuel ihf =>
    have ih : ∀ f, fuel = f + 1 → ∀ (active : List Str) (url : Option Str) (lines : List Str) (n : Nat) (st st' : PS σ) v p,
        parseLines f env c active url lines n st = .ok st' → Rec st'.ctx v p →
        Rec st.ctx v p ∨ ∃ key, Handed env c f active url lines n st key v p :=
      fun f hf => ihf f (by omega)
    intro active url lines
    induction lines with
    | nil =>
      intro n st st' v p h hr
      rw [parseLines] at h
      split at h
      · cases h
      · cases h; exact .inl hr
    | cons l rest ihl =>
      intro n st st' v p h hr
      rw [parseLines] at h
      obtain ⟨s1, h1, h2⟩ := bind_ok_inv h
      rcases ihl _ _ _ _ _ h2 hr with h3 | ⟨key, h3⟩
      · exact stepLine_rec hR env fuel ih _ _ _ _ _ _ _ _ _ h1 h3
      · exact .inr ⟨key, .next _ _ _ _ _ _ _ _ _ _ _ h1 h3⟩

/-- what the context holds when the culprit line is read was there before or has been handed over earlier in the parse -/
theorem culprit_rec {σ} {c : PCtx σ} {Rec : σ → Str → Pos → Prop} (hR : Records c Rec) {env : Env} {fuel : Nat}
    {active : List Str} {url : Option Str} {lines : List Str} {lineno : Nat} {st : PS σ} {f : Fail} {u : Option Str} {n : Nat}
    {sF : PS σ} (h : Culprit env c fuel active url lines lineno st f u n sF) (v : Str) (p : Pos) (hr : Rec sF.ctx v p) :
    Rec st.ctx v p ∨ ∃ key, Handed env c fuel active url lines lineno st key v p := by
  induction h with
  | eof fuel active url lineno st h => exact .inl hr
  | here fuel active url l rest lineno st f hne h => exact .inl hr
  | inner fuel active url l rest lineno st fuel' u sub f u' n sF hen h ih =>
    rcases ih hr with h2 | ⟨key, h2⟩
    · exact .inl h2
    · exact .inr ⟨key, .inner _ _ _ _ _ _ _ _ _ _ _ _ _ hen h2⟩
  | next fuel active url l rest lineno st st1 f u n sF h1 h ih =>
    rcases ih hr with h2 | ⟨key, h2⟩
    · exact stepLine_rec hR env fuel (fun f _ => parse_rec hR env f) _ _ _ _ _ _ _ _ _ h1 h2
    · exact .inr ⟨key, .next _ _ _ _ _ _ _ _ _ _ _ h1 h2⟩

/-- a handed-over position is a line of the resource being read or of a resource reached from it by `%include`: its number is
    at least 1 and lies within that resource -/
theorem Handed.where_ {σ} {env : Env} {c : PCtx σ} {fuel : Nat} {active : List Str} {url : Option Str} {lines : List Str}
    {lineno : Nat} {st : PS σ} {key v : Str} {p : Pos}
    (h : Handed env c fuel active url lines lineno st key v p) :
    Reach env url p.url ∧ ∃ m : Nat, p.line = (m : Int) ∧
      ((p.url = url ∧ lineno < m ∧ m ≤ lineno + lines.length) ∨
       (∃ u' L, p.url = some u' ∧ env.res u' = some L ∧ 1 ≤ m ∧ m ≤ L.length)) := by
  induction h with
  | here fuel active url l rest lineno st key raw v hs hv =>
    exact ⟨.refl _, lineno + 1, rfl, .inl ⟨rfl, by omega, by simp only [List.length_cons]; omega⟩⟩
  | inner fuel active url l rest lineno st fuel' u sub key v p hen h ih =>
    obtain ⟨arg, a, _, _, _, hres, hsub, _, _⟩ := hen
    obtain ⟨hr, m, hm, hw⟩ := ih
    refine ⟨.step _ a u sub _ hres hsub hr, m, hm, .inr ?_⟩
    rcases hw with ⟨hu, h1, h2⟩ | hw
    · exact ⟨u, sub, hu, hsub, by omega, by simpa using h2⟩
    · exact hw
  | next fuel active url l rest lineno st st1 key v p h1 h ih =>
    obtain ⟨hr, m, hm, hw⟩ := ih
    refine ⟨hr, m, hm, ?_⟩
    rcases hw with ⟨hu, h1, h2⟩ | hw
    · exact .inl ⟨hu, by omega, by simp only [List.length_cons]; omega⟩
    · exact .inr hw

end ZCV.Cfg
