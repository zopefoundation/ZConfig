import ZCV.Lemmas.LineView
import ZCV.Lemmas.Regex
/-!
C07, regex part: the argument that `_keyvalue_rx` hands to `%define` starts with a non-blank character whenever it is
there at all (for EVERY way the live pattern can match, hence for the first one), so `rest.split(None, 1)` in
`handle_define` is never empty and `parts[0]` cannot raise IndexError.  No assumption on the line (it may contain
newlines).
-/
namespace ZCV.Rx

/-- every result keeps the captures -/
def Pres (r : RE) : Prop :=
  ∀ w f (st st' : St), st' ∈ m w r f st → st'.2 = st.2

theorem pres_cls (k : Cls) : Pres (.cls k) := by
  intro w f st st' h
  obtain ⟨s, cs⟩ := st
  cases s with
  | nil => simp [m] at h
  | cons c t =>
    simp only [m] at h
    split at h
    · simp only [List.mem_singleton] at h
      subst h
      rfl
    · cases h

theorem pres_seq {a b : RE} (ha : Pres a) (hb : Pres b) : Pres (.seq a b) := by
  intro w f st st' h
  rw [m] at h
  obtain ⟨s1, h1, h2⟩ := List.mem_flatMap.mp h
  exact (hb w f s1 st' h2).trans (ha w f st s1 h1)

theorem pres_star {a : RE} (ha : Pres a) : Pres (.star a) := by
  intro w f
  induction f with
  | zero =>
    intro st st' h
    rw [m] at h
    simp only [List.mem_singleton] at h
    subst h
    rfl
  | succ f ih =>
    intro st st' h
    rw [m] at h
    rcases List.mem_append.mp h with h | h
    · obtain ⟨s1, h1, h2⟩ := List.mem_flatMap.mp h
      exact (ih s1 st' h2).trans (ha w (f + 1) st s1 (List.mem_filter.mp h1).1)
    · simp only [List.mem_singleton] at h
      subst h
      rfl

theorem mem_eol (w f : Nat) (st st' : St) (h : st' ∈ m w .eol f st) : st' = st := by
  rw [m] at h
  split at h
  · simpa using h
  · cases h

end ZCV.Rx

namespace ZCV.Cfg
open ZCV ZCV.Rx

/-- in every match of the live `_keyvalue_rx`, the `value` group is absent or starts with a non-blank character -/
theorem keyvalueRx_value_nonblank (w f : Nat) (s : Str) (st : St)
    (h : st ∈ m w Gen.keyvalueRx f (s, [])) (v : Str) (hv : group st.2 Gen.keyvalueRx_value = some v) :
    ∃ c t, v = c :: t ∧ pySpace c = false := by
  unfold Gen.keyvalueRx at h
  rw [m] at h
  obtain ⟨s1, h1, h⟩ := List.mem_flatMap.mp h
  -- the key group
  rw [m] at h1
  obtain ⟨s0, h0, rfl⟩ := List.mem_map.mp h1
  have p0 := pres_seq (pres_cls _) (pres_star (pres_cls _)) w f _ s0 h0
  rw [m] at h
  obtain ⟨s2, h2, h⟩ := List.mem_flatMap.mp h
  have p2 := pres_star (pres_cls _) w f _ s2 h2
  rw [m] at h
  obtain ⟨s3, h3, h⟩ := List.mem_flatMap.mp h
  have e4 := mem_eol w f s3 st h
  subst e4
  rw [m] at h3
  have hs2 : s2.2 = [(1, s.take (s.length - s0.1.length))] := by
    rw [p2]; simp only; rw [p0]
  rcases List.mem_append.mp h3 with h3 | h3
  · rw [m] at h3
    obtain ⟨s5, h5, rfl⟩ := List.mem_map.mp h3
    rw [m] at h5
    obtain ⟨s6, h6, h7⟩ := List.mem_flatMap.mp h5
    have p7 := m_length_le w (.star .any) f s6 s5 h7
    obtain ⟨r2, c2⟩ := s2
    cases r2 with
    | nil => simp [m] at h6
    | cons c t =>
      simp only [m] at h6
      split at h6
      · rename_i hc
        simp only [List.mem_singleton] at h6
        subst h6
        simp only at p7
        simp only [group, Gen.keyvalueRx_value, List.find?_cons, beq_self_eq_true, Option.map_some,
          Option.some.injEq] at hv
        subst hv
        refine ⟨c, t.take (t.length - s5.1.length), ?_, ?_⟩
        · have : (c :: t).length - s5.1.length = (t.length - s5.1.length) + 1 := by
            simp only [List.length_cons]; omega
          rw [this, List.take_succ_cons]
        · simpa [Cls.test, Item.test] using hc
      · cases h6
  · simp only [List.mem_singleton] at h3
    subst h3
    rw [hs2] at hv
    simp [group, Gen.keyvalueRx_value] at hv

/-- `%define`'s argument always has a first word: `rest.split(None, 1)` is not empty -/
theorem lineShape_define_arg (l arg : Str) (h : lineShape l = .define arg) : splitWS1 arg ≠ [] := by
  have v := lineShape_view l
  rw [h] at v
  cases v with
  | define arg? _ hkv hne =>
    unfold kvMatch pyMatch at hkv
    cases hm : (m (l.drop 1).length Gen.keyvalueRx (l.drop 1).length (l.drop 1, [])).head? with
    | none => rw [hm] at hkv; cases hkv
    | some st =>
      rw [hm] at hkv
      simp only [Option.map_some, Option.some.injEq, Prod.mk.injEq] at hkv
      cases ha : arg? with
      | none => rw [ha] at hne; exact absurd rfl hne
      | some v =>
        obtain ⟨c, t, rfl, hc⟩ := keyvalueRx_value_nonblank _ _ _ st (List.mem_of_head? hm) v (by rw [hkv.2, ha])
        simp only [Option.getD_some]
        unfold splitWS1
        simp only [lstrip, List.dropWhile_cons, hc]
        simp only [Bool.false_eq_true, if_false, beq_iff_eq, reduceCtorEq]
        split <;> simp

end ZCV.Cfg
