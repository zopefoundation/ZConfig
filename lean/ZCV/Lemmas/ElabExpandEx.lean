import ZCV.Lemmas.ElabExpandGlobal
/-!
C11, `extends` = written-out expansion: closed instances.
* the hypotheses of `C11_extends_partial` hold of a document with a chain of three section types, whose written-out
  form is computed;
* the hypothesis "a type with `extends` has no `keytype` of its own" cannot be dropped
  (entry `C11-inherited-fixed-name` of `/verif/known_findings.json`): `inheritedFixedName`.
-/
namespace ZCV.Elab
open ZCV ZCV.Cfg

namespace ExpandExample

def dt3 : Attrs := [("valuetype".toList, "a.v".toList), ("datatype".toList, "a.d".toList)]
def rootAttrs : Attrs := ("keytype".toList, "k.id".toList) :: dt3

def keyK : Node :=
  .elem "key".toList [("name".toList, "K".toList), ("attribute".toList, "x".toList), ("datatype".toList, "a.d".toList)] []
def keyL : Node :=
  .elem "key".toList [("name".toList, "L".toList), ("attribute".toList, "y".toList), ("datatype".toList, "a.d".toList)] []

/-- three section types in a chain; only the first, `a`, states a key type -/
def chain : Node :=
  .elem "schema".toList rootAttrs
    [.elem "sectiontype".toList (("name".toList, "a".toList) :: ("keytype".toList, "k.low".toList) :: dt3) [keyK],
     .elem "sectiontype".toList [("name".toList, "b".toList), ("extends".toList, "A".toList)] [keyL],
     .elem "sectiontype".toList [("name".toList, "c".toList), ("extends".toList, "b".toList), ("datatype".toList, "c.d".toList)] []]

theorem chain_expandable : expandableDoc chain = true := by decide +kernel

example : expandableDoc chain = true := chain_expandable

/-- its written-out form -/
def chainWritten : Node :=
  .elem "schema".toList rootAttrs
    [.elem "sectiontype".toList (("name".toList, "a".toList) :: ("keytype".toList, "k.low".toList) :: dt3) [keyK],
     .elem "sectiontype".toList [("name".toList, "b".toList), ("keytype".toList, "k.low".toList), ("datatype".toList, "a.d".toList)]
       [keyK, keyL],
     .elem "sectiontype".toList [("name".toList, "c".toList), ("datatype".toList, "c.d".toList), ("keytype".toList, "k.low".toList)]
       [keyK, keyL]]

theorem chain_written : expandExtends chain = chainWritten := by rfl

example : expandExtends chain = chainWritten := chain_written

/-- so the theorem applies to it, in every environment -/
example (env : Env) (fuel : Nat) : elabSchema env fuel chain = elabSchema env fuel chainWritten :=
  (C11_extends_partial env fuel chain chain_expandable).trans (congrArg (elabSchema env fuel) chain_written)

/-! #### the finding C11-inherited-fixed-name -/

/-- an environment with two key types: `k.low` lower-cases names, every other one leaves them alone -/
def envC : Env :=
  { conv := { stockConv with key := fun kt s => if kt == "k.low".toList then .ok (lower s) else .ok s },
    dotted := fun n => .found n, comps := fun _ _ => .noFile, bases := fun _ => none }

/-- `b` extends `a` but has its own key type -/
def overriding : Node :=
  .elem "schema".toList rootAttrs
    [.elem "sectiontype".toList (("name".toList, "a".toList) :: ("keytype".toList, "k.low".toList) :: dt3) [keyK],
     .elem "sectiontype".toList (("name".toList, "b".toList) :: ("extends".toList, "a".toList) :: rootAttrs) []]

/-- the names of the keys of a section type of a loaded schema -/
def keyNames (r : EM Cfg.Schema) (ty : String) : Option (List Str) :=
  match r with
  | .ok S =>
    match S.types.find? (·.1 == ty.toList) with
    | some (_, .concrete t) => some (t.children.map fun c => c.2.name)
    | _ => none
  | .error _ => none

/-- In the schema as loaded, `b` has the key `k` (copied from `a`, where the name was normalised under `k.low`); in the
    written-out schema, re-reading `<key name="K">` under `b`'s own key type gives `K`.  (And the chain of the first
    example is accepted in this environment.)
    One evaluation for the three documents: the visitor is unfolded by its equations for `<sectiontype>` and `<key>`, so
    that no branch that is not taken is looked at; the handlers are unfolded down to the regular-expression conversions
    (the matcher is defined by well-founded recursion and does not reduce in the kernel), and these are replaced, as
    functions, by their structural specifications; the kernel does the rest. -/
theorem loaded_keys :
    keyNames (elabSchema envC 0 overriding) "b" = some ["k".toList] ∧
    keyNames (elabSchema envC 0 (expandExtends overriding)) "b" = some ["K".toList] ∧
    keyNames (elabSchema envC 0 chain) "c" = some ["k".toList, "l".toList] := by
  have : expandExtends overriding = .elem "schema".toList rootAttrs
      [.elem "sectiontype".toList (("name".toList, "a".toList) :: ("keytype".toList, "k.low".toList) :: dt3) [keyK],
       .elem "sectiontype".toList (("name".toList, "b".toList) :: rootAttrs) [keyK]] := rfl
  rw [this]
  unfold overriding chain keyK keyL
  simp only [elabSchema, elabES, visitElem_root_eq (d := .schema none) (t := "schema".toList) rfl,
    visitElem_sectiontype nesting_schema_sectiontype, visitElem_key nesting_sectiontype_key, visitChildren_nil,
    visitChildren_elem]
  dsimp only [startSectiontype, startKey, getKeyInfo, getNameInfo, getSectTypeinfo, getDatatype]
  rw [funext basicKeyE_eq, funext identifierE_eq, funext fun env => funext (regGet_eq env)]
  decide +kernel

/-- **C11-inherited-fixed-name**: without the hypothesis "a type with `extends` has no `keytype` of its own",
    `C11_extends_partial` fails — both documents are accepted, with different schemas -/
theorem inheritedFixedName : elabSchema envC 0 overriding ≠ elabSchema envC 0 (expandExtends overriding) := by
  intro h
  have h1 := loaded_keys.1
  rw [h, loaded_keys.2.1] at h1
  exact absurd h1 (by decide)

/-- (the chain of the first example is accepted in this environment, so the theorem is not vacuous there) -/
example : (keyNames (elabSchema envC 0 chain) "c") = some ["k".toList, "l".toList] := loaded_keys.2.2

end ExpandExample
end ZCV.Elab
