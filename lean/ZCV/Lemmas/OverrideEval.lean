import ZCV.Lemmas.LoadEval
import ZCV.Model.TreeLoad
/-!
The tree-driven loader with a command-line bag, seen from the top matcher only: `evalItemBS` does to one matcher, whatever
its bag, what `runItem` does to the matcher on top of the stack, and the rest of the `LS` state is a frame (`runItem_evalBS`).
The bags consult a schema `S` of their own; `evalItemB` is the case `S = s`, and without a bag the evaluation is `evalItem` of
C01 whatever `S` is (`evalItemBS_eval`).  The frame lemma needs the top matcher to have no bag or the bag schema of the state
to be `S`: only a bag consults it.  `hItemBS` lists the handler entries appended on the way; `evalH` / `evalsH` pair the
matcher reached with these entries, and proofs use them through their equations (`evalsH_cons`, `evalsH_append`, `evalH_kv`,
`evalH_sect`).  `load_ov_eq` is `load` in three parts (the specifiers into `bagOf`, the lines from `stOv`, then `loadFin`);
`loadTreeOv` is `loadTree` started with the bag of the overrides, as `load` starts.
-/
namespace ZCV.Conf
open ZCV ZCV.Cfg

def withBag (m : Matcher) (b : Option Bag) : Matcher := { m with bag := b }

mutual
def evalItemB (conv : Conv) (s : Schema) (m : Matcher) : Item → M Matcher
  | .kv k v p => addValue conv m k v p
  | .sect ty nm items =>
    match sectCheck s m.ty ty nm with
    | .error e => .error e
    | .ok t =>
      match bagStep conv s m (t.name.getD []) nm with
      | .error e => .error e
      | .ok (m1, cb) =>
        match evalItemsB conv s (newMatcher t nm cb) items with
        | .error e => .error e
        | .ok child =>
          match finishMatcher conv s child with
          | .error e => .error e
          | .ok (v, _) => addSection s m1 ty nm v
def evalItemsB (conv : Conv) (s : Schema) (m : Matcher) : List Item → M Matcher
  | [] => .ok m
  | i :: r =>
    match evalItemB conv s m i with
    | .error e => .error e
    | .ok m' => evalItemsB conv s m' r
end

theorem evalItemsB_nil (conv : Conv) (s : Schema) (m : Matcher) : evalItemsB conv s m [] = .ok m := by
  rw [evalItemsB]

theorem evalItemsB_cons (conv : Conv) (s : Schema) (m : Matcher) (i : Item) (r : List Item) :
    evalItemsB conv s m (i :: r) = evalItemB conv s m i >>= fun m' => evalItemsB conv s m' r := by
  rw [evalItemsB]
  cases evalItemB conv s m i <;> rfl

theorem evalItemsB_append (conv : Conv) (s : Schema) : ∀ (l r : List Item) (m : Matcher),
    evalItemsB conv s m (l ++ r) = evalItemsB conv s m l >>= fun m' => evalItemsB conv s m' r
  | [], r, m => by rw [List.nil_append, evalItemsB_nil]; rfl
  | i :: l, r, m => by
    rw [List.cons_append, evalItemsB_cons, evalItemsB_cons]
    cases evalItemB conv s m i with
    | error e => rfl
    | ok m' => exact evalItemsB_append conv s l r m'

/-! ### the same evaluation when the option bags consult a schema `S` of their own

In the code every `OptionBag` keeps the schema the load STARTED with (`ExtendedConfigLoader.cook`) and looks the type of the
section it descends into up THERE; after a `%import` the loader's schema is a derived, larger one.  With `S = s` (no
`%import` so far) `evalItemBS conv S s` is `evalItemB conv s`. -/

mutual
def evalItemBS (conv : Conv) (S s : Schema) (m : Matcher) : Item → M Matcher
  | .kv k v p => addValue conv m k v p
  | .sect ty nm items =>
    match sectCheck s m.ty ty nm with
    | .error e => .error e
    | .ok t =>
      match bagStep conv S m (t.name.getD []) nm with
      | .error e => .error e
      | .ok (m1, cb) =>
        match evalItemsBS conv S s (newMatcher t nm cb) items with
        | .error e => .error e
        | .ok child =>
          match finishMatcher conv s child with
          | .error e => .error e
          | .ok (v, _) => addSection s m1 ty nm v
def evalItemsBS (conv : Conv) (S s : Schema) (m : Matcher) : List Item → M Matcher
  | [] => .ok m
  | i :: r =>
    match evalItemBS conv S s m i with
    | .error e => .error e
    | .ok m' => evalItemsBS conv S s m' r
end

mutual
theorem evalItemBS_self (conv : Conv) (s : Schema) : ∀ (i : Item) (m : Matcher), evalItemBS conv s s m i = evalItemB conv s m i
  | .kv k v p, m => by rw [evalItemBS, evalItemB]
  | .sect ty nm items, m => by
    rw [evalItemBS, evalItemB]
    cases sectCheck s m.ty ty nm with
    | error e => rfl
    | ok t =>
      simp only
      cases bagStep conv s m (t.name.getD []) nm with
      | error e => rfl
      | ok mc =>
        obtain ⟨m1, cb⟩ := mc
        simp only
        rw [evalItemsBS_self conv s items (newMatcher t nm cb)]
theorem evalItemsBS_self (conv : Conv) (s : Schema) : ∀ (l : List Item) (m : Matcher), evalItemsBS conv s s m l = evalItemsB conv s m l
  | [], m => by rw [evalItemsBS, evalItemsB]
  | i :: r, m => by
    rw [evalItemsBS, evalItemsB, evalItemBS_self conv s i m]
    cases evalItemB conv s m i with
    | error e => rfl
    | ok m' => exact evalItemsBS_self conv s r m'
end

theorem evalItemsBS_nil (conv : Conv) (S s : Schema) (m : Matcher) : evalItemsBS conv S s m [] = .ok m := by
  rw [evalItemsBS]

theorem evalItemsBS_cons (conv : Conv) (S s : Schema) (m : Matcher) (i : Item) (r : List Item) :
    evalItemsBS conv S s m (i :: r) = evalItemBS conv S s m i >>= fun m' => evalItemsBS conv S s m' r := by
  rw [evalItemsBS]
  cases evalItemBS conv S s m i <;> rfl

theorem evalItemBS_sect (conv : Conv) (S s : Schema) (m : Matcher) (ty : Str) (nm : Option Str) (items : List Item) :
    evalItemBS conv S s m (.sect ty nm items) =
      sectCheck s m.ty ty nm >>= fun t =>
      bagStep conv S m (t.name.getD []) nm >>= fun mc =>
      (evalItemsBS conv S s (newMatcher t nm mc.2) items >>= finishMatcher conv s) >>= fun r =>
      addSection s mc.1 ty nm r.1 := by
  rw [evalItemBS]
  cases sectCheck s m.ty ty nm with
  | error e => rfl
  | ok t =>
    show (match bagStep conv S m (t.name.getD []) nm with
      | .error e => .error e
      | .ok (m1, cb) => _) = (bagStep conv S m (t.name.getD []) nm >>= _)
    cases bagStep conv S m (t.name.getD []) nm with
    | error e => rfl
    | ok mc =>
      obtain ⟨m1, cb⟩ := mc
      show (match evalItemsBS conv S s (newMatcher t nm cb) items with
        | .error e => .error e
        | .ok child => _) = ((evalItemsBS conv S s (newMatcher t nm cb) items >>= finishMatcher conv s) >>= _)
      cases evalItemsBS conv S s (newMatcher t nm cb) items with
      | error e => rfl
      | ok child =>
        show (match finishMatcher conv s child with
          | .error e => .error e
          | .ok (v, _) => addSection s m1 ty nm v) = (finishMatcher conv s child >>= _)
        cases finishMatcher conv s child with
        | error e => rfl
        | ok r => rfl

mutual
/-- the handler entries appended to the loader's shared list while item `i` is run with `m` on top of the matcher stack:
    for a section, what its body appends, then what closing it appends (`[]` where the run fails) -/
def hItemBS (conv : Conv) (S s : Schema) (m : Matcher) : Item → List (Str × Val)
  | .kv _ _ _ => []
  | .sect ty nm items =>
    match sectCheck s m.ty ty nm with
    | .error _ => []
    | .ok t =>
      match bagStep conv S m (t.name.getD []) nm with
      | .error _ => []
      | .ok (_, cb) =>
        hItemsBS conv S s (newMatcher t nm cb) items ++
          (match evalItemsBS conv S s (newMatcher t nm cb) items with
           | .error _ => []
           | .ok child =>
             match finishMatcher conv s child with
             | .error _ => []
             | .ok (_, hs) => hs)
def hItemsBS (conv : Conv) (S s : Schema) (m : Matcher) : List Item → List (Str × Val)
  | [] => []
  | i :: r =>
    hItemBS conv S s m i ++
      (match evalItemBS conv S s m i with
       | .error _ => []
       | .ok m' => hItemsBS conv S s m' r)
end

/-- what closing a section appends -/
def finHs (conv : Conv) (s : Schema) (x : M Matcher) : List (Str × Val) :=
  match x with
  | .error _ => []
  | .ok child =>
    match finishMatcher conv s child with
    | .error _ => []
    | .ok (_, hs) => hs

theorem hItemBS_sect (conv : Conv) (S s : Schema) (m : Matcher) (ty : Str) (nm : Option Str) (items : List Item) :
    hItemBS conv S s m (.sect ty nm items) =
      match sectCheck s m.ty ty nm with
      | .error _ => []
      | .ok t =>
        match bagStep conv S m (t.name.getD []) nm with
        | .error _ => []
        | .ok mc =>
          hItemsBS conv S s (newMatcher t nm mc.2) items ++ finHs conv s (evalItemsBS conv S s (newMatcher t nm mc.2) items) := by
  rw [hItemBS]
  cases sectCheck s m.ty ty nm with
  | error e => rfl
  | ok t =>
    simp only
    cases bagStep conv S m (t.name.getD []) nm with
    | error e => rfl
    | ok mc =>
      obtain ⟨m1, cb⟩ := mc
      simp only
      unfold finHs
      cases evalItemsBS conv S s (newMatcher t nm cb) items with
      | error e => rfl
      | ok child => simp only

theorem hItemsBS_nil (conv : Conv) (S s : Schema) (m : Matcher) : hItemsBS conv S s m [] = [] := by
  rw [hItemsBS]

theorem hItemsBS_cons (conv : Conv) (S s : Schema) (m : Matcher) (i : Item) (r : List Item) :
    hItemsBS conv S s m (i :: r) =
      hItemBS conv S s m i ++ (match evalItemBS conv S s m i with | .error _ => [] | .ok m' => hItemsBS conv S s m' r) := by
  rw [hItemsBS]

/-! ### the run with its entries -/

/-- what a run yields: the matcher reached and the handler entries appended on the way -/
abbrev RH := Matcher × List (Str × Val)

def evalH (conv : Conv) (S s : Schema) (m : Matcher) (i : Item) : M RH :=
  (evalItemBS conv S s m i).map fun m' => (m', hItemBS conv S s m i)

def evalsH (conv : Conv) (S s : Schema) (m : Matcher) (l : List Item) : M RH :=
  (evalItemsBS conv S s m l).map fun m' => (m', hItemsBS conv S s m l)

/-- finishing a container: its value, and its own entries after those collected in its body -/
def closeH (conv : Conv) (s : Schema) (c : RH) : M (Val × List (Str × Val)) :=
  (finishMatcher conv s c.1).map fun r => (r.1, c.2 ++ r.2)

/-- the run of a container: its items on its matcher, then `finishMatcher` -/
def bodyH (conv : Conv) (S s : Schema) (m : Matcher) (items : List Item) : M (Val × List (Str × Val)) :=
  evalsH conv S s m items >>= closeH conv s

/-- the entries collected so far are carried through a later part of the run -/
def after (h : List (Str × Val)) (b : RH) : RH := (b.1, h ++ b.2)

def rebagH (B : Option Bag) (r : RH) : RH := (withBag r.1 B, r.2)

section eqns
variable (conv : Conv) (S s : Schema) (m : Matcher)

theorem evalsH_nil : evalsH conv S s m [] = .ok (m, []) := by
  unfold evalsH
  rw [evalItemsBS_nil, hItemsBS_nil]
  rfl

theorem evalsH_cons (i : Item) (r : List Item) :
    evalsH conv S s m (i :: r) = evalH conv S s m i >>= fun a => (evalsH conv S s a.1 r).map (after a.2) := by
  unfold evalsH evalH
  rw [evalItemsBS_cons, hItemsBS_cons]
  cases evalItemBS conv S s m i with
  | error e => rfl
  | ok m' =>
    simp only [ok_bind, Except.map]
    cases evalItemsBS conv S s m' r <;> rfl

theorem evalH_kv (k v : Str) (p : Pos) : evalH conv S s m (.kv k v p) = (addValue conv m k v p).map (·, []) := by
  unfold evalH
  rw [evalItemBS, hItemBS]

theorem evalH_sect (ty : Str) (nm : Option Str) (items : List Item) :
    evalH conv S s m (.sect ty nm items) =
      sectCheck s m.ty ty nm >>= fun t =>
      bagStep conv S m (t.name.getD []) nm >>= fun mc =>
      bodyH conv S s (newMatcher t nm mc.2) items >>= fun vr =>
      (addSection s mc.1 ty nm vr.1).map (·, vr.2) := by
  unfold evalH bodyH closeH evalsH
  rw [evalItemBS_sect, hItemBS_sect]
  cases sectCheck s m.ty ty nm with
  | error e => rfl
  | ok t =>
    simp only [ok_bind]
    cases bagStep conv S m (t.name.getD []) nm with
    | error e => rfl
    | ok mc =>
      simp only [ok_bind]
      cases hc : evalItemsBS conv S s (newMatcher t nm mc.2) items with
      | error e => rfl
      | ok c =>
        simp only [ok_bind, finHs, Except.map]
        cases finishMatcher conv s c with
        | error e => rfl
        | ok r => rfl

theorem evalsH_single (i : Item) : evalsH conv S s m [i] = evalH conv S s m i := by
  rw [evalsH_cons]
  cases evalH conv S s m i with
  | error e => rfl
  | ok a =>
    rw [ok_bind, evalsH_nil]
    simp only [Except.map, after, List.append_nil]

theorem evalsH_append : ∀ (l r : List Item) (m : Matcher),
    evalsH conv S s m (l ++ r) = evalsH conv S s m l >>= fun a => (evalsH conv S s a.1 r).map (after a.2)
  | [], r, m => by
    rw [List.nil_append, evalsH_nil, ok_bind]
    cases evalsH conv S s m r with
    | error e => rfl
    | ok b => simp only [Except.map, after, List.nil_append]
  | i :: l, r, m => by
    rw [List.cons_append, evalsH_cons, evalsH_cons]
    cases evalH conv S s m i with
    | error e => rfl
    | ok a =>
      simp only [ok_bind]
      rw [evalsH_append l r a.1]
      cases evalsH conv S s a.1 l with
      | error e => rfl
      | ok b =>
        simp only [ok_bind, Except.map, after]
        cases evalsH conv S s b.1 r <;> simp only [List.append_assoc]

end eqns


theorem evalsH_ok (conv : Conv) (S s : Schema) (m : Matcher) (l : List Item) (m' : Matcher)
    (h : evalItemsBS conv S s m l = .ok m') : evalsH conv S s m l = .ok (m', hItemsBS conv S s m l) := by
  unfold evalsH
  rw [h]
  rfl

theorem evalH_fst (conv : Conv) (S s : Schema) (m : Matcher) (i : Item) :
    (evalH conv S s m i).map (·.1) = evalItemBS conv S s m i := by
  unfold evalH
  cases evalItemBS conv S s m i <;> rfl

theorem evalsH_fst (conv : Conv) (S s : Schema) (m : Matcher) (l : List Item) :
    (evalsH conv S s m l).map (·.1) = evalItemsBS conv S s m l := by
  unfold evalsH
  cases evalItemsBS conv S s m l <;> rfl

/-! ### what an evaluation keeps: the type, and the absence of a bag -/

theorem bagStep_ty (conv : Conv) (s : Schema) (m : Matcher) (ty : Str) (nm : Option Str) (m1 : Matcher) (cb : Option Bag)
    (h : bagStep conv s m ty nm = .ok (m1, cb)) : m1.ty = m.ty ∧ (m.bag = none → m1.bag = none) := by
  unfold bagStep at h
  split at h
  · cases h; exact ⟨rfl, fun hb => hb⟩
  · rename_i b hb
    split at h
    · cases h
    · cases h; exact ⟨rfl, fun hn => by rw [hb] at hn; cases hn⟩

theorem evalItemBS_pres (conv : Conv) (S s : Schema) (m m' : Matcher) (i : Item)
    (h : evalItemBS conv S s m i = .ok m') : m'.ty = m.ty ∧ (m.bag = none → m'.bag = none) := by
  cases i with
  | kv k v p =>
    rw [evalItemBS] at h
    exact (addValue_pres conv m m' k v p h).imp_right fun h' hb => h'.trans hb
  | sect ty nm items =>
    rw [evalItemBS_sect] at h
    obtain ⟨t, _, h⟩ := bind_ok_inv h
    obtain ⟨mc, hbs, h⟩ := bind_ok_inv h
    obtain ⟨r, _, h⟩ := bind_ok_inv h
    have h1 := bagStep_ty _ _ _ _ _ _ _ hbs
    exact ⟨by rw [addSection_ty _ _ _ _ _ _ h, h1.1], fun hb => (addSection_bag _ _ _ _ _ _ h).trans (h1.2 hb)⟩

theorem evalItemsBS_pres (conv : Conv) (S s : Schema) : ∀ (l : List Item) (m m' : Matcher),
    evalItemsBS conv S s m l = .ok m' → m'.ty = m.ty ∧ (m.bag = none → m'.bag = none)
  | [], m, m', h => by
    rw [evalItemsBS_nil] at h
    cases h
    exact ⟨rfl, fun hb => hb⟩
  | i :: r, m, m', h => by
    rw [evalItemsBS_cons] at h
    obtain ⟨m1, h1, h⟩ := bind_ok_inv h
    have p1 := evalItemBS_pres conv S s m m1 i h1
    have p2 := evalItemsBS_pres conv S s r m1 m' h
    exact ⟨by rw [p2.1, p1.1], fun hb => p2.2 (p1.2 hb)⟩

theorem evalItemB_pres (conv : Conv) (s : Schema) (m m' : Matcher) (i : Item)
    (h : evalItemB conv s m i = .ok m') : m'.ty = m.ty ∧ (m.bag = none → m'.bag = none) :=
  evalItemBS_pres conv s s m m' i (by rw [evalItemBS_self]; exact h)

theorem evalItemsB_pres (conv : Conv) (s : Schema) (l : List Item) (m m' : Matcher)
    (h : evalItemsB conv s m l = .ok m') : m'.ty = m.ty ∧ (m.bag = none → m'.bag = none) :=
  evalItemsBS_pres conv s s l m m' (by rw [evalItemsBS_self]; exact h)

theorem evalsH_pres (conv : Conv) (S s : Schema) (l : List Item) (m : Matcher) (a : RH) (hb : m.bag = none)
    (h : evalsH conv S s m l = .ok a) : a.1.ty = m.ty ∧ a.1.bag = none := by
  obtain ⟨m', hm, rfl⟩ := map_ok_inv h
  have := evalItemsBS_pres conv S s l m m' hm
  exact ⟨this.1, this.2 hb⟩

/-! ### frame lemma -/

theorem bagStep_nobag (conv : Conv) (s : Schema) (m : Matcher) (hb : m.bag = none) (ty : Str) (nm : Option Str) :
    bagStep conv s m ty nm = .ok (m, none) := by
  unfold bagStep
  rw [hb]

mutual
theorem runItem_evalBS (conv : Conv) (S s : Schema) :
    ∀ (i : Item) (st : LS) (m : Matcher) (below : List Matcher),
      st.stack = m :: below → st.schema = s → st.conv = conv → (m.bag = none ∨ st.bagSchema.getD st.schema = S) →
      match evalItemBS conv S s m i with
      | .ok m' => runItem st i = .ok (withTop st m' below (st.handlers ++ hItemBS conv S s m i))
      | .error e => runItem st i = .error e
  | .kv k v p, st, m, below, hst, hsch, hconv, _ => by
    obtain ⟨sch, priv, hd, stk, pk, cv, bs⟩ := st
    simp only at hst hsch hconv
    subst hst hsch hconv
    rw [evalItemBS, runItem, hItemBS]
    unfold lsValue
    simp only
    cases h : addValue cv m k v p with
    | error e => rfl
    | ok m' => simp only [Except.map, withTop, List.append_nil]
  | .sect ty nm items, st, m, below, hst, hsch, hconv, hbs => by
    obtain ⟨sch, priv, hd, stk, pk, cv, bs⟩ := st
    simp only at hst hsch hconv hbs
    subst hst hsch hconv
    rw [evalItemBS, runItem, hItemBS, lsStart_eq _ m below rfl]
    dsimp only
    cases sectCheck sch m.ty ty nm with
    | error e => rfl
    | ok t =>
      dsimp only
      have hstep : bagStep cv (bs.getD sch) m (t.name.getD []) nm = bagStep cv S m (t.name.getD []) nm := by
        rcases hbs with hb | rfl
        · rw [bagStep_nobag _ _ m hb, bagStep_nobag _ _ m hb]
        · rfl
      rw [hstep]
      cases hbst : bagStep cv S m (t.name.getD []) nm with
      | error e => rfl
      | ok mc =>
        obtain ⟨m1, cb⟩ := mc
        dsimp only
        have hcb : cb = none ∨ bs.getD sch = S := by
          rcases hbs with hb | h
          · rw [bagStep_nobag _ _ m hb] at hbst
            cases hbst
            exact .inl rfl
          · exact .inr h
        have ih := runItems_evalBS cv S sch items
          { schema := sch, privateSchema := priv, handlers := hd, stack := newMatcher t nm cb :: m1 :: below,
            pkgs := pk, conv := cv, bagSchema := bs } (newMatcher t nm cb) (m1 :: below) rfl rfl rfl hcb
        cases he : evalItemsBS cv S sch (newMatcher t nm cb) items with
        | error e =>
          rw [he] at ih
          rw [ih]
        | ok child =>
          rw [he] at ih
          rw [ih]
          dsimp only [withTop]
          rw [lsStop_eq _ child m1 below ty nm rfl]
          dsimp only
          cases finishMatcher cv sch child with
          | error e => rfl
          | ok vh =>
            obtain ⟨v, hs2⟩ := vh
            dsimp only
            cases addSection sch m1 ty nm v with
            | error e => rfl
            | ok m' => simp only [List.append_assoc]; rfl
theorem runItems_evalBS (conv : Conv) (S s : Schema) :
    ∀ (l : List Item) (st : LS) (m : Matcher) (below : List Matcher),
      st.stack = m :: below → st.schema = s → st.conv = conv → (m.bag = none ∨ st.bagSchema.getD st.schema = S) →
      match evalItemsBS conv S s m l with
      | .ok m' => runItems st l = .ok (withTop st m' below (st.handlers ++ hItemsBS conv S s m l))
      | .error e => runItems st l = .error e
  | [], st, m, below, hst, hsch, hconv, hbs => by
    rw [evalItemsBS, runItems, hItemsBS]
    simp [withTop, ← hst]
  | i :: r, st, m, below, hst, hsch, hconv, hbs => by
    rw [evalItemsBS, runItems, hItemsBS]
    have ih := runItem_evalBS conv S s i st m below hst hsch hconv hbs
    cases he : evalItemBS conv S s m i with
    | error e =>
      rw [he] at ih
      rw [ih]
    | ok m1 =>
      rw [he] at ih
      rw [ih]
      simp only
      have ih2 := runItems_evalBS conv S s r (withTop st m1 below (st.handlers ++ hItemBS conv S s m i)) m1 below rfl hsch hconv
        (hbs.imp (fun hb => (evalItemBS_pres conv S s m m1 i he).2 hb) id)
      cases he2 : evalItemsBS conv S s m1 r with
      | error e =>
        rw [he2] at ih2
        exact ih2
      | ok m2 =>
        rw [he2] at ih2
        simp only at ih2
        rw [ih2]
        simp only [withTop, List.append_assoc]
end

theorem runItems_evalB (conv : Conv) (s : Schema) (l : List Item) (st : LS) (m : Matcher) (below : List Matcher)
    (hst : st.stack = m :: below) (hsch : st.schema = s) (hconv : st.conv = conv) (hbs : st.bagSchema.getD st.schema = s) :
    match evalItemsB conv s m l with
    | .ok m' => ∃ hs, runItems st l = .ok (withTop st m' below hs)
    | .error e => runItems st l = .error e := by
  have h := runItems_evalBS conv s s l st m below hst hsch hconv (.inr hbs)
  rw [evalItemsBS_self] at h
  cases he : evalItemsB conv s m l with
  | ok m' => rw [he] at h; exact ⟨_, h⟩
  | error e => rw [he] at h; exact h

/-! ### the tree-driven loader with overrides -/

/-- the bag `load` starts with -/
def bagOf (conv : Conv) (schema : Schema) (ovs : List OptItem) : M (Option Bag) :=
  if ovs.isEmpty then pure none else (mkBag conv schema.top ovs).map some

def stOv (conv : Conv) (pkgs : Str → Pkg) (schema : Schema) (bag : Option Bag) : LS :=
  { schema := schema, privateSchema := false, handlers := [], stack := [newMatcher schema.top none bag],
    pkgs := pkgs, conv := conv, bagSchema := bag.map fun _ => schema }

theorem stOv_bagSchema (conv : Conv) (pkgs : Str → Pkg) (s : Schema) (bag : Option Bag) :
    (stOv conv pkgs s bag).bagSchema.getD (stOv conv pkgs s bag).schema = s := by
  cases bag <;> rfl

/-! ### without a bag the evaluation is the one of C01, whatever the schema of the bags -/

mutual
theorem evalItemBS_eval (conv : Conv) (S s : Schema) :
    ∀ (i : Item) (m : Matcher), m.bag = none → evalItemBS conv S s m i = evalItem conv s m i
  | .kv k v p, m, _ => by rw [evalItemBS, evalItem]
  | .sect ty nm items, m, hb => by
    rw [evalItemBS_sect, evalItem_sect]
    congr 1; funext t
    rw [bagStep_nobag conv S m hb, ok_bind, evalItemsBS_eval conv S s items (newMatcher t nm none) rfl]
    unfold evalContainer
    cases evalItems conv s (newMatcher t nm none) items with
    | error e => rfl
    | ok c =>
      rw [ok_bind]
      dsimp only
      cases finishMatcher conv s c <;> rfl
theorem evalItemsBS_eval (conv : Conv) (S s : Schema) :
    ∀ (l : List Item) (m : Matcher), m.bag = none → evalItemsBS conv S s m l = evalItems conv s m l
  | [], m, _ => by rw [evalItemsBS, evalItems]
  | i :: r, m, hb => by
    have h1 := evalItemBS_eval conv S s i m hb
    rw [evalItemsBS, evalItems, h1]
    cases he : evalItem conv s m i with
    | error e => rfl
    | ok m' => exact evalItemsBS_eval conv S s r m' ((evalItemBS_pres conv S s m m' i (by rw [h1, he])).2 hb)
end

theorem evalItemB_nobag (conv : Conv) (s : Schema) (i : Item) (m : Matcher) (hb : m.bag = none) :
    evalItemB conv s m i = evalItem conv s m i := by
  rw [← evalItemBS_self, evalItemBS_eval conv s s i m hb]

theorem evalItemsB_nobag (conv : Conv) (s : Schema) (l : List Item) (m : Matcher) (hb : m.bag = none) :
    evalItemsB conv s m l = evalItems conv s m l := by
  rw [← evalItemsBS_self, evalItemsBS_eval conv s s l m hb]

/-! ### the frame lemma without a bag: `runItems` on a state is `evalItems` on its top matcher -/

theorem runItems_eval (conv : Conv) (s : Schema) (l : List Item) (st : LS) (m : Matcher) (below : List Matcher)
    (hst : st.stack = m :: below) (hsch : st.schema = s) (hconv : st.conv = conv) (hb : m.bag = none) :
    match evalItems conv s m l with
    | .ok m' => m'.bag = none ∧ ∃ hs, runItems st l = .ok (withTop st m' below hs)
    | .error _ => ∃ e, runItems st l = .error e := by
  have h := runItems_evalBS conv s s l st m below hst hsch hconv (.inl hb)
  have hv := evalItemsBS_eval conv s s l m hb
  rw [hv] at h
  cases he : evalItems conv s m l with
  | error e => rw [he] at h; exact ⟨e, h⟩
  | ok m' =>
    rw [he] at h
    exact ⟨(evalItemsBS_pres conv s s l m m' (hv.trans he)).2 hb, _, h⟩

/-- the resources being read when the parse of the main text starts -/
def activeOf (url : Option Str) : List Str :=
  match url with | some u => if u == [] then [] else [u] | none => []

/-- what `load` does after the parse -/
def loadFin (conv : Conv) (schema : Schema) (st : LS) : M LoadResult :=
  match st.stack with
  | [top] => do
    let (v, hs) ← finishMatcher conv st.schema top
    let v' ← match conv.sect schema.top.datatype v with
      | .ok r => pure r
      | .error e => throw (convFail e Option.none { line := -1, url := Option.none } "schema datatype")
    let hs' := match schema.handler with | some h => [(h, v')] | Option.none => []
    pure { value := v', handlers := st.handlers ++ hs ++ hs', schemaAfter := st.schema }
  | _ => throw (.internal "IndexError")

/-- **`load` in three parts**: the specifiers (split, sorted into the bag of the top-level matcher), the lines, the top-level matcher -/
theorem load_ov_eq (conv : Conv) (env : Env) (pkgs : Str → Pkg) (s : Schema) (url : Option Str) (lines : List Str)
    (specs : List Str) :
    load conv env pkgs s url lines specs =
      specs.mapM addOption >>= fun ovs => bagOf conv s ovs >>= fun bag =>
        parseLines 64 env loaderCtx (activeOf url) url lines 0 { ctx := stOv conv pkgs s bag, stack := [], defs := [] } >>=
          fun ps => loadFin conv s ps.ctx := by
  unfold load bagOf
  cases specs.mapM addOption with
  | error e => rfl
  | ok ovs =>
    simp only [bind, Except.bind]
    cases ovs.isEmpty <;> rfl


/-- what `loadTree` does after the items have been run -/
def treeFinB (conv : Conv) (schema : Schema) (st : LS) : M Val :=
  match st.stack with
  | [top] =>
    match finishMatcher conv st.schema top with
    | .error e => .error e
    | .ok (v, _) =>
      match conv.sect schema.top.datatype v with
      | .ok r => .ok r
      | .error e => .error (convFail e none { line := -1, url := none } "schema datatype")
  | _ => .error (.internal "IndexError")

/-- `ExtendedConfigLoader.loadResource` on a tree: `loadTree` started with the bag made of the overrides, as `load` does -/
def loadTreeOv (conv : Conv) (schema : Schema) (items : List Item) (ovs : List OptItem) : M Val :=
  bagOf conv schema ovs >>= fun bag =>
    runItems (stOv conv (fun _ => .notImportable) schema bag) items >>= treeFinB conv schema

/-- the end of a load, from the top matcher -/
def topFin (conv : Conv) (s : Schema) (m : Matcher) : M Val :=
  finishMatcher conv s m >>= fun r =>
    match conv.sect s.top.datatype r.1 with
    | .ok v => .ok v
    | .error e => .error (convFail e none { line := -1, url := none } "schema datatype")

theorem run_fin_eq (conv : Conv) (pkgs : Str → Pkg) (s : Schema) (bag : Option Bag) (items : List Item) :
    runItems (stOv conv pkgs s bag) items >>= treeFinB conv s =
      evalItemsB conv s (newMatcher s.top none bag) items >>= topFin conv s := by
  have h := runItems_evalB conv s items (stOv conv pkgs s bag) (newMatcher s.top none bag) [] rfl rfl rfl
    (stOv_bagSchema conv pkgs s bag)
  cases he : evalItemsB conv s (newMatcher s.top none bag) items with
  | error e =>
    rw [he] at h
    rw [h]
    rfl
  | ok m =>
    rw [he] at h
    obtain ⟨hs, hr⟩ := h
    rw [hr]
    show treeFinB conv s (withTop (stOv conv pkgs s bag) m [] hs) = topFin conv s m
    unfold treeFinB topFin withTop stOv
    simp only [bind, Except.bind]
    cases finishMatcher conv s m with
    | error e => rfl
    | ok r => rfl

theorem loadTreeOv_eq (conv : Conv) (s : Schema) (items : List Item) (ovs : List OptItem) :
    loadTreeOv conv s items ovs =
      bagOf conv s ovs >>= fun bag => evalItemsB conv s (newMatcher s.top none bag) items >>= topFin conv s := by
  unfold loadTreeOv
  congr 1
  funext bag
  exact run_fin_eq conv _ s bag items

theorem loadTree_evalB (conv : Conv) (s : Schema) (items : List Item) :
    loadTree conv s items = evalItemsB conv s (newMatcher s.top none none) items >>= topFin conv s := by
  rw [← run_fin_eq conv (fun _ => .notImportable) s none items]
  unfold loadTree
  show (match runItems (stOv conv (fun _ => .notImportable) s none) items with
    | .error e => (.error e : M Val)
    | .ok st => treeFinB conv s st) = _
  cases runItems (stOv conv (fun _ => .notImportable) s none) items <;> rfl

theorem loadTreeOv_nil (conv : Conv) (s : Schema) (items : List Item) :
    loadTreeOv conv s items [] = loadTree conv s items := by
  rw [loadTreeOv_eq, loadTree_evalB]
  rfl

end ZCV.Conf
