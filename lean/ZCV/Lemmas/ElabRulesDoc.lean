import ZCV.Lemmas.ElabRules
/-!
The tree walk of the schema loader: the equations of `visitElem`, one per way an element is met; the three ways an element is
processed (`Processed`), which are those equations read from the result; the induction principle for facts that hold across
the walk (`WalkRel`), and what the loader's own `hooks` do.  Then whole documents: in a document that the loader accepts,
every element, at every depth, passed the nesting check and had its start handler succeed in some loader state
(`accepted_elements_of`), text outside character-data elements is blank (`accepted_text`); a relation kept by the walk and by
the start and end of the document element is kept by whole documents, nested ones included (`DocRel`, `elabES_docRel`), so the
component registry only grows (`hooks_mono`).  A small accepted document (`exDoc_accepted`) shows the statements are not vacuous.
-/
namespace ZCV.Elab
open ZCV ZCV.Cfg

theorem visitElem_text (env : Env) (h : Hooks) (d : DocKind) (parent : Option Str) (st : PSt) (s : Str) :
    visitElem env h d parent st (.text s) = .ok st := by
  unfold visitElem; rfl

theorem visitChildren_text (env : Env) (h : Hooks) (d : DocKind) (parent : Str) (st : PSt) (s : Str) (r : List Node) :
    visitChildren env h d parent st (.text s :: r) =
      if (strip s).isEmpty then visitChildren env h d parent st r
      else .error (.schema "unexpected non-blank character data") := by
  rw [visitChildren]; rfl

theorem visitChildren_elem (env : Env) (h : Hooks) (d : DocKind) (parent : Str) (st : PSt) (t : Str) (a : Attrs)
    (c r : List Node) :
    visitChildren env h d parent st (.elem t a c :: r) =
      (visitElem env h d (some parent) st (.elem t a c) >>= fun st' => visitChildren env h d parent st' r) := by
  rw [visitChildren]
  cases visitElem env h d (some parent) st (.elem t a c) <;> rfl

theorem visitChildren_nil {env : Env} {h : Hooks} {d : DocKind} {p : Str} (st : PSt) :
    visitChildren env h d p st [] = .ok st := by unfold visitChildren; rfl

theorem visitChildren_append {env : Env} {h : Hooks} {d : DocKind} {p : Str} :
    ∀ (l1 l2 : List Node) (st : PSt),
      visitChildren env h d p st (l1 ++ l2) = (visitChildren env h d p st l1 >>= fun st1 => visitChildren env h d p st1 l2)
  | [], l2, st => by
    rw [List.nil_append, visitChildren_nil]
    rfl
  | .text s :: r, l2, st => by
    rw [List.cons_append, visitChildren_text, visitChildren_text]
    by_cases hb : (strip s).isEmpty = true
    · simp only [hb, ↓reduceIte]
      exact visitChildren_append r l2 st
    · simp only [hb, Bool.false_eq_true, ↓reduceIte]
      rfl
  | .elem t a c :: r, l2, st => by
    rw [List.cons_append, visitChildren_elem, visitChildren_elem]
    cases visitElem env h d (some p) st (.elem t a c) with
    | error e => rfl
    | ok st1 =>
      simp only [bind, Except.bind]
      exact visitChildren_append r l2 st1

theorem visitElem_nest_err {env : Env} {h : Hooks} {d : DocKind} {p : Str} {st : PSt} {t : Str} {a : Attrs} {c : List Node}
    {e : EFail} (hn : nestingCheck p t = .error e) : visitElem env h d (some p) st (.elem t a c) = .error e := by
  unfold visitElem
  simp only [hn]

theorem visitElem_ok_nesting {env : Env} {h : Hooks} {d : DocKind} {parent : Str} {st st' : PSt} {t : Str} {a : Attrs}
    {c : List Node} (hv : visitElem env h d (some parent) st (.elem t a c) = .ok st') :
    nestingCheck parent t = .ok () := by
  cases hn : nestingCheck parent t with
  | error e => rw [visitElem_nest_err hn] at hv; cases hv
  | ok u => rfl

theorem visitElem_root_other {env : Env} {h : Hooks} {d : DocKind} {st : PSt} {t : Str} {a : Attrs} {c : List Node}
    (ht : t ≠ d.topLevel) :
    visitElem env h d none st (.elem t a c) = .error (.schema "UnknownDocumentTypeError") := by
  unfold visitElem
  have h1 : (t != d.topLevel) = true := by simpa using ht
  simp only [h1, ↓reduceIte]

def isComp : DocKind → Bool
  | .component => true
  | _ => false

theorem visitElem_cdata_eq {env : Env} {h : Hooks} {d : DocKind} {p : Str} {st : PSt} {t : Str} {a : Attrs} {c : List Node}
    (hn : nestingCheck p t = .ok ()) (ht : t ≠ d.topLevel) (hh : d.handled.contains t = false)
    (hc : Gen.cdataTags.contains t = true) :
    visitElem env h d (some p) st (.elem t a c) =
      (collectText t c >>= fun data => charactersTag (isComp d) t a (strip data) st) := by
  unfold visitElem
  have ht' : (t == d.topLevel) = false := by simpa using ht
  simp only [hn, ht', Bool.false_eq_true, ↓reduceIte, hh, hc]
  cases collectText t c with
  | error e => rfl
  | ok data => cases d <;> rfl

theorem visitElem_root_eq {env : Env} {h : Hooks} {d : DocKind} {st : PSt} {t : Str} {a : Attrs} {c : List Node}
    (ht : t = d.topLevel) :
    visitElem env h d none st (.elem t a c) =
      ((match d with
        | .schema ext => startSchema env h ext st a
        | .component => pushPrefix { st with stack := [] } a) >>= fun st1 =>
       visitChildren env h d t st1 c >>= fun st2 =>
       (match d with
        | .schema ext => endSchema ext.isSome st2
        | .component => .ok (popPrefix st2))) := by
  unfold visitElem
  have h1 : (t != d.topLevel) = false := by simp [ht]
  have h2 : (t == d.topLevel) = true := by simp [ht]
  simp only [h1, Bool.false_eq_true, ↓reduceIte, h2]
  cases d with
  | schema ext =>
    dsimp only
    cases startSchema env h ext st a with
    | error e => rfl
    | ok st1 =>
      simp only [bind, Except.bind]
      cases visitChildren env h (.schema ext) t st1 c <;> rfl
  | component =>
    dsimp only
    cases pushPrefix { st with stack := [] } a with
    | error e => rfl
    | ok st1 =>
      simp only [bind, Except.bind]
      cases visitChildren env h .component t st1 c <;> rfl

theorem visitElem_handled_eq {env : Env} {h : Hooks} {d : DocKind} {p : Str} {st : PSt} {t : Str} {a : Attrs} {c : List Node}
    (hn : nestingCheck p t = .ok ()) (ht : t ≠ d.topLevel) (hh : d.handled.contains t = true) :
    visitElem env h d (some p) st (.elem t a c) =
      (startHandled env h t a st >>= fun st1 => visitChildren env h d t st1 c >>= fun st2 => endHandled env t st2) := by
  unfold visitElem
  have ht' : (t == d.topLevel) = false := by simpa using ht
  simp only [hn, ht', Bool.false_eq_true, ↓reduceIte, hh]
  cases startHandled env h t a st with
  | error e => rfl
  | ok st1 =>
    simp only [bind, Except.bind]
    cases visitChildren env h d t st1 c <;> rfl

theorem visitElem_other_err {env : Env} {h : Hooks} {d : DocKind} {p : Str} {st : PSt} {t : Str} {a : Attrs} {c : List Node}
    (hn : nestingCheck p t = .ok ()) (ht : t ≠ d.topLevel) (hh : d.handled.contains t = false)
    (hc : Gen.cdataTags.contains t = false) :
    visitElem env h d (some p) st (.elem t a c) = .error (.internal "TypeError") := by
  unfold visitElem
  have ht' : (t == d.topLevel) = false := by simpa using ht
  simp only [hn, ht', Bool.false_eq_true, ↓reduceIte, hh, hc]

theorem nestingCheck_topLevel (d : DocKind) (par : Str) : nestingCheck par d.topLevel ≠ .ok () := by
  intro h
  obtain ⟨ps, h1, _⟩ := (nestingCheck_ok_iff par d.topLevel).1 h
  have : ∀ q ∈ Gen.allowedParents, q.1 ≠ Gen.schemaTopLevel ∧ q.1 ≠ Gen.componentTopLevel := by decide +kernel
  cases d with
  | schema ext => exact (this _ h1).1 rfl
  | component => exact (this _ h1).2 rfl

/-! ## one element: the three ways it is processed -/

/-- the element `t` may stand where it stands: below `par` the table allows it; at the root it is the document element -/
def PlaceOk (d : DocKind) (q : Option Str) (t : Str) : Prop :=
  match q with
  | some par => nestingCheck par t = .ok ()
  | none => t = d.topLevel

/-- character data in a component may repeat descriptions -/
def DocKind.isComponent : DocKind → Bool
  | .component => true
  | _ => false

theorem DocKind.isComponent_eq (d : DocKind) :
    (match d with | .component => true | _ => false) = d.isComponent := by cases d <;> rfl

/-- how an accepted element was processed, from the loader state before its start tag to the state after its end tag -/
inductive Processed (env : Env) (h : Hooks) (d : DocKind) (t : Str) (a : Attrs) (c : List Node) : PSt → PSt → Prop
  /-- the document element -/
  | top (st st1 st2 st' : PSt) : t = d.topLevel →
      (match d with
        | .schema ext => startSchema env h ext st a
        | .component => pushPrefix { st with stack := [] } a) = .ok st1 →
      visitChildren env h d t st1 c = .ok st2 →
      (match d with
        | .schema ext => endSchema ext.isSome st2
        | .component => .ok (popPrefix st2)) = .ok st' → Processed env h d t a c st st'
  /-- an element with a start and an end handler -/
  | handled (st st1 st2 st' : PSt) : t ≠ d.topLevel → d.handled.contains t = true →
      startHandled env h t a st = .ok st1 → visitChildren env h d t st1 c = .ok st2 →
      endHandled env t st2 = .ok st' → Processed env h d t a c st st'
  /-- a character-data element -/
  | cdata (st st' : PSt) (data : Str) : t ≠ d.topLevel → d.handled.contains t = false →
      Gen.cdataTags.contains t = true → collectText t c = .ok data →
      charactersTag d.isComponent t a (strip data) st = .ok st' →
      Processed env h d t a c st st'

theorem visitElem_ok_processed {env : Env} {h : Hooks} {d : DocKind} {p : Option Str} {st st' : PSt} {t : Str}
    {a : Attrs} {c : List Node} (hv : visitElem env h d p st (.elem t a c) = .ok st') :
    PlaceOk d p t ∧ Processed env h d t a c st st' := by
  cases p with
  | none =>
    by_cases ht : t = d.topLevel
    · obtain ⟨st1, hs, hv⟩ := bind_ok_inv ((visitElem_root_eq ht).symm.trans hv)
      obtain ⟨st2, hc, he⟩ := bind_ok_inv hv
      refine ⟨ht, ?_⟩
      cases d <;> exact .top st st1 st2 st' ht hs hc he
    · rw [visitElem_root_other ht] at hv; cases hv
  | some par =>
    cases hn : nestingCheck par t with
    | error e => rw [visitElem_nest_err hn] at hv; cases hv
    | ok u =>
      -- the nesting table lists no parent for a document element
      have ht : t ≠ d.topLevel := fun e => nestingCheck_topLevel d par (e ▸ hn)
      refine ⟨hn, ?_⟩
      cases hh : d.handled.contains t with
      | true =>
        rw [visitElem_handled_eq hn ht hh] at hv
        obtain ⟨st1, hs, hv⟩ := bind_ok_inv hv
        obtain ⟨st2, hc, he⟩ := bind_ok_inv hv
        exact .handled st st1 st2 st' ht hh hs hc he
      | false =>
        cases hcd : Gen.cdataTags.contains t with
        | true =>
          rw [visitElem_cdata_eq hn ht hh hcd] at hv
          obtain ⟨data, hct, hch⟩ := bind_ok_inv hv
          exact .cdata st st' data ht hh hcd hct (by cases d <;> exact hch)
        | false => rw [visitElem_other_err hn ht hh hcd] at hv; cases hv

/-- the children of a processed element were read as elements (after its start handler) or as character data -/
theorem Processed.children {env : Env} {h : Hooks} {d : DocKind} {t : Str} {a : Attrs} {c : List Node} {st st' : PSt}
    (hp : Processed env h d t a c st st') :
    (∃ s1 s2, visitChildren env h d t s1 c = .ok s2) ∨
    (Gen.cdataTags.contains t = true ∧ ∃ data, collectText t c = .ok data) := by
  cases hp
  · left; exact ⟨_, _, by assumption⟩
  · left; exact ⟨_, _, by assumption⟩
  · right; exact ⟨by assumption, _, by assumption⟩

/-! ## a relation that holds across the walk

Below the document element an element is either one with handlers or a character-data element (the document element
is not allowed there).  So a reflexive, transitive relation between loader states that holds across a handled element —
given that it holds across its children — and across a character-data element holds from before to after every
accepted element and every accepted list of children. -/

structure WalkRel (env : Env) (h : Hooks) (d : DocKind) (R : PSt → PSt → Prop) : Prop where
  refl : ∀ s, R s s
  trans : ∀ {a b c}, R a b → R b c → R a c
  handled : ∀ {t a c st s1 s2 st'}, startHandled env h t a st = .ok s1 → visitChildren env h d t s1 c = .ok s2 →
    R s1 s2 → endHandled env t s2 = .ok st' → R st st'
  cdata : ∀ {t a data st st'}, charactersTag d.isComponent t a data st = .ok st' → R st st'

mutual
theorem visitElem_rel {env : Env} {h : Hooks} {d : DocKind} {R : PSt → PSt → Prop} (w : WalkRel env h d R) :
    ∀ (n : Node) (parent : Str) (st st' : PSt), visitElem env h d (some parent) st n = .ok st' → R st st'
  | .text _, _, st, st', hv => by
    rw [visitElem_text] at hv; cases hv; exact w.refl _
  | .elem t a c, parent, st, st', hv => by
    obtain ⟨hplace, hp⟩ := visitElem_ok_processed hv
    cases hp with
    | top _ _ _ ht => exact absurd (ht ▸ hplace) (nestingCheck_topLevel d parent)
    | handled s1 s2 _ _ _ hs hc he => exact w.handled hs hc (visitChildren_rel w c t s1 s2 hc) he
    | cdata _ _ _ _ _ _ hch => exact w.cdata hch

theorem visitChildren_rel {env : Env} {h : Hooks} {d : DocKind} {R : PSt → PSt → Prop} (w : WalkRel env h d R) :
    ∀ (l : List Node) (parent : Str) (st st' : PSt), visitChildren env h d parent st l = .ok st' → R st st'
  | [], _, st, st', hv => by
    rw [visitChildren] at hv; cases hv; exact w.refl _
  | .text s :: r, parent, st, st', hv => by
    rw [visitChildren] at hv
    rcases ite_ok hv with ⟨_, hv⟩ | ⟨_, hv⟩
    · exact visitChildren_rel w r parent st st' hv
    · cases hv
  | .elem t a c :: r, parent, st, st', hv => by
    rw [visitChildren] at hv
    cases h1 : visitElem env h d (some parent) st (.elem t a c) with
    | error e => rw [h1] at hv; cases hv
    | ok st1 =>
      rw [h1] at hv
      exact w.trans (visitElem_rel w (.elem t a c) parent st st1 h1) (visitChildren_rel w r parent st1 st' hv)
end

theorem visitElem_root_ok {env : Env} {h : Hooks} {d : DocKind} {st st' : PSt} {t : Str} {a : Attrs} {c : List Node}
    (hv : visitElem env h d none st (.elem t a c) = .ok st') :
    ∃ s1 s2,
      (match d with
        | .schema ext => startSchema env h ext st a
        | .component => pushPrefix { st with stack := [] } a) = .ok s1 ∧
      visitChildren env h d t s1 c = .ok s2 ∧
      (match d with
        | .schema ext => endSchema ext.isSome s2
        | .component => .ok (popPrefix s2)) = .ok st' := by
  obtain ⟨hplace, hp⟩ := visitElem_ok_processed hv
  cases hp
  · exact ⟨_, _, by assumption, by assumption, by assumption⟩
  · exact absurd hplace (by assumption)
  · exact absurd hplace (by assumption)

theorem hooks_load_ok {env : Env} {n : Nat} {es es' : ES} {tree : Node}
    (h : (hooks env n).loadComponent es tree = .ok es') :
    ∃ m st', n = m + 1 ∧ visitElem env (hooks env m) .component none { es := es } tree = .ok st' ∧ st'.es = es' := by
  cases n with
  | zero => cases h
  | succ m =>
    simp only [hooks] at h
    cases hv : visitElem env (hooks env m) .component none { es := es } tree with
    | error e => rw [hv] at h; cases h
    | ok st' => rw [hv] at h; cases h; exact ⟨m, st', rfl, hv, rfl⟩

theorem hooks_extend_ok {env : Env} {n : Nat} {es es' : ES} {tree : Node}
    (h : (hooks env n).extendSchema es tree = .ok es') :
    ∃ m st', n = m + 1 ∧ visitElem env (hooks env m) (.schema (some es)) none { es := es } tree = .ok st' ∧
      st'.es = es' := by
  cases n with
  | zero => cases h
  | succ m =>
    simp only [hooks] at h
    cases hv : visitElem env (hooks env m) (.schema (some es)) none { es := es } tree with
    | error e => rw [hv] at h; cases h
    | ok st' => rw [hv] at h; cases h; exact ⟨m, st', rfl, hv, rfl⟩

theorem visitChildren_ok_all {env : Env} {h : Hooks} {d : DocKind} {parent : Str} :
    ∀ {l : List Node} {st st' : PSt}, visitChildren env h d parent st l = .ok st' →
      ∀ n ∈ l, match n with
        | .text s => (strip s).isEmpty = true
        | .elem t _ _ => nestingCheck parent t = .ok () := by
  intro l
  induction l with
  | nil => intro st st' _ n hn; cases hn
  | cons x l ih =>
    intro st st' hv n hn
    cases x with
    | text s =>
      rw [visitChildren_text] at hv
      by_cases hb : (strip s).isEmpty = true
      · rw [if_pos hb] at hv
        rcases List.mem_cons.1 hn with rfl | hn
        · exact hb
        · exact ih hv n hn
      · rw [if_neg hb] at hv; cases hv
    | elem t a c =>
      rw [visitChildren_elem] at hv
      obtain ⟨st1, h1, h2⟩ := bind_ok_inv hv
      rcases List.mem_cons.1 hn with rfl | hn
      · exact visitElem_ok_nesting h1
      · exact ih h2 n hn

/-- `Occurs p root q n`: the node `n` occurs in the tree `root` (whose parent tag is `p`), below the parent tag `q` -/
inductive Occurs : Option Str → Node → Option Str → Node → Prop
  | here {p n} : Occurs p n p n
  | child {p t a children c q n} : c ∈ children → Occurs (some t) c q n → Occurs p (.elem t a children) q n

/-- what every accepted child element keeps, an accepted list of children keeps -/
theorem visitChildren_keeps {env : Env} {h : Hooks} {d : DocKind} {parent : Str} {I : PSt → Prop}
    (hI : ∀ t a c st st', I st → visitElem env h d (some parent) st (.elem t a c) = .ok st' → I st') :
    ∀ (l : List Node) {st st' : PSt}, I st → visitChildren env h d parent st l = .ok st' → I st'
  | [], st, st', hst, hv => by rw [visitChildren_nil] at hv; cases hv; exact hst
  | .text s :: r, st, st', hst, hv => by
    rw [visitChildren_text] at hv
    rcases ite_ok hv with ⟨_, hv⟩ | ⟨_, hv⟩
    · exact visitChildren_keeps hI r hst hv
    · cases hv
  | .elem t a c :: r, st, st', hst, hv => by
    rw [visitChildren_elem] at hv
    obtain ⟨st1, h1, h2⟩ := bind_ok_inv hv
    exact visitChildren_keeps hI r (hI _ _ _ _ _ hst h1) h2

/-- every element among the children of an accepted element was itself accepted, in a state that satisfies whatever
the elements before it preserve -/
theorem visitChildren_ok_mem_of {env : Env} {h : Hooks} {d : DocKind} {parent : Str} {I : PSt → Prop}
    (hI : ∀ t a c st st', I st → visitElem env h d (some parent) st (.elem t a c) = .ok st' → I st') :
    ∀ {l : List Node} {st st' : PSt}, I st → visitChildren env h d parent st l = .ok st' →
      ∀ t a c, Node.elem t a c ∈ l → ∃ sa sb, I sa ∧ visitElem env h d (some parent) sa (.elem t a c) = .ok sb := by
  intro l st st' hst hv t a c hn
  obtain ⟨l1, l2, rfl⟩ := List.append_of_mem hn
  rw [visitChildren_append] at hv
  obtain ⟨sa, h1, h2⟩ := bind_ok_inv hv
  rw [visitChildren_elem] at h2
  obtain ⟨sb, h3, _⟩ := bind_ok_inv h2
  exact ⟨sa, sb, visitChildren_keeps hI l1 hst h1, h3⟩

theorem visitChildren_ok_mem {env : Env} {h : Hooks} {d : DocKind} {parent : Str} {l : List Node} {st st' : PSt}
    (hv : visitChildren env h d parent st l = .ok st') (t : Str) (a : Attrs) (c : List Node) (hn : Node.elem t a c ∈ l) :
    ∃ sa sb, visitElem env h d (some parent) sa (.elem t a c) = .ok sb := by
  obtain ⟨sa, sb, _, hx⟩ := visitChildren_ok_mem_of (I := fun _ => True) (fun _ _ _ _ _ _ _ => trivial) trivial hv t a c hn
  exact ⟨sa, sb, hx⟩

theorem collectText_ok_text {parent : Str} : ∀ {l : List Node} {s : Str}, collectText parent l = .ok s →
    ∀ n ∈ l, ∃ x, n = .text x := by
  intro l
  induction l with
  | nil => intro s _ n hn; cases hn
  | cons x l ih =>
    intro s h n hn
    cases x with
    | text y =>
      rw [collectText] at h
      rcases List.mem_cons.1 hn with rfl | hn
      · exact ⟨y, rfl⟩
      · cases hc : collectText parent l with
        | error e => rw [hc] at h; cases h
        | ok r => exact ih hc n hn
    | elem t a c =>
      rw [collectText] at h
      split at h <;> cases h

/-- every element of an accepted document, at any depth, is allowed where it stands (`PlaceOk`: the nesting table allows
it below its parent; the root is the document element) and was processed by its handlers successfully, in a loader state that satisfies whatever the start of the document
element, the start handlers and the elements read before keep -/
theorem accepted_elements_of {env : Env} {h : Hooks} {d : DocKind} {I : PSt → Prop}
    (hElem : ∀ par t a c st st', I st → visitElem env h d (some par) st (.elem t a c) = .ok st' → I st')
    (hStart : ∀ t a st s1, I st → startHandled env h t a st = .ok s1 → I s1) :
    ∀ {p : Option Str} {root : Node} {q : Option Str} {n : Node}, Occurs p root q n →
      ∀ {st st' : PSt}, I st →
      (∀ a s1, p = none → (match d with
        | .schema ext => startSchema env h ext st a
        | .component => pushPrefix { st with stack := [] } a) = .ok s1 → I s1) →
      visitElem env h d p st root = .ok st' →
      ∀ t a c, n = .elem t a c →
        PlaceOk d q t ∧ ∃ s0 s3, I s0 ∧ Processed env h d t a c s0 s3 := by
  intro p root q n ho
  induction ho with
  | here =>
    intro st st' hst _ hv t a c hn
    subst hn
    exact ⟨(visitElem_ok_processed hv).1, st, st', hst, (visitElem_ok_processed hv).2⟩
  | @child p t0 a0 children c0 q n hmem hocc ih =>
    intro st st' hst hTop hv t a c hn
    obtain ⟨hplace, hp⟩ := visitElem_ok_processed hv
    cases c0 with
    | text s =>
      cases hocc with
      | here => cases hn
    | elem t1 a1 c1 =>
      -- the children are read from a state `s1` that satisfies `I`
      have key : ∀ s1 s2, I s1 → visitChildren env h d t0 s1 children = .ok s2 →
          PlaceOk d q t ∧ ∃ s0 s3, I s0 ∧ Processed env h d t a c s0 s3 := by
        intro s1 s2 h1 hc
        obtain ⟨sa, sb, ha, hx⟩ := visitChildren_ok_mem_of (hElem t0) h1 hc t1 a1 c1 hmem
        exact ih ha (fun _ _ h => nomatch h) hx t a c hn
      cases hp with
      | top s1 s2 _ ht hs hc =>
        cases p with
        | some par => exact absurd (ht ▸ hplace) (nestingCheck_topLevel d par)
        | none => exact key s1 s2 (hTop a0 s1 rfl hs) hc
      | handled s1 s2 _ _ _ hs hc => exact key s1 s2 (hStart _ _ _ _ hst hs) hc
      | cdata _ data _ _ _ hct =>
        obtain ⟨x, hx⟩ := collectText_ok_text hct _ hmem
        cases hx

theorem accepted_elements {env : Env} {h : Hooks} {d : DocKind} {p : Option Str} {root : Node} {q : Option Str} {n : Node}
    (ho : Occurs p root q n) {st st' : PSt} (hv : visitElem env h d p st root = .ok st') (t : Str) (a : Attrs)
    (c : List Node) (hn : n = .elem t a c) : PlaceOk d q t ∧ ∃ s0 s3, Processed env h d t a c s0 s3 := by
  obtain ⟨h1, s0, s3, _, h2⟩ := accepted_elements_of (I := fun _ => True) (fun _ _ _ _ _ _ _ _ => trivial)
    (fun _ _ _ _ _ _ => trivial) ho trivial (fun _ _ _ _ => trivial) hv t a c hn
  exact ⟨h1, s0, s3, h2⟩

/-- every text node of an accepted document is blank, unless it is the content of a character-data element
(or the tree is just that text node) -/
theorem accepted_text {env : Env} {h : Hooks} {d : DocKind} :
    ∀ {p : Option Str} {root : Node} {q : Option Str} {n : Node}, Occurs p root q n →
      ∀ {st st' : PSt}, visitElem env h d p st root = .ok st' →
      ∀ s par, n = .text s → q = some par →
        (p = q ∧ root = n) ∨ (strip s).isEmpty = true ∨ Gen.cdataTags.contains par = true := by
  intro p root q n ho
  induction ho with
  | here => intro st st' _ s par _ _; exact Or.inl ⟨rfl, rfl⟩
  | @child p t0 a0 children c0 q n hmem hocc ih =>
    intro st st' hv s par hn hq
    right
    obtain ⟨_, hp⟩ := visitElem_ok_processed hv
    cases c0 with
    | text s0 =>
      cases hocc with
      | here =>
        cases hn; cases hq
        rcases hp.children with ⟨s1, s2, hc⟩ | ⟨hcd, _⟩
        · exact Or.inl (visitChildren_ok_all hc _ hmem)
        · exact Or.inr hcd
    | elem t1 a1 c1 =>
      have hne : ¬ (some t0 = q ∧ Node.elem t1 a1 c1 = n) := by rw [hn]; rintro ⟨_, e⟩; cases e
      rcases hp.children with ⟨s1, s2, hc⟩ | ⟨_, data, hct⟩
      · obtain ⟨sa, sb, hx⟩ := visitChildren_ok_mem hc t1 a1 c1 hmem
        exact (ih hx s par hn hq).resolve_left hne
      · obtain ⟨x, hx⟩ := collectText_ok_text hct _ hmem
        cases hx

/-! ### the seven elements with handlers -/

theorem handledTag (d : DocKind) (t : Str) (ht : t ∈ Gen.handledTags) :
    t ≠ d.topLevel ∧ d.handled.contains t = true := by
  cases d with
  | schema ext =>
    have : ∀ t ∈ Gen.handledTags, t ≠ Gen.schemaTopLevel ∧ Gen.schemaHandledTags.contains t = true := by
      decide +kernel
    exact this t ht
  | component =>
    have : ∀ t ∈ Gen.handledTags, t ≠ Gen.componentTopLevel ∧ Gen.componentHandledTags.contains t = true := by
      decide +kernel
    exact this t ht

theorem accepted_start {env : Env} {h : Hooks} {d : DocKind} {p q : Option Str} {root : Node} {t : Str} {a : Attrs}
    {c : List Node} {st st' : PSt} (ho : Occurs p root q (.elem t a c))
    (hv : visitElem env h d p st root = .ok st') (ht : t ∈ Gen.handledTags) :
    ∃ s0 s1, startHandled env h t a s0 = .ok s1 := by
  obtain ⟨h1, h2⟩ := handledTag d t ht
  obtain ⟨_, s0, s3, hp⟩ := accepted_elements ho hv t a c rfl
  cases hp
  · rename_i ht' _ _ _; exact absurd ht' h1
  · exact ⟨_, _, by assumption⟩
  · rename_i hh _ _ _; rw [h2] at hh; cases hh

/-! ### an element with handlers, as an equation

With these a proof about such an element never sees the `if` chains of `visitElem`, `startHandled` and `endHandled`, and
`simp` can run the visitor over a closed document without unfolding the branches not taken. -/

section
variable {env : Env} {h : Hooks} {d : DocKind} {p : Str} {st : PSt} {a : Attrs} {c : List Node}

/-- an element with handlers: the start handler, the children, the end handler (`visitElem_handled_eq`, for a tag of
    the table `Gen.handledTags`) -/
theorem visitElem_tag {t : Str} (ht : t ∈ Gen.handledTags) (hn : nestingCheck p t = .ok ()) :
    visitElem env h d (some p) st (.elem t a c) =
      (startHandled env h t a st >>= fun st1 => visitChildren env h d t st1 c >>= fun st2 => endHandled env t st2) :=
  visitElem_handled_eq hn (handledTag d t ht).1 (handledTag d t ht).2

theorem visitElem_key (hn : nestingCheck p "key".toList = .ok ()) :
    visitElem env h d (some p) st (.elem "key".toList a c) =
      (startKey env st a >>= fun st1 => visitChildren env h d "key".toList st1 c >>= fun st2 => endKey env st2) := by
  rw [visitElem_tag (by char_lits; decide) hn, startHandled_key, funext (endHandled_key env)]

theorem visitElem_sectiontype (hn : nestingCheck p "sectiontype".toList = .ok ()) :
    visitElem env h d (some p) st (.elem "sectiontype".toList a c) =
      (startSectiontype env st a >>= fun st1 => visitChildren env h d "sectiontype".toList st1 c >>= fun st2 =>
        endSectiontype st2) := by
  rw [visitElem_tag (by char_lits; decide) hn, startHandled_sectiontype, funext (endHandled_sectiontype env)]

theorem visitElem_abstracttype (hn : nestingCheck p "abstracttype".toList = .ok ()) :
    visitElem env h d (some p) st (.elem "abstracttype".toList a c) =
      (startAbstracttype st a >>= fun st1 => visitChildren env h d "abstracttype".toList st1 c >>= fun st2 =>
        popFrame st2) := by
  rw [visitElem_tag (by char_lits; decide) hn, startHandled_abstracttype, funext (endHandled_abstracttype env)]

end

/-! the nesting checks the closed documents of the example modules pass -/

theorem nesting_schema_sectiontype : nestingCheck "schema".toList "sectiontype".toList = .ok () := by
  char_lits; exact unit_of_isOk (by decide +kernel)
theorem nesting_schema_section : nestingCheck "schema".toList "section".toList = .ok () := by
  char_lits; exact unit_of_isOk (by decide +kernel)
theorem nesting_schema_key : nestingCheck "schema".toList "key".toList = .ok () := by
  char_lits; exact unit_of_isOk (by decide +kernel)
theorem nesting_sectiontype_key : nestingCheck "sectiontype".toList "key".toList = .ok () := by
  char_lits; exact unit_of_isOk (by decide +kernel)
theorem nesting_key_default : nestingCheck "key".toList "default".toList = .ok () := by
  char_lits; exact unit_of_isOk (by decide +kernel)

theorem startSection_ok_type {env : Env} {st st' : PSt} {attrs : Attrs} (h : startSection env st attrs = .ok st') :
    ∃ ty req, getSectiontype st attrs = .ok ty ∧ getRequired attrs = .ok req := by
  obtain ⟨ty, _, req, _, _, _, h1, h2, _⟩ := startSection_ok h
  exact ⟨ty, req, h1, h2⟩

theorem startMultisection_ok_type {env : Env} {st st' : PSt} {attrs : Attrs}
    (h : startMultisection env st attrs = .ok st') :
    ∃ ty req, getSectiontype st attrs = .ok ty ∧ getRequired attrs = .ok req := by
  obtain ⟨ty, _, req, _, _, _, h1, h2, _⟩ := startMultisection_ok h
  exact ⟨ty, req, h1, h2⟩

theorem elabES_ok {env : Env} {fuel : Nat} {tree : Node} {es : ES} (h : elabES env fuel tree = .ok es) :
    ∃ st', visitElem env (hooks env fuel) (.schema none) none { es := emptyES } tree = .ok st' ∧ st'.es = es := by
  unfold elabES at h
  cases hv : visitElem env (hooks env fuel) (.schema none) none { es := emptyES } tree with
  | error e => rw [hv] at h; cases h
  | ok st' => rw [hv] at h; cases h; exact ⟨st', rfl, rfl⟩

theorem elabSchema_ok {env : Env} {fuel : Nat} {tree : Node} {S : Cfg.Schema} (h : elabSchema env fuel tree = .ok S) :
    ∃ es, elabES env fuel tree = .ok es ∧ S = es.toSchema := by
  unfold elabSchema at h
  cases he : elabES env fuel tree with
  | error e => rw [he] at h; cases h
  | ok es => rw [he] at h; cases h; exact ⟨es, rfl, rfl⟩

/-! ### a relation kept by a whole document

What stands above `WalkRel`: the document element with its start and end, the nested documents read through the hooks (by
induction on the fuel), and `elabES`. -/

/-- `R` holds from the schema object a nested document is given to the one it returns -/
def Hooks.Rel (h : Hooks) (R : ES → ES → Prop) : Prop :=
  (∀ es tree es', h.loadComponent es tree = .ok es' → R es es') ∧
  (∀ es tree es', h.extendSchema es tree = .ok es' → R es es')

/-- a reflexive, transitive relation between schema objects kept below the document element (given hooks that keep it)
and by rewriting the top type's key type / datatype / flags -/
structure DocRel (env : Env) (R : ES → ES → Prop) : Prop where
  refl : ∀ a, R a a
  trans : ∀ {a b c}, R a b → R b c → R a c
  walk : ∀ {h d}, h.Rel R → WalkRel env h d fun s s' => R s.es s'.es
  fresh : ∀ kt dt hdl, R emptyES
    { types := [], top := { name := none, keytype := kt, datatype := dt }, handler := hdl, components := [] }
  top : ∀ es (t : EType), t.name = es.top.name → t.children = es.top.children → R es { es with top := t }

/-- where a pass starts: at the root of a schema document the state holds the object the document continues -/
def StartAt (d : DocKind) (p : Option Str) (st : PSt) : Prop :=
  p = none → ∀ ext, d = .schema ext → ext.getD emptyES = st.es

theorem visitElem_docRel {env : Env} {R} (w : DocRel env R) {h : Hooks} {d : DocKind} (hh : h.Rel R) :
    ∀ (n : Node) (p : Option Str) (st st' : PSt), StartAt d p st → visitElem env h d p st n = .ok st' → R st.es st'.es
  | n, some par, st, st', _, hv => visitElem_rel (w.walk hh) n par st st' hv
  | .text _, none, st, st', _, hv => by rw [visitElem_text] at hv; cases hv; exact w.refl _
  | .elem t a c, none, st, st', hst, hv => by
    obtain ⟨s1, s2, hs, hc, he⟩ := visitElem_root_ok hv
    have h2 := visitChildren_rel (w.walk hh) c t s1 s2 hc
    cases d with
    | component =>
      obtain ⟨q, rfl⟩ := pushPrefix_ok hs
      cases he
      exact h2
    | schema ext =>
      have h1 : R st.es s1.es := by
        refine startSchema_es (I := R st.es) hs (fun kt dt hdl => ?_) (fun _ _ _ _ hb _ he => w.trans hb (hh.2 _ _ _ he))
          (fun es kt dt hb => w.trans hb (w.top es _ rfl rfl))
        have := hst rfl ext rfl
        cases ext with
        | some es => exact this ▸ w.refl _
        | none => exact this ▸ w.fresh kt dt hdl
      refine w.trans (w.trans h1 h2) ?_
      rcases endSchema_es he with e | e <;> rw [e]
      · exact w.refl _
      · exact w.top _ _ rfl rfl

theorem hooks_docRel {env : Env} {R} (w : DocRel env R) : ∀ fuel, (hooks env fuel).Rel R
  | 0 => ⟨fun _ _ _ h => (nomatch h), fun _ _ _ h => (nomatch h)⟩
  | n + 1 => by
    constructor
    · intro es tree es' h
      obtain ⟨m, st', hm, hv, rfl⟩ := hooks_load_ok h
      cases hm
      exact visitElem_docRel w (hooks_docRel w n) tree none { es := es } st' (fun _ _ h => by cases h) hv
    · intro es tree es' h
      obtain ⟨m, st', hm, hv, rfl⟩ := hooks_extend_ok h
      cases hm
      exact visitElem_docRel w (hooks_docRel w n) tree none { es := es } st' (fun _ _ h => by cases h; rfl) hv

theorem elabES_docRel {env : Env} {R} (w : DocRel env R) {fuel : Nat} {t : Node} {es : ES}
    (h : elabES env fuel t = .ok es) : R emptyES es := by
  obtain ⟨st', hv, rfl⟩ := elabES_ok h
  exact visitElem_docRel w (hooks_docRel w fuel) t none { es := emptyES } st' (fun _ _ h => by cases h; rfl) hv

/-! ### a small accepted document (non-vacuity of the document-level statements) -/

theorem attr_nil (k : String) : attr [] k = none := rfl

theorem getSectTypeinfo_defaults (env : Env) (st : PSt) :
    getSectTypeinfo env st [] none = .ok ("basic-key".toList, "null".toList) := by
  unfold getSectTypeinfo
  simp only [Option.map_none, getDatatype_default env st [] _ _ rfl, regGet_basicKey, regGet_string, regGet_null, bind,
    Except.bind, pure, Except.pure]

theorem startSchema_empty (env : Env) (h : Hooks) :
    startSchema env h none { es := emptyES } [] =
      .ok { es := { types := [], top := { name := none, keytype := "basic-key".toList, datatype := "null".toList },
                    handler := none, components := [] },
            prefixes := [[]], stack := [.schema] } := by
  unfold startSchema
  rw [pushPrefix_none _ [] rfl]
  simp only [bind, Except.bind, pure, Except.pure, getHandler, attr_nil, getSectTypeinfo_defaults]
  rfl

/-- `<schema><abstracttype name="a"/></schema>` -/
def exDoc : Node :=
  .elem "schema".toList [] [.elem "abstracttype".toList [("name".toList, "a".toList)] []]

theorem exDoc_accepted (env : Env) (fuel : Nat) : ∃ es, elabES env fuel exDoc = .ok es := by
  have h3 : nestingCheck "schema".toList "abstracttype".toList = .ok () :=
    (nestingCheck_ok_iff _ _).2 ⟨["component".toList, "schema".toList], by char_lits; decide +kernel, by char_lits; decide +kernel⟩
  have h6 : attr [("name".toList, "a".toList)] "name" = some "a".toList := by char_lits; decide +kernel
  have h7 : basicKeyE "a".toList = .ok "a".toList := by rw [basicKeyE_eq]; rfl
  unfold elabES exDoc
  rw [visitElem_root_eq (d := .schema none) (t := "schema".toList) rfl]
  simp only [startSchema_empty, ok_bind, visitChildren_elem, visitChildren_nil, visitElem_abstracttype h3]
  rw [startAbstracttype_named _ _ _ _ h6 h7, addType_fresh _ _ _ (by simp [ES.typeNames])]
  exact ⟨_, rfl⟩

/-! ## the component registry only grows

Every handler leaves `es.components` alone except `start_import`, which appends and then reads the component through a
hook, and `start_schema`, which reads base schemas through a hook; the loader's hooks never drop an entry (`hooks_mono`).
With `startImport_once` this gives, in `Props/C11.lean`, that every later `<import>` of a recorded component — also one met
while the component itself is being read — is skipped. -/

/-- the component registry (`SchemaType._components`) in a loader state -/
def comps (st : PSt) : List Str := st.es.components

/-- hooks that never forget a component -/
def Hooks.Mono (h : Hooks) : Prop :=
  (∀ es tree es', h.loadComponent es tree = .ok es' → es.components ⊆ es'.components) ∧
  (∀ es tree es', h.extendSchema es tree = .ok es' → es.components ⊆ es'.components)

theorem SameTable.comps {st st' : PSt} (h : SameTable st.es st'.es) : comps st' = comps st := h.2

theorem startHandled_comps {env : Env} {h : Hooks} {t : Str} {a : Attrs} {st st' : PSt} (hm : h.Mono)
    (hs : startHandled env h t a st = .ok st') : comps st ⊆ comps st' := by
  rcases startHandled_table hs with hs | ⟨hc, _⟩
  · rcases startImport_ok hs with rfl | ⟨pkg, file, tree, es2, _, hl, rfl⟩
    · exact fun x hx => hx
    · exact fun x hx => hm.1 _ _ _ hl (List.mem_append_left _ hx)
  · have hc : comps st' = comps st := hc
    exact fun x hx => hc ▸ hx

theorem startSchema_comps {env : Env} {h : Hooks} {es : ES} {st st' : PSt} {attrs : Attrs} (hm : h.Mono)
    (hs : startSchema env h (some es) st attrs = .ok st') : es.components ⊆ comps st' :=
  startSchema_es (I := fun e => es.components ⊆ e.components) hs (fun _ _ _ _ hx => hx)
    (fun _ _ _ _ hb _ he _ hx => hm.2 _ _ _ he (hb hx)) (fun _ _ _ hb => hb)

/-- where a pass starts: below an element, or at the root of a component, or at the root of a base schema that
continues the extending schema `es` (the way `hooks` call it) -/
def StartOk (d : DocKind) (p : Option Str) (st : PSt) : Prop :=
  match p, d with
  | some _, _ => True
  | none, .component => True
  | none, .schema (some es) => es = st.es
  | none, .schema none => False

theorem comps_walk {env : Env} {h : Hooks} {d : DocKind} (hm : h.Mono) :
    WalkRel env h d fun s s' => comps s ⊆ comps s' where
  refl _ _ hx := hx
  trans h1 h2 _ hx := h2 (h1 hx)
  handled hs _ hc he _ hx := (endHandled_sameTable he).comps ▸ hc (startHandled_comps hm hs hx)
  cdata hch _ hx := (charactersTag_sameTable hch).comps ▸ hx

theorem visitChildren_comps {env : Env} {h : Hooks} {d : DocKind} (hm : h.Mono) :
    ∀ (l : List Node) (parent : Str) (st st' : PSt), visitChildren env h d parent st l = .ok st' →
      comps st ⊆ comps st' :=
  visitChildren_rel (comps_walk hm)

theorem comps_docRel (env : Env) : DocRel env fun a b => a.components ⊆ b.components where
  refl _ _ hx := hx
  trans h1 h2 _ hx := h2 (h1 hx)
  walk hh := comps_walk hh
  fresh _ _ _ _ hx := hx
  top _ _ _ _ _ hx := hx

theorem visitElem_comps {env : Env} {h : Hooks} {d : DocKind} (hm : h.Mono) :
    ∀ (n : Node) (p : Option Str) (st st' : PSt), StartOk d p st → visitElem env h d p st n = .ok st' →
      comps st ⊆ comps st' := fun n p st st' hs hv =>
  visitElem_docRel (comps_docRel env) hm n p st st' (by
    rintro rfl ext rfl
    cases ext with
    | none => exact hs.elim
    | some es => exact hs) hv

theorem hooks_mono (env : Env) : ∀ n, (hooks env n).Mono := hooks_docRel (comps_docRel env)

/-- every element with a handler in an accepted (sub)document had its start handler run in a state that still lists
every component that was listed when the pass started -/
theorem accepted_start_comps {env : Env} {h : Hooks} {d : DocKind} (hm : h.Mono) (C : List Str) :
    ∀ {p : Option Str} {root : Node} {q : Option Str} {n : Node}, Occurs p root q n →
      ∀ {st st' : PSt}, StartOk d p st → C ⊆ comps st → visitElem env h d p st root = .ok st' →
      ∀ t a c, n = .elem t a c → t ∈ Gen.handledTags →
        ∃ s0 s1, C ⊆ comps s0 ∧ startHandled env h t a s0 = .ok s1 := by
  intro p root q n ho st st' hok hC hv t a c hn ht
  -- the start of the document element
  have hTop : ∀ a s1, p = none → (match d with
      | .schema ext => startSchema env h ext st a
      | .component => pushPrefix { st with stack := [] } a) = .ok s1 → C ⊆ comps s1 := by
    intro a s1 hp hs
    subst hp
    cases d with
    | component =>
      obtain ⟨q', rfl⟩ := pushPrefix_ok hs
      exact hC
    | schema ext =>
      cases ext with
      | none => exact hok.elim
      | some es =>
        cases (hok : es = st.es)
        exact fun x hx => startSchema_comps hm hs (hC hx)
  obtain ⟨_, s0, s3, hC0, hp⟩ := accepted_elements_of (I := fun s => C ⊆ comps s)
    (fun par _ _ _ st st' hC hv _ hx => visitElem_comps hm _ (some par) st st' trivial hv (hC hx))
    (fun _ _ _ _ hC hs _ hx => startHandled_comps hm hs (hC hx)) ho hC hTop hv t a c hn
  obtain ⟨h1, h2⟩ := handledTag d t ht
  cases hp with
  | top _ _ _ ht' => exact absurd ht' h1
  | handled s1 _ _ _ _ hs => exact ⟨s0, s1, hC0, hs⟩
  | cdata _ _ _ hh => rw [h2] at hh; cases hh

end ZCV.Elab
