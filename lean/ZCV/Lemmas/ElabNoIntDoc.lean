import ZCV.Lemmas.ElabNoIntKey
/-!
No internal errors: `<abstracttype>`, `<sectiontype>` (with `extends` / `implements`), `<import>`, `<schema>`.
Also defines what is asked of nested documents: `HooksNI P T h` and `EnvTrees T env`.
-/
namespace ZCV.Elab
open ZCV ZCV.Cfg

variable {P : String → Prop}

/-! ### the type table -/

theorem addType_ni (es : ES) (n : Str) (e : EEntry) : NIx P (addType es n e) := by
  rw [addType_eq]
  exact NIx.ite (fun _ => NIx.schema _) fun _ => NIx.ok _

theorem kindAt_snoc {es : ES} {n : Str} {e : EEntry} (h : es.types.any (·.1 == n) = false) :
    kindAt { es with types := es.types ++ [(n, e)] } n = some (entryKind e) := by
  rw [kindAt_eq]
  show Option.map _ ((es.types ++ [(n, e)]).find? (·.1 == n)) = _
  have hnone : es.types.find? (·.1 == n) = none := by
    rw [List.find?_eq_none]
    intro p hp
    rw [List.any_eq_false] at h
    exact h p hp
  rw [List.find?_append, hnone]
  simp

theorem startAbstracttype_ni (st : PSt) (attrs : Attrs) : NIx P (startAbstracttype st attrs) := by
  unfold startAbstracttype
  split
  · exact NIx.bind (basicKeyE_ni _) fun n _ => NIx.bind (addType_ni _ _ _) fun _ _ => NIx.pure _
  · exact NIx.serr _

theorem startAbstracttype_post {st st' : PSt} {attrs : Attrs} (hks : KeysOK st.es)
    (h : startAbstracttype st attrs = .ok st') :
    ∃ n, st'.stack = .atype n :: st.stack ∧ st'.prefixes = st.prefixes ∧ kindAt st'.es n = some false ∧ KeysOK st'.es := by
  obtain ⟨_, n, es, _, _, hadd, rfl⟩ := startAbstracttype_ok h
  obtain ⟨hnew, hes⟩ := addType_eff hadd
  refine ⟨n, rfl, rfl, ?_, hks.addType hadd (by intro t ht; cases ht)⟩
  show kindAt es n = some false
  rw [hes]; exact kindAt_snoc hnew

/-! ### `<sectiontype>` -/

theorem deriveChildren_ni {env : Env} (hke : ∀ kt s e, env.conv.key kt s = .error e → e = .valueError) (kt : Str)
    {ch : List (Option Str × EInfo)} (hch : ChKeys ch) : NIx P (deriveChildren env kt ch) := by
  unfold deriveChildren
  refine NIq.ni (Ends.mapM_fails fun ⟨key, info⟩ hmem => NIq.of_ni ?_ fun _ _ => trivial)
  dsimp only
  cases info with
  | sect si => exact NIx.pure _
  | key k =>
    dsimp only
    have hk := hch _ hmem k rfl
    exact NIx.ite (fun hp => NIx.bind (computeDefault_ni' hke _ hk hp) fun _ _ => NIx.pure _) fun _ => NIx.pure _

theorem deriveChildren_chKeys {env : Env} {kt : Str} {ch0 ch : List (Option Str × EInfo)} (h0 : ChKeys ch0)
    (h : deriveChildren env kt ch0 = .ok ch) : ChKeys ch := by
  intro c' hc' k1 hk1
  obtain ⟨c, hc, hd⟩ := deriveChildren_mem h hc'
  rcases hd.cases with rfl | ⟨k, k', hk, hcd, rfl⟩
  · exact h0 _ hc k1 hk1
  · cases hk1
    exact (computeDefault_shape env kt k k1 (h0 _ hc k hk) hcd).1

theorem sectiontypeBase_ni {env : Env} {st1 : PSt} (he : EnvNI env) (hks : KeysOK st1.es) (hp : st1.prefixes ≠ [])
    (attrs : Attrs) (name : Str) : NIx P (sectiontypeBase env st1 attrs name) := by
  unfold sectiontypeBase
  split
  · refine NIx.bind (basicKeyE_ni _) (fun bn _ => ?_)
    split
    · exact NIx.serr _
    · exact NIx.serr _
    · rename_i q base hg
      refine NIx.bind (getSectTypeinfo_ni he.dotted hp _ _) (fun r _ => ?_)
      refine NIx.bind (addType_ni _ _ _) (fun es' _ => ?_)
      exact NIx.bind (deriveChildren_ni he.keyErr _ (hks.types _ (gettype_some hg).2 _ rfl)) (fun _ _ => NIx.pure _)
  · exact NIx.bind (getSectTypeinfo_ni he.dotted hp _ _) (fun r _ => addType_ni _ _ _)

theorem sectiontypeImplements_ni (es2 : ES) (attrs : Attrs) (name : Str) : NIx P (sectiontypeImplements es2 attrs name) := by
  unfold sectiontypeImplements
  split
  · refine NIx.bind (basicKeyE_ni _) (fun ifn _ => ?_)
    split
    · exact NIx.serr _
    · exact NIx.serr _
    · exact NIx.pure _
  · exact NIx.pure _

theorem startSectiontype_ni {env : Env} {st : PSt} (he : EnvNI env) (hks : KeysOK st.es) (attrs : Attrs) :
    NIx P (startSectiontype env st attrs) := by
  rw [startSectiontype_eq]
  split
  · refine NIx.bind (basicKeyE_ni _) (fun name _ => ?_)
    refine NIx.bind (pushPrefix_ni _ _) (fun st1 hst1 => ?_)
    obtain ⟨x, rfl⟩ := pushPrefix_ok hst1
    refine NIx.bind (sectiontypeBase_ni (st1 := { st with prefixes := x :: st.prefixes }) he hks (List.cons_ne_nil _ _) _ _)
      (fun es2 _ => ?_)
    exact NIx.bind (sectiontypeImplements_ni _ _ _) (fun _ _ => NIx.pure _)
  · exact NIx.serr _

theorem startSectiontype_post {env : Env} {st st' : PSt} {attrs : Attrs} (hks : KeysOK st.es)
    (h : startSectiontype env st attrs = .ok st') :
    ∃ name x, st'.stack = .stype name :: st.stack ∧ st'.prefixes = x :: st.prefixes ∧
      kindAt st'.es name = some true ∧ KeysOK st'.es := by
  obtain ⟨name, x, t, g, hs, hp, hf, _, hch, hg, he⟩ := startSectiontype_table h
  have hadd := addType_fresh st.es name (.concrete t) hf
  have hc : ChKeys t.children := by
    rcases hch with h0 | ⟨bn, key, base, hgt, hder⟩
    · rw [h0]; exact ChKeys.nil
    · exact deriveChildren_chKeys (hks.types _ (gettype_some hgt).2 _ rfl) hder
  have h2 := hks.addType hadd (by intro t' ht; cases ht; exact hc)
  refine ⟨name, x, hs, hp, ?_, by rw [he]; exact h2.absOnly hg⟩
  rw [he]
  exact (kindAt_congr (kinds_absOnly { st.es with types := st.es.types ++ [(name, .concrete t)] } hg) name).trans
    (kindAt_snoc (addType_eff hadd).1)

/-! ### `<import>` -/

/-- nested documents: on trees satisfying `T`, from a state with `KeysOK`, every internal error satisfies `P` and `KeysOK`
is kept -/
structure HooksNI (P : String → Prop) (T : Node → Prop) (h : Hooks) : Prop where
  load_ni : ∀ es tree, KeysOK es → T tree → NIx P (h.loadComponent es tree)
  load_keys : ∀ es tree es', KeysOK es → T tree → h.loadComponent es tree = .ok es' → KeysOK es'
  ext_ni : ∀ es tree, KeysOK es → T tree → NIx P (h.extendSchema es tree)
  ext_keys : ∀ es tree es', KeysOK es → T tree → h.extendSchema es tree = .ok es' → KeysOK es'

/-- every document the environment can hand out satisfies `T` -/
structure EnvTrees (T : Node → Prop) (env : Env) : Prop where
  comps : ∀ p f t, env.comps p f = .doc t → T t
  bases : ∀ s t, env.bases s = some t → T t

theorem KeysOK.set_components {es : ES} (h : KeysOK es) (c : List Str) : KeysOK { es with components := c } :=
  ⟨h.top, h.types⟩

theorem startImport_ni {env : Env} {hk : Hooks} {T : Node → Prop} {st : PSt} {attrs : Attrs}
    (hh : HooksNI P T hk) (ht : EnvTrees T env) (hks : KeysOK st.es) (hp : st.prefixes ≠ [])
    (hsrc : (attrStrip attrs "src").isEmpty = true) : NIx P (startImport env hk st attrs) := by
  unfold startImport
  dsimp only
  have hsrc' : ¬ ((!(attrStrip attrs "src").isEmpty) = true) := by simp [hsrc]
  refine NIx.guard (by intro e h; cases h) (fun _ => ?_)
  refine NIx.guard (by intro e h; cases h) (fun _ => ?_)
  rw [if_neg hsrc']
  refine NIx.guard (by intro e h; cases h) (fun _ => ?_)
  refine NIx.bind (getClassname_ni hp _) (fun pkg' _ => ?_)
  refine NIx.guard (by intro e h; cases h) (fun _ => ?_)
  cases hres : env.comps pkg' (if (attrStrip attrs "file").isEmpty = true then "component.xml".toList else attrStrip attrs "file") with
  | notImportable => exact NIx.schemaResource _
  | notPackage => exact NIx.schemaResource _
  | noFile => exact NIx.ite (fun _ => NIx.pure _) fun _ => NIx.schemaResource _
  | doc tree =>
    exact NIx.ite (fun _ => NIx.pure _) fun _ =>
      NIx.bind (hh.load_ni _ _ (hks.set_components _) (ht.comps _ _ _ hres)) fun _ _ => NIx.pure _

theorem startImport_post {env : Env} {hk : Hooks} {T : Node → Prop} {st st' : PSt} {attrs : Attrs}
    (hh : HooksNI P T hk) (ht : EnvTrees T env) (hks : KeysOK st.es)
    (h : startImport env hk st attrs = .ok st') :
    st'.stack = st.stack ∧ st'.prefixes = st.prefixes ∧ KeysOK st'.es := by
  rcases startImport_ok h with rfl | ⟨pkg, file, tree, es2, hres, hl, rfl⟩
  · exact ⟨rfl, rfl, hks⟩
  · exact ⟨rfl, rfl, hh.load_keys _ _ _ (hks.set_components _) (ht.comps _ _ _ hres) hl⟩

/-! ### `<schema>` -/

theorem inheritType_ni (bases : List Str) (own : Str) (given : Bool) : NIx P (inheritType bases own given) := by
  unfold inheritType
  split
  · exact NIx.ok _
  · exact NIx.ite (fun _ => NIx.ok _) fun _ => NIx.ite (fun _ => NIx.ok _) fun _ => NIx.serr _

theorem KeysOK.fresh (kt dt : Str) (handler : Option Str) :
    KeysOK { types := [], top := { name := none, keytype := kt, datatype := dt }, handler := handler, components := [] } :=
  ⟨ChKeys.nil, by intro p hp; cases hp⟩

theorem startSchema_ni {env : Env} {hk : Hooks} {T : Node → Prop} {ext : Option ES} {st : PSt} {attrs : Attrs}
    (he : EnvNI env) (hh : HooksNI P T hk) (ht : EnvTrees T env) (hext : ∀ es, ext = some es → KeysOK es) :
    NIx P (startSchema env hk ext st attrs) := by
  unfold startSchema
  refine NIx.bind (pushPrefix_ni _ _) (fun st1 hst1 => ?_)
  obtain ⟨x, rfl⟩ := pushPrefix_ok hst1
  have hp1 : (x :: st.prefixes) ≠ [] := by simp
  refine NIx.bind (getHandler_ni _) (fun handler _ => ?_)
  refine NIx.bind (getSectTypeinfo_ni he.dotted hp1 _ _) (fun r _ => ?_)
  obtain ⟨kt, dt⟩ := r
  dsimp -zeta only
  extract_lets es0 st2 jp
  have h0 : KeysOK es0 := by
    simp only [es0]
    split
    · exact hext _ rfl
    · exact KeysOK.fresh _ _ _
  have hjp : ∀ y, NIx P (jp y) := fun y => NIx.pure _
  split
  · refine NIx.bind ?_ (fun st' _ => ?_)
    · refine NIq.ni (Ends.foldlM (I := fun acc : PSt => KeysOK acc.es) h0 fun acc src _ hacc =>
        NIq.of_ni ?_ fun acc' hstep => ?_)
      · dsimp only
        refine NIx.guard (fun _ h => nomatch h) fun _ => ?_
        split
        · exact NIx.schemaResource _
        · rename_i tree htree
          exact NIx.bind (hh.ext_ni _ _ hacc (ht.bases _ _ htree)) fun _ _ => NIx.pure _
      · extract_lets jp2 at hstep
        obtain ⟨_, hstep⟩ := guard_jp hstep
        simp only [jp2] at hstep
        split at hstep
        · cases hstep
        · rename_i tree htree
          rw [bind_ok] at hstep
          obtain ⟨es', hes', hstep⟩ := hstep
          simp only [pure, Except.pure, Except.ok.injEq] at hstep
          subst hstep
          exact hh.ext_keys _ _ _ hacc (ht.bases _ _ htree) hes'
    · exact NIx.bind (inheritType_ni _ _ _) fun _ _ => NIx.bind (inheritType_ni _ _ _) fun _ _ => hjp _
  · exact hjp _

theorem startSchema_post {env : Env} {hk : Hooks} {T : Node → Prop} {ext : Option ES} {st st' : PSt} {attrs : Attrs}
    (hh : HooksNI P T hk) (ht : EnvTrees T env) (hext : ∀ es, ext = some es → KeysOK es)
    (h : startSchema env hk ext st attrs = .ok st') :
    st'.stack = [.schema] ∧ (∃ x, st'.prefixes = x :: st.prefixes) ∧ KeysOK st'.es := by
  refine ⟨(startSchema_frame h).1, (startSchema_frame h).2, ?_⟩
  refine startSchema_es (I := KeysOK) h (fun _ _ _ => ?_) (fun _ _ _ _ hes htree he => hh.ext_keys _ _ _ hes (ht.bases _ _ htree) he)
    (fun _ _ _ hb => hb.top_congr _ rfl)
  cases ext with
  | some es => exact hext _ rfl
  | none => exact KeysOK.fresh _ _ _

theorem endSchema_ni {b : Bool} {st : PSt} {f : Frame} {x : Str} (hs : st.stack = [f]) (hp : st.prefixes = [x]) :
    NIx P (endSchema b st) := by
  unfold endSchema
  rw [hs]
  dsimp only
  have : (popPrefix st).prefixes = [] := by simp [popPrefix, hp]
  rw [this]
  exact NIx.ok _

end ZCV.Elab
