import ZCV.Lemmas.SlotsTable
import ZCV.Lemmas.Except
import ZCV.Lemmas.Lists
import ZCV.Spec.Conforms
/-!
C12, `%import` side: `lsImport` in one equation.  A component's types are appended one by one (`addStep`), each followed
by the registrations its `implements` attribute asks for (`regAll`).  When none of the names is taken, the outcome is
`sc.withComponent types impls`: the old entries with all the component's calls applied (`regEntries`, SlotsTable.lean),
followed by the component's own entries, each with its own calls and those of the types after it; otherwise the one
refusal (`fold_addStep_eq`).  `lsImport_eq` is `lsImport` written with that; what an import adds, keeps and refuses is
then read off the table (`Ext`, `withComponent_defines`, `withComponent_registers`, `withComponent_registers_own`).
-/
namespace ZCV.Cfg
open ZCV ZCV.Conf

/-! ### the pieces of `lsImport` (`lsImport_component`: the fold as the model runs it, for proofs that follow the fold step by
    step; `lsImport_eq` below is its closed form) -/

theorem lsImport_component (st : LS) (pkg url : Str) (types : List (Str × TypeEntry)) (impls : List (Str × Str))
    (hp : st.pkgs pkg = .component url types impls) :
    lsImport st pkg =
      if st.schema.components.contains url then .ok { st with privateSchema := true }
      else (types.foldlM (addStep impls) { st.schema with components := st.schema.components ++ [url] }).map
             fun sch => { st with schema := sch, privateSchema := true } := by
  unfold lsImport
  rw [hp]
  simp only
  split
  · rfl
  · show (do let sch ← List.foldlM (addStep impls) _ types; pure _) = _
    cases List.foldlM (addStep impls) { st.schema with components := st.schema.components ++ [url] } types <;> rfl

theorem lsImport_ok_component (st st' : LS) (pkg : Str) (h : lsImport st pkg = .ok st') :
    ∃ url types impls, st.pkgs pkg = .component url types impls := by
  cases hp : st.pkgs pkg with
  | component url types impls => exact ⟨url, types, impls, rfl⟩
  | _ => unfold lsImport at h; rw [hp] at h; cases h

theorem gettype_none_iff_keys (sc : Schema) (x : Str) :
    sc.gettype x = none ↔ lower x ∉ sc.types.map (·.1) := by
  unfold Schema.gettype
  rw [Option.map_eq_none_iff]; exact find_fst_none _ _

/-! ### the calls of a component -/

theorem regAll_eq_foldl (n : Str) : ∀ (impls : List (Str × Str)) (sc : Schema),
    regAll impls n sc = (impls.filter (·.1 == n)).foldl regImpl sc := by
  intro impls
  unfold regAll
  induction impls with
  | nil => intro sc; rfl
  | cons ia rest ih =>
    intro sc
    rw [List.foldl_cons, List.filter_cons]
    split
    · rw [List.foldl_cons]; exact ih _
    · exact ih _

/-- all the `addsubtype` calls a component makes when it is read to its end: for each of its types, in order, the
    declarations `implements` made for it (`compRegs` of `Model/History.lean` is this list) -/
def compCalls (types : List (Str × TypeEntry)) (impls : List (Str × Str)) : List (Str × Str) :=
  types.flatMap fun te => impls.filter (·.1 == te.1)

theorem compCalls_cons (te : Str × TypeEntry) (rest : List (Str × TypeEntry)) (impls : List (Str × Str)) :
    compCalls (te :: rest) impls = impls.filter (·.1 == te.1) ++ compCalls rest impls := by
  unfold compCalls
  rw [List.flatMap_cons]

theorem mem_compCalls (types : List (Str × TypeEntry)) (impls : List (Str × Str)) (ia : Str × Str) :
    ia ∈ compCalls types impls ↔ ia ∈ impls ∧ ia.1 ∈ types.map (·.1) := by
  unfold compCalls
  simp only [List.mem_flatMap, List.mem_filter, beq_iff_eq, List.mem_map]
  constructor
  · rintro ⟨te, hte, hi, he⟩
    exact ⟨hi, te, hte, he.symm⟩
  · rintro ⟨hi, te, hte, he⟩
    exact ⟨te, hte, hi, he.symm⟩

/-! ### a component read to its end, as a table -/

def newEntries (impls : List (Str × Str)) : List (Str × TypeEntry) → List (Str × TypeEntry)
  | [] => []
  | te :: r => regEntries (compCalls (te :: r) impls) te :: newEntries impls r

def Schema.withComponent (sc : Schema) (types : List (Str × TypeEntry)) (impls : List (Str × Str)) : Schema :=
  { sc with types := sc.types.map (regEntries (compCalls types impls)) ++ newEntries impls types }

def freshKeys : List Str → List (Str × TypeEntry) → Bool
  | _, [] => true
  | ks, te :: r => !ks.contains te.1 && freshKeys (ks ++ [te.1]) r

theorem withComponent_nil (sc : Schema) (impls : List (Str × Str)) : sc.withComponent [] impls = sc := by
  unfold Schema.withComponent
  rw [show compCalls [] impls = [] from rfl, regEntries_nil_fun, List.map_id, newEntries, List.append_nil]

theorem newEntries_keys (impls : List (Str × Str)) : ∀ (l : List (Str × TypeEntry)),
    (newEntries impls l).map (·.1) = l.map (·.1)
  | [] => rfl
  | te :: r => by rw [newEntries, List.map_cons, List.map_cons, regEntries_fst, newEntries_keys impls r]

theorem withComponent_keys (sc : Schema) (types : List (Str × TypeEntry)) (impls : List (Str × Str)) :
    (sc.withComponent types impls).types.map (·.1) = sc.types.map (·.1) ++ types.map (·.1) := by
  unfold Schema.withComponent
  rw [List.map_append, newEntries_keys, List.map_map]
  congr 1
  exact List.map_congr_left fun p _ => regEntries_fst _ p

theorem addStep_eq (impls : List (Str × Str)) (sc : Schema) (te : Str × TypeEntry) :
    addStep impls sc te =
      if (sc.types.map (·.1)).contains te.1 then .error (.cfg { kind := .schema, tag := "type name cannot be redefined" })
      else .ok { sc with types := (sc.types ++ [te]).map (regEntries (impls.filter (·.1 == te.1))) } := by
  have hany : sc.types.any (·.1 == te.1) = (sc.types.map (·.1)).contains te.1 := by
    rw [Bool.eq_iff_iff, List.any_eq_true, List.contains_iff_mem, List.mem_map]
    constructor
    · rintro ⟨p, hp, he⟩; exact ⟨p, hp, by simpa using he⟩
    · rintro ⟨p, hp, he⟩; exact ⟨p, hp, by simpa using he⟩
  unfold addStep
  rw [hany, regAll_eq_foldl, foldl_regImpl_eq]

theorem withComponent_cons (impls : List (Str × Str)) (sc : Schema) (te : Str × TypeEntry) (rest : List (Str × TypeEntry)) :
    ({ sc with types := (sc.types ++ [te]).map (regEntries (impls.filter (·.1 == te.1))) } : Schema).withComponent rest impls =
      sc.withComponent (te :: rest) impls := by
  have happ : regEntries (compCalls (te :: rest) impls) =
      fun p => regEntries (compCalls rest impls) (regEntries (impls.filter (·.1 == te.1)) p) := by
    funext p
    rw [compCalls_cons, regEntries_append]
  unfold Schema.withComponent
  rw [newEntries, happ]
  simp only [List.map_append, List.map_map, List.map_cons, List.map_nil, List.append_assoc, List.cons_append,
    List.nil_append, Function.comp_def]

theorem fold_addStep_eq (impls : List (Str × Str)) : ∀ (types : List (Str × TypeEntry)) (sc : Schema),
    types.foldlM (addStep impls) sc =
      if freshKeys (sc.types.map (·.1)) types then .ok (sc.withComponent types impls)
      else .error (.cfg { kind := .schema, tag := "type name cannot be redefined" }) := by
  intro types
  induction types with
  | nil => intro sc; rw [withComponent_nil]; rfl
  | cons te rest ih =>
    intro sc
    rw [List.foldlM_cons, freshKeys, addStep_eq]
    cases (sc.types.map (·.1)).contains te.1 with
    | true => rfl
    | false =>
      have hk : (List.map (regEntries (impls.filter (·.1 == te.1))) (sc.types ++ [te])).map (·.1) = sc.types.map (·.1) ++ [te.1] := by
        rw [List.map_map]
        exact (List.map_congr_left fun p _ => regEntries_fst _ p).trans List.map_append
      rw [if_neg Bool.false_ne_true, ok_bind, ih, hk, withComponent_cons, Bool.not_false, Bool.true_and]

theorem fold_error (impls : List (Str × Str)) (types : List (Str × TypeEntry)) (sc : Schema) (f : Fail)
    (h : types.foldlM (addStep impls) sc = .error f) :
    f = .cfg { kind := .schema, tag := "type name cannot be redefined" } := by
  rw [fold_addStep_eq] at h
  split at h
  · cases h
  · cases h; rfl

theorem freshKeys_not_mem : ∀ (types : List (Str × TypeEntry)) (ks : List Str), freshKeys ks types = true →
    ∀ te ∈ types, te.1 ∉ ks
  | [], _, _, _, h => by cases h
  | t :: r, ks, hf, te, h => by
    rw [freshKeys, Bool.and_eq_true] at hf
    rcases List.mem_cons.mp h with rfl | h
    · simpa using hf.1
    · exact fun hm => freshKeys_not_mem r _ hf.2 te h (List.mem_append_left _ hm)

theorem freshKeys_append : ∀ (pre r : List (Str × TypeEntry)) (ks : List Str), freshKeys ks (pre ++ r) = true →
    freshKeys (ks ++ pre.map (·.1)) r = true
  | [], r, ks, h => by rw [List.map_nil, List.append_nil]; exact h
  | p :: pre, r, ks, h => by
    rw [List.cons_append, freshKeys, Bool.and_eq_true] at h
    rw [List.map_cons, List.append_cons]
    exact freshKeys_append pre r _ h.2

theorem mem_newEntries (impls : List (Str × Str)) : ∀ (l : List (Str × TypeEntry)) (p : Str × TypeEntry),
    p ∈ newEntries impls l → ∃ te ∈ l, ∃ R, p = regEntries R te
  | [], _, h => by cases h
  | te :: r, p, h => by
    rw [newEntries] at h
    rcases List.mem_cons.mp h with rfl | h
    · exact ⟨te, List.mem_cons_self, _, rfl⟩
    · obtain ⟨te', h1, R, h2⟩ := mem_newEntries impls r p h
      exact ⟨te', List.mem_cons_of_mem _ h1, R, h2⟩

theorem mem_withComponent (sc : Schema) (types : List (Str × TypeEntry)) (impls : List (Str × Str)) (q : Str × TypeEntry)
    (hq : q ∈ (sc.withComponent types impls).types) : ∃ p ∈ sc.types ++ types, EntRel p q := by
  rcases List.mem_append.mp hq with h | h
  · obtain ⟨p, hp, rfl⟩ := List.mem_map.mp h
    exact ⟨p, List.mem_append_left _ hp, EntRel_regEntries _ p⟩
  · obtain ⟨p, hp, R, rfl⟩ := mem_newEntries impls types q h
    exact ⟨p, List.mem_append_right _ hp, EntRel_regEntries R p⟩

/-! ### looking a name up in the table -/

theorem gettype_withComponent_old (sc : Schema) (types : List (Str × TypeEntry)) (impls : List (Str × Str)) (x : Str)
    (e : TypeEntry) (h : sc.gettype x = some e) :
    (sc.withComponent types impls).gettype x = some (regEntries (compCalls types impls) (lower x, e)).2 := by
  rw [gettype_regs_append sc _ _ _ rfl, h]
  rfl

theorem find_newEntries (impls : List (Str × Str)) (c : Str) (e : TypeEntry) (post : List (Str × TypeEntry)) :
    ∀ (pre : List (Str × TypeEntry)), c ∉ pre.map (·.1) →
      (newEntries impls (pre ++ (c, e) :: post)).find? (·.1 == c) = some (regEntries (compCalls ((c, e) :: post) impls) (c, e))
  | [], _ => by rw [List.nil_append, newEntries, List.find?_cons, regEntries_fst, beq_iff_eq.mpr rfl]
  | p :: pre, h => by
    rw [List.map_cons, List.mem_cons, not_or] at h
    have hne : (p.1 == c) = false := by simpa using fun e => h.1 e.symm
    rw [List.cons_append, newEntries, List.find?_cons, regEntries_fst, hne]
    exact find_newEntries impls c e post pre h.2

theorem gettype_withComponent_new (sc : Schema) (impls : List (Str × Str)) (c : Str) (e : TypeEntry)
    (pre post : List (Str × TypeEntry)) (hlc : lower c = c)
    (hf : freshKeys (sc.types.map (·.1)) (pre ++ (c, e) :: post) = true) :
    (sc.withComponent (pre ++ (c, e) :: post) impls).gettype c =
      some (regEntries (compCalls ((c, e) :: post) impls) (c, e)).2 := by
  have hc := freshKeys_not_mem _ _ (freshKeys_append pre _ _ hf) (c, e) List.mem_cons_self
  rw [List.mem_append, not_or] at hc
  unfold Schema.gettype Schema.withComponent
  rw [hlc, List.find?_append, List.find?_eq_none.mpr, Option.none_or, find_newEntries impls c e post pre hc.2]
  · rfl
  · intro p hp
    obtain ⟨q, hq, rfl⟩ := List.mem_map.mp hp
    rw [regEntries_fst]
    simpa using fun e => hc.1 (List.mem_map.mpr ⟨q, hq, e⟩)

/-! ### what an import adds and keeps -/

/-- `sc'` is `sc` after some types named in `N` have been added and registered as `impls` says -/
structure Ext (impls : List (Str × Str)) (N : List Str) (sc sc' : Schema) : Prop where
  comps : sc'.components = sc.components
  top : sc'.top = sc.top
  handler : sc'.handler = sc.handler
  abs : ∀ x, isAbstract sc x = true → isAbstract sc' x = true
  conc : ∀ x t, sc.gettype x = some (.concrete t) → sc'.gettype x = some (.concrete t)
  mono : ∀ x y, isAbstract sc x = true → y ∈ implementers sc x → y ∈ implementers sc' x
  only : ∀ x y, isAbstract sc x = true → y ∈ implementers sc' x →
    y ∈ implementers sc x ∨ (y ∈ N ∧ (y, lower x) ∈ impls)

theorem Ext_withComponent (sc : Schema) (types : List (Str × TypeEntry)) (impls : List (Str × Str)) :
    Ext impls (types.map (·.1)) sc (sc.withComponent types impls) := by
  -- every clause is about an abstract or concrete entry of `sc`: look it up, then `regEntries_abstract_mem` / `_concrete`
  have habs : ∀ x, isAbstract sc x = true → ∃ n subs subs', sc.gettype x = some (.abstract_ n subs) ∧
      (sc.withComponent types impls).gettype x = some (.abstract_ n subs') ∧
      ∀ c, c ∈ subs' ↔ c ∈ subs ∨ (c, lower x) ∈ compCalls types impls := by
    intro x hx
    unfold isAbstract at hx
    split at hx
    · rename_i n subs hg
      obtain ⟨subs', he, hm⟩ := regEntries_abstract_mem (compCalls types impls) (lower x) n subs
      exact ⟨n, subs, subs', hg, by rw [gettype_withComponent_old sc types impls x _ hg, he], hm⟩
    · cases hx
  refine ⟨rfl, rfl, rfl, ?_, ?_, ?_, ?_⟩
  · intro x hx
    obtain ⟨n, subs, subs', _, h2, _⟩ := habs x hx
    unfold isAbstract
    rw [h2]
  · intro x t hg
    rw [gettype_withComponent_old sc types impls x _ hg, regEntries_concrete]
  · intro x y hx hy
    obtain ⟨n, subs, subs', h1, h2, hm⟩ := habs x hx
    unfold implementers at hy ⊢
    rw [h1] at hy
    rw [h2]
    exact (hm y).mpr (.inl hy)
  · intro x y hx hy
    obtain ⟨n, subs, subs', h1, h2, hm⟩ := habs x hx
    unfold implementers at hy ⊢
    rw [h2] at hy
    rw [h1]
    refine ((hm y).mp hy).imp_right fun h => ?_
    have := (mem_compCalls types impls (y, lower x)).mp h
    exact ⟨this.2, this.1⟩

theorem Ext_fold (impls : List (Str × Str)) (types : List (Str × TypeEntry)) (sc sc' : Schema)
    (h : types.foldlM (addStep impls) sc = .ok sc') : Ext impls (types.map (·.1)) sc sc' := by
  rw [fold_addStep_eq] at h
  split at h
  · cases h; exact Ext_withComponent sc types impls
  · cases h

theorem withComponent_defines (sc : Schema) (impls : List (Str × Str)) (c : Str) (t : SType)
    (pre post : List (Str × TypeEntry)) (hlc : lower c = c)
    (hf : freshKeys (sc.types.map (·.1)) (pre ++ (c, .concrete t) :: post) = true) :
    (sc.withComponent (pre ++ (c, .concrete t) :: post) impls).gettype c = some (.concrete t) := by
  rw [gettype_withComponent_new sc impls c _ pre post hlc hf, regEntries_concrete]

theorem withComponent_registers (sc : Schema) (types : List (Str × TypeEntry)) (impls : List (Str × Str)) (c a : Str)
    (hla : lower a = a) (habs : isAbstract sc a = true) (hmem : (c, a) ∈ impls) (hc : c ∈ types.map (·.1)) :
    c ∈ implementers (sc.withComponent types impls) a := by
  unfold isAbstract at habs
  unfold implementers
  split at habs
  · rename_i n subs hg
    obtain ⟨subs', he, hm⟩ := regEntries_abstract_mem (compCalls types impls) (lower a) n subs
    rw [gettype_withComponent_old sc types impls a _ hg, he]
    exact (hm c).mpr (.inr ((mem_compCalls types impls (c, lower a)).mpr ⟨by rw [hla]; exact hmem, hc⟩))
  · cases habs

theorem withComponent_registers_own (sc : Schema) (impls : List (Str × Str)) (c a n : Str) (subs : List Str) (e : TypeEntry)
    (p1 p2 p3 : List (Str × TypeEntry)) (hla : lower a = a) (hmem : (c, a) ∈ impls)
    (hf : freshKeys (sc.types.map (·.1)) (p1 ++ (a, .abstract_ n subs) :: (p2 ++ (c, e) :: p3)) = true) :
    c ∈ implementers (sc.withComponent (p1 ++ (a, .abstract_ n subs) :: (p2 ++ (c, e) :: p3)) impls) a := by
  obtain ⟨subs', he, hm⟩ :=
    regEntries_abstract_mem (compCalls ((a, .abstract_ n subs) :: (p2 ++ (c, e) :: p3)) impls) a n subs
  unfold implementers
  rw [gettype_withComponent_new sc impls a _ p1 _ hla hf, he]
  exact (hm c).mpr (.inr ((mem_compCalls _ impls (c, a)).mpr
    ⟨hmem, List.mem_map.mpr ⟨(c, e), List.mem_cons_of_mem _ (List.mem_append_right _ List.mem_cons_self), rfl⟩⟩))

/-! ### `lsImport` as a whole -/

/-- `importSchemaComponent`, on the schema alone -/
def importSchema (sc : Schema) : Pkg → M Schema
  | .illegalName => .error (.cfg { kind := .schema, tag := "illegal schema component name" })
  | .notImportable => .error (.cfg { kind := .schemaResource, tag := "could not load package" })
  | .notPackage => .error (.cfg { kind := .schemaResource, tag := "import name does not refer to a package" })
  | .noComponent => .error (.cfg { kind := .schemaResource, tag := "schema component not found" })
  | .component url types impls =>
    if sc.components.contains url then .ok sc
    else if freshKeys (sc.types.map (·.1)) types then
      .ok ({ sc with components := sc.components ++ [url] }.withComponent types impls)
    else .error (.cfg { kind := .schema, tag := "type name cannot be redefined" })

theorem importSchema_new (sc : Schema) (url : Str) (types : List (Str × TypeEntry)) (impls : List (Str × Str))
    (hnew : sc.components.contains url = false) :
    importSchema sc (.component url types impls) =
      if freshKeys (sc.types.map (·.1)) types then
        .ok ({ sc with components := sc.components ++ [url] }.withComponent types impls)
      else .error (.cfg { kind := .schema, tag := "type name cannot be redefined" }) := by
  simp only [importSchema, hnew, Bool.false_eq_true, if_false]

theorem lsImport_eq (st : LS) (pkg : Str) :
    lsImport st pkg = (importSchema st.schema (st.pkgs pkg)).map fun sch => { st with schema := sch, privateSchema := true } := by
  cases hp : st.pkgs pkg with
  | component url types impls =>
    rw [lsImport_component st pkg url types impls hp, fold_addStep_eq]
    simp only [importSchema]
    cases st.schema.components.contains url
    · cases freshKeys (st.schema.types.map (·.1)) types <;> rfl
    · rfl
  | _ => unfold lsImport; rw [hp]; rfl

theorem lsImport_ok_new (st st' : LS) (pkg url : Str) (types : List (Str × TypeEntry)) (impls : List (Str × Str))
    (hp : st.pkgs pkg = .component url types impls) (hnew : st.schema.components.contains url = false)
    (h : lsImport st pkg = .ok st') :
    freshKeys (st.schema.types.map (·.1)) types = true ∧
      st' = { st with schema := { st.schema with components := st.schema.components ++ [url] }.withComponent types impls,
                      privateSchema := true } := by
  rw [lsImport_eq, hp, importSchema_new _ _ _ _ hnew] at h
  split at h
  · rename_i hf; cases h; exact ⟨hf, rfl⟩
  · cases h

theorem lsImport_frame (st st' : LS) (pkg : Str) (h : lsImport st pkg = .ok st') :
    st'.stack = st.stack ∧ st'.handlers = st.handlers ∧ st'.pkgs = st.pkgs ∧ st'.conv = st.conv ∧
      st'.privateSchema = true := by
  rw [lsImport_eq] at h
  obtain ⟨sch, _, rfl⟩ := map_ok_inv h
  exact ⟨rfl, rfl, rfl, rfl, rfl⟩

theorem lsImport_components (st st' : LS) (pkg url : Str) (types : List (Str × TypeEntry)) (impls : List (Str × Str))
    (hp : st.pkgs pkg = .component url types impls) (h : lsImport st pkg = .ok st') :
    st'.schema.components = if st.schema.components.contains url then st.schema.components
      else st.schema.components ++ [url] := by
  rw [lsImport_eq, hp] at h
  obtain ⟨sch, h1, rfl⟩ := map_ok_inv h
  simp only [importSchema] at h1
  split at h1
  · rename_i hc
    cases h1
    exact (if_pos hc).symm
  · rename_i hc
    split at h1
    · cases h1
      exact (if_neg hc).symm
    · cases h1

theorem lsImport_contains (st st' : LS) (pkg url : Str) (types : List (Str × TypeEntry)) (impls : List (Str × Str))
    (hp : st.pkgs pkg = .component url types impls) (h : lsImport st pkg = .ok st') :
    st'.schema.components.contains url = true := by
  rw [lsImport_components st st' pkg url types impls hp h]
  split
  · assumption
  · simp

end ZCV.Cfg
