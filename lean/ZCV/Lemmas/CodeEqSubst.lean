import ZCV.Gen.CodeSubstitution
import ZCV.Lemmas.PyPrims
import ZCV.Lemmas.Subst
/-!
# The generated code of `ZConfig/substitution.py` equals the hand-written model

`Gen.Code.isname`, `Gen.Code._split`, `Gen.Code.substitute` (translated from the Python source by `harness/zcv/pytrans.py`
on every run) against `Subst.isname`, `Subst.split`, `Subst.substitute`, for ALL arguments.  `embedS*` only re-tag:
the models' error type (`Subst.Err`, which numbers the raise sites) becomes the exception CLASS of the generated code
(`SubstitutionSyntaxError`; `SubstitutionReplacementError` with its `source` and `name`), and `_split`'s Python 5-tuple
`(prefix, name, namecase, suffix, vtype)` is rebuilt from the model's `(prefix, (namecase, vtype)?, suffix)`.
-/
-- one simp set serves several branches of a case analysis; the linter would flag it in each branch that needs less
set_option linter.unusedSimpArgs false
namespace ZCV.CodeEq
open ZCV ZCV.Py ZCV.Gen.Code ZCV.Subst

/-- exception re-tagging: the class, and for a missing name its two arguments (the raise-site number is dropped:
    it stands for the message, which is not an observable) -/
def embedSErr : Subst.Err → PyExc
  | .syntax _ => .SubstitutionSyntaxError
  | .missing src name => .SubstitutionReplacementError src (some name)

def embedS {α} : Except Subst.Err α → Except PyExc α
  | .ok v => .ok v
  | .error e => .error (embedSErr e)

@[simp] theorem embedS_ok {α} (v : α) : embedS (.ok v : Except Subst.Err α) = .ok v := rfl
@[simp] theorem embedS_error {α} (e : Subst.Err) : embedS (.error e : Except Subst.Err α) = .error (embedSErr e) := rfl

theorem embedS_injective_upto {α} (a b : Except Subst.Err α) (h : embedS a = embedS b) :
    a = b ∨ ∃ i j, a = .error (.syntax i) ∧ b = .error (.syntax j) := by
  cases a with
  | ok v => cases b with
    | ok w => simp [embedS] at h; exact Or.inl (by rw [h])
    | error e => simp [embedS] at h
  | error e => cases b with
    | ok w => simp [embedS] at h
    | error e' =>
      cases e <;> cases e' <;> simp [embedS, embedSErr] at h
      · exact Or.inr ⟨_, _, rfl, rfl⟩
      · exact Or.inl (by rw [h.1, h.2])

/-- the value `vtype` has in the Python tuple -/
def vtStr : VT → Str
  | .define => ['d', 'e', 'f', 'i', 'n', 'e']
  | .env => ['e', 'n', 'v']

/-- `_split`'s result tuple rebuilt from the model's: `name = namecase.lower()`; the suffix is `None` exactly when the
    text has no `$` (the model writes `[]` there; the only consumer tests `while rest:`) -/
def embedSplit (hasDollar : Bool) : Except Subst.Err (Str × Option (Str × VT) × Str) →
    Except PyExc (Str × Option Str × Option Str × Option Str × Option Str)
  | .error e => .error (embedSErr e)
  | .ok (p, none, r) => .ok (p, none, none, if hasDollar then some r else none, none)
  | .ok (p, some (n, vt), r) => .ok (p, some (lower n), some n, some r, some (vtStr vt))

/-- `_name_match(s, pos)` as the model's `nameMatchAt` -/
theorem nameMatch_pair (s : Str) (x : Int) (pos : Nat) (hx : x = pos) :
    (Py.reMatchAt Gen.nameRx s x).map (fun m => (m.group, m.stop)) = nameMatchAt s pos := by
  rw [Py.reMatchAt_pair _ _ _ _ hx]; rfl

theorem code_isname_eq (s : Str) : Gen.Code.isname s = .ok (Subst.isname s) := by
  unfold Gen.Code.isname Subst.isname
  rw [← nameMatch_pair s 0 0 rfl]
  unfold Py.reMatch
  cases Py.reMatchAt Gen.nameRx s 0 <;> rfl

theorem code_split_eq (s : Str) : Gen.Code._split s = embedSplit (s.contains '$') (Subst.split s) := by
  unfold Gen.Code._split Subst.split
  by_cases hd : s.contains '$' = true
  · simp only [hd, ↓reduceIte, Py.find1_of_contains _ _ hd]
    generalize s.findIdx (· == '$') = i
    have e1 : Py.slice s (some ((i : Int) + 1)) (some ((i : Int) + 2)) = (s.drop (i + 1)).take 1 := by
      rw [Py.slice_nat' s _ _ (i + 1) (i + 2) (by omega) (by omega)]
      congr 1; omega
    have e2 : Py.slice s none (some ((i : Int) + 1)) = s.take (i + 1) := Py.slice_to_nat' s _ (i + 1) (by omega)
    have e3 : Py.slice s (some ((i : Int) + 2)) none = s.drop (i + 2) := Py.slice_from_nat' s _ (i + 2) (by omega)
    have e4 : Py.slice s none (some (i : Int)) = s.take i := Py.slice_to_nat' s _ i rfl
    simp only [e1, e2, e3, e4]
    generalize List.take 1 (List.drop (i + 1) s) = c
    have eb : ∀ (m : Py.Match) (cl : Char), Py.startsWithAt s [cl] (m.end_ + 1 - 1) = ((s.drop (m.stop + 1 - 1)).take 1 == [cl]) := by
      intro m cl; exact Py.startsWithAt_one s cl _ _ (by simp only [Py.Match.end_]; omega)
    have es : ∀ (m : Py.Match), Py.slice s (some (m.end_ + 1)) none = s.drop (m.stop + 1) := by
      intro m; exact Py.slice_from_nat' s _ _ (by simp only [Py.Match.end_]; omega)
    have es0 : ∀ (m : Py.Match), Py.slice s (some m.end_) none = s.drop m.stop := by
      intro m; exact Py.slice_from_nat' s _ _ rfl
    by_cases h0 : (c == []) = true
    · simp only [h0, ↓reduceIte]; rfl
    simp only [h0, Bool.false_eq_true, ↓reduceIte]
    by_cases h1 : (c == ['$']) = true
    · simp only [h1, ↓reduceIte]; rfl
    simp only [h1, Bool.false_eq_true, ↓reduceIte]
    by_cases h2 : (c == ['{']) = true
    · simp only [h2, ↓reduceIte, braced]
      rw [← nameMatch_pair s ((i : Int) + 2) (i + 2) (by omega)]
      cases Py.reMatchAt Gen.nameRx s ((i : Int) + 2) with
      | none => rfl
      | some m =>
        simp only [Option.map_some, eb, es]
        split <;> rfl
    simp only [h2, Bool.false_eq_true, ↓reduceIte]
    by_cases h3 : (c == ['(']) = true
    · simp only [h3, ↓reduceIte, braced]
      rw [← nameMatch_pair s ((i : Int) + 2) (i + 2) (by omega)]
      cases Py.reMatchAt Gen.nameRx s ((i : Int) + 2) with
      | none => rfl
      | some m =>
        simp only [Option.map_some, eb, es]
        split <;> rfl
    simp only [h3, Bool.false_eq_true, ↓reduceIte]
    rw [← nameMatch_pair s ((i : Int) + 1) (i + 1) (by omega)]
    cases Py.reMatchAt Gen.nameRx s ((i : Int) + 1) with
    | none => rfl
    | some m => simp only [Option.map_some, es0]; rfl
  · simp only [hd, Bool.false_eq_true, ↓reduceIte]
    rfl

/-! ## `substitute` -/

/-- the generated `while rest:` loop (as a recursion with `fuel` bounding the number of rounds; `substitute`
    starts it with more fuel than the text has characters) is the model's `substLoop`, for every fuel -/
theorem code_substLoop_eq (defs env : Str → Option Str) (src : Str) :
    ∀ (fuel : Nat) (rest acc : Str),
      substitute_loop env src defs fuel (some rest) acc = embedS (substLoop defs env src fuel rest acc) := by
  intro fuel
  induction fuel with
  | zero => intro rest acc; simp [substitute_loop, substLoop]
  | succ fuel ih =>
    intro rest acc
    rw [substitute_loop, substLoop]
    by_cases hr : rest = []
    · simp [hr]
    have hr1 : (rest != []) = true := by simpa using hr
    have hr2 : (rest == []) = false := by simpa using hr
    simp only [hr1, hr2, ↓reduceIte, Bool.false_eq_true, code_split_eq]
    cases hs : Subst.split rest with
    | error e => rfl
    | ok v =>
      obtain ⟨p, o, r⟩ := v
      cases o with
      | none =>
        simp only [embedSplit]
        by_cases hd : rest.contains '$' = true
        · simp only [hd, ↓reduceIte]; exact ih r (acc ++ p)
        · simp only [hd, Bool.false_eq_true, ↓reduceIte]
          have : r = [] := by rw [split_nodollar rest (by simpa using hd)] at hs; cases hs; rfl
          subst this
          rw [substLoop_nil]
          cases fuel <;> simp [substitute_loop]
      | some nv =>
        obtain ⟨n, vt⟩ := nv
        have hn : (lower n != []) = true := by
          simpa [lower] using split_name_nonempty _ _ _ _ _ hs
        simp only [embedSplit, hn, ↓reduceIte]
        cases vt with
        | define =>
          simp only [vtStr]
          cases hv : defs (lower n) with
          | none => simp [embedSErr]
          | some v => simp; exact ih r (acc ++ (p ++ v))
        | env =>
          simp only [vtStr]
          cases hv : env n with
          | none => simp [hv, embedSErr]
          | some v => simp [hv]; exact ih r (acc ++ (p ++ v))

/-- `substitute(s, mapping)` with `mapping.get` = `defs` and `os.getenv` = `env` -/
theorem code_substitute_eq (defs env : Str → Option Str) (s : Str) :
    Gen.Code.substitute env s defs = embedS (Subst.substitute defs env s) := by
  unfold Gen.Code.substitute Subst.substitute
  split
  · exact code_substLoop_eq defs env s _ s []
  · rfl

end ZCV.CodeEq
