import ZCV.Model.Parser
/-!
The branch view of `lineShape`: which arm of `parse`'s `if/elif` chain a stripped line takes, with what that arm and the
arms before it tested (`noArg` alone leaves a test out: that the directive is a known one).  A lemma that starts from a classification (`lineShape l = .kv k v`, "never `.internal`" …) does `cases` on
`lineShape_view`; going the other way, from the text of a line to its classification, is `lineShape_eq_classify` (`Lemmas/Grammar.lean`).
`lineShape_dataArm` and `lineShape_directiveArm` are the two long arms as equations, for a proof that computes with `kvMatch`.
-/
namespace ZCV.Cfg
open ZCV

/-- the header text `start_section` hands to `_section_start_rx`: between `<` and `>`, without the `/` of the
    empty form, right-stripped -/
def hdrText (l : Str) : Str :=
  let rest := dropLastN (l.drop 1) 1
  rstrip (if lastN rest 1 == ['/'] then dropLastN rest 1 else rest)

/-- `name` of a section header as the context gets it: `None` for a missing or empty name -/
def hdrName (nm0 : Option Str) : Option Str :=
  match nm0 with | some n => if n == [] then none else some (lower n) | none => none

/-- the line is not empty and starts neither a comment, nor a section header or end, nor a directive -/
structure DataHead (l : Str) : Prop where
  ne : l ≠ []
  notComment : l.take 1 ≠ ['#']
  notSection : l.take 1 ≠ ['<']
  notDirective : l.take 1 ≠ ['%']

inductive LineView (l : Str) : LineShape → Prop
  | skip : (l.take 1 == [] || l.take 1 == ['#']) = true → LineView l .skip
  | closeBad : l.take 2 = ['<', '/'] → lastN l 1 ≠ ['>'] → LineView l (.bad "malformed section end")
  | close : l.take 2 = ['<', '/'] → lastN l 1 = ['>'] →
      LineView l (.close (lower (rstrip (dropLastN (l.drop 2) 1))))
  | openBad : l.take 1 = ['<'] → l.take 2 ≠ ['<', '/'] → lastN l 1 ≠ ['>'] →
      LineView l (.bad "malformed section start")
  | hdrBad : l.take 1 = ['<'] → l.take 2 ≠ ['<', '/'] → lastN l 1 = ['>'] → hdrMatch (hdrText l) = none →
      LineView l (.bad "malformed section header")
  | open_ (ty0 : Str) (nm0 : Option Str) : l.take 1 = ['<'] → l.take 2 ≠ ['<', '/'] → lastN l 1 = ['>'] →
      hdrMatch (hdrText l) = some (ty0, nm0) →
      LineView l (.open_ (lower ty0) (hdrName nm0) (lastN (dropLastN (l.drop 1) 1) 1 == ['/']))
  | noDirective : l.take 1 = ['%'] → kvMatch (l.drop 1) = none →
      LineView l (.bad "missing or unrecognized directive")
  | unknownDirective (name : Str) (arg? : Option Str) : l.take 1 = ['%'] → kvMatch (l.drop 1) = some (name, arg?) →
      Gen.directives.contains name = false → LineView l (.bad "unknown directive")
  | noArg (name : Str) (arg? : Option Str) : l.take 1 = ['%'] → kvMatch (l.drop 1) = some (name, arg?) →
      arg?.getD [] = [] → LineView l (.bad "missing argument")
  | define (arg? : Option Str) : l.take 1 = ['%'] → kvMatch (l.drop 1) = some ("define".toList, arg?) →
      arg?.getD [] ≠ [] → LineView l (.define (arg?.getD []))
  | import_ (arg? : Option Str) : l.take 1 = ['%'] → kvMatch (l.drop 1) = some ("import".toList, arg?) →
      arg?.getD [] ≠ [] → LineView l (.import_ (arg?.getD []))
  | include_ (arg? : Option Str) : l.take 1 = ['%'] → kvMatch (l.drop 1) = some ("include".toList, arg?) →
      arg?.getD [] ≠ [] → LineView l (.include_ (arg?.getD []))
  | noData : DataHead l → kvMatch l = none → LineView l (.bad "malformed configuration data")
  | kv (key : Str) (value? : Option Str) : DataHead l → kvMatch l = some (key, value?) →
      LineView l (.kv key (value?.getD []))

theorem directives_eq : Gen.directives = ["define".toList, "import".toList, "include".toList] := rfl

/-- The `AttributeError` arm of `handle_directive` (no `handle_<name>` method) has no constructor: every name in the
    generated tuple `Gen.directives` is one of the three the chain tests. -/
theorem lineShape_view (l : Str) : LineView l (lineShape l) := by
  unfold lineShape
  by_cases h0 : (l.take 1 == [] || l.take 1 == ['#']) = true
  · rw [if_pos h0]; exact .skip h0
  rw [if_neg h0]
  by_cases h1 : (l.take 2 == ['<', '/']) = true
  · rw [if_pos h1]
    have h1' := eq_of_beq h1
    by_cases h2 : (lastN l 1 != ['>']) = true
    · rw [if_pos h2]; exact .closeBad h1' (ne_of_beq_false (by simpa using h2))
    · rw [if_neg h2]; exact .close h1' (by simpa using h2)
  rw [if_neg h1]
  by_cases h2 : (l.take 1 == ['<']) = true
  · rw [if_pos h2]
    have h2' := eq_of_beq h2
    have h1' : l.take 2 ≠ ['<', '/'] := fun e => h1 (by rw [e]; rfl)
    by_cases h3 : (lastN l 1 != ['>']) = true
    · rw [if_pos h3]; exact .openBad h2' h1' (ne_of_beq_false (by simpa using h3))
    rw [if_neg h3]
    show LineView l (match hdrMatch (hdrText l) with
      | none => .bad "malformed section header"
      | some (ty0, nm0) => .open_ (lower ty0) (hdrName nm0) (lastN (dropLastN (l.drop 1) 1) 1 == ['/']))
    cases hh : hdrMatch (hdrText l) with
    | none => exact .hdrBad h2' h1' (by simpa using h3) hh
    | some p => exact .open_ p.1 p.2 h2' h1' (by simpa using h3) hh
  rw [if_neg h2]
  by_cases h3 : (l.take 1 == ['%']) = true
  · rw [if_pos h3]
    have h3' := eq_of_beq h3
    cases hk : kvMatch (l.drop 1) with
    | none => exact .noDirective h3' hk
    | some p =>
      obtain ⟨name, arg?⟩ := p
      show LineView l (if (!Gen.directives.contains name) = true then _ else _)
      cases hd : Gen.directives.contains name with
      | false => exact .unknownDirective name arg? h3' hk hd
      | true =>
        show LineView l (if (arg?.getD [] == []) = true then _ else _)
        by_cases ha : arg?.getD [] = []
        · rw [if_pos (beq_iff_eq.2 ha)]; exact .noArg name arg? h3' hk ha
        rw [if_neg (fun e => ha (eq_of_beq e))]
        rw [directives_eq] at hd
        simp only [List.contains_cons, List.contains_nil, Bool.or_false, Bool.or_eq_true, beq_iff_eq] at hd
        rcases hd with rfl | rfl | rfl
        · exact .define arg? h3' hk ha
        · exact .import_ arg? h3' hk ha
        · exact .include_ arg? h3' hk ha
  rw [if_neg h3]
  have hd : DataHead l :=
    ⟨fun e => h0 (by rw [e]; rfl), fun e => h0 (by rw [e]; rfl), fun e => h2 (by rw [e]; rfl),
      fun e => h3 (by rw [e]; rfl)⟩
  cases hk : kvMatch l with
  | none => exact .noData hd hk
  | some p =>
    obtain ⟨key, value?⟩ := p
    cases value? <;> exact .kv key _ hd hk

theorem lineShape_dataArm (c : Char) (t : Str) (h1 : c ≠ '#') (h2 : c ≠ '<') (h3 : c ≠ '%') :
    lineShape (c :: t) = match kvMatch (c :: t) with
      | none => .bad "malformed configuration data"
      | some (key, value?) => .kv key (match value? with | none => [] | some v => v) := by
  have e2 : ¬ ((c :: t).take 2 == ['<', '/']) = true := by cases t <;> simp [h2]
  unfold lineShape
  rw [if_neg (by simpa using h1), if_neg e2, if_neg (by simpa using h2), if_neg (by simpa using h3)]
  rfl

theorem lineShape_directiveArm (rest : Str) :
    lineShape ('%' :: rest) = match kvMatch rest with
      | none => .bad "missing or unrecognized directive"
      | some (name, arg?) =>
        if !Gen.directives.contains name then .bad "unknown directive"
        else if arg?.getD [] == [] then .bad "missing argument"
        else if name == "define".toList then .define (arg?.getD [])
        else if name == "import".toList then .import_ (arg?.getD [])
        else if name == "include".toList then .include_ (arg?.getD [])
        else .internal "AttributeError" := by
  unfold lineShape
  rfl

theorem lineShape_no_internal (l : Str) (e : String) : lineShape l ≠ .internal e := by
  intro h
  have v := lineShape_view l
  rw [h] at v
  cases v

end ZCV.Cfg
