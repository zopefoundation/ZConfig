import ZCV.Spec.Defines
import ZCV.Lemmas.Except
import ZCV.Lemmas.Subst
/-!
The substitution spec (`SubstSpec.spec`) depends on the letter case of `$name` / `${name}` references only through `lower`
(C05, C15).
-/
namespace ZCV.SubstSpec
open ZCV

theorem spec_dollar_end (defs env : Str → Option Str) (src : Str) :
    spec defs env src ['$'] = .error (.syntax 0) :=
  Subst.spec_malformed defs env src .lone

theorem ref_toOption {look : Option Str} {src src' n n' : Str} {x y : Except Err Str} (h : x.toOption = y.toOption) :
    (match look with | none => .error (.missing src n) | some v => x.map (v ++ ·) : Except Err Str).toOption =
      (match look with | none => .error (.missing src' n') | some v => y.map (v ++ ·) : Except Err Str).toOption := by
  cases look with
  | none => rfl
  | some v => simp only [toOption_map, h]

theorem refCase_head {s s' : Str} (h : DefSpec.RefCase s s') : s.head? = s'.head? := by
  cases h <;> rfl

/-- changing the letter case of references changes neither the expansion nor whether there is one (the error
    value itself quotes the source text and the name as written) -/
theorem spec_refCase (defs env : Str → Option Str) {s s' : Str} (h : DefSpec.RefCase s s') :
    ∀ src src', (spec defs env src s).toOption = (spec defs env src' s').toOption := by
  induction h with
  | nil => intro src src'; rw [spec_nil, spec_nil]
  | lit c hc _ ih =>
    intro src src'
    rw [spec_lit _ _ _ _ _ hc, spec_lit _ _ _ _ _ hc, toOption_map, toOption_map, ih src src']
  | esc _ ih =>
    intro src src'
    rw [Subst.spec_esc, Subst.spec_esc, toOption_map, toOption_map, ih src src']
  | @brace n n' t t' hn hn' hl _ ih =>
    intro src src'
    rw [Subst.spec_ref _ _ _ (.brace n t hn), Subst.spec_ref _ _ _ (.brace n' t' hn'),
      show Subst.lookupRef defs env .define n' = Subst.lookupRef defs env .define n from congrArg defs hl]
    exact ref_toOption (ih src src')
  | @bare n n' t t' hn hn' hl ht hr ih =>
    intro src src'
    have ht' : DefSpec.endsName t' := fun c hc => ht c (by rwa [refCase_head hr])
    rw [Subst.spec_ref _ _ _ (.bare n t hn ht), Subst.spec_ref _ _ _ (.bare n' t' hn' ht'),
      show Subst.lookupRef defs env .define n' = Subst.lookupRef defs env .define n from congrArg defs hl]
    exact ref_toOption (ih src src')
  | @env n t t' hn _ ih =>
    intro src src'
    rw [Subst.spec_ref _ _ _ (.paren n t hn), Subst.spec_ref _ _ _ (.paren n t' hn)]
    exact ref_toOption (ih src src')

end ZCV.SubstSpec
