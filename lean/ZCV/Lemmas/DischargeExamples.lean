import ZCV.Lemmas.SlotsEx
/-!
Closed instances used by the `example`s next to the end-to-end theorems (C01, C02, C14, C15, C16) and in C13: an import-free
configuration text (`lines`) and the one-line text `# c`, which denotes the empty tree; a resource table without
includable resources; and the empty tree conforming to a schema without top-level members (`dis_ex_conforms_nil`).
The accepted schema document is in `DischargeExDoc.lean`.
-/
namespace ZCV.DischargeEx
open ZCV ZCV.Cfg ZCV.Conf

/-- a comment, a key line, a section -/
def lines : List Str := ["# c".toList, "k v".toList, "<leak x>".toList, "</leak>".toList]

theorem dis_ex_lines_noImport : ∀ l ∈ lines, NoImportLine l := by
  intro l hl a
  simp only [lines, List.mem_cons, List.mem_nil_iff, or_false] at hl
  rcases hl with rfl | rfl | rfl | rfl
  · rw [Ex.shape_comment]; simp
  · rw [shape_closed "k v".toList (.kv "k".toList "v".toList) (by char_lits; decide +kernel)]; simp
  · rw [shape_closed "<leak x>".toList (.open_ "leak".toList (some "x".toList) false) (by char_lits; decide +kernel)]; simp
  · rw [shape_closed "</leak>".toList (.close "leak".toList) (by char_lits; decide +kernel)]; simp

theorem dis_ex_res : ∀ u ls, Ex.env.res u = some ls → ∀ l ∈ ls, NoImportLine l := by
  intro u ls h; cases h

theorem dis_ex_comment_tree : treeOf Ex.env none ["# c".toList] = .ok [] := by
  rw [treeOf_eq, parse_cons (stepLine_of_skip Ex.shape_comment) (parse_nil rfl)]
  rfl

theorem dis_ex_comment_noImport : ∀ l ∈ ["# c".toList], NoImportLine l := by
  intro l hl a
  cases List.mem_singleton.mp hl
  rw [Ex.shape_comment]; nofun

/-- the empty tree conforms to a schema that declares nothing at top level (datatypes that accept everything) -/
theorem dis_ex_conforms_nil (S : Schema) (h : S.top.children = []) : Conf.conforms Ex.conv S [] = true := by
  simp [Conf.conforms, Conf.denote, Conf.containerVal, h, Ex.conv, Conf.keyLines, Conf.subsOf, Conf.nodupB]

end ZCV.DischargeEx
