import ZCV.Lemmas.ElabInv
import ZCV.Lemmas.ElabNoInt
/-!
C10, no internal errors: closed instances.  The hypotheses of `elab_internal_only_recursion` / `elab_no_internal` are
satisfiable by a non-trivial document (base schema + component), and dropping any one of them makes the statement false.
(Datatype names are dotted so that the closed terms reduce in the kernel: stock names go through the regular-expression
matcher, which is defined by well-founded recursion.)
-/
namespace ZCV.Elab
open ZCV ZCV.Cfg

def failsWith {α} (x : EM α) (e : EFail) : Bool :=
  match x with
  | .error e' => e' == e
  | .ok _ => false

namespace NoIntExample

def rootAttrs : Attrs :=
  [("keytype".toList, "a.k".toList), ("valuetype".toList, "a.v".toList), ("datatype".toList, "a.d".toList)]

/-- an environment that satisfies all hypotheses: every key type behaves like `string` -/
def envOK : Env :=
  { conv := { stockConv with key := fun _ s => .ok s }, dotted := fun _ => .found "d.t".toList,
    comps := fun _ _ => .doc Example.comp, bases := fun _ => some Example.base }

/-- The closed runs below that evaluate as they stand (`envRaises`, `envTypeError` written out), as one declaration: the
kernel decodes a string literal of the loader (`"description".toList`, …) once per declaration, and for these small
documents that decoding is what an evaluation costs. -/
theorem evaluated :
    (elabSchema envOK 1 Example.doc).toOption.isSome = true ∧
    noImportSrc Example.doc = true ∧ noImportSrc Example.comp = true ∧ noImportSrc Example.base = true ∧
    failsWith (elabSchema envOK 0 Example.doc) (.internal "RecursionError") = true ∧
    failsWith (elabSchema { envOK with dotted := fun _ => .raises "ImportError" } 0 (.elem "schema".toList rootAttrs []))
      (.internal "ImportError") = true ∧
    failsWith (elabSchema { envOK with conv := { stockConv with key := fun _ _ => .error .typeError } } 0
      (.elem "schema".toList rootAttrs [.elem "key".toList [("name".toList, "x".toList)] []]))
      (.internal "TypeError") = true ∧
    failsWith (elabSchema envOK 0
      (.elem "schema".toList rootAttrs [.elem "import".toList [("src".toList, "x.xml".toList)] []]))
      (.internal "unmodelled: import src") = true := by
  char_lits
  decide +kernel

theorem envOK_ni : EnvNI envOK := by
  refine ⟨?_, ?_, ?_⟩
  · intro n e h; cases h
  · intro kt s e h; cases h
  · intro kt s r h hany
    have hr : s = r := by
      have : (Except.ok s : Except ConvErr Str) = .ok r := h
      injection this
    subst hr
    simp only [Gen.anyNames, List.contains_eq_mem, List.mem_cons, List.not_mem_nil, or_false, decide_eq_false_iff_not,
      not_or] at hany
    exact hany

theorem envOK_trees : EnvTrees NoSrc envOK := by
  refine ⟨?_, ?_⟩
  · intro p f t h
    have : Example.comp = t := by
      have : CompRes.doc Example.comp = CompRes.doc t := h
      injection this
    subst this
    exact evaluated.2.2.1
  · intro s t h
    have : Example.base = t := by
      have : some Example.base = some t := h
      injection this
    subst this
    exact evaluated.2.2.2.1

/-- the document of `ElabInv` (extends a base schema, imports a component) is accepted at fuel 1 … -/
theorem doc_accepted : (elabSchema envOK 1 Example.doc).toOption.isSome = true := evaluated.1

/-- … so `elab_no_internal` applies to it, non-vacuously -/
example (e : String) : elabSchema envOK 1 Example.doc ≠ .error (.internal e) := by
  refine elab_no_internal envOK 1 Example.doc e envOK_ni envOK_trees evaluated.2.1 ?_
  intro h
  have := doc_accepted
  rw [h] at this
  cases this

/-! #### each hypothesis is needed -/

/-- (fuel) the same document at fuel 0: the base schema is reached with no fuel left -/
example : failsWith (elabSchema envOK 0 Example.doc) (.internal "RecursionError") = true := evaluated.2.2.2.2.1

/-- (`dotted`) a registry that raises for a dotted name: ImportError escapes -/
def envRaises : Env := { envOK with dotted := fun _ => .raises "ImportError" }
example : failsWith (elabSchema envRaises 0 (.elem "schema".toList rootAttrs [])) (.internal "ImportError") = true :=
  evaluated.2.2.2.2.2.1

/-- (`keyErr`) a key type that fails with something else than ValueError: the TypeError escapes -/
def envTypeError : Env := { envOK with conv := { stockConv with key := fun _ _ => .error .typeError } }
example : failsWith (elabSchema envTypeError 0
    (.elem "schema".toList rootAttrs [.elem "key".toList [("name".toList, "x".toList)] []]))
    (.internal "TypeError") = true := evaluated.2.2.2.2.2.2.1

/-- (`NoSrc`) `<import src=…>` is not covered by the model -/
example : failsWith (elabSchema envOK 0
    (.elem "schema".toList rootAttrs [.elem "import".toList [("src".toList, "x.xml".toList)] []]))
    (.internal "unmodelled: import src") = true := evaluated.2.2.2.2.2.2.2

/-- (`keyWild`) a key type that turns the fixed name `foo` into the wildcard name `+`: the `assert` of `addsection` fails -/
def envWild : Env := { envOK with conv := { stockConv with key := fun _ _ => .ok ['+'] } }

set_option maxRecDepth 100000 in
example : failsWith (elabSchema envWild 0
    (.elem "schema".toList rootAttrs
      [.elem "sectiontype".toList (("name".toList, "t".toList) :: rootAttrs) [],
       .elem "section".toList [("type".toList, "t".toList), ("name".toList, "foo".toList), ("attribute".toList, "a".toList)] []]))
    (.internal "AssertionError") = true := by
  simp only [elabSchema, elabES, visitChildren_elem, visitChildren_nil,
    visitElem_root_eq (d := .schema none) (t := "schema".toList) rfl,
    visitElem_sectiontype nesting_schema_sectiontype,
    visitElem_tag (t := "section".toList) (by char_lits; decide) nesting_schema_section, startHandled_section]
  unfold startSectiontype startSection getNameInfo
  -- the regular-expression matcher (well-founded recursion) does not reduce in the kernel: its structural equations instead
  rw [funext basicKeyE_eq, funext identifierE_eq]
  decide +kernel

/-- the `conversion` outcome: a `<default key=…>` of a `+` key whose key the key type rejects (with ValueError) -/
def envReject : Env :=
  { envOK with conv := { stockConv with key := fun _ s => if s == "bad".toList then .error .valueError else .ok s } }

theorem envReject_ni : EnvNI envReject := by
  refine ⟨fun n e h => (by cases h), ?_, ?_⟩
  · intro kt s e h
    have h' : (if s == "bad".toList then (.error .valueError : Except ConvErr Str) else .ok s) = .error e := h
    split at h'
    · injection h' with h'; exact h'.symm
    · cases h'
  · intro kt s r h hany
    have h' : (if s == "bad".toList then (.error .valueError : Except ConvErr Str) else .ok s) = .ok r := h
    split at h'
    · cases h'
    · injection h' with h'
      subst h'
      simp only [Gen.anyNames, List.contains_eq_mem, List.mem_cons, List.not_mem_nil, or_false, decide_eq_false_iff_not,
        not_or] at hany
      exact hany

set_option maxRecDepth 100000 in
example : failsWith (elabSchema envReject 0
    (.elem "schema".toList rootAttrs
      [.elem "key".toList [("name".toList, "+".toList), ("attribute".toList, "a".toList), ("datatype".toList, "a.d".toList)]
        [.elem "default".toList [("key".toList, "bad".toList)] [.text "v".toList]]]))
    (.conversion "default key") = true := by
  simp only [elabSchema, elabES, visitChildren_elem, visitChildren_nil,
    visitElem_root_eq (d := .schema none) (t := "schema".toList) rfl,
    visitElem_key nesting_schema_key,
    visitElem_cdata_eq (d := .schema none) nesting_key_default (by show _ ≠ Gen.schemaTopLevel; char_lits; decide +kernel)
      (by show Gen.schemaHandledTags.contains _ = false; char_lits; decide +kernel) (by char_lits; decide +kernel)]
  unfold startKey getKeyInfo getNameInfo
  rw [funext identifierE_eq]
  decide +kernel

end NoIntExample
end ZCV.Elab
