import ZCV.Lemmas.ImportLoadWF
import ZCV.Lemmas.SlotsEx
import ZCV.Lemmas.NoInternalMatcher
import ZCV.Lemmas.ImportLoadEval
/-!
Closed examples for the text-level C12 theorems, in the small world of `ZCV/Lemmas/SlotsEx.lean` (schema with one abstract
type `ab` and a `*` slot for it; package `p` whose component adds the implementer `leak`): the two-line text `%import p` /
`<leak/>` in both orders (`linesIU`, `linesUI`) with its top-level items, and the witness that `pkgWF` of the components is
not enough for the text-level theorems (`pkgsW`: a section child stored under the empty key; the loader accepts: `accW`).
-/
namespace ZCV.Cfg.Ex
open ZCV ZCV.Cfg ZCV.Conf

def linesIU : List Str := ["%import p".toList, "<leak/>".toList]
def linesUI : List Str := ["<leak/>".toList, "%import p".toList]
def topsIU : List TopItem := [.imp "p".toList, .item (.sect "leak".toList none [])]
def topsUI : List TopItem := [.item (.sect "leak".toList none []), .imp "p".toList]

theorem parse_IU : parseI env none linesIU =
    .ok { ctx := { tops := topsIU.reverse, stack := [], nested := false }, stack := [], defs := [] } :=
  parse_cons (StepOk.import_ shape_import (replace_closed arg_p) rfl).step
    (parse_cons (StepOk.empty shape_leak rfl rfl).step (parse_nil rfl))

theorem parse_UI : parseI env none linesUI =
    .ok { ctx := { tops := topsUI.reverse, stack := [], nested := false }, stack := [], defs := [] } :=
  parse_cons (StepOk.empty shape_leak rfl rfl).step
    (parse_cons (StepOk.import_ shape_import (replace_closed arg_p) rfl).step (parse_nil rfl))

theorem tree_IU : treeOfI env none linesIU = .ok topsIU := by
  unfold treeOfI; rw [parse_IU]; rfl
theorem tree_UI : treeOfI env none linesUI = .ok topsUI := by
  unfold treeOfI; rw [parse_UI]; rfl

theorem atTop_IU : importsAtTop env none linesIU := by
  intro ps h; rw [parse_IU] at h; cases h; rfl
theorem atTop_UI : importsAtTop env none linesUI := by
  intro ps h; rw [parse_UI] at h; cases h; rfl

theorem ok_IU : ∀ tops, treeOfI env none linesIU = .ok tops → importsOK pkgs schema tops = true := by
  intro tops h; rw [tree_IU] at h; cases h; decide +kernel
theorem ok_UI : ∀ tops, treeOfI env none linesUI = .ok tops → importsOK pkgs schema tops = true := by
  intro tops h; rw [tree_UI] at h; cases h; decide +kernel

theorem compsOK_IU : compsOK pkgs schema topsIU = true := by decide +kernel

theorem conformsI_IU : conformsI conv schema pkgs topsIU = true := by decide +kernel
theorem conformsI_UI : conformsI conv schema pkgs topsUI = false := by decide +kernel

/-! ### `pkgWF` is not enough: a component type with a section child stored under the EMPTY key -/

/-- `<section type="leak" name="*" attribute="a"/>` … -/
def boxSlot : SectInfo :=
  { name := ['*'], attr := "a".toList, multi := false, minOccurs := 0, ty := "leak".toList, handler := none }
/-- … stored under the key `""` (the schema loader never does that; `pkgWF` does not exclude it, `schemaOK` does) -/
def box : SType :=
  { name := some "box".toList, keytype := "basic-key".toList, datatype := "null".toList,
    children := [(some [], .sect boxSlot)] }
def pkgsW : Str → Pkg := fun n =>
  if n == "p".toList then
    .component "u".toList [("leak".toList, .concrete leak), ("box".toList, .concrete box)]
      [("leak".toList, "ab".toList), ("box".toList, "ab".toList)]
  else .notImportable
/-- `%import p` / `<box>` `<leak/>` `</box>` -/
def topsW : List TopItem := [.imp "p".toList, .item (.sect "box".toList none [.sect "leak".toList none []])]

/-- the schema after `%import p` -/
def sW : Schema :=
  { types := [("ab".toList, .abstract_ "ab".toList ["leak".toList, "box".toList]), ("leak".toList, .concrete leak),
              ("box".toList, .concrete box)],
    top := top, handler := none, components := ["u".toList] }
theorem extW : extend schema (pkgsW "p".toList) = some sW := by rfl
theorem gsi_box_leak : getsectioninfo sW box "leak".toList none = .ok boxSlot :=
  (getsectioninfo_eq_answerAt _ _ _ _).trans rfl
theorem gsi_top_box : getsectioninfo sW top "box".toList none = .ok slot :=
  (getsectioninfo_eq_answerAt _ _ _ _).trans rfl
def mBox : Matcher := setSlot (newMatcher box none none) "a".toList (.sect vLeak)
def vBox : Val := .sect "box".toList none [("a".toList, vLeak)]
def mTopW : Matcher := setSlot (newMatcher top none none) "s".toList (.sects [vBox])
theorem add_leak : addSection sW (newMatcher box none none) "leak".toList none vLeak = .ok mBox :=
  (addSection_unnamed gsi_box_leak).trans rfl
theorem add_box : addSection sW (newMatcher top none none) "box".toList none vBox = .ok mTopW :=
  (addSection_unnamed gsi_top_box).trans rfl
theorem ev_box : evalItem conv sW (newMatcher top none none) (.sect "box".toList none [.sect "leak".toList none []]) = .ok mTopW :=
  evalItem_sect_ok (t := box) rfl gsi_top_box (by decide) (by decide)
    (evalItems_one (evalItem_sect_ok (t := leak) (child := newMatcher leak none none) rfl gsi_box_leak (by decide) (by decide)
      (by rw [evalItems]) (fin_leak_any sW) add_leak))
    (show finishMatcher conv sW mBox = .ok (vBox, []) from rfl) add_box
theorem accW : acceptsTops conv pkgsW schema topsW = true := by
  unfold acceptsTops topsW
  rw [evalTopsH, extW]
  simp only
  rw [evalTopsH, evalH, evalItemBS_eval conv schema sW _ _ rfl, show schema.top = top from rfl, ev_box]
  simp only [Except.map]
  rw [evalTopsH]
  rfl

end ZCV.Cfg.Ex
