import ZCV.Lemmas.LoadStep
/-!
Step 3 of `loadTree_eq_denote`: `finishMatcher` on a matcher that satisfies the invariant computes `attrsVal`.
`finishMatcher` is `finishBag`, then the two passes `finishMatcher'` (`finishMatcher_eq_bag`; without a bag `finishMatcher_nobag`).
-/
namespace ZCV.Conf
open ZCV ZCV.Cfg

/-- pass 1 of `finishMatcher` for one child -/
def fin1 (m : Matcher) (c : Option Str × Info) : M (Info × Slot) :=
  match getSlot m c.2.attr with
  | some sl => (finishChild c.2 sl).map fun r => (c.2, r)
  | Option.none => .error (.internal "KeyError")

/-- pass 2 of `finishMatcher` for one child -/
def fin2 (conv : Conv) (s : Schema) (p : Info × Slot) : M (Info × Val) :=
  (constructChild conv s p.1 p.2).map fun v => (p.1, v)

def finishMatcher' (conv : Conv) (s : Schema) (m : Matcher) : M (Val × List (Str × Val)) := do
  let slots ← m.ty.children.mapM (fin1 m)
  let vals ← slots.mapM (fin2 conv s)
  pure (.sect (m.ty.name.getD []) m.name (vals.map fun p => (p.1.attr, p.2)),
        vals.filterMap fun p => p.1.handler.map fun h => (h, p.2))

theorem finishMatcher_eq_bag (conv : Conv) (s : Schema) (m0 : Matcher) :
    finishMatcher conv s m0 = (finishBag conv m0 >>= finishMatcher' conv s) := rfl

theorem finishBag_nobag (conv : Conv) (m : Matcher) (hb : m.bag = none) : finishBag conv m = .ok m := by
  unfold finishBag
  rw [hb]

theorem finishMatcher_nobag (conv : Conv) (s : Schema) (m : Matcher) (hb : m.bag = none) :
    finishMatcher conv s m = finishMatcher' conv s m := by
  rw [finishMatcher_eq_bag, finishBag_nobag conv m hb]
  rfl

/-! ### key children -/

theorem convVI_toOption (conv : Conv) (dt : Str) (vi : VI) :
    (convVI conv dt vi).toOption = (conv.val dt vi.value).toOption := by
  unfold convVI
  cases conv.val dt vi.value <;> rfl

theorem convAll_eq (conv : Conv) (dt : Str) (vs : List VI) :
    (vs.mapM (convVI conv dt)).toOption = convAll conv dt vs := by
  unfold convAll
  rw [mapM_toOption, mapM_eq_omap]
  apply omap_congr
  intro a _
  exact convVI_toOption conv dt a

theorem beq_nil_isEmpty {α} [BEq α] (l : List α) : (l == []) = l.isEmpty := by
  cases l <;> rfl

theorem convAll_eq' (conv : Conv) (dt : Str) (vs : List VI) :
    omap (fun a => (convVI conv dt a).toOption) vs = convAll conv dt vs := by
  rw [← convAll_eq, mapM_toOption]

theorem key_finish (conv : Conv) (s : Schema) (ki : KeyInfo) (rs : List (Str × VI)) (hov : keyOver ki rs = true) :
    ((finishChild (.key ki) (keySlot ki rs)) >>= fun sl => constructChild conv s (.key ki) sl).toOption =
      keyVal conv ki rs := by
  unfold keySlot keyVal finishChild
  unfold keyOver at hov
  by_cases hp : (ki.name == ['+']) = true
  · by_cases hm : ki.multi = true
    · simp only [hp, hm, if_true]
      by_cases h1 : ki.minOccurs > (groupKeys rs).length
      · simp only [h1, if_true]; rfl
      · simp only [h1, if_false, beq_nil_isEmpty]
        generalize (if (groupKeys rs).isEmpty = true then (match ki.dflt with | .keyedMany d => d | _ => []) else groupKeys rs) = mp
        by_cases h2 : mp.length < ki.minOccurs
        · simp only [h2, if_true]; rfl
        · simp only [h2, if_false, bind, Except.bind, constructChild, toOption_map, mapM_toOption, mapM_eq_omap, convAll_eq']
    · simp only [hp, hm, if_true, if_false, Bool.false_eq_true] at hov ⊢
      simp only [hov, Bool.not_true, Bool.false_eq_true, if_false]
      by_cases h1 : ki.minOccurs > rs.length
      · simp only [h1, if_true]; rfl
      · simp only [h1, if_false, bind, Except.bind, constructChild, toOption_map, mapM_toOption, mapM_eq_omap,
          convVI_toOption, beq_nil_isEmpty]
        rfl
  · by_cases hm : ki.multi = true
    · simp only [hp, hm, if_true, if_false, Bool.false_eq_true, beq_nil_isEmpty]
      generalize (if (rs.map (·.2)).isEmpty = true then (match ki.dflt with | .many d => d | _ => []) else rs.map (·.2)) = vs
      by_cases h2 : vs.length < ki.minOccurs
      · simp only [h2, if_true]; rfl
      · simp only [h2, if_false, bind, Except.bind, constructChild, toOption_map, convAll_eq]
    · simp only [hp, hm, if_false, Bool.false_eq_true, decide_eq_true_eq] at hov ⊢
      match rs, hov with
      | [], _ =>
        simp only
        by_cases h0 : ki.minOccurs > 0
        · simp only [h0, if_true]
          cases ki.dflt <;> rfl
        · simp only [h0, if_false]
          cases ki.dflt <;> simp [bind, Except.bind, constructChild, convVI_toOption]
      | [x], _ => simp [bind, Except.bind, constructChild, convVI_toOption]
      | x :: y :: l, h => simp at h

/-! ### section children -/

def sectConvF (conv : Conv) (s : Schema) (v : Val) : M Val :=
  match v with
  | .sect ty _ _ =>
    match s.gettype ty with
    | some (.concrete t) =>
      match conv.sect t.datatype v with
      | .ok r => .ok r
      | .error e => .error (convFail e none { line := -1, url := none } "section datatype")
    | _ => .error (.internal "AttributeError")
  | other => .ok other

theorem constructChild_sects (conv : Conv) (s : Schema) (si : SectInfo) (vs : List Val) :
    constructChild conv s (.sect si) (.sects vs) = (vs.mapM (sectConvF conv s)).map Val.list := rfl

theorem constructChild_sect (conv : Conv) (s : Schema) (si : SectInfo) (v : Val) :
    constructChild conv s (.sect si) (.sect v) = sectConvF conv s v := rfl

theorem constructChild_sect_none (conv : Conv) (s : Schema) (si : SectInfo) :
    constructChild conv s (.sect si) .none = .ok .none := rfl

theorem sectConvF_raw (conv : Conv) (s : Schema) (r : SecR) :
    (sectConvF conv s r.raw).toOption = sectVal conv s r := by
  unfold sectConvF sectVal SecR.raw
  simp only
  cases s.gettype r.ty with
  | none => rfl
  | some te =>
    cases te with
    | abstract_ n subs => rfl
    | concrete tc =>
      simp only
      cases conv.sect tc.datatype (Val.sect r.ty r.nm r.attrs) <;> rfl

theorem sect_finish (conv : Conv) (s : Schema) (si : SectInfo) (mine : List SecR)
    (hov : sectOver si mine.length = true) :
    ((finishChild (.sect si) (sectSlot si mine)) >>= fun sl => constructChild conv s (.sect si) sl).toOption =
      slotVal si (mine.map (toSub conv s)) := by
  unfold sectSlot slotVal finishChild
  unfold sectOver at hov
  by_cases hm : si.multi = true
  · simp only [hm, if_true, List.length_map]
    by_cases h1 : mine.length < si.minOccurs
    · simp only [h1, if_true]; rfl
    · simp only [h1, if_false, bind, Except.bind, constructChild_sects, toOption_map, mapM_toOption, mapM_eq_omap,
        omap_map_list, sectConvF_raw]
      rfl
  · simp only [hm, if_false, Bool.false_eq_true, Bool.false_or, decide_eq_true_eq] at hov ⊢
    match mine, hov with
    | [], _ =>
      simp only [List.map_nil]
      by_cases h0 : si.minOccurs > 0
      · simp only [h0, if_true]; rfl
      · simp only [h0, if_false]; rfl
    | [r], _ =>
      simp only [List.map_cons, List.map_nil, bind, Except.bind, constructChild_sect, sectConvF_raw]
      rfl
    | x :: y :: l, h => simp at h

/-! ### the whole matcher -/

theorem child_finish (conv : Conv) (s : Schema) (t : SType) (nm : Option Str) (kl : List (Option Str × VI))
    (secs : List SecR) (hT : STypeOK t) (c : Option Str × Info) (hc : c ∈ t.children)
    (hov : noOver s t c kl (secs.map (toSub conv s)) = true) :
    (fin1 (mk s t nm kl secs) c >>= fin2 conv s).toOption =
      (childVal conv s t kl (secs.map (toSub conv s)) c).map fun v => (c.2, v) := by
  unfold fin1
  rw [getSlot_mk s t nm kl secs hT c hc]
  simp only
  have e : ((finishChild c.2 (slotFn s t c kl secs)).map (fun r => (c.2, r)) >>= fin2 conv s) =
      ((finishChild c.2 (slotFn s t c kl secs)) >>= fun sl => constructChild conv s c.2 sl).map (fun v => (c.2, v)) := by
    cases finishChild c.2 (slotFn s t c kl secs) with
    | error e => rfl
    | ok sl => rfl
  rw [e, toOption_map]
  congr 1
  unfold noOver at hov
  unfold slotFn
  cases hc2 : c.2 with
  | key ki =>
    rw [hc2] at hov
    simp only
    rw [key_finish conv s ki _ hov, childVal_key _ _ _ _ _ _ _ hc2]
  | sect si =>
    rw [hc2] at hov
    simp only [filter_toSub, List.length_map] at hov ⊢
    rw [sect_finish conv s si _ hov, childVal_sect _ _ _ _ _ _ _ hc2, filter_toSub]

theorem finish_full (conv : Conv) (s : Schema) (t : SType) (nm : Option Str) (kl : List (Option Str × VI))
    (secs : List SecR) (hT : STypeOK t) (hg : Good s t kl (secs.map (toSub conv s))) :
    (finishMatcher conv s (mk s t nm kl secs)).toOption =
      (omap (fun c => (childVal conv s t kl (secs.map (toSub conv s)) c).map fun v => (c.2, v)) t.children).map
        fun vals => (Val.sect (t.name.getD []) nm (vals.map fun p => (p.1.attr, p.2)),
          vals.filterMap fun p => p.1.handler.map fun h => (h, p.2)) := by
  rw [finishMatcher_nobag conv s _ rfl,
    ← omap_congr _ _ _ (fun c hc => child_finish conv s t nm kl secs hT c hc (hg.over c hc)),
    ← mapM_mapM_toOption]
  unfold finishMatcher'
  show (t.children.mapM (fin1 (mk s t nm kl secs)) >>= fun slots => slots.mapM (fin2 conv s) >>= fun vals => pure _).toOption = _
  cases t.children.mapM (fin1 (mk s t nm kl secs)) with
  | error e => rfl
  | ok slots =>
    rw [ok_bind, ok_bind]
    cases (slots.mapM (fin2 conv s) : M _) <;> rfl

theorem finish_mk (conv : Conv) (s : Schema) (t : SType) (nm : Option Str) (kl : List (Option Str × VI))
    (secs : List SecR) (hT : STypeOK t) (hg : Good s t kl (secs.map (toSub conv s))) :
    ((finishMatcher conv s (mk s t nm kl secs)).map (·.1)).toOption =
      (attrsVal conv s t kl (secs.map (toSub conv s))).map fun attrs => Val.sect (t.name.getD []) nm attrs := by
  rw [toOption_map, finish_full conv s t nm kl secs hT hg, Option.map_map]
  unfold attrsVal
  rw [mapM_eq_omap]
  have := omap_map (fun c => (childVal conv s t kl (secs.map (toSub conv s)) c).map fun v => (c.2, v))
    (fun (p : Info × Val) => (p.1.attr, p.2)) t.children
  simp only [Option.map_map, Function.comp_def] at this
  rw [← this, Option.map_map]
  rfl

end ZCV.Conf
