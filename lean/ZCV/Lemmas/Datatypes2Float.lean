import ZCV.Lemmas.Datatypes2Int
import ZCV.Lemmas.Lists
/-! `float(str)` acceptance: the model `floatOk` against the grammar `DTSpec.FloatLit`. -/
namespace ZCV.DT
open ZCV ZCV.DTSpec

/-! ## the greedy digit scanner -/

/-- the scanner stops in front of `r` -/
def dt2Stop (r : Str) : Prop := r = [] ∨ ∃ c t, r = c :: t ∧ pyDigit c = false ∧ c ≠ '_'

theorem dt2_go_digit (d : Char) (t : Str) (h : pyDigit d = true) : digitPart.go (d :: t) = digitPart.go t := by
  rw [digitPart.go.eq_3 d t (fun _ _ e _ => dt2_digit_ne_underscore d h e), if_pos h]

theorem dt2_go_under (d : Char) (t : Str) (h : pyDigit d = true) :
    digitPart.go ('_' :: d :: t) = digitPart.go t := by
  rw [digitPart.go.eq_2, if_pos h]

theorem dt2_go_stop (r : Str) (h : dt2Stop r) : digitPart.go r = r := by
  rcases h with rfl | ⟨c, t, rfl, hc, hu⟩
  · rfl
  · rw [digitPart.go.eq_3 c t (fun _ _ e _ => hu e), if_neg (by simp [hc])]

theorem dt2_go_body (b : Str) (ds : List Nat) (h : IntBody b ds) (r : Str) (hr : dt2Stop r) :
    ∀ c t, b = c :: t → digitPart.go (t ++ r) = r := by
  induction h with
  | one c v hv => intro c' t' e; injection e with _ e; subst e; exact dt2_go_stop r hr
  | cons c v t ds hv ht ih =>
    intro c' t' e; injection e with _ e; subst e
    obtain ⟨d, t'', rfl, hd⟩ := dt2_intBody_head t ds ht
    rw [List.cons_append, dt2_go_digit d _ hd]
    exact ih d t'' rfl
  | under c v t ds hv ht ih =>
    intro c' t' e; injection e with _ e; subst e
    obtain ⟨d, t'', rfl, hd⟩ := dt2_intBody_head t ds ht
    rw [List.cons_append, List.cons_append, dt2_go_under d _ hd]
    exact ih d t'' rfl

theorem dt2_digitPart_digits (d r : Str) (hd : Digits d) (hr : dt2Stop r) : digitPart (d ++ r) = some r := by
  obtain ⟨ds, hb⟩ := hd
  obtain ⟨c, t, rfl, hc⟩ := dt2_intBody_head d ds hb
  rw [List.cons_append, digitPart, if_pos hc, dt2_go_body _ ds hb r hr c t rfl]

/-- a continuation of a digit group -/
def dt2Cont (m : Str) : Prop := ∀ c v, pyDigitVal c = some v → ∃ ds, IntBody (c :: m) ds

theorem dt2_go_decomp (t : Str) : ∃ m, t = m ++ digitPart.go t ∧ dt2Cont m := by
  induction t using digitPart.go.induct with
  | case1 => exact ⟨[], rfl, fun c v hv => ⟨[v], IntBody.one c v hv⟩⟩
  | case2 d t hd ih =>
    obtain ⟨m, hm, hc⟩ := ih
    obtain ⟨vd, hvd⟩ := (dt2_pyDigit_val d).mp hd
    refine ⟨'_' :: d :: m, by rw [dt2_go_under d t hd]; simp [← hm], ?_⟩
    intro c v hv
    obtain ⟨ds, hb⟩ := hc d vd hvd
    exact ⟨v :: ds, IntBody.under c v _ ds hv hb⟩
  | case3 d t hd =>
    refine ⟨[], ?_, fun c v hv => ⟨[v], IntBody.one c v hv⟩⟩
    rw [digitPart.go.eq_2, if_neg hd]; rfl
  | case4 d t hne hd ih =>
    obtain ⟨m, hm, hc⟩ := ih
    obtain ⟨vd, hvd⟩ := (dt2_pyDigit_val d).mp hd
    refine ⟨d :: m, by rw [dt2_go_digit d t hd]; simp [← hm], ?_⟩
    intro c v hv
    obtain ⟨ds, hb⟩ := hc d vd hvd
    exact ⟨v :: ds, IntBody.cons c v _ ds hv hb⟩
  | case5 d t hne hd =>
    refine ⟨[], ?_, fun c v hv => ⟨[v], IntBody.one c v hv⟩⟩
    rw [digitPart.go.eq_3 d t hne, if_neg hd]; rfl

theorem dt2_digitPart_some (s r : Str) (h : digitPart s = some r) : ∃ d, Digits d ∧ s = d ++ r := by
  cases s with
  | nil => cases h
  | cons c t =>
    rw [digitPart] at h
    split at h
    · rename_i hc
      injection h with h
      obtain ⟨m, hm, hcont⟩ := dt2_go_decomp t
      obtain ⟨v, hv⟩ := (dt2_pyDigit_val c).mp hc
      exact ⟨c :: m, hcont c v hv, by rw [← h, List.cons_append, ← hm]⟩
    · cases h

theorem dt2_digitPart_none (c : Char) (t : Str) (h : pyDigit c = false) : digitPart (c :: t) = none := by
  rw [digitPart, if_neg (by simp [h])]

/-! ## the number -/

def dt2Unsign (r : Str) : Str :=
  match r with
  | '+' :: x => x
  | '-' :: x => x
  | x => x

/-- `afterExp` of `floatBody` -/
def dt2AfterExp (r : Str) : Bool :=
  match r with
  | [] => true
  | e :: r1 =>
    if e == 'e' || e == 'E' then
      match digitPart (dt2Unsign r1) with | some [] => true | _ => false
    else false

theorem dt2_floatBody_eq (s : Str) :
    floatBody s =
      match digitPart s with
      | some r =>
        (match r with
        | '.' :: r1 => (match digitPart r1 with | some r2 => dt2AfterExp r2 | none => dt2AfterExp r1)
        | _ => dt2AfterExp r)
      | none =>
        (match s with
        | '.' :: r1 => (match digitPart r1 with | some r2 => dt2AfterExp r2 | none => false)
        | _ => false) := rfl

theorem dt2_unsign_solid (sg t : Str) (hs : IsSign sg) (ht : dt2Solid t) : dt2Unsign (sg ++ t) = t := by
  obtain ⟨⟨c, r, rfl, _, h2, h3⟩, _⟩ := ht
  rcases hs with rfl | rfl | rfl
  · rw [List.nil_append]
    unfold dt2Unsign
    split
    · rename_i heq; injection heq with h _; exact absurd h h2
    · rename_i heq; injection heq with h _; exact absurd h h3
    · rfl
  · rfl
  · rfl

theorem dt2_unsign_decomp (r : Str) : ∃ sg, IsSign sg ∧ r = sg ++ dt2Unsign r := by
  unfold dt2Unsign
  split
  · exact ⟨['+'], Or.inr (Or.inl rfl), rfl⟩
  · exact ⟨['-'], Or.inr (Or.inr rfl), rfl⟩
  · exact ⟨[], Or.inl rfl, rfl⟩

theorem dt2_afterExp_iff (r : Str) : dt2AfterExp r = true ↔ Exponent r := by
  constructor
  · intro h
    cases r with
    | nil => exact Exponent.none
    | cons e r1 =>
      simp only [dt2AfterExp] at h
      split at h
      · rename_i he
        split at h
        · rename_i hd
          obtain ⟨d, hdig, hd2⟩ := dt2_digitPart_some _ _ hd
          rw [List.append_nil] at hd2
          obtain ⟨sg, hsg, hr1⟩ := dt2_unsign_decomp r1
          rw [hr1, hd2]
          exact Exponent.exp e sg d (by simpa using he) hsg hdig
        · cases h
      · cases h
  · intro h
    cases h with
    | none => rfl
    | exp e sg d he hs hd =>
      have he' : (e == 'e' || e == 'E') = true := by simpa using he
      simp only [dt2AfterExp, he', ↓reduceIte, dt2_unsign_solid sg d hs (dt2_digits_solid d hd)]
      have := dt2_digitPart_digits d [] hd (Or.inl rfl)
      rw [List.append_nil] at this
      rw [this]

theorem dt2_dot_not_digit : pyDigit '.' = false := by decide
theorem dt2_e_not_digit : pyDigit 'e' = false := by decide
theorem dt2_E_not_digit : pyDigit 'E' = false := by decide

theorem dt2_exponent_stop (ex : Str) (h : Exponent ex) : dt2Stop ex := by
  cases h with
  | none => exact Or.inl rfl
  | exp e sg d he hs hd =>
    refine Or.inr ⟨e, _, rfl, ?_, ?_⟩
    · rcases he with rfl | rfl
      · exact dt2_e_not_digit
      · exact dt2_E_not_digit
    · rcases he with rfl | rfl <;> decide

theorem dt2_exponent_no_dot (ex r1 : Str) (h : Exponent ex) : ex ≠ '.' :: r1 := by
  cases h with
  | none => simp
  | exp e sg d he hs hd =>
    intro heq
    injection heq with h1 _
    rcases he with rfl | rfl <;> cases h1

theorem dt2_exponent_digitPart (ex : Str) (h : Exponent ex) : digitPart ex = none := by
  cases h with
  | none => rfl
  | exp e sg d he hs hd =>
    apply dt2_digitPart_none
    rcases he with rfl | rfl
    · exact dt2_e_not_digit
    · exact dt2_E_not_digit

theorem dt2_dot_stop (r : Str) : dt2Stop ('.' :: r) :=
  Or.inr ⟨'.', r, rfl, dt2_dot_not_digit, by decide⟩

/-- the number grammar: the model's scanner accepts exactly mantissa + exponent -/
theorem dt2_floatBody_iff (s : Str) : floatBody s = true ↔ FloatNum s := by
  rw [dt2_floatBody_eq]
  constructor
  · intro h
    split at h
    · rename_i r hr
      obtain ⟨a, ha, rfl⟩ := dt2_digitPart_some _ _ hr
      split at h
      · rename_i r1
        split at h
        · rename_i r2 hr2
          obtain ⟨b, hb, rfl⟩ := dt2_digitPart_some _ _ hr2
          exact ⟨a ++ '.' :: b, r2, by simp, Mantissa.intDotFrac a b ha hb, (dt2_afterExp_iff _).mp h⟩
        · exact ⟨a ++ ['.'], r1, by simp, Mantissa.intDot a ha, (dt2_afterExp_iff _).mp h⟩
      · exact ⟨a, r, rfl, Mantissa.int a ha, (dt2_afterExp_iff _).mp h⟩
    · split at h
      · rename_i r1
        split at h
        · rename_i r2 hr2
          obtain ⟨b, hb, rfl⟩ := dt2_digitPart_some _ _ hr2
          exact ⟨'.' :: b, r2, by simp, Mantissa.dotFrac b hb, (dt2_afterExp_iff _).mp h⟩
        · cases h
      · cases h
  · rintro ⟨mant, ex, rfl, hm, hex⟩
    have hstop := dt2_exponent_stop ex hex
    have hae := (dt2_afterExp_iff ex).mpr hex
    cases hm with
    | int _ ha =>
      rw [dt2_digitPart_digits mant ex ha hstop]
      simp only
      split
      · rename_i r1; exact absurd rfl (dt2_exponent_no_dot _ r1 hex)
      · exact hae
    | intDot a ha =>
      rw [List.append_assoc, List.singleton_append, dt2_digitPart_digits a _ ha (dt2_dot_stop ex)]
      simp only [dt2_exponent_digitPart ex hex]
      exact hae
    | dotFrac b hb =>
      rw [List.cons_append, dt2_digitPart_none '.' _ dt2_dot_not_digit]
      simp only [dt2_digitPart_digits b ex hb hstop]
      exact hae
    | intDotFrac a b ha hb =>
      rw [List.append_assoc, List.cons_append, dt2_digitPart_digits a _ ha (dt2_dot_stop _)]
      simp only [dt2_digitPart_digits b ex hb hstop]
      exact hae

/-! ## the literal -/

theorem dt2_tbl_space_letter : Gen.spaceTbl.all (fun n => !(decide (65 ≤ n ∧ n ≤ 90) || decide (97 ≤ n ∧ n ≤ 122))) = true := by
  decide

theorem dt2_letter_not_space (c : Char) (h : isAsciiLetter c = true) : pySpace c = false := by
  cases hs : pySpace c with
  | false => rfl
  | true =>
    have := List.all_eq_true.mp dt2_tbl_space_letter _ ((dt2_pySpace_iff c).mp hs)
    simp only [isAsciiLetter, inRange, Char.reduceToNat, Bool.or_eq_true, Bool.and_eq_true, decide_eq_true_eq] at h
    simp only [Bool.not_eq_true', Bool.or_eq_false_iff, decide_eq_false_iff_not] at this
    omega

theorem dt2_letters_solid (t : Str) (hne : t ≠ []) (h : t.all isAsciiLetter = true) : dt2Solid t := by
  have hall := List.all_eq_true.mp h
  constructor
  · cases t with
    | nil => exact absurd rfl hne
    | cons c r =>
      have hc := hall c (by simp)
      refine ⟨c, r, rfl, dt2_letter_not_space c hc, ?_, ?_⟩ <;> (rintro rfl; revert hc; decide)
  · cases hl : t.getLast? with
    | none => rw [List.getLast?_eq_none_iff] at hl; exact absurd hl hne
    | some l =>
      exact ⟨l, rfl, dt2_letter_not_space l (hall l (List.mem_of_getLast? hl))⟩

theorem dt2_floatWord_solid (t : Str) (h : FloatWord t) : dt2Solid t := by
  have key : ∀ w : Str, w ≠ [] → w.all isAsciiLetter = true → asciiLower t = w → dt2Solid t := by
    intro w hw hall he
    apply dt2_letters_solid
    · rintro rfl; exact hw he.symm
    · rw [← he] at hall
      unfold asciiLower at hall
      rw [List.all_map] at hall
      rw [← hall]
      congr 1
      funext c
      exact (isAsciiLetter_lower c).symm
  rcases h with h | h | h
  · exact key _ (by decide) (by decide) h
  · exact key _ (by decide) (by decide) h
  · exact key _ (by decide) (by decide) h

theorem dt2_dot_not_space : pySpace '.' = false := by decide

theorem dt2_mantissa_solid (m : Str) (h : Mantissa m) : dt2Solid m := by
  cases h with
  | int _ ha => exact dt2_digits_solid m ha
  | intDot a ha =>
    obtain ⟨c, r, rfl, h1, h2, h3⟩ := (dt2_digits_solid a ha).1
    exact ⟨⟨c, r ++ ['.'], rfl, h1, h2, h3⟩, '.', by rw [getLast?_append_ne _ _ (by simp)]; rfl,
      dt2_dot_not_space⟩
  | dotFrac b hb =>
    obtain ⟨l, hl, hl2⟩ := (dt2_digits_solid b hb).2
    obtain ⟨c, r, rfl, _⟩ := (dt2_digits_solid b hb).1
    exact ⟨⟨'.', _, rfl, dt2_dot_not_space, by decide, by decide⟩, l, by rw [List.getLast?_cons_cons]; exact hl, hl2⟩
  | intDotFrac a b ha hb =>
    obtain ⟨c, r, rfl, h1, h2, h3⟩ := (dt2_digits_solid a ha).1
    obtain ⟨l, hl, hl2⟩ := (dt2_digits_solid b hb).2
    obtain ⟨c', r', rfl, _⟩ := (dt2_digits_solid b hb).1
    refine ⟨⟨c, _, rfl, h1, h2, h3⟩, l, ?_, hl2⟩
    rw [getLast?_append_ne _ _ (by simp), List.getLast?_cons_cons]; exact hl

theorem dt2_floatNum_solid (t : Str) (h : FloatNum t) : dt2Solid t := by
  obtain ⟨m, ex, rfl, hm, hex⟩ := h
  obtain ⟨⟨c, r, rfl, h1, h2, h3⟩, l, hl, hl2⟩ := dt2_mantissa_solid m hm
  refine ⟨⟨c, r ++ ex, rfl, h1, h2, h3⟩, ?_⟩
  cases hex with
  | none => rw [List.append_nil]; exact ⟨l, hl, hl2⟩
  | exp e sg d he hs hd =>
    obtain ⟨l', hl', hl2'⟩ := (dt2_digits_solid d hd).2
    obtain ⟨c', r', rfl, _⟩ := (dt2_digits_solid d hd).1
    refine ⟨l', ?_, hl2'⟩
    rw [getLast?_append_ne _ _ (by simp)]
    have : e :: (sg ++ c' :: r') = (e :: sg) ++ c' :: r' := rfl
    rw [this, getLast?_append_cons]
    exact hl'

/-- the three special words, as the model tests them -/
def dt2WordB (t : Str) : Bool :=
  asciiLower t == "inf".toList || asciiLower t == "infinity".toList || asciiLower t == "nan".toList

theorem dt2_wordB_iff (t : Str) : dt2WordB t = true ↔ FloatWord t := by
  simp only [dt2WordB, FloatWord, Bool.or_eq_true, beq_iff_eq, or_assoc]

theorem dt2_floatOk_eq0 (s : Str) :
    floatOk s = (if dt2WordB (dt2Unsign (stripInt s)) = true then true else floatBody (dt2Unsign (stripInt s))) := rfl

theorem dt2_floatOk_eq (s : Str) :
    floatOk s = (dt2WordB (dt2Unsign (stripInt s)) || floatBody (dt2Unsign (stripInt s))) := by
  rw [dt2_floatOk_eq0]
  cases dt2WordB (dt2Unsign (stripInt s)) <;> rfl

/-- `float(str)` acceptance: the model accepts exactly the float literals of the grammar -/
theorem dt2_floatOk_iff (s : Str) : floatOk s = true ↔ FloatLit s := by
  rw [dt2_floatOk_eq, Bool.or_eq_true, dt2_wordB_iff, dt2_floatBody_iff]
  constructor
  · intro h
    obtain ⟨pre, post, hs, hpre, hpost⟩ := dt2_stripInt_decomp s
    obtain ⟨sg, hsg, hu⟩ := dt2_unsign_decomp (stripInt s)
    refine ⟨pre, sg, dt2Unsign (stripInt s), post, ?_, hpre, hpost, hsg, h⟩
    rw [List.append_assoc pre, ← hu]; exact hs
  · rintro ⟨pre, sg, t, post, rfl, hpre, hpost, hsg, ht⟩
    have hsolid : dt2Solid t := by
      rcases ht with h | h
      · exact dt2_floatWord_solid t h
      · exact dt2_floatNum_solid t h
    have hstrip : stripInt (pre ++ sg ++ t ++ post) = sg ++ t := by
      rw [List.append_assoc pre sg t]
      exact dt2_stripInt_mid' pre (sg ++ t) post hpre hpost (dt2_signed_solid_ends sg t hsg hsolid)
    rw [hstrip, dt2_unsign_solid sg t hsg hsolid]
    exact ht

theorem dt2_intLit_floatLit (s : Str) (n : Int) (h : IntLit s n) : FloatLit s := by
  obtain ⟨pre, sg, body, post, ds, rfl, hpre, hpost, hb, hn⟩ := h
  refine ⟨pre, sg, body, post, rfl, hpre, hpost, ?_, Or.inr ⟨body, [], by simp, Mantissa.int body ⟨ds, hb⟩, Exponent.none⟩⟩
  rcases hn with ⟨h | h, _⟩ | ⟨h, _⟩
  · exact Or.inl h
  · exact Or.inr (Or.inl h)
  · exact Or.inr (Or.inr h)

theorem dt2_floatLit_ne_nil : ¬ FloatLit [] := by
  intro h
  have := (dt2_floatOk_iff []).mpr h
  revert this
  decide

theorem dt2_not_floatLit (s : Str) (h : floatOk s = false) : ¬ FloatLit s := fun hl => by
  rw [(dt2_floatOk_iff s).mpr hl] at h
  cases h

end ZCV.DT
