import ZCV.Lemmas.HistoryRun
import ZCV.Lemmas.SlotsEx
/-!
C13 / C12, histories on the application's schema object (`runHistoryApp`): a closed world for the examples (`HEx`; `Ex` is
the world of `SlotsEx`).  The schema of `SlotsEx` (one abstract type `ab`, a `*` slot for it) and four packages:
  `p`  one type `leak` implementing `ab`;
  `q`  a type of the same name `leak` that implements nothing;
  `b`  a type `x` implementing `ab`, then a type named `ab` – which the schema has: the component breaks off after `x`
       was registered;
  `c`  the same two types in the other order: the component breaks off at once, `x` is never reached.
-/
namespace ZCV.Cfg.HEx
open ZCV ZCV.Cfg ZCV.Conf

def xT : SType := { name := some "x".toList, keytype := "basic-key".toList, datatype := "null".toList, children := [] }

def pkgsH : Str → Pkg := fun n =>
  if n == "p".toList then .component "u".toList [("leak".toList, .concrete Ex.leak)] [("leak".toList, "ab".toList)]
  else if n == "q".toList then .component "v".toList [("leak".toList, .concrete Ex.leak)] []
  else if n == "b".toList then
    .component "w".toList [("x".toList, .concrete xT), ("ab".toList, .concrete xT)] [("x".toList, "ab".toList)]
  else if n == "c".toList then
    .component "z".toList [("ab".toList, .concrete xT), ("x".toList, .concrete xT)] [("x".toList, "ab".toList)]
  else .notImportable

/-- the application's schema object after a load that imported `p`: only the table of `ab` has changed -/
def schemaL : Schema := { Ex.schema with types := [("ab".toList, .abstract_ "ab".toList ["leak".toList])] }
/-- … after a load whose import of `b` broke off -/
def schemaX : Schema := { Ex.schema with types := [("ab".toList, .abstract_ "ab".toList ["x".toList])] }

def qP : LoadReq := ⟨none, ["%import p".toList], []⟩
def qB : LoadReq := ⟨none, ["%import b".toList], []⟩
def qC : LoadReq := ⟨none, ["%import c".toList], []⟩
def qUse : LoadReq := ⟨none, ["<leak/>".toList], []⟩
def qTwin : LoadReq := ⟨none, ["%import q".toList, "<leak/>".toList], []⟩

def h0 (s : Schema) : LS :=
  { schema := s, privateSchema := false, handlers := [], stack := [newMatcher s.top none none], pkgs := pkgsH, conv := Ex.conv }

theorem shape_q : lineShape (strip "%import q".toList) = .import_ "q".toList := shape_closed _ _ (by char_lits; decide +kernel)
theorem shape_b : lineShape (strip "%import b".toList) = .import_ "b".toList := shape_closed _ _ (by char_lits; decide +kernel)
theorem shape_c : lineShape (strip "%import c".toList) = .import_ "c".toList := shape_closed _ _ (by char_lits; decide +kernel)
theorem arg_q : strip "q".toList = "q".toList ∧ '$' ∉ "q".toList := by char_lits; decide +kernel
theorem arg_b : strip "b".toList = "b".toList ∧ '$' ∉ "b".toList := by char_lits; decide +kernel
theorem arg_c : strip "c".toList = "c".toList ∧ '$' ∉ "c".toList := by char_lits; decide +kernel

/-! ### `%import p`, in any world that has `SlotsEx`'s package `p` -/

theorem importStop_p {st : LS} (hp : st.pkgs "p".toList = Ex.compP) (hs : st.schema = Ex.schema) :
    importStop st "p".toList =
      { schema := Ex.schema', regs := [("leak".toList, "ab".toList)], imports := ["p".toList], broken := none } := by
  unfold importStop; rw [hp, hs]; rfl

theorem loadStop_p (pkgs : Str → Pkg) (hp : pkgs "p".toList = Ex.compP) :
    loadStop Ex.conv Ex.env pkgs Ex.schema none ["%import p".toList] [] =
      { schema := Ex.schema', regs := [("leak".toList, "ab".toList)], imports := ["p".toList], broken := none } :=
  (loadStop_import_line _ _ _ _ _ Ex.shape_import Ex.arg_p).trans (importStop_p hp rfl)

theorem appAfterLoad_p (pkgs : Str → Pkg) (hp : pkgs "p".toList = Ex.compP) :
    appAfterLoad Ex.conv Ex.env pkgs Ex.schema qP = schemaL := by
  rw [appAfterLoad_eq]
  show Ex.schema.withImplementers (loadStop Ex.conv Ex.env pkgs Ex.schema none ["%import p".toList] []).regs = schemaL
  rw [loadStop_p pkgs hp]
  rfl

theorem runHistoryApp_p (pkgs : Str → Pkg) (hp : pkgs "p".toList = Ex.compP) :
    (runHistoryApp Ex.conv Ex.env pkgs Ex.schema [qP]).2 = schemaL := by
  rw [runHistoryApp_cons, appAfterLoad_p pkgs hp]; rfl

/-! ### the next load: `<leak/>` without `%import` -/

theorem load_old_use : ∃ r, load Ex.conv Ex.env Ex.pkgs Ex.schema' none ["<leak/>".toList] [] = .ok r :=
  ⟨_, (load_closed Ex.conv Ex.env Ex.pkgs Ex.schema'
    (parse_cons (Ex.step_leak ["u".toList] rfl rfl rfl) (parse_nil rfl))).trans rfl⟩

theorem load_app_use : load Ex.conv Ex.env Ex.pkgs schemaL none ["<leak/>".toList] [] =
    .error (synErr none 1 "start:unknown type name") :=
  have hstart : lsStart (Conf.loadSt0 Ex.conv Ex.pkgs schemaL) "leak".toList none =
      .error (.cfg { kind := .schema, tag := "unknown type name" }) := rfl
  (load_closed Ex.conv Ex.env Ex.pkgs schemaL
    (parse_cons_error ((stepLine_of_open Ex.shape_leak).trans (open_error hstart)))).trans rfl

/-! ### components that break off -/

theorem importStop_b : importStop (h0 Ex.schema) "b".toList =
    { schema := { types := [("ab".toList, .abstract_ "ab".toList ["x".toList]), ("x".toList, .concrete xT)],
                  top := Ex.top, handler := none, components := ["w".toList] },
      regs := [("x".toList, "ab".toList)], imports := [], broken := some "b".toList } := rfl

theorem importStop_c : importStop (h0 Ex.schema) "c".toList =
    { schema := { Ex.schema with components := ["z".toList] }, regs := [], imports := [], broken := some "c".toList } := rfl

theorem lsImport_b : lsImport (h0 Ex.schema) "b".toList =
    .error (.cfg { kind := .schema, tag := "type name cannot be redefined" }) := rfl

theorem loadStop_b : loadStop Ex.conv Ex.env pkgsH Ex.schema none ["%import b".toList] [] = importStop (h0 Ex.schema) "b".toList :=
  loadStop_import_line _ _ _ _ _ shape_b arg_b

theorem loadStop_c : loadStop Ex.conv Ex.env pkgsH Ex.schema none ["%import c".toList] [] = importStop (h0 Ex.schema) "c".toList :=
  loadStop_import_line _ _ _ _ _ shape_c arg_c

theorem load_b : load Ex.conv Ex.env pkgsH Ex.schema none ["%import b".toList] [] =
    .error (.cfg { kind := .schema, tag := "type name cannot be redefined" }) :=
  (load_closed Ex.conv Ex.env pkgsH Ex.schema
    (parse_cons_error (step_import_error shape_b (replace_closed arg_b) lsImport_b))).trans rfl

theorem appAfterLoad_b : appAfterLoad Ex.conv Ex.env pkgsH Ex.schema qB = schemaX := by
  rw [appAfterLoad_eq]
  show Ex.schema.withImplementers (loadStop Ex.conv Ex.env pkgsH Ex.schema none ["%import b".toList] []).regs = schemaX
  rw [loadStop_b, importStop_b]
  rfl

theorem appAfterLoad_c : appAfterLoad Ex.conv Ex.env pkgsH Ex.schema qC = Ex.schema := by
  rw [appAfterLoad_eq]
  show Ex.schema.withImplementers (loadStop Ex.conv Ex.env pkgsH Ex.schema none ["%import c".toList] []).regs = Ex.schema
  rw [loadStop_c, importStop_c]
  rfl

/-! ### the same-named non-implementer: `%import q` / `<leak/>` on the used schema object and on a fresh one -/

/-- the private schema after `%import q` on the application's schema object that lists `leak` already -/
def schemaLq : Schema :=
  { types := [("ab".toList, .abstract_ "ab".toList ["leak".toList]), ("leak".toList, .concrete Ex.leak)],
    top := Ex.top, handler := none, components := ["v".toList] }
/-- … and on the fresh one -/
def schemaQ : Schema :=
  { types := [("ab".toList, .abstract_ "ab".toList []), ("leak".toList, .concrete Ex.leak)],
    top := Ex.top, handler := none, components := ["v".toList] }

def u1 : LS := { h0 schemaL with schema := schemaLq, privateSchema := true }
def f1 : LS := { h0 Ex.schema with schema := schemaQ, privateSchema := true }

theorem import_q_used : lsImport (h0 schemaL) "q".toList = .ok u1 := rfl
theorem import_q_fresh : lsImport (h0 Ex.schema) "q".toList = .ok f1 := rfl

theorem fin_leak_used : finishMatcher Ex.conv schemaLq (newMatcher Ex.leak none none) = .ok (Ex.vLeak, []) :=
  Ex.fin_leak_any _

theorem start_fresh : lsStart f1 "leak".toList none = .error (plainErr "no matching section defined") :=
  lsStart_unclaimed_refused f1 "leak".toList none (newMatcher Ex.top none none) [] Ex.leak rfl rfl rfl
    (by
      intro c hc
      have : c = (none, .sect Ex.slot) := by simpa [newMatcher, Ex.top] using hc
      subst this
      unfold keyShapeOK
      exact ⟨fun k h => (by cases h), fun _ => ⟨Ex.slot, rfl⟩, fun ki h => (by cases h)⟩)
    (by
      intro c hc
      have : c = (none, .sect Ex.slot) := by simpa [newMatcher, Ex.top] using hc
      subst this
      decide)

theorem load_twin_used : ∃ r, load Ex.conv Ex.env pkgsH schemaL none ["%import q".toList, "<leak/>".toList] [] = .ok r ∧
    r.value = .sect [] none [("s".toList, .list [Ex.vLeak])] :=
  ⟨_, (load_closed Ex.conv Ex.env pkgsH schemaL (parse_cons (StepOk.import_ (a := u1) shape_q (replace_closed arg_q) import_q_used).step
    (parse_cons (Ex.step_leak ["v".toList] rfl rfl rfl) (parse_nil rfl)))).trans rfl, rfl⟩

theorem load_twin_fresh : load Ex.conv Ex.env pkgsH Ex.schema none ["%import q".toList, "<leak/>".toList] [] =
    .error (synErr none 2 "start:no matching section defined") :=
  (load_closed Ex.conv Ex.env pkgsH Ex.schema (parse_cons (StepOk.import_ (a := f1) shape_q (replace_closed arg_q) import_q_fresh).step
    (parse_cons_error ((stepLine_of_open Ex.shape_leak).trans (open_error start_fresh))))).trans rfl

end ZCV.Cfg.HEx
