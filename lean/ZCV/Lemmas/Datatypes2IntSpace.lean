import ZCV.Lemmas.Datatypes2Float
/-!
The white space `int(str)` / `float(str)` skip (`intSpace`: `str.isspace` minus the generated table
`Gen.intSpaceExcluded`, U+001C–U+001F on CPython) against `str.isspace` (`pySpace`): the excluded characters are
rejected at either end of a text; a skipped character added at either end does not change the outcome; a character that
is not skipped changes it behind `1` (`int`) and behind `inf` (`float`).  `dt2_strips_exactly` draws the conclusion for any
conversion that looks at `stripInt s` only: it strips exactly the characters of `intSpace`.
-/
namespace ZCV.DT
open ZCV ZCV.DTSpec

theorem dt2_tbl_excluded_space : Gen.intSpaceExcluded.all (fun x => Gen.spaceTbl.contains x) = true := by decide

theorem dt2_excluded_space (c : Char) (hc : c.toNat ∈ Gen.intSpaceExcluded) : pySpace c = true ∧ intSpace c = false := by
  have h1 : pySpace c = true := List.all_eq_true.mp dt2_tbl_excluded_space _ hc
  refine ⟨h1, ?_⟩
  cases hi : intSpace c with
  | false => rfl
  | true => exact absurd hc ((dt2_intSpace_iff c).mp hi).2

theorem dt2_separator_controls_excluded (c : Char) (h : c = '\x1c' ∨ c = '\x1d' ∨ c = '\x1e' ∨ c = '\x1f') :
    c.toNat ∈ Gen.intSpaceExcluded := by
  rcases h with rfl | rfl | rfl | rfl <;> decide

/-! ### stripping one more character -/

theorem dt2_stripP_cons (p : Char → Bool) (c : Char) (s : Str) (h : p c = true) : dt2StripP p (c :: s) = dt2StripP p s := by
  unfold dt2StripP
  rw [List.dropWhile_cons, if_pos h]

theorem dt2_stripP_snoc (p : Char → Bool) (c : Char) (s : Str) (h : p c = true) :
    dt2StripP p (s ++ [c]) = dt2StripP p s := by
  have := stripP_pad p [] s [c] rfl (by simp [h])
  rwa [List.nil_append] at this

theorem dt2_stripInt_cons (c : Char) (s : Str) (h : intSpace c = true) : stripInt (c :: s) = stripInt s :=
  dt2_stripP_cons intSpace c s h
theorem dt2_stripInt_snoc (c : Char) (s : Str) (h : intSpace c = true) : stripInt (s ++ [c]) = stripInt s :=
  dt2_stripP_snoc intSpace c s h

theorem dt2_pyInt_stripInt (s t : Str) (h : stripInt s = stripInt t) : pyInt s = pyInt t := by
  unfold pyInt; rw [h]
theorem dt2_integer_stripInt (s t : Str) (h : stripInt s = stripInt t) : integer s = integer t := by
  unfold integer; rw [dt2_pyInt_stripInt s t h]
theorem dt2_floatConv_stripInt (s t : Str) (h : stripInt s = stripInt t) : floatConv s = floatConv t := by
  unfold floatConv floatOk; rw [h]

/-- a conversion that looks at `stripInt s` only, and that tells some text `w` from `w ++ [c]` for every `c` that is not
    skipped: `c` can be put in front of and behind every text without changing the outcome exactly when it is skipped -/
theorem dt2_strips_exactly {β : Type} (f : Str → β) (hf : ∀ s t, stripInt s = stripInt t → f s = f t) (w : Str)
    (hw : ∀ c, intSpace c = false → f (w ++ [c]) ≠ f w) (c : Char) :
    (∀ s, f (c :: s) = f s ∧ f (s ++ [c]) = f s) ↔ (pySpace c = true ∧ c.toNat ∉ Gen.intSpaceExcluded) := by
  rw [← dt2_intSpace_iff]
  constructor
  · intro h
    cases hi : intSpace c with
    | true => rfl
    | false => exact absurd (h w).2 (hw c hi)
  · exact fun hi s => ⟨hf _ _ (dt2_stripInt_cons c s hi), hf _ _ (dt2_stripInt_snoc c s hi)⟩

/-! ### an excluded character at either end: no literal -/

/-- skipped white space, a text that neither starts nor ends with `str.isspace` white space, skipped white space:
    such a text neither starts nor ends with an excluded character -/
theorem dt2_sandwich_excluded (pre mid post : Str) (hpre : AllIntSpace pre) (hpost : AllIntSpace post)
    (hm : (∃ c t, mid = c :: t ∧ pySpace c = false) ∧ ∃ l, mid.getLast? = some l ∧ pySpace l = false)
    (c : Char) (hc : c.toNat ∈ Gen.intSpaceExcluded) (s : Str) :
    c :: s ≠ pre ++ mid ++ post ∧ s ++ [c] ≠ pre ++ mid ++ post := by
  obtain ⟨hsp, hni⟩ := dt2_excluded_space c hc
  obtain ⟨⟨a, t, rfl, ha⟩, l, hl, hl2⟩ := hm
  constructor
  · intro e
    cases pre with
    | nil =>
      rw [List.nil_append, List.cons_append] at e
      injection e with e1 _
      rw [e1, ha] at hsp; cases hsp
    | cons b pre' =>
      rw [List.cons_append, List.cons_append] at e
      injection e with e1 _
      have := hpre b (by simp)
      rw [← e1, hni] at this; cases this
  · intro e
    have hlast := congrArg List.getLast? e
    rw [getLast?_append_cons] at hlast
    cases post with
    | nil =>
      rw [List.append_nil, getLast?_append_cons, hl] at hlast
      have e1 : c = l := by simpa using hlast
      rw [e1, hl2] at hsp; cases hsp
    | cons b post' =>
      rw [getLast?_append_cons] at hlast
      obtain ⟨ys, hys⟩ := List.getLast?_eq_some_iff.mp hlast.symm
      have hmem : c ∈ b :: post' := by rw [hys]; simp
      have := hpost c hmem
      rw [hni] at this; cases this

theorem dt2_floatLit_sandwich (s : Str) (h : FloatLit s) : ∃ pre mid post, s = pre ++ mid ++ post ∧ AllIntSpace pre ∧
    AllIntSpace post ∧ (∃ c t, mid = c :: t ∧ pySpace c = false) ∧ ∃ l, mid.getLast? = some l ∧ pySpace l = false := by
  obtain ⟨pre, sg, t, post, rfl, hpre, hpost, hsg, ht⟩ := h
  exact ⟨pre, sg ++ t, post, by rw [List.append_assoc pre sg t], hpre, hpost,
    dt2_signed_solid_ends sg t hsg (ht.elim (dt2_floatWord_solid t) (dt2_floatNum_solid t))⟩

theorem dt2_floatLit_excluded (c : Char) (hc : c.toNat ∈ Gen.intSpaceExcluded) (s : Str) :
    ¬ FloatLit (c :: s) ∧ ¬ FloatLit (s ++ [c]) := by
  constructor <;> intro h <;> obtain ⟨pre, mid, post, e, hpre, hpost, hm⟩ := dt2_floatLit_sandwich _ h
  · exact (dt2_sandwich_excluded pre mid post hpre hpost hm c hc s).1 e
  · exact (dt2_sandwich_excluded pre mid post hpre hpost hm c hc s).2 e

theorem dt2_intLit_excluded (c : Char) (hc : c.toNat ∈ Gen.intSpaceExcluded) (s : Str) (n : Int) :
    ¬ IntLit (c :: s) n ∧ ¬ IntLit (s ++ [c]) n := by
  constructor
  · rintro ⟨pre, sg, body, post, ds, e, hpre, hpost, hb, hn⟩
    have hsg : IsSign sg := by
      rcases hn with ⟨h | h, _⟩ | ⟨h, _⟩
      · exact Or.inl h
      · exact Or.inr (Or.inl h)
      · exact Or.inr (Or.inr h)
    rw [List.append_assoc pre sg body] at e
    exact (dt2_sandwich_excluded pre (sg ++ body) post hpre hpost (dt2_signed_solid_ends sg body hsg (dt2_digits_solid body ⟨ds, hb⟩)) c hc s).1 e
  · rintro ⟨pre, sg, body, post, ds, e, hpre, hpost, hb, hn⟩
    have hsg : IsSign sg := by
      rcases hn with ⟨h | h, _⟩ | ⟨h, _⟩
      · exact Or.inl h
      · exact Or.inr (Or.inl h)
      · exact Or.inr (Or.inr h)
    rw [List.append_assoc pre sg body] at e
    exact (dt2_sandwich_excluded pre (sg ++ body) post hpre hpost (dt2_signed_solid_ends sg body hsg (dt2_digits_solid body ⟨ds, hb⟩)) c hc s).2 e

/-! ### a character that is not skipped, after a literal -/

theorem dt2_one_not_intSpace : intSpace '1' = false := by decide

/-- `int('1' + c)` is not 1 unless `c` is skipped -/
theorem dt2_integer_one_snoc (c : Char) (h : intSpace c = false) : integer (['1'] ++ [c]) ≠ integer ['1'] := by
  suffices key : pyInt ['1', c] ≠ some 1 by
    show integer ['1', c] ≠ integer ['1']
    unfold integer
    rw [show pyInt ['1'] = some 1 by decide]
    cases hp : pyInt ['1', c] with
    | none => exact fun e => nomatch e
    | some n => exact fun e => key (by rw [hp, Except.ok.inj e])
  have hs : stripInt ['1', c] = ['1', c] := by
    simp [stripInt, lstripInt, rstripInt, h, dt2_one_not_intSpace]
  unfold pyInt
  rw [hs]
  show (pyNat ['1', c]).map Int.ofNat ≠ some 1
  unfold pyNat
  simp only [(by decide : pyDigit '1' = true), ↓reduceIte]
  rw [pyDigits, if_neg (by decide)]
  simp only [(by decide : pyDigitVal '1' = some 1)]
  rw [pyDigits]
  split
  · simp
  · rw [pyDigits]
    cases hv : pyDigitVal c with
    | none => simp
    | some v =>
      simp only [Option.map_some, digitsVal, List.foldl_cons, List.foldl_nil]
      intro e
      injection e with e
      have : (0 * 10 + 1) * 10 + v = 1 := by exact Int.ofNat.inj e
      omega

/-- `float('inf' + c)` is refused unless `c` is skipped -/
theorem dt2_floatConv_inf_snoc (c : Char) (h : intSpace c = false) :
    floatConv (['i', 'n', 'f'] ++ [c]) ≠ floatConv ['i', 'n', 'f'] := by
  suffices key : floatOk ['i', 'n', 'f', c] = false by
    show floatConv ['i', 'n', 'f', c] ≠ floatConv ['i', 'n', 'f']
    unfold floatConv
    rw [key, show floatOk ['i', 'n', 'f'] = true by decide]
    exact fun e => nomatch e
  have hs : stripInt ['i', 'n', 'f', c] = ['i', 'n', 'f', c] := by
    simp [stripInt, lstripInt, rstripInt, h, (by decide : intSpace 'i' = false)]
  unfold floatOk
  rw [hs]
  simp [asciiLower, floatBody, digitPart, (by decide : pyDigit 'i' = false)]

end ZCV.DT
