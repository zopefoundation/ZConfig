import ZCV.Lemmas.ElabInvKey
import ZCV.Lemmas.ElabRulesDoc
/-!
Everything the loader does keeps `ESInv`: a whole `<key>` / `<multikey>` element (`keyElem_inv`, from what `keyElemE` adds), the
handlers of `<section>`, `<multisection>`, `<abstracttype>`, `<sectiontype>`, `<import>` and the character-data elements;
hence the tree walk, for hooks that keep it (`inv_walk`), and whole documents, nested ones included (`inv_docRel`, an instance
of `DocRel`): every state `elabES` returns satisfies `ESInv` (`elabES_inv`).
-/
namespace ZCV.Elab
open ZCV ZCV.Cfg

theorem guard_ok {c : Prop} [Decidable c] {t : String} {a : PUnit}
    (h : (if c then (serr t : EM PUnit) else pure PUnit.unit) = .ok a) : ¬ c := by
  intro hc; simp [hc, serr] at h

theorem convKeyName_ok {env : Env} {kt name r : Str} (h : convKeyName env kt name = .ok r) : env.conv.key kt name = .ok r := by
  unfold convKeyName at h
  split at h
  · rename_i r' hr; simp only [Except.ok.injEq] at h; subst h; exact hr
  all_goals cases h

/-- what a freshly pushed key frame knows: its key is the last child of the container below -/
def LastKey (es : ES) (stack : List Frame) (k : EKey) : Prop :=
  ∃ ch key k0, topOf es stack = .ok (ch ++ [(key, EInfo.key k0)]) ∧ k0.name = k.name ∧ k0.attr = k.attr

theorem ChildOK.key {tys : List (Str × EEntry)} {k : EKey} (h : KeyShape k) : ChildOK tys (some k.name, EInfo.key k) :=
  ⟨rfl, h⟩

theorem keyShape_keyObjOf {r : Str × Str × Option Str × Str} {req multi : Bool} {a : Attrs} (hname : r.1 ≠ [])
    (hA : DefaultAttrOK a r.1 req multi) : KeyShape (keyObjOf r req multi a) := by
  refine ⟨hname, ?_⟩
  show if r.1 = ['+'] then plusShape multi (keyObjOf r req multi a).dflt ∧ _ else _
  cases hd : attr a "default" with
  | some d =>
    -- a `default` attribute: the key is single-valued, optional and not named `+`
    obtain ⟨rfl, hn, rfl⟩ := hA d hd
    rw [if_neg hn, if_neg (show ¬ (keyObjOf r false false a).multi = true from Bool.false_ne_true)]
    exact .inr ⟨{ value := strip d, pos := defaultPos }, by simp only [keyObjOf, hd], rfl⟩
  | none =>
    have hdf : (keyObjOf r req multi a).dflt =
        if r.1 == ['+'] then (if multi then .keyedMany [] else .keyed []) else (if multi then .many [] else .none) := by
      simp only [keyObjOf, hd]
    rw [hdf]
    by_cases hp : r.1 = ['+']
    · rw [if_pos hp, if_pos (beq_iff_eq.2 hp)]
      exact ⟨by cases multi <;> exact rfl, fun _ h => nomatch h⟩
    · rw [if_neg hp, if_neg (fun h => hp (eq_of_beq h))]
      cases multi
      · exact .inl rfl
      · exact ⟨[], rfl⟩

open ZCV.SchemaRules (keyTag) in
/-- the start tag of `<key>` / `<multikey>`: a well-shaped key object with a non-empty attribute name is appended to the
container on top of the stack and pushed -/
theorem startKeyTag_pushes {env : Env} {h : Hooks} {multi : Bool} {st st' : PSt} {a : Attrs}
    (hs : startHandled env h (keyTag multi) a st = .ok st') :
    ∃ k, KeyShape k ∧ k.attr ≠ [] ∧ pushChild st (some k.name) (EInfo.key k) (.key k) = .ok st' := by
  rw [SchemaRules.startHandled_keyTag] at hs
  obtain ⟨p, hp, hs⟩ := bind_ok_inv hs
  obtain ⟨r, req, hr, _, hA, rfl⟩ := startKeyObjM_ok_iff.1 hp
  obtain ⟨_, _, hname, hattr, _⟩ := getKeyInfo_ok hr
  exact ⟨_, keyShape_keyObjOf hname hA, hattr, hs⟩

theorem getSectiontype_known {st : PSt} {attrs : Attrs} {ty : Str} (hlow : ∀ x : Str, lower (lower x) = lower x)
    (h : getSectiontype st attrs = .ok ty) : knownIn st.es.types (lower ty) = true := by
  rcases getSectiontype_cases st attrs with ⟨_, h1⟩ | ⟨_, _, _, _, h1⟩ | ⟨v, _, _, hm, h1⟩ <;> rw [h1] at h <;> cases h
  rw [hlow]
  exact (any_fst_beq _ _).2 hm

theorem pushSect_inv {st st' : PSt} {key : Option Str} {si : SectInfo} (hinv : ESInv st.es) (hattr : si.attr ≠ [])
    (hkey : ∀ k, key = some k → k ≠ []) (hc : ChildOK st.es.types (key, EInfo.sect si))
    (h : pushChild st key (EInfo.sect si) (.sect false false) = .ok st') :
    ESInv st'.es ∧ Grows st.es st'.es := by
  obtain ⟨st1, hadd, h⟩ := bind_ok_inv h
  cases h
  exact ⟨(addChild_inv hinv hadd hattr hkey hc).1, addChild_grows (st' := st1) hadd⟩

theorem startSection_inv {env : Env} {st st' : PSt} {attrs : Attrs} (hinv : ESInv st.es)
    (hkey : ∀ kt s r, s ≠ [] → env.conv.key kt s = .ok r → r ≠ []) (hlow : ∀ x : Str, lower (lower x) = lower x)
    (h : startSection env st attrs = .ok st') : ESInv st'.es ∧ Grows st.es st'.es := by
  obtain ⟨ty, handler, req, anyName, name, attrName, hty, _, hni, hassert, h⟩ := startSection_ok h
  obtain ⟨n, a, _, hsrc, ha, h4, hn⟩ := getNameInfo_ok hni
  dsimp only at h4 hn
  subst h4
  have hknown := getSectiontype_known hlow hty
  refine pushSect_inv hinv (by simpa using ha) ?_ ?_ h
  · rcases hn with ⟨_, rfl, rfl, _⟩ | ⟨_, rfl, kt, nm, _, hc, rfl⟩
    · intro k hk; cases hk
    · intro k hk; cases hk; exact hkey _ _ _ hsrc (convKeyName_ok hc)
  · rcases hn with ⟨hn, rfl, rfl, _⟩ | ⟨_, rfl, kt, nm, _, hc, rfl⟩
    · refine ⟨?_, ?_, hknown⟩
      · simp [hn]
      · intro hm; cases hm
    · simp only [Option.some.injEq, Bool.or_eq_true, beq_iff_eq, not_or] at hassert
      refine ⟨?_, ?_, hknown⟩
      · simp only [Option.getD_some, hassert.1, hassert.2, or_self, ↓reduceIte, true_and]
        exact hkey _ _ _ hsrc (convKeyName_ok hc)
      · intro hm; cases hm

theorem startMultisection_inv {env : Env} {st st' : PSt} {attrs : Attrs} (hinv : ESInv st.es)
    (hlow : ∀ x : Str, lower (lower x) = lower x)
    (h : startMultisection env st attrs = .ok st') : ESInv st'.es ∧ Grows st.es st'.es := by
  obtain ⟨ty, handler, req, an, name, attrName, hty, _, hni, hms, h⟩ := startMultisection_ok h
  obtain ⟨n, a, _, _, ha, h4, hn⟩ := getNameInfo_ok hni
  dsimp only at h4 hn
  subst h4
  have han : an = ['*'] ∨ an = ['+'] := (multisectionNames_iff an).1 hms
  rcases hn with ⟨_, _, rfl, _⟩ | ⟨_, hn1, _⟩
  · refine pushSect_inv hinv (by simpa using ha) (by intro k hk; cases hk) ?_ h
    refine ⟨?_, ?_, getSectiontype_known hlow hty⟩
    · simp [han]
    · intro _; simpa using han
  · cases hn1

/-! ### a whole `<key>` / `<multikey>` element -/

open ZCV.SchemaRules (keyTag endObj)

/-- the child a `<key>` / `<multikey>` element adds: a well-shaped key under its own name, with a non-empty attribute
name, new to the container -/
theorem keyElemE_ok {env : Env} {isC multi : Bool} {gi : EM (Str × Str × Option Str × Str)} {kt : Str}
    {ch : List (Option Str × EInfo)} {a : Attrs} {c : List Node} {x : Option Str × EInfo}
    (hgi : ∀ r, gi = .ok r → r.1 ≠ [] ∧ r.2.2.2 ≠ []) (h : keyElemE env isC multi gi kt ch a c = .ok x) :
    ∃ k, x = (some k.name, EInfo.key k) ∧ KeyShape k ∧ k.attr ≠ [] ∧ ¬ DupKey ch (some k.name) ∧ ¬ DupAttr ch k.attr := by
  unfold keyElemE at h
  obtain ⟨q, hq, h⟩ := bind_ok_inv h
  obtain ⟨u, hu, h⟩ := bind_ok_inv h
  obtain ⟨f, hf, h⟩ := bind_ok_inv h
  obtain ⟨k', hk', h⟩ := bind_ok_inv h
  cases h
  obtain ⟨r, req, hr, _, hA, rfl⟩ := startKeyObjM_ok_iff.1 hq
  obtain ⟨hname, hattr⟩ := hgi r hr
  obtain ⟨k1, rfl, s1, same1⟩ := leafBodyE_keyShape c (keyShape_keyObjOf hname hA) hf
  obtain ⟨s2, same2⟩ := endObj_shape s1 hk'
  obtain ⟨d1, d2⟩ := dupCheck_ok_iff.1 hu
  have hn : k'.name = r.1 := (same1.trans same2).name
  have ha : k'.attr = r.2.2.2 := (same1.trans same2).attr
  exact ⟨k', by rw [hn], s2, by rw [ha]; exact hattr, by rw [hn]; exact d1, by rw [ha]; exact d2⟩

/-- **a whole `<key>` / `<multikey>` element keeps the invariant**: it appends one well-shaped key, new to the container -/
theorem keyElem_inv {env : Env} {h : Hooks} {d : DocKind} {st st' : PSt} {multi : Bool} {a : Attrs} {c : List Node}
    (hinv : ESInv st.es)
    (hrun : (startHandled env h (keyTag multi) a st >>= fun st1 =>
      visitChildren env h d (keyTag multi) st1 c >>= fun st2 => endHandled env (keyTag multi) st2) = .ok st') :
    ESInv st'.es ∧ Grows st.es st'.es := by
  obtain ⟨st1, hs, _⟩ := bind_ok_inv hrun
  obtain ⟨k0, _, _, hp⟩ := startKeyTag_pushes hs
  obtain ⟨ch, hch, _⟩ := pushChild_ok_iff.1 hp
  rw [topChildren_eq] at hch
  obtain ⟨kt, hkt⟩ := ktOf_of_topOf hch
  rw [keyElem_run hch hkt] at hrun
  cases hx : keyElemE env (isComp d) multi (getKeyInfo env st a) kt ch a c with
  | error e => rw [hx] at hrun; cases hrun
  | ok x =>
    rw [hx] at hrun
    cases hrun
    obtain ⟨k, rfl, hk, hattr, d1, d2⟩ := keyElemE_ok (fun r hr => let ⟨_, _, h1, h2, _⟩ := getKeyInfo_ok hr; ⟨h1, h2⟩) hx
    refine ⟨(setTopOf_inv hinv hch fun hc => hc.snoc _ _ ?_ ?_ (ChildOK.key hk)).1, setTopOf_grows _ _ _⟩
    · exact fun c hcm heq => d2 ⟨hattr, List.mem_map.2 ⟨c, hcm, heq⟩⟩
    · intro c hcm k0 hkk heq
      cases hkk
      refine d1 ⟨?_, List.mem_map.2 ⟨c, hcm, heq⟩⟩
      cases hnm : k.name with
      | nil => exact absurd hnm hk.1
      | cons x xs => rfl

/-! ### the type table -/

theorem ESInv.updType {es : ES} (hinv : ESInv es) (n : Str) (f : EType → EType)
    (hf : ∀ t, ChildrenOK es.types t.children → (f t).name = t.name ∧ ChildrenOK es.types (f t).children) :
    ESInv (es.updType n f) := by
  unfold ES.updType
  refine hinv.map _ ?_ ?_
  · intro ⟨k, e⟩; dsimp only; split <;> rfl
  · intro ⟨k, e⟩ _ hpe
    dsimp only
    split
    · cases e with
      | concrete t => exact ⟨(hf t hpe.2).1.trans hpe.1, (hf t hpe.2).2⟩
      | abstract_ a b c => exact hpe
    · exact hpe

theorem addType_inv {es es' : ES} {n : Str} {e : EEntry} (hinv : ESInv es) (h : addType es n e = .ok es')
    (he : EntryOK (es.types ++ [(n, e)]) n e) : ESInv es' := by
  obtain ⟨hnew, rfl⟩ := addType_ok h
  have hm : ∀ x, knownIn es.types x = true → knownIn (es.types ++ [(n, e)]) x = true := by
    intro x hx; rw [knownIn_append, hx]; rfl
  refine ⟨hinv.topName, hinv.top.mono hm, ?_, ?_⟩
  · show ((es.types ++ [(n, e)]).map (·.1)).Nodup
    rw [List.map_append, List.nodup_append]
    refine ⟨hinv.keys, by simp, ?_⟩
    intro a ha b hb
    simp only [List.map_cons, List.map_nil, List.mem_singleton] at hb
    subst hb
    exact fun heq => hnew (heq ▸ ha)
  · intro p hp
    rcases List.mem_append.mp hp with hp | hp
    · exact (hinv.entries p hp).mono hm
    · simp only [List.mem_singleton] at hp
      subst hp
      exact he

theorem startAbstracttype_inv {st st' : PSt} {attrs : Attrs} (hinv : ESInv st.es)
    (h : startAbstracttype st attrs = .ok st') : ESInv st'.es ∧ Grows st.es st'.es := by
  obtain ⟨_, n, es, _, _, hadd, rfl⟩ := startAbstracttype_ok h
  exact ⟨addType_inv hinv hadd rfl, addType_grows hadd⟩

theorem deriveChildren_ok {env : Env} {kt : Str} {tys : List (Str × EEntry)} {ch0 ch : List (Option Str × EInfo)}
    (h0 : ChildrenOK tys ch0) (h : deriveChildren env kt ch0 = .ok ch) : ChildrenOK tys ch := by
  have e : ∀ l : List (Option Str × EInfo), l.filterMap (·.1) = (l.map (·.1)).filterMap id := fun l => by
    rw [List.filterMap_map]; rfl
  refine ⟨by rw [deriveChildren_attrs h]; exact h0.attrs, by rw [e, deriveChildren_keys h, ← e]; exact h0.keys, ?_⟩
  intro c' hc'
  obtain ⟨c, hc, hd⟩ := deriveChildren_mem h hc'
  have hco := h0.child c hc
  rcases hd.cases with rfl | ⟨k, k', hk, hcd, rfl⟩
  · exact hco
  · unfold ChildOK at hco ⊢
    rw [hk] at hco
    exact ⟨hco.1.trans (by rw [(computeDefault_same env kt k k' hcd).name]), (computeDefault_shape env kt k k' hco.2 hcd).1⟩

/-! ## `<sectiontype>`, `<import>`, the character-data elements -/

theorem startSectiontype_inv {env : Env} {st st' : PSt} {attrs : Attrs} (hinv : ESInv st.es)
    (h : startSectiontype env st attrs = .ok st') : ESInv st'.es ∧ Grows st.es st'.es := by
  obtain ⟨name, x, t, g, _, _, hf, hn, hch, hg, he⟩ := startSectiontype_table h
  have hadd := addType_fresh st.es name (.concrete t) hf
  have hc : ChildrenOK st.es.types t.children := by
    rcases hch with h0 | ⟨bn, key, base, hgt, hder⟩
    · rw [h0]; exact ChildrenOK.nil _
    · exact deriveChildren_ok (hinv.entries _ (gettype_some hgt).2).2 hder
  have h2 := addType_inv hinv hadd ⟨hn, hc.mono fun x hx => by rw [knownIn_append, hx]; rfl⟩
  rw [he]
  exact ⟨h2.absOnly hg, (addType_grows hadd).trans (Grows.map _ g hg.fst)⟩

theorem ESInv.set_components {es : ES} (hinv : ESInv es) (c : List Str) : ESInv { es with components := c } :=
  ⟨hinv.topName, hinv.top, hinv.keys, hinv.entries⟩

theorem startImport_inv {env : Env} {hk : Hooks} {st st' : PSt} {attrs : Attrs} (hinv : ESInv st.es)
    (hload : ∀ es tree es', ESInv es → hk.loadComponent es tree = .ok es' → ESInv es' ∧ Grows es es')
    (h : startImport env hk st attrs = .ok st') : ESInv st'.es ∧ Grows st.es st'.es := by
  rcases startImport_ok h with rfl | ⟨pkg, file, tree, es2, _, hl, rfl⟩
  · exact ⟨hinv, Grows.refl _⟩
  · obtain ⟨h1, h2⟩ := hload _ _ _ (hinv.set_components _) hl
    exact ⟨h1, (Grows.of_types_eq rfl : Grows st.es _).trans h2⟩

/-! ### character-data elements -/

theorem FlagSet.inv {st st' : PSt} (hinv : ESInv st.es) (h : FlagSet st st') :
    ESInv st'.es ∧ Grows st.es st'.es := by
  cases h with
  | same => exact ⟨hinv, Grows.refl _⟩
  | top t rest _ hn hc => exact ⟨hinv.top_congr t hn hc, Grows.of_types_eq rfl⟩
  | stype n rest f _ hf =>
    exact ⟨hinv.updType _ _ fun t ht => ⟨(hf t).1, (hf t).2.1 ▸ ht⟩, Grows.updType _ _ _⟩
  | atype n rest => exact ⟨hinv.absOnly (descEntry_absOnly n), Grows.map _ _ (descEntry_absOnly n).fst⟩
  | key => exact ⟨hinv, Grows.refl _⟩
  | sect => exact ⟨hinv, Grows.refl _⟩

theorem charactersTag_inv {c : Bool} {tag : Str} {attrs : Attrs} {data : Str} {st st' : PSt} (hinv : ESInv st.es)
    (h : charactersTag c tag attrs data st = .ok st') : ESInv st'.es ∧ Grows st.es st'.es := by
  rcases charactersTag_ok h with ⟨k, rest, k', _, _, _, rfl⟩ | hf
  · exact ⟨hinv, Grows.refl _⟩
  · exact hf.inv hinv

/-! ## the tree walk -/

/-- hooks (nested documents) that keep the invariant -/
structure HooksOK (h : Hooks) : Prop where
  load : ∀ es tree es', ESInv es → h.loadComponent es tree = .ok es' → ESInv es' ∧ Grows es es'
  extend : ∀ es tree es', ESInv es → h.extendSchema es tree = .ok es' → ESInv es' ∧ Grows es es'

/-- the schema object a base-schema document starts from is well-formed -/
def DocOK : DocKind → Prop
  | .schema (some es) => ESInv es
  | _ => True

/-! ### an element with a start handler -/

theorem popFrame_es {st st' : PSt} (h : popFrame st = .ok st') : st'.es = st.es := by
  rw [popFrame_ok h]

theorem handled_inv {env : Env} {h : Hooks} {d : DocKind} {t : Str} {a : Attrs} {c : List Node} {st st1 st2 st' : PSt}
    (hkey : ∀ kt s r, s ≠ [] → env.conv.key kt s = .ok r → r ≠ []) (hlow : ∀ x : Str, lower (lower x) = lower x)
    (hh : HooksOK h) (hinv : ESInv st.es)
    (hs : startHandled env h t a st = .ok st1) (hc : visitChildren env h d t st1 c = .ok st2)
    (ih : ESInv st1.es → ESInv st2.es ∧ Grows st1.es st2.es) (he : endHandled env t st2 = .ok st') :
    ESInv st'.es ∧ Grows st.es st'.es := by
  have fin : ∀ {x : PSt}, ESInv st1.es ∧ Grows st.es st1.es → x.es = st2.es → ESInv x.es ∧ Grows st.es x.es := by
    intro x h1 hx
    obtain ⟨h2, g2⟩ := ih h1.1
    rw [hx]; exact ⟨h2, h1.2.trans g2⟩
  -- a `<key>` / `<multikey>` element is taken as a whole
  have hrun : (startHandled env h t a st >>= fun st1 => visitChildren env h d t st1 c >>= fun st2 => endHandled env t st2) =
      .ok st' := by
    rw [hs]
    show (visitChildren env h d t st1 c >>= fun st2 => endHandled env t st2) = .ok st'
    rw [hc]
    exact he
  rcases startHandled_ok hs with ⟨ht, hs⟩ | ⟨ht, hs⟩ | ⟨ht, hs⟩ | ⟨ht, hs⟩ | ⟨ht, hs⟩ | ⟨ht, hs⟩ | ⟨ht, hs⟩
  · rw [ht, endHandled_import] at he
    cases he
    exact fin (startImport_inv hinv hh.load hs) rfl
  · rw [ht, endHandled_abstracttype] at he
    exact fin (startAbstracttype_inv hinv hs) (popFrame_es he)
  · rw [ht, endHandled_sectiontype] at he
    exact fin (startSectiontype_inv hinv hs) (popFrame_es (st := popPrefix st2) he)
  · rw [ht] at hrun
    exact keyElem_inv (multi := false) hinv hrun
  · rw [ht] at hrun
    exact keyElem_inv (multi := true) hinv hrun
  · rw [ht, endHandled_section] at he
    exact fin (startSection_inv hinv hkey hlow hs) (popFrame_es he)
  · rw [ht, endHandled_multisection] at he
    exact fin (startMultisection_inv hinv hlow hs) (popFrame_es he)

theorem inv_walk {env : Env} {h : Hooks} {d : DocKind}
    (hkey : ∀ kt s r, s ≠ [] → env.conv.key kt s = .ok r → r ≠ []) (hlow : ∀ x : Str, lower (lower x) = lower x)
    (hh : HooksOK h) : WalkRel env h d fun s s' => ESInv s.es → ESInv s'.es ∧ Grows s.es s'.es where
  refl _ hs := ⟨hs, Grows.refl _⟩
  trans h1 h2 hs := ⟨(h2 (h1 hs).1).1, (h1 hs).2.trans (h2 (h1 hs).1).2⟩
  handled hs hc ih he hinv := handled_inv hkey hlow hh hinv hs hc ih he
  cdata hch hinv := charactersTag_inv hinv hch

theorem visitChildren_inv {env : Env} {h : Hooks} {d : DocKind}
    (hkey : ∀ kt s r, s ≠ [] → env.conv.key kt s = .ok r → r ≠ []) (hlow : ∀ x : Str, lower (lower x) = lower x)
    (hh : HooksOK h) (hd : DocOK d) :
    ∀ (l : List Node) (parent : Str) (st st' : PSt), ESInv st.es → visitChildren env h d parent st l = .ok st' →
      ESInv st'.es ∧ Grows st.es st'.es :=
  fun l parent st st' hinv hv => visitChildren_rel (inv_walk hkey hlow hh) l parent st st' hv hinv

/-- the invariant is kept, and the type table only grows, over a whole document -/
theorem inv_docRel {env : Env} (hkey : ∀ kt s r, s ≠ [] → env.conv.key kt s = .ok r → r ≠ [])
    (hlow : ∀ x : Str, lower (lower x) = lower x) : DocRel env fun a b => ESInv a → ESInv b ∧ Grows a b where
  refl _ hs := ⟨hs, Grows.refl _⟩
  trans h1 h2 hs := ⟨(h2 (h1 hs).1).1, (h1 hs).2.trans (h2 (h1 hs).1).2⟩
  walk hh := inv_walk hkey hlow ⟨fun a b c h1 h2 => hh.1 a b c h2 h1, fun a b c h1 h2 => hh.2 a b c h2 h1⟩
  fresh _ _ _ _ := ⟨⟨rfl, ChildrenOK.nil _, List.nodup_nil, fun p hp => nomatch hp⟩, Grows.refl _⟩
  top _ t hn hc h := ⟨h.top_congr t hn hc, Grows.of_types_eq rfl⟩

/-! ### nested documents -/

theorem hooks_ok {env : Env} (hkey : ∀ kt s r, s ≠ [] → env.conv.key kt s = .ok r → r ≠ [])
    (hlow : ∀ x : Str, lower (lower x) = lower x) : ∀ fuel, HooksOK (hooks env fuel) := fun fuel =>
  ⟨fun a b c h1 h2 => (hooks_docRel (inv_docRel hkey hlow) fuel).1 a b c h2 h1,
   fun a b c h1 h2 => (hooks_docRel (inv_docRel hkey hlow) fuel).2 a b c h2 h1⟩

theorem elabES_inv {env : Env} {fuel : Nat} {t : Node} {es : ES}
    (hkey : ∀ kt s r, s ≠ [] → env.conv.key kt s = .ok r → r ≠ []) (hlow : ∀ x : Str, lower (lower x) = lower x)
    (h : elabES env fuel t = .ok es) : ESInv es :=
  (elabES_docRel (inv_docRel hkey hlow) h ESInv.emptyES).1

end ZCV.Elab
