import ZCV.Model.UrlPath
/-! `split` / `join` on a separator (`UrlPath.splitOn`, `UrlPath.joinWith`): each determines the other when no piece has the
separator.  The models and specifications render `str.split(c)` several more times (`Py.splitOn`, `Cfg.addOption.splitOn`,
`DTSpec.splitDots`, `UrlPathSpec.segments`, `Roundtrip.splitNL`; `DTSpec.joinColon` is `joinWith ':'`); a user that needs these
lemmas for one of them states the bridging equation (`dt2_splitDots_eq`, `up_segments_eq`, `splitNL_eq`). -/
namespace ZCV.UrlPath
open ZCV

theorem up_splitOn_ne_nil (c : Char) (s : Str) : splitOn c s ≠ [] := by
  induction s with
  | nil => simp [splitOn]
  | cons x t ih =>
    unfold splitOn
    split
    · simp
    · split
      · simp
      · simp

theorem up_splitOn_snoc (c : Char) (s : Str) : ∃ init l, splitOn c s = init ++ [l] := by
  cases h : (splitOn c s).getLast? with
  | none => exact absurd (List.getLast?_eq_none_iff.1 h) (up_splitOn_ne_nil c s)
  | some l => exact ⟨_, l, (List.getLast?_eq_some_iff.1 h).choose_spec⟩

theorem up_splitOn_cons_sep (c : Char) (t : Str) : splitOn c (c :: t) = [] :: splitOn c t := by
  rw [splitOn, if_pos rfl]

theorem up_splitOn_cons_ne (c x : Char) (t : Str) (h : x ≠ c) :
    ∃ hd tl, splitOn c t = hd :: tl ∧ splitOn c (x :: t) = (x :: hd) :: tl := by
  cases hs : splitOn c t with
  | nil => exact absurd hs (up_splitOn_ne_nil c t)
  | cons hd tl =>
    refine ⟨hd, tl, rfl, ?_⟩
    rw [splitOn, if_neg h, hs]

theorem up_splitOn_noMem (c : Char) (a : Str) (h : c ∉ a) : splitOn c a = [a] := by
  induction a with
  | nil => rfl
  | cons x t ih => rw [splitOn, if_neg (fun e => h (by simp [e])), ih (fun e => h (by simp [e]))]

theorem up_splitOn_append' (c : Char) (a b : Str) : splitOn c (a ++ c :: b) = splitOn c a ++ splitOn c b := by
  induction a with
  | nil => exact up_splitOn_cons_sep c b
  | cons x t ih =>
    rw [List.cons_append, splitOn, splitOn, ih]
    split
    · rfl
    · have := up_splitOn_ne_nil c t
      cases h : splitOn c t with
      | nil => exact absurd h this
      | cons w ws => rfl

theorem up_splitOn_append (c : Char) (a b : Str) (h : c ∉ a) : splitOn c (a ++ c :: b) = a :: splitOn c b := by
  rw [up_splitOn_append', up_splitOn_noMem c a h]; rfl

theorem up_joinWith_cons (c : Char) (a : Str) (l : List Str) (h : l ≠ []) :
    joinWith c (a :: l) = a ++ c :: joinWith c l := by
  cases l with
  | nil => exact absurd rfl h
  | cons b l => rfl

theorem up_joinWith_single (c : Char) (a : Str) : joinWith c [a] = a := rfl

theorem up_joinWith_concat (c : Char) (l : List Str) (x : Str) (h : l ≠ []) :
    joinWith c (l ++ [x]) = joinWith c l ++ c :: x := by
  induction l with
  | nil => exact absurd rfl h
  | cons a t ih =>
    cases t with
    | nil => rfl
    | cons b t =>
      rw [List.cons_append, up_joinWith_cons c a _ (by simp), ih (by simp), up_joinWith_cons c a _ (by simp),
        List.append_assoc]
      rfl

theorem up_joinWith_append (c : Char) (l1 l2 : List Str) (h1 : l1 ≠ []) (h2 : l2 ≠ []) :
    joinWith c (l1 ++ l2) = joinWith c l1 ++ c :: joinWith c l2 := by
  induction l1 with
  | nil => exact absurd rfl h1
  | cons a t ih =>
    cases t with
    | nil => rw [List.singleton_append, up_joinWith_cons c a l2 h2]; rfl
    | cons b t =>
      rw [List.cons_append, up_joinWith_cons c a _ (by simp), ih (by simp), up_joinWith_cons c a _ (by simp),
        List.append_assoc]
      rfl

theorem up_splitOn_joinWith (c : Char) (l : List Str) (hne : l ≠ []) (h : ∀ s ∈ l, c ∉ s) :
    splitOn c (joinWith c l) = l := by
  induction l with
  | nil => exact absurd rfl hne
  | cons a t ih =>
    cases t with
    | nil => exact up_splitOn_noMem c a (h a (by simp))
    | cons b t =>
      rw [up_joinWith_cons c a _ (by simp), up_splitOn_append c a _ (h a (by simp)),
        ih (by simp) (fun s hs => h s (by simp [hs]))]

theorem up_joinWith_splitOn (c : Char) (s : Str) : joinWith c (splitOn c s) = s := by
  induction s with
  | nil => rfl
  | cons x t ih =>
    by_cases hx : x = c
    · subst hx
      rw [up_splitOn_cons_sep, up_joinWith_cons x [] _ (up_splitOn_ne_nil x t), ih]
      rfl
    · obtain ⟨hd, tl, h1, h2⟩ := up_splitOn_cons_ne c x t hx
      rw [h2]
      rw [h1] at ih
      cases tl with
      | nil => simp only [joinWith] at ih ⊢; rw [ih]
      | cons b tl =>
        rw [up_joinWith_cons c _ _ (by simp)]
        rw [up_joinWith_cons c _ _ (by simp)] at ih
        rw [← ih]
        rfl

theorem up_splitOn_pieces (c : Char) (s : Str) : ∀ p ∈ splitOn c s, c ∉ p := by
  induction s with
  | nil => intro p hp; simp only [splitOn, List.mem_cons, List.not_mem_nil, or_false] at hp; subst hp; simp
  | cons x t ih =>
    by_cases hx : x = c
    · subst hx
      rw [up_splitOn_cons_sep]
      intro p hp
      simp only [List.mem_cons] at hp
      rcases hp with rfl | hp
      · simp
      · exact ih p hp
    · obtain ⟨hd, tl, h1, h2⟩ := up_splitOn_cons_ne c x t hx
      rw [h2]
      rw [h1] at ih
      intro p hp
      simp only [List.mem_cons] at hp
      rcases hp with rfl | hp
      · intro hm
        simp only [List.mem_cons] at hm
        rcases hm with e | hm
        · exact hx e.symm
        · exact ih hd (by simp) hm
      · exact ih p (by simp [hp])

theorem up_splitOn_concat (c : Char) (a b : Str) (h : c ∉ b) : splitOn c (a ++ c :: b) = splitOn c a ++ [b] := by
  rw [up_splitOn_append', up_splitOn_noMem c b h]

theorem up_mem_joinWith (c : Char) (l : List Str) (p : Str) (hp : p ∈ l) (x : Char) (hx : x ∈ p) : x ∈ joinWith c l := by
  induction l with
  | nil => exact absurd hp (by simp)
  | cons a t ih =>
    cases t with
    | nil => rw [List.mem_singleton.1 hp] at hx; exact hx
    | cons b t =>
      rw [up_joinWith_cons c a _ (by simp)]
      rcases List.mem_cons.1 hp with rfl | hp
      · exact List.mem_append_left _ hx
      · exact List.mem_append_right _ (List.mem_cons_of_mem _ (ih hp))

theorem up_mem_joinWith_inv (c : Char) (l : List Str) (x : Char) (hx : x ∈ joinWith c l) : x = c ∨ ∃ p ∈ l, x ∈ p := by
  induction l with
  | nil => exact nomatch hx
  | cons a t ih =>
    cases t with
    | nil => exact .inr ⟨a, by simp, hx⟩
    | cons b t =>
      rw [up_joinWith_cons c a _ (by simp)] at hx
      rcases List.mem_append.1 hx with h | h
      · exact .inr ⟨a, by simp, h⟩
      · rcases List.mem_cons.1 h with h | h
        · exact .inl h
        · exact (ih h).imp_right fun ⟨p, hp, hxp⟩ => ⟨p, List.mem_cons_of_mem _ hp, hxp⟩

theorem up_splitOn_mem (c : Char) (s : Str) (p : Str) (hp : p ∈ splitOn c s) (x : Char) (hx : x ∈ p) : x ∈ s := by
  have := up_mem_joinWith c _ p hp x hx
  rwa [up_joinWith_splitOn] at this

end ZCV.UrlPath
