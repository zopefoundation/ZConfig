import ZCV.Lemmas.RoundtripDefs
import ZCV.Lemmas.Chars
/-!
`sorted(self.items())` and `Section.addValue` (C17): sorting is a permutation, sorting a sorted list changes
nothing, and feeding the sorted (key, value) pairs back through `addValue` rebuilds the sorted dictionary.
-/
namespace ZCV.Roundtrip
open ZCV ZCV.Cfg

abbrev KV := Str × List Str

theorem insertKey_perm (p : KV) (l : List KV) : (insertKey p l).Perm (p :: l) := by
  induction l with
  | nil => exact List.Perm.refl _
  | cons q r ih =>
    unfold insertKey
    split
    · exact List.Perm.refl _
    · exact (List.Perm.cons q ih).trans (List.Perm.swap p q r)

theorem sortKeys_perm (l : List KV) : (sortKeys l).Perm l := by
  induction l with
  | nil => exact List.Perm.refl _
  | cons p r ih =>
    show (insertKey p (sortKeys r)).Perm (p :: r)
    exact (insertKey_perm p _).trans (List.Perm.cons p ih)

theorem sortKeys_cons (p : KV) (r : List KV) : sortKeys (p :: r) = insertKey p (sortKeys r) := rfl

theorem mem_sortKeys {p : KV} {l : List KV} : p ∈ sortKeys l ↔ p ∈ l := (sortKeys_perm l).mem_iff

theorem sortKeys_isEmpty (l : List KV) : (sortKeys l).isEmpty = l.isEmpty := by
  have := (sortKeys_perm l).length_eq
  cases l with
  | nil => rfl
  | cons a r =>
    cases h : sortKeys (a :: r) with
    | nil => rw [h] at this; simp at this
    | cons _ _ => rfl

theorem strLt_total : ∀ (a b : Str), strLt a b = false → a ≠ b → strLt b a = true
  | [], [], _, h => absurd rfl h
  | [], _ :: _, h, _ => by simp [strLt] at h
  | _ :: _, [], _, _ => by simp [strLt]
  | x :: s, y :: t, h, hne => by
    unfold strLt at h ⊢
    by_cases h1 : x.toNat < y.toNat
    · simp [h1] at h
    · by_cases h2 : y.toNat < x.toNat
      · simp [h2]
      · have hxy : x = y := char_ext _ _ (by omega)
        simp only [h1, h2, ↓reduceIte] at h ⊢
        apply strLt_total s t h
        intro e; apply hne; rw [hxy, e]

/-- neighbours are in strictly increasing key order -/
def Adj : List KV → Prop
  | [] => True
  | [_] => True
  | a :: b :: r => strLt a.1 b.1 = true ∧ Adj (b :: r)

theorem adj_tail {a : KV} {r : List KV} (h : Adj (a :: r)) : Adj r := by
  cases r with
  | nil => trivial
  | cons b r' => exact h.2

theorem insertKey_adj (p : KV) : ∀ (l : List KV), Adj l → (∀ q ∈ l, q.1 ≠ p.1) → Adj (insertKey p l)
  | [], _, _ => trivial
  | [q], _, hne => by
    unfold insertKey
    split
    · rename_i h; exact ⟨h, trivial⟩
    · rename_i h
      simp only [Bool.not_eq_true] at h
      exact ⟨strLt_total _ _ h (fun e => hne q (by simp) e.symm), trivial⟩
  | q :: q2 :: r, hadj, hne => by
    have ih := insertKey_adj p (q2 :: r) hadj.2 (fun x hx => hne x (List.mem_cons_of_mem _ hx))
    unfold insertKey
    split
    · rename_i h; exact ⟨h, hadj⟩
    · rename_i h
      simp only [Bool.not_eq_true] at h
      have hqp := strLt_total _ _ h (fun e => hne q (by simp) e.symm)
      unfold insertKey at ih ⊢
      split
      · exact ⟨hqp, by rename_i h2; simpa [h2] using ih⟩
      · rename_i h2
        simp only [h2] at ih
        exact ⟨hadj.1, ih⟩

theorem sortKeys_adj (l : List KV) (hnd : (l.map (·.1)).Nodup) : Adj (sortKeys l) := by
  induction l with
  | nil => trivial
  | cons p r ih =>
    rw [List.map_cons, List.nodup_cons] at hnd
    rw [sortKeys_cons]
    apply insertKey_adj p _ (ih hnd.2)
    intro q hq e
    apply hnd.1
    rw [← e]
    exact List.mem_map_of_mem (mem_sortKeys.1 hq)

theorem sortKeys_of_adj : ∀ (l : List KV), Adj l → sortKeys l = l
  | [], _ => rfl
  | [a], _ => rfl
  | a :: b :: r, h => by
    rw [sortKeys_cons, sortKeys_of_adj (b :: r) h.2]
    simp [insertKey, h.1]

theorem sortKeys_idem (l : List KV) (hnd : (l.map (·.1)).Nodup) : sortKeys (sortKeys l) = sortKeys l :=
  sortKeys_of_adj _ (sortKeys_adj l hnd)

theorem kvsOK_iff {l : List KV} : kvsOK l = true ↔
    (∀ p ∈ l, keyOK p.1 = true ∧ p.2.isEmpty = false ∧ ∀ v ∈ p.2, cleanVal v = true) ∧ (l.map (·.1)).Nodup := by
  unfold kvsOK
  simp only [Bool.and_eq_true, List.all_eq_true, decide_eq_true_eq, Bool.not_eq_true', and_assoc]

theorem kvsOK_all {l : List KV} (h : kvsOK l = true) :
    ∀ p ∈ l, keyOK p.1 = true ∧ p.2.isEmpty = false ∧ ∀ v ∈ p.2, cleanVal v = true := (kvsOK_iff.1 h).1

theorem kvsOK_nodup {l : List KV} (h : kvsOK l = true) : (l.map (·.1)).Nodup := (kvsOK_iff.1 h).2

theorem kvsOK_perm {l l' : List KV} (hp : l.Perm l') (h : kvsOK l' = true) : kvsOK l = true :=
  kvsOK_iff.2 ⟨fun x hx => kvsOK_all h x (hp.mem_iff.1 hx), (hp.map _).nodup_iff.2 (kvsOK_nodup h)⟩

theorem kvsOK_sort {l : List KV} (h : kvsOK l = true) : kvsOK (sortKeys l) = true :=
  kvsOK_perm (sortKeys_perm l) h

/-! ### `addValue` over the printed pairs -/

def addAll (acc : List KV) (pairs : List (Str × Str)) : List KV :=
  pairs.foldl (fun a q => secAddValue a q.1 q.2) acc

theorem any_key_false (acc : List KV) (k : Str) (h : k ∉ acc.map (·.1)) : acc.any (·.1 == k) = false := by
  rw [Bool.eq_false_iff]
  intro hc
  rw [List.any_eq_true] at hc
  obtain ⟨x, hx, e⟩ := hc
  apply h
  rw [← (beq_iff_eq.1 e)]
  exact List.mem_map_of_mem hx

theorem add_new (acc : List KV) (k v : Str) (h : k ∉ acc.map (·.1)) :
    secAddValue acc k v = acc ++ [(k, [v])] := by
  unfold secAddValue
  rw [any_key_false acc k h]
  rfl

theorem map_other (acc : List KV) (k v : Str) (h : k ∉ acc.map (·.1)) :
    acc.map (fun p => if p.1 == k then (p.1, p.2 ++ [v]) else p) = acc := by
  induction acc with
  | nil => rfl
  | cons a r ih =>
    rw [List.map_cons, List.mem_cons, not_or] at h
    rw [List.map_cons, ih h.2]
    have : (a.1 == k) = false := by
      rw [beq_eq_false_iff_ne]; exact fun e => h.1 e.symm
    simp [this]

theorem add_old (acc : List KV) (k : Str) (vs : List Str) (v : Str) (h : k ∉ acc.map (·.1)) :
    secAddValue (acc ++ [(k, vs)]) k v = acc ++ [(k, vs ++ [v])] := by
  unfold secAddValue
  have : (acc ++ [(k, vs)]).any (·.1 == k) = true := by simp
  rw [this]
  simp only [↓reduceIte, List.map_append, map_other acc k v h, List.map_cons, List.map_nil, beq_self_eq_true]

theorem addAll_values (acc : List KV) (k : Str) (h : k ∉ acc.map (·.1)) :
    ∀ (ws vs : List Str), addAll (acc ++ [(k, vs)]) (ws.map (fun v => (k, v))) = acc ++ [(k, vs ++ ws)]
  | [], vs => by simp [addAll]
  | w :: ws, vs => by
    have ih := addAll_values acc k h ws (vs ++ [w])
    unfold addAll at ih ⊢
    rw [List.map_cons, List.foldl_cons, add_old acc k vs w h, ih]
    simp

theorem addAll_key (acc : List KV) (k : Str) (h : k ∉ acc.map (·.1)) (ws : List Str) (hne : ws.isEmpty = false) :
    addAll acc (ws.map (fun v => (k, v))) = acc ++ [(k, ws)] := by
  cases ws with
  | nil => cases hne
  | cons w ws =>
    have := addAll_values acc k h ws [w]
    unfold addAll at this ⊢
    rw [List.map_cons, List.foldl_cons, add_new acc k w h, this]
    rfl

theorem addAll_append (acc : List KV) (a b : List (Str × Str)) : addAll acc (a ++ b) = addAll (addAll acc a) b := by
  simp [addAll]

/-- feeding the pairs of a dictionary (distinct keys, no empty value list) back rebuilds it -/
theorem addAll_pairs : ∀ (L acc : List KV), ((acc ++ L).map (·.1)).Nodup → (∀ p ∈ L, p.2.isEmpty = false) →
    addAll acc (pairsOf L) = acc ++ L
  | [], acc, _, _ => by simp [pairsOf, addAll]
  | p :: L, acc, hnd, hne => by
    have hk : p.1 ∉ acc.map (·.1) := by
      rw [List.map_append, List.map_cons] at hnd
      have := (List.nodup_append.1 hnd).2.2
      intro hin
      exact this _ hin _ List.mem_cons_self rfl
    have hnd' : (((acc ++ [p]) ++ L).map (·.1)).Nodup := by simpa using hnd
    have ih := addAll_pairs L (acc ++ [p]) hnd' (fun q hq => hne q (List.mem_cons_of_mem _ hq))
    have e : pairsOf (p :: L) = p.2.map (fun v => (p.1, v)) ++ pairsOf L := by simp [pairsOf]
    rw [e, addAll_append, addAll_key acc p.1 hk p.2 (hne p List.mem_cons_self), ih]
    simp

theorem mem_pairsOf {l : List KV} {q : Str × Str} (h : q ∈ pairsOf l) : ∃ p ∈ l, q.1 = p.1 ∧ q.2 ∈ p.2 := by
  unfold pairsOf at h
  rw [List.mem_flatMap] at h
  obtain ⟨p, hp, hq⟩ := h
  rw [List.mem_map] at hq
  obtain ⟨v, hv, e⟩ := hq
  exact ⟨p, hp, by rw [← e], by rw [← e]; exact hv⟩

theorem addAll_sorted (kvs : List KV) (h : kvsOK kvs = true) : addAll [] (pairsOf (sortKeys kvs)) = sortKeys kvs := by
  have hs := kvsOK_sort h
  have := addAll_pairs (sortKeys kvs) [] (by simpa using kvsOK_nodup hs) (fun p hp => (kvsOK_all hs p hp).2.1)
  simpa using this

end ZCV.Roundtrip
