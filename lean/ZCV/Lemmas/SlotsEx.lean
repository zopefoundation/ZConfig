import ZCV.Lemmas.SlotsLoad
import ZCV.Lemmas.Lits
/-!
A small closed world for the examples of C12 / C13: a schema with one abstract type and a `*` slot for it, a second
schema with an implementer and a type that merely extends it, and a package whose component adds an implementer.
-/
namespace ZCV.Cfg.Ex
open ZCV ZCV.Cfg ZCV.Conf

def conv : Conv := { key := fun _ k => .ok k, val := fun _ v => .ok (.str v), sect := fun _ v => .ok v }
def env : Env := { res := fun _ => none, resolve := fun _ _ => .unknown, getenv := fun _ => none }
/-- `<multisection type="ab" name="*" attribute="s"/>` -/
def slot : SectInfo :=
  { name := ['*'], attr := "s".toList, multi := true, minOccurs := 0, ty := "ab".toList, handler := none }
/-- `<section type="ab" name="fx" attribute="f"/>` -/
def fixedSlot : SectInfo :=
  { name := "fx".toList, attr := "f".toList, multi := false, minOccurs := 0, ty := "ab".toList, handler := none }
def top : SType :=
  { name := none, keytype := "basic-key".toList, datatype := "null".toList, children := [(none, .sect slot)] }
/-- `<schema> <abstracttype name="ab"/> <multisection type="ab" name="*" attribute="s"/> </schema>` -/
def schema : Schema :=
  { types := [("ab".toList, .abstract_ "ab".toList [])], top := top, handler := none, components := [] }
/-- `<sectiontype name="leak" implements="ab"/>` -/
def leak : SType := { name := some "leak".toList, keytype := "basic-key".toList, datatype := "null".toList, children := [] }
/-- package `p` holds a component with that one type -/
def pkgs : Str → Pkg := fun n =>
  if n == "p".toList then .component "u".toList [("leak".toList, .concrete leak)] [("leak".toList, "ab".toList)]
  else if n == "bad name".toList then .illegalName
  else if n == "os".toList then .noComponent
  else if n == "os.path".toList then .notPackage
  else .notImportable
/-- the schema the load holds after `%import p` -/
def schema' : Schema :=
  { types := [("ab".toList, .abstract_ "ab".toList ["leak".toList]), ("leak".toList, .concrete leak)],
    top := top, handler := none, components := ["u".toList] }
def st0 : LS := { schema := schema, privateSchema := false, handlers := [],
                  stack := [newMatcher top none none], pkgs := pkgs, conv := conv }
def st1 : LS := { st0 with schema := schema', privateSchema := true }

def compP : Pkg := .component "u".toList [("leak".toList, .concrete leak)] [("leak".toList, "ab".toList)]

theorem import_p_of {st : LS} (hp : st.pkgs "p".toList = compP) (hs : st.schema = schema) :
    lsImport st "p".toList = .ok { st with schema := schema', privateSchema := true } := by
  rw [lsImport_component st _ _ _ _ hp, hs]; rfl

theorem import_p : lsImport st0 "p".toList = .ok st1 := import_p_of rfl rfl

theorem shape_import : lineShape (strip "%import p".toList) = .import_ "p".toList :=
  shape_closed _ _ (by char_lits; decide +kernel)
theorem shape_leak : lineShape (strip "<leak/>".toList) = .open_ "leak".toList none true :=
  shape_closed _ _ (by char_lits; decide +kernel)
theorem shape_comment : lineShape (strip "# c".toList) = .skip := shape_closed _ _ (by char_lits; decide +kernel)
theorem arg_p : strip "p".toList = "p".toList ∧ '$' ∉ "p".toList := by char_lits; decide +kernel

theorem load_import_p_of (pkgs : Str → Pkg) (hp : pkgs "p".toList = compP) :
    ∃ r, load conv env pkgs schema none ["%import p".toList] [] = .ok r ∧ r.schemaAfter = schema' :=
  ⟨_, (load_closed conv env pkgs schema (parse_cons (StepOk.import_ shape_import (replace_closed arg_p) (import_p_of hp rfl)).step (parse_nil rfl))).trans rfl, rfl⟩

theorem load_import_p : ∃ r, load conv env pkgs schema none ["%import p".toList] [] = .ok r ∧ r.schemaAfter = schema' :=
  load_import_p_of pkgs rfl

theorem load_comment : ∃ r, load conv env pkgs schema none ["# c".toList] [] = .ok r :=
  ⟨_, (load_closed conv env pkgs schema (parse_cons (StepOk.skip shape_comment).step (parse_nil rfl))).trans rfl⟩

/-- `impl` implements `ab`; `ext` extends `impl` (same content) and declares nothing -/
def impl : SType := { name := some "impl".toList, keytype := "basic-key".toList, datatype := "null".toList, children := [] }
def ext : SType := { name := some "ext".toList, keytype := "basic-key".toList, datatype := "null".toList, children := [] }
/-- a `*` slot of the abstract type, then a fixed-name slot `fx` of the abstract type -/
def top2 : SType :=
  { name := none, keytype := "basic-key".toList, datatype := "null".toList,
    children := [(none, .sect slot), (some "fx".toList, .sect fixedSlot)] }
/-- only the fixed-name slot -/
def top3 : SType :=
  { name := none, keytype := "basic-key".toList, datatype := "null".toList, children := [(some "fx".toList, .sect fixedSlot)] }
def schema2 : Schema :=
  { types := [("ab".toList, .abstract_ "ab".toList ["impl".toList]), ("impl".toList, .concrete impl),
              ("ext".toList, .concrete ext)],
    top := top2, handler := none, components := [] }
def schema3 : Schema := { schema2 with top := top3 }

/-! ### whole loads: `%import p` before / after the use of `leak` -/

def vLeak : Val := .sect "leak".toList none []
def mTop' : Matcher := setSlot (newMatcher top none none) "s".toList (.sects [vLeak])

/-- `schema'` with any component marks: what a load holds once `leak` is known and implements `ab` -/
def withLeak (cs : List Str) : Schema := { schema' with components := cs }

theorem gsi_leak (cs : List Str) : getsectioninfo (withLeak cs) top "leak".toList none = .ok slot :=
  (getsectioninfo_eq_answerAt _ _ _ _).trans rfl

theorem fin_leak_any (s : Schema) : finishMatcher conv s (newMatcher leak none none) = .ok (vLeak, []) := rfl

theorem fin_leak : finishMatcher conv schema' (newMatcher leak none none) = .ok (vLeak, []) := fin_leak_any _

theorem step_leak {fuel : Nat} {active : List Str} {url : Option Str} {line : Nat} {st : PS LS} (cs : List Str)
    (hs : st.ctx.schema = withLeak cs) (hst : st.ctx.stack = [newMatcher top none none]) (hc : st.ctx.conv = conv) :
    stepLine fuel env loaderCtx active url line (strip "<leak/>".toList) st =
      .ok { st with ctx := { st.ctx with stack := [mTop'] } } := by
  obtain ⟨⟨sc, pr, hd, stk, pk, cv, bg⟩, pstk, defs⟩ := st
  simp only at hs hst hc
  subst hs hst hc
  refine (StepOk.empty shape_leak
    (a := ⟨withLeak cs, pr, hd, [newMatcher leak none none, newMatcher top none none], pk, conv, bg⟩) ?_ ?_).step
  · exact lsStart_of_slot ⟨withLeak cs, pr, hd, [newMatcher top none none], pk, conv, bg⟩ "leak".toList none
      (newMatcher top none none) [] leak slot rfl rfl rfl rfl (gsi_leak cs) (by decide) (by decide)
  · show lsStop ⟨withLeak cs, pr, hd, [newMatcher leak none none, newMatcher top none none], pk, conv, bg⟩ "leak".toList none =
      .ok ⟨withLeak cs, pr, hd, [mTop'], pk, conv, bg⟩
    rw [Conf.lsStop_eq _ (newMatcher leak none none) (newMatcher top none none) [] _ _ rfl]
    simp only [fin_leak_any]
    rw [Conf.addSection_unnamed (gsi_leak cs), List.append_nil]
    rfl

theorem load_import_then_use :
    ∃ r, load conv env pkgs schema none ["%import p".toList, "<leak/>".toList] [] = .ok r ∧
      r.value = .sect [] none [("s".toList, .list [vLeak])] :=
  ⟨_, (load_closed conv env pkgs schema (parse_cons (StepOk.import_ shape_import (replace_closed arg_p) import_p).step
    (parse_cons (step_leak ["u".toList] rfl rfl rfl) (parse_nil rfl)))).trans rfl, rfl⟩

theorem load_use_then_import :
    load conv env pkgs schema none ["<leak/>".toList, "%import p".toList] [] =
      .error (synErr none 1 "start:unknown type name") :=
  have hstart : lsStart st0 "leak".toList none = .error (.cfg { kind := .schema, tag := "unknown type name" }) := rfl
  (load_closed conv env pkgs schema (parse_cons_error ((stepLine_of_open shape_leak).trans (open_error hstart)))).trans rfl

end ZCV.Cfg.Ex
