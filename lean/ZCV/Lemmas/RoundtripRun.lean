import ZCV.Lemmas.RoundtripPrint
import ZCV.Lemmas.StepView
/-!
Running the schema-less loader over the printed lines (C17): every printed line does to the loader's state
what the tree says, so the whole text rebuilds `canon t`.
-/
namespace ZCV.Roundtrip
open ZCV ZCV.Cfg

abbrev PSt := PS SL

/-- the environment `slLoad` parses in -/
abbrev envOf (getenv : Str → Option Str) : Env := { noEnv with getenv := getenv }

def stepS (getenv : Str → Option Str) (url : Option Str) (n : Nat) (l : Str) (st : PSt) : M PSt :=
  stepLine 8 (envOf getenv) schemalessCtx [] url n l st

/-- the lines take the parser from `st` to `st'`, whatever their line numbers -/
def Runs (getenv : Str → Option Str) (url : Option Str) : List Str → PSt → PSt → Prop
  | [], st, st' => st' = st
  | l :: ls, st, st' => ∃ st1, (∀ n, stepS getenv url n l st = .ok st1) ∧ Runs getenv url ls st1 st'

theorem runs_append {getenv url} : ∀ (a b : List Str) (st st1 st2 : PSt),
    Runs getenv url a st st1 → Runs getenv url b st1 st2 → Runs getenv url (a ++ b) st st2
  | [], _, _, _, _, h1, h2 => by
    simp only [Runs] at h1
    subst h1
    exact h2
  | l :: a, b, st, st1, st2, h1, h2 => by
    obtain ⟨s, hs, hr⟩ := h1
    exact ⟨s, hs, runs_append a b s st1 st2 hr h2⟩

theorem runs_one {getenv url} (l : Str) (st st1 : PSt) (h : ∀ n, stepS getenv url n l st = .ok st1) :
    Runs getenv url [l] st st1 := ⟨st1, h, rfl⟩

/-- blank lines are skipped, the others are stripped: the parse of `lines` is the run over `ess lines` -/
theorem parse_of_runs {getenv url} : ∀ (lines : List Str) (n : Nat) (st st' : PSt),
    Runs getenv url (ess lines) st st' → st'.stack = [] →
    parseLines 8 (envOf getenv) schemalessCtx [] url lines n st = .ok st'
  | [], n, st, st', h, hs => by
    simp only [ess, List.map_nil, List.filter_nil, Runs] at h
    subst h
    rw [parseLines, hs]
    rfl
  | l :: rest, n, st, st', h, hs => by
    rw [parseLines]
    rw [ess_cons] at h
    by_cases hb : strip l = []
    · rw [hb, stepLine_of_skip (l := []) rfl]
      rw [if_pos hb] at h
      exact parse_of_runs rest (n + 1) st st' h hs
    · rw [if_neg hb] at h
      obtain ⟨s, hstep, hr⟩ := h
      have := hstep (n + 1)
      unfold stepS at this
      rw [this]
      exact parse_of_runs rest (n + 1) s st' hr hs

/-! ### one printed line -/

def setStack (st : PSt) (s : List Sec) : PSt := { st with ctx := { st.ctx with stack := s } }

theorem stepS_kv {getenv url} (n : Nat) {l k raw : Str} (v : Str) (st : PSt) (t : Str) (nm : Option Str)
    (kvs : List (Str × List Str)) (ss rest : List Sec) (hl : lineShape l = .kv k raw)
    (hv : replace (envOf getenv) st.defs url n raw = .ok v)
    (hst : st.ctx.stack = Sec.mk t nm kvs ss :: rest) :
    stepS getenv url n l st = .ok (setStack st (Sec.mk t nm (secAddValue kvs k v) ss :: rest)) := by
  refine StepOk.step (.kv hl hv ?_)
  show slValue st.ctx k v { line := n, url := url } = _
  unfold slValue
  rw [hst]

theorem step_kv {getenv url} (n : Nat) (k v : Str) (st : PSt) (t : Str) (nm : Option Str) (kvs : List (Str × List Str))
    (ss rest : List Sec) (hk : keyOK k = true) (hv : cleanVal v = true) (hst : st.ctx.stack = Sec.mk t nm kvs ss :: rest) :
    stepS getenv url n (kvLine k v) st = .ok (setStack st (Sec.mk t nm (secAddValue kvs k v) ss :: rest)) :=
  stepS_kv n v st t nm kvs ss rest (lineShape_kvLine k v hk hv) (replace_esc _ _ _ _ v) hst

theorem step_open {getenv url} (n : Nat) (ty : Str) (nm : Option Str) (st : PSt)
    (hty : tyOK ty = true) (hnm : nameOK nm = true) :
    stepS getenv url n (hdrLine ty nm) st =
      .ok { st with ctx := { st.ctx with stack := Sec.mk ty nm [] [] :: st.ctx.stack }, stack := (ty, nm) :: st.stack } :=
  StepOk.step (.open_ (lineShape_hdrLine ty nm hty hnm) rfl)

theorem step_close {getenv url} (n : Nat) (ty : Str) (nm : Option Str) (st : PSt) (pstack : List (Str × Option Str))
    (child : Sec) (t : Str) (pn : Option Str) (kvs : List (Str × List Str)) (ss rest : List Sec)
    (hty : tyOK ty = true) (hps : st.stack = (ty, nm) :: pstack)
    (hst : st.ctx.stack = child :: Sec.mk t pn kvs ss :: rest) :
    stepS getenv url n (closeLine ty) st =
      .ok { st with ctx := { st.ctx with stack := Sec.mk t pn kvs (ss ++ [child]) :: rest }, stack := pstack } := by
  refine StepOk.step (.close (lineShape_closeLine ty hty) hps ?_)
  show slStop st.ctx ty nm = _
  unfold slStop
  rw [hst]

theorem stepS_import {getenv url} (n : Nat) {l arg : Str} (p : Str) (st : PSt) (hl : lineShape l = .import_ arg)
    (hp : replace (envOf getenv) st.defs url n (strip arg) = .ok p) :
    stepS getenv url n l st =
      .ok { st with ctx := (if st.ctx.imports.contains p then st.ctx else { st.ctx with imports := st.ctx.imports ++ [p] }) } :=
  StepOk.step (.import_ hl hp rfl)

theorem step_import {getenv url} (n : Nat) (p : Str) (st : PSt) (hne : p ≠ []) (hp : cleanVal p = true) :
    stepS getenv url n (impLine p) st =
      .ok { st with ctx := (if st.ctx.imports.contains p then st.ctx else { st.ctx with imports := st.ctx.imports ++ [p] }) } := by
  refine stepS_import n p st (lineShape_impLine p hne hp) ?_
  rw [strip_clean _ (fun c hc => cleanVal_head hp c (esc_head p c hc)) (fun c hc => cleanVal_last hp c (esc_last p c hc)),
    replace_esc]

/-! ### the key lines of one section -/

theorem runs_pairs {getenv url} : ∀ (pairs : List (Str × Str)) (st : PSt) (t : Str) (nm : Option Str)
    (kvs : List (Str × List Str)) (ss rest : List Sec),
    (∀ q ∈ pairs, keyOK q.1 = true ∧ cleanVal q.2 = true) → st.ctx.stack = Sec.mk t nm kvs ss :: rest →
    Runs getenv url (pairs.map (fun q => kvLine q.1 q.2)) st (setStack st (Sec.mk t nm (addAll kvs pairs) ss :: rest))
  | [], st, t, nm, kvs, ss, rest, _, hst => by
    simp only [List.map_nil, Runs, addAll, List.foldl_nil, setStack]
    rw [← hst]
  | q :: r, st, t, nm, kvs, ss, rest, hq, hst => by
    have h1 := hq q List.mem_cons_self
    refine ⟨_, fun n => step_kv n q.1 q.2 st t nm kvs ss rest h1.1 h1.2 hst, ?_⟩
    exact runs_pairs r (setStack st (Sec.mk t nm (secAddValue kvs q.1 q.2) ss :: rest))
      t nm (secAddValue kvs q.1 q.2) ss rest (fun x hx => hq x (List.mem_cons_of_mem _ hx)) rfl

theorem runs_kvLines {getenv url} (kvs : List (Str × List Str)) (h : kvsOK kvs = true) (st : PSt) (t : Str)
    (nm : Option Str) (ss rest : List Sec) (hst : st.ctx.stack = Sec.mk t nm [] ss :: rest) :
    Runs getenv url (kvLines kvs) st (setStack st (Sec.mk t nm (sortKeys kvs) ss :: rest)) := by
  rw [← addAll_sorted kvs h]
  refine runs_pairs (pairsOf (sortKeys kvs)) st t nm [] ss rest ?_ hst
  intro q hq
  obtain ⟨p, hp, e1, e2⟩ := mem_pairsOf hq
  have := kvsOK_all (kvsOK_sort h) p hp
  rw [e1]
  exact ⟨this.1, this.2.2 _ e2⟩

/-! ### sections -/

theorem canonL_eq_map (l : List Sec) : canonL l = l.map canon := by
  induction l with
  | nil => rfl
  | cons s r ih => rw [canonL, ih]; rfl

mutual
theorem runs_sec {getenv url} : ∀ (s : Sec) (st : PSt) (t : Str) (pn : Option Str) (pk : List (Str × List Str))
    (ps rest : List Sec), wfSub s = true → st.ctx.stack = Sec.mk t pn pk ps :: rest →
    Runs getenv url (essSec s) st (setStack st (Sec.mk t pn pk (ps ++ [canon s]) :: rest))
  | .mk ty nm kvs ss, st, t, pn, pk, ps, rest, h, hst => by
    obtain ⟨hty, hnm, hkv, hss⟩ := wfSub_parts h
    rw [essSec]
    let st1 : PSt := { st with ctx := { st.ctx with stack := Sec.mk ty nm [] [] :: st.ctx.stack }, stack := (ty, nm) :: st.stack }
    refine ⟨st1, fun n => step_open n ty nm st hty hnm, ?_⟩
    have hst1 : st1.ctx.stack = Sec.mk ty nm [] [] :: (Sec.mk t pn pk ps :: rest) := by
      show Sec.mk ty nm [] [] :: st.ctx.stack = _
      rw [hst]
    have hk := runs_kvLines (getenv := getenv) (url := url) kvs hkv st1 ty nm [] _ hst1
    refine runs_append _ _ _ _ _ hk ?_
    have hsub := runs_secs (getenv := getenv) (url := url) ss
      (setStack st1 (Sec.mk ty nm (sortKeys kvs) [] :: (Sec.mk t pn pk ps :: rest))) ty nm (sortKeys kvs) []
      (Sec.mk t pn pk ps :: rest) hss rfl
    refine runs_append _ _ _ _ _ hsub ?_
    apply runs_one
    intro n
    rw [step_close n ty nm _ st.stack (Sec.mk ty nm (sortKeys kvs) ([] ++ canonL ss)) t pn pk ps rest hty rfl rfl]
    rw [canon]
    rfl
theorem runs_secs {getenv url} : ∀ (l : List Sec) (st : PSt) (t : Str) (pn : Option Str) (pk : List (Str × List Str))
    (ps rest : List Sec), wfSubs l = true → st.ctx.stack = Sec.mk t pn pk ps :: rest →
    Runs getenv url (essSecs l) st (setStack st (Sec.mk t pn pk (ps ++ canonL l) :: rest))
  | [], st, t, pn, pk, ps, rest, _, hst => by
    simp only [essSecs, Runs, canonL, List.append_nil, setStack]
    rw [← hst]
  | s :: r, st, t, pn, pk, ps, rest, h, hst => by
    obtain ⟨h1, h2⟩ := wfSubs_cons h
    rw [essSecs, canonL]
    have a := runs_sec (getenv := getenv) (url := url) s st t pn pk ps rest h1 hst
    have b := runs_secs (getenv := getenv) (url := url) r (setStack st (Sec.mk t pn pk (ps ++ [canon s]) :: rest))
      t pn pk (ps ++ [canon s]) rest h2 rfl
    have e : ps ++ canon s :: canonL r = (ps ++ [canon s]) ++ canonL r := by simp
    rw [e]
    exact runs_append _ _ _ _ _ a b
end

/-! ### imports -/

theorem runs_imports {getenv url} : ∀ (l : List Str) (st : PSt), (∀ p ∈ l, p ≠ [] ∧ cleanVal p = true) →
    (st.ctx.imports ++ l).Nodup →
    Runs getenv url (l.map impLine) st { st with ctx := { st.ctx with imports := st.ctx.imports ++ l } }
  | [], st, _, _ => by
    simp only [List.map_nil, Runs, List.append_nil]
  | p :: r, st, hl, hnd => by
    have hp := hl p List.mem_cons_self
    have hnot : st.ctx.imports.contains p = false := by
      rw [Bool.eq_false_iff]
      exact fun hc => (List.nodup_append.1 hnd).2.2 p (List.contains_iff_mem.1 hc) p List.mem_cons_self rfl
    refine ⟨_, fun n => step_import n p st hp.1 hp.2, ?_⟩
    rw [hnot]
    simp only [Bool.false_eq_true, ↓reduceIte]
    have := runs_imports (getenv := getenv) (url := url) r
      { st with ctx := { st.ctx with imports := st.ctx.imports ++ [p] } }
      (fun x hx => hl x (List.mem_cons_of_mem _ hx)) (by simpa using hnd)
    simpa using this

/-! ### the whole text -/

def st0 : PSt := { ctx := { stack := [Sec.mk [] none [] []], imports := [] }, stack := [], defs := [] }

theorem runs_top {getenv url} (t : Sec) (imps : List Str) (h : WF t imps) :
    Runs getenv url (essTop t imps) st0
      { ctx := { stack := [canon t], imports := imps }, stack := [], defs := [] } := by
  obtain ⟨ty, nm, kvs, ss⟩ := t
  obtain ⟨hty, hnm, hkv, hss, himp⟩ := h
  simp only [Sec.type, Sec.name, Sec.kvs, Sec.sections] at hty hnm hkv hss
  subst hty hnm
  unfold essTop
  have h1 := runs_imports (getenv := getenv) (url := url) imps st0 (impsOK_all himp) (by simpa [st0] using impsOK_nodup himp)
  refine runs_append _ _ _ _ _ h1 ?_
  have h2 := runs_kvLines (getenv := getenv) (url := url) kvs hkv
    { st0 with ctx := { st0.ctx with imports := st0.ctx.imports ++ imps } } [] none [] [] rfl
  refine runs_append _ _ _ _ _ h2 ?_
  have h3 := runs_secs (getenv := getenv) (url := url) ss
    (setStack { st0 with ctx := { st0.ctx with imports := st0.ctx.imports ++ imps } } [Sec.mk [] none (sortKeys kvs) []])
    [] none (sortKeys kvs) [] [] hss rfl
  rw [canon]
  exact h3

/-- a run that ends with every section closed is a successful load (`ls`, the stripped non-blank lines, is a
    parameter: elaborating a term against `Runs … (ess lines) …` with closed `lines` would evaluate `ess lines`) -/
theorem slLoad_of_runs (getenv : Str → Option Str) (url : Option Str) (lines ls : List Str) (st' : PSt) (top : Sec)
    (he : ess lines = ls) (hr : Runs getenv url ls st0 st') (hs : st'.stack = []) (ht : st'.ctx.stack = [top]) :
    slLoad getenv url lines = .ok (top, st'.ctx.imports) := by
  subst he
  have := parse_of_runs lines 0 st0 st' hr hs
  unfold slLoad
  unfold envOf st0 at this
  rw [this]
  simp only [bind, Except.bind, ht]
  rfl

end ZCV.Roundtrip
