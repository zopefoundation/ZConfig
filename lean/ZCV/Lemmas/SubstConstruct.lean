import ZCV.Model.Subst
import ZCV.Spec.Subst
import ZCV.Lemmas.Lists
/-!
What the text after a `$` starts with: `firstConstruct` (malformed / `$$` / a reference).  Both the documented function and
`_split` are this case distinction (`substcor_spec_step` here, `split_first` in `Subst.lean`); `IsRef`, `Replaced`, `Malformed`
say the same in plain list terms; `construct_induct` is induction over a text construct by construct.
-/
namespace ZCV.Subst
open ZCV ZCV.SubstSpec

/-! ### what follows a `$` -/

/-- the `$` construct at the head of a text (the `$` itself removed) -/
inductive Construct where
  | malformed (code : Nat)
  | esc (rest : Str)                          -- `$$`
  | ref (name : Str) (vt : VT) (rest : Str)   -- `$name`, `${name}` (vt = define), `$(NAME)` (vt = env)
deriving Repr, DecidableEq

/-- what follows `${` / `$(`: `e1` is the raise site in `_split` for "no name", `e2` for "the name is not followed by `close`"
    (the sites are listed at `Malformed`) -/
def bracedConstruct (r : Str) (close : Char) (vt : VT) (e1 e2 : Nat) : Construct :=
  match nameSplit r with
  | none => .malformed e1
  | some (name, x :: r') => if x = close then .ref name vt r' else .malformed e2
  | some (_, []) => .malformed e2

/-- the construct at the head of the text after a `$`; the numbers are the raise sites of `_split` (0: nothing follows; 1, 2:
    `${`; 3, 4: `$(`; 5: not a name) -/
def firstConstruct : Str → Construct
  | [] => .malformed 0
  | c :: r =>
    if c = '$' then .esc r
    else if c = '{' then bracedConstruct r '}' .define 1 2
    else if c = '(' then bracedConstruct r ')' .env 3 4
    else match nameSplit (c :: r) with
      | none => .malformed 5
      | some (name, r') => .ref name .define r'

/-- mapping lookups are lower-cased, environment lookups are not -/
def lookupRef (defs env : Str → Option Str) : VT → Str → Option Str
  | .define, n => defs (lower n)
  | .env, n => env n

/-- the documented function, one construct at a time -/
theorem substcor_spec_step (defs env : Str → Option Str) (src t : Str) :
    spec defs env src ('$' :: t) =
      match firstConstruct t with
      | .malformed c => .error (.syntax c)
      | .esc r => (spec defs env src r).map ('$' :: ·)
      | .ref name vt r =>
        match lookupRef defs env vt name with
        | none => .error (.missing src name)
        | some v => (spec defs env src r).map (v ++ ·) := by
  cases t with
  | nil => rw [spec]; rfl
  | cons d r =>
    by_cases h1 : d = '$'
    · subst h1; rw [spec]; rfl
    · by_cases h2 : d = '{'
      · subst h2
        rw [spec]
        simp only [firstConstruct, h1, ↓reduceIte, bracedConstruct]
        split
        · rename_i hn; rw [hn]
        · rename_i name r' hn; rw [hn]; simp only [↓reduceIte, lookupRef]; cases defs (lower name) <;> rfl
        · rename_i name r' hne hn
          rw [hn]
          cases r' with
          | nil => rfl
          | cons x xs =>
            have : x ≠ '}' := fun hx => hne xs (by rw [hx])
            simp only [this, ↓reduceIte]
      · by_cases h3 : d = '('
        · subst h3
          rw [spec]
          simp only [firstConstruct, h1, h2, ↓reduceIte, bracedConstruct]
          split
          · rename_i hn; rw [hn]
          · rename_i name r' hn; rw [hn]; simp only [↓reduceIte, lookupRef]; cases env name <;> rfl
          · rename_i name r' hne hn
            rw [hn]
            cases r' with
            | nil => rfl
            | cons x xs =>
              have : x ≠ ')' := fun hx => hne xs (by rw [hx])
              simp only [this, ↓reduceIte]
        · rw [spec]
          · simp only [firstConstruct, h1, h2, h3, ↓reduceIte]
            split
            · rename_i hn; rw [hn]
            · rename_i name r' hn; rw [hn]; simp only [lookupRef]; cases defs (lower name) <;> rfl
          -- the side goals of the catch-all arm of `spec`: `d` is none of `$`, `{`, `(`
          all_goals (intros; simp_all)

/-! ### names -/

theorem substcor_head_dropWhile (p : Char → Bool) (l : Str) : ∀ c ∈ (l.dropWhile p).head?, p c = false :=
  forall_mem_head? (dropWhile_head_not p l)

theorem substcor_nameSplit_some (t name rest : Str) :
    nameSplit t = some (name, rest) ↔
      isnameSpec name = true ∧ (∀ c ∈ rest.head?, isNameChar c = false) ∧ t = name ++ rest := by
  constructor
  · intro h
    cases t with
    | nil => simp [nameSplit] at h
    | cons c r =>
      simp only [nameSplit] at h
      split at h
      · rename_i hc
        simp only [Option.some.injEq, Prod.mk.injEq] at h
        obtain ⟨h1, h2⟩ := h
        subst h1 h2
        refine ⟨?_, substcor_head_dropWhile _ _, ?_⟩
        · simp only [isnameSpec, hc, List.all_takeWhile, Bool.and_self]
        · simp only [List.cons_append, List.takeWhile_append_dropWhile]
      · cases h
  · rintro ⟨hn, hr, rfl⟩
    cases name with
    | nil => simp [isnameSpec] at hn
    | cons c l =>
      simp only [isnameSpec, Bool.and_eq_true] at hn
      have := takeWhile_dropWhile_stop isNameChar l rest hn.2 hr
      simp only [List.cons_append, nameSplit, hn.1, ↓reduceIte, this.1, this.2]

theorem substcor_nameSplit_none (t : Str) :
    nameSplit t = none ↔ ∀ c ∈ t.head?, isNameStart c = false := by
  cases t with
  | nil => simp [nameSplit]
  | cons c r =>
    simp only [nameSplit, List.head?_cons, Option.mem_def, Option.some.injEq, forall_eq']
    by_cases hc : isNameStart c = true <;> simp [hc]

theorem substcor_isNameStart_ne {c : Char} (hc : isNameStart c = true) : c ≠ '$' ∧ c ≠ '{' ∧ c ≠ '(' := by
  refine ⟨?_, ?_, ?_⟩ <;> (intro h; subst h; revert hc; decide)

theorem substcor_isNameStart_char {c : Char} (hc : isNameStart c = true) : isNameChar c = true := by
  unfold isNameStart at hc
  unfold isNameChar
  simp only [Bool.or_eq_true] at hc ⊢
  rcases hc with h | h
  · exact .inl (.inl h)
  · exact .inr h

/-! ### the three fates of a `$` construct, in plain list terms -/

/-- `t` (the text after a `$`) starts with a reference to `name`, of kind `vt`, followed by `rest` -/
inductive IsRef : Str → Str → VT → Str → Prop
  /-- `$name`: the name is maximal — `rest` does not go on with a letter, digit or underscore -/
  | bare (n r : Str) : isnameSpec n = true → (∀ c ∈ r.head?, isNameChar c = false) → IsRef (n ++ r) n .define r
  /-- `${name}` -/
  | brace (n r : Str) : isnameSpec n = true → IsRef ('{' :: (n ++ '}' :: r)) n .define r
  /-- `$(NAME)` -/
  | paren (n r : Str) : isnameSpec n = true → IsRef ('(' :: (n ++ ')' :: r)) n .env r

/-- the construct `$t…` is replaced by `v`, and `rest` is the text after it: `$$` gives `$`, a reference gives the value
    found for its name (mapping: lower-cased name; environment: name as written) -/
inductive Replaced (defs env : Str → Option Str) : Str → Str → Str → Prop
  | esc (r : Str) : Replaced defs env ('$' :: r) ['$'] r
  | ref {t name : Str} {vt : VT} {r v : Str} : IsRef t name vt r → lookupRef defs env vt name = some v →
      Replaced defs env t v r

/-- the construct `$t…` is malformed; `code` is the raise site in `_split` (0: trailing lone `$`; 5: `$` followed by
    something that is not `$`, `{`, `(`, a letter or an underscore; 1/3: `${` / `$(` not followed by a name, i.e. empty or
    illegal name; 2/4: the name after `${` / `$(` is not followed by `}` / `)`, i.e. unterminated or an illegal character
    inside the braces) -/
inductive Malformed : Str → Nat → Prop
  | lone : Malformed [] 0
  | other (c : Char) (r : Str) : c ≠ '$' → c ≠ '{' → c ≠ '(' → isNameStart c = false → Malformed (c :: r) 5
  | braceName (r : Str) : (∀ c ∈ r.head?, isNameStart c = false) → Malformed ('{' :: r) 1
  | braceClose (n r : Str) : isnameSpec n = true → (∀ c ∈ r.head?, isNameChar c = false ∧ c ≠ '}') →
      Malformed ('{' :: (n ++ r)) 2
  | parenName (r : Str) : (∀ c ∈ r.head?, isNameStart c = false) → Malformed ('(' :: r) 3
  | parenClose (n r : Str) : isnameSpec n = true → (∀ c ∈ r.head?, isNameChar c = false ∧ c ≠ ')') →
      Malformed ('(' :: (n ++ r)) 4

/-! The fates against `firstConstruct`: what each fate makes `firstConstruct` compute, that every text has a fate,
and from the two the equivalences. -/

theorem substcor_braced_noName (r : Str) (close : Char) (vt : VT) (e1 e2 : Nat)
    (h : ∀ ch ∈ r.head?, isNameStart ch = false) : bracedConstruct r close vt e1 e2 = .malformed e1 := by
  unfold bracedConstruct
  rw [(substcor_nameSplit_none r).2 h]

theorem substcor_braced_noClose (n r : Str) (close : Char) (vt : VT) (e1 e2 : Nat) (hn : isnameSpec n = true)
    (hr : ∀ ch ∈ r.head?, isNameChar ch = false ∧ ch ≠ close) :
    bracedConstruct (n ++ r) close vt e1 e2 = .malformed e2 := by
  unfold bracedConstruct
  rw [(substcor_nameSplit_some (n ++ r) n r).2 ⟨hn, fun ch hch => (hr ch hch).1, rfl⟩]
  cases r with
  | nil => rfl
  | cons x xs => simp only [(hr x (by simp)).2, ↓reduceIte]

theorem substcor_braced_ref (n rest : Str) (close : Char) (vt : VT) (e1 e2 : Nat) (hn : isnameSpec n = true)
    (hclose : isNameChar close = false) : bracedConstruct (n ++ close :: rest) close vt e1 e2 = .ref n vt rest := by
  unfold bracedConstruct
  rw [(substcor_nameSplit_some (n ++ close :: rest) n (close :: rest)).2
    ⟨hn, by intro c hc; simp only [List.head?_cons, Option.mem_def, Option.some.injEq] at hc; subst hc; exact hclose, rfl⟩]
  simp only [↓reduceIte]

theorem substcor_braced_fate (r : Str) (close : Char) :
    (∀ ch ∈ r.head?, isNameStart ch = false) ∨
    (∃ n r', r = n ++ r' ∧ isnameSpec n = true ∧ ∀ ch ∈ r'.head?, isNameChar ch = false ∧ ch ≠ close) ∨
    (∃ n rest, r = n ++ close :: rest ∧ isnameSpec n = true) := by
  cases hn : nameSplit r with
  | none => exact .inl ((substcor_nameSplit_none r).1 hn)
  | some p =>
    obtain ⟨n, rest⟩ := p
    obtain ⟨h1, h2, h3⟩ := (substcor_nameSplit_some _ _ _).1 hn
    cases rest with
    | nil => exact .inr (.inl ⟨n, [], h3, h1, by simp⟩)
    | cons x xs =>
      by_cases hx : x = close
      · exact .inr (.inr ⟨n, xs, hx ▸ h3, h1⟩)
      · refine .inr (.inl ⟨n, x :: xs, h3, h1, fun ch hch => ?_⟩)
        simp only [List.head?_cons, Option.mem_def, Option.some.injEq] at hch
        subst hch
        exact ⟨h2 x (by simp), hx⟩

theorem substcor_of_malformed {t : Str} {c : Nat} (h : Malformed t c) : firstConstruct t = .malformed c := by
  cases h with
  | lone => rfl
  | other d r h1 h2 h3 h4 =>
    simp only [firstConstruct, h1, h2, h3, ↓reduceIte]
    rw [(substcor_nameSplit_none _).2 (by simpa using h4)]
  | braceName r k => exact substcor_braced_noName _ _ _ _ _ k
  | braceClose n r hn hr => exact substcor_braced_noClose _ _ _ _ _ _ hn hr
  | parenName r k => exact substcor_braced_noName _ _ _ _ _ k
  | parenClose n r hn hr => exact substcor_braced_noClose _ _ _ _ _ _ hn hr

theorem substcor_of_isRef {t name : Str} {vt : VT} {r : Str} (h : IsRef t name vt r) :
    firstConstruct t = .ref name vt r := by
  cases h with
  | bare n r hn hr =>
    cases name with
    | nil => simp [isnameSpec] at hn
    | cons c l =>
      have hc : isNameStart c = true := by
        simp only [isnameSpec, Bool.and_eq_true] at hn; exact hn.1
      obtain ⟨h1, h2, h3⟩ := substcor_isNameStart_ne hc
      simp only [List.cons_append, firstConstruct, h1, h2, h3, ↓reduceIte]
      have := (substcor_nameSplit_some ((c :: l) ++ r) (c :: l) r).2 ⟨hn, hr, rfl⟩
      simp only [List.cons_append] at this
      rw [this]
  | brace n r hn => exact substcor_braced_ref _ _ _ _ _ _ hn (by decide)
  | paren n r hn => exact substcor_braced_ref _ _ _ _ _ _ hn (by decide)

theorem substcor_fate (t : Str) : (∃ c, Malformed t c) ∨ (∃ r, t = '$' :: r) ∨ ∃ name vt r, IsRef t name vt r := by
  cases t with
  | nil => exact .inl ⟨0, .lone⟩
  | cons d l =>
    by_cases h1 : d = '$'
    · exact .inr (.inl ⟨l, by rw [h1]⟩)
    by_cases h2 : d = '{'
    · subst h2
      rcases substcor_braced_fate l '}' with k | ⟨n, r, rfl, hn, hr⟩ | ⟨n, r, rfl, hn⟩
      · exact .inl ⟨1, .braceName l k⟩
      · exact .inl ⟨2, .braceClose n r hn hr⟩
      · exact .inr (.inr ⟨n, .define, r, .brace n r hn⟩)
    by_cases h3 : d = '('
    · subst h3
      rcases substcor_braced_fate l ')' with k | ⟨n, r, rfl, hn, hr⟩ | ⟨n, r, rfl, hn⟩
      · exact .inl ⟨3, .parenName l k⟩
      · exact .inl ⟨4, .parenClose n r hn hr⟩
      · exact .inr (.inr ⟨n, .env, r, .paren n r hn⟩)
    cases hn : nameSplit (d :: l) with
    | none => exact .inl ⟨5, .other d l h1 h2 h3 ((substcor_nameSplit_none _).1 hn d (by simp))⟩
    | some p =>
      obtain ⟨k1, k2, k3⟩ := (substcor_nameSplit_some _ _ _).1 hn
      rw [k3]
      exact .inr (.inr ⟨p.1, .define, p.2, .bare _ _ k1 k2⟩)

theorem substcor_first_esc (t r : Str) : firstConstruct t = .esc r ↔ t = '$' :: r := by
  refine ⟨fun h => ?_, fun h => h ▸ rfl⟩
  rcases substcor_fate t with ⟨c, hm⟩ | ⟨r', rfl⟩ | ⟨n, vt, r', hr⟩
  · rw [substcor_of_malformed hm] at h; cases h
  · cases h; rfl
  · rw [substcor_of_isRef hr] at h; cases h

theorem substcor_first_ref (t name : Str) (vt : VT) (r : Str) :
    firstConstruct t = .ref name vt r ↔ IsRef t name vt r := by
  refine ⟨fun h => ?_, substcor_of_isRef⟩
  rcases substcor_fate t with ⟨c, hm⟩ | ⟨r', rfl⟩ | ⟨n, vt', r', hr⟩
  · rw [substcor_of_malformed hm] at h; cases h
  · cases h
  · rw [substcor_of_isRef hr] at h; cases h; exact hr

theorem substcor_first_malformed (t : Str) (c : Nat) : firstConstruct t = .malformed c ↔ Malformed t c := by
  refine ⟨fun h => ?_, substcor_of_malformed⟩
  rcases substcor_fate t with ⟨c', hm⟩ | ⟨r', rfl⟩ | ⟨n, vt, r', hr⟩
  · rw [substcor_of_malformed hm] at h; cases h; exact hm
  · cases h
  · rw [substcor_of_isRef hr] at h; cases h

theorem substcor_isRef_name {t name : Str} {vt : VT} {r : Str} (h : IsRef t name vt r) : isnameSpec name = true := by
  cases h <;> assumption

theorem substcor_isRef_len {t name : Str} {vt : VT} {r : Str} (h : IsRef t name vt r) : r.length < t.length := by
  cases h with
  | bare n r hn _ =>
    cases name with
    | nil => simp [isnameSpec] at hn
    | cons c l => simp only [List.cons_append, List.length_cons, List.length_append]; omega
  | brace n r _ => simp only [List.length_cons, List.length_append]; omega
  | paren n r _ => simp only [List.length_cons, List.length_append]; omega

theorem substcor_isRef_suffix {t name : Str} {vt : VT} {r : Str} (h : IsRef t name vt r) : ∃ x, t = x ++ r := by
  cases h with
  | bare n r _ _ => exact ⟨_, rfl⟩
  | brace n r _ => exact ⟨'{' :: (name ++ ['}']), by simp⟩
  | paren n r _ => exact ⟨'(' :: (name ++ [')']), by simp⟩

/-! ### the text, construct by construct -/

/-- induction over a text the way the documented function reads it: a literal character, or a `$` and the construct after
    it — malformed, `$$`, or a reference — going on behind the construct -/
theorem construct_induct {P : Str → Prop} (nil : P [])
    (lit : ∀ c t, c ≠ '$' → P t → P (c :: t))
    (mal : ∀ t k, Malformed t k → P ('$' :: t))
    (esc : ∀ r, P r → P ('$' :: '$' :: r))
    (ref : ∀ t n vt r, IsRef t n vt r → P r → P ('$' :: t)) : ∀ t, P t := by
  intro t
  induction h : t.length using Nat.strongRecOn generalizing t with
  | _ n ih =>
    subst h
    cases t with
    | nil => exact nil
    | cons c u =>
      by_cases hc : c = '$'
      · subst hc
        -- the text behind the construct is shorter than `u`
        rcases substcor_fate u with ⟨k, hm⟩ | ⟨r, rfl⟩ | ⟨name, vt, r, href⟩
        · exact mal u k hm
        · exact esc r (ih _ (by simp only [List.length_cons]; omega) r rfl)
        · exact ref u name vt r href (ih _ (by have := substcor_isRef_len href; simp only [List.length_cons]; omega) r rfl)
      · exact lit c u hc (ih _ (by simp only [List.length_cons]; omega) u rfl)

/-! ### the documented function on `$t`, by the fate of the construct -/

theorem spec_malformed (defs env : Str → Option Str) (src : Str) {t : Str} {k : Nat} (h : Malformed t k) :
    spec defs env src ('$' :: t) = .error (.syntax k) := by
  rw [substcor_spec_step, substcor_of_malformed h]

theorem spec_esc (defs env : Str → Option Str) (src r : Str) :
    spec defs env src ('$' :: '$' :: r) = (spec defs env src r).map ('$' :: ·) := by
  rw [substcor_spec_step]; rfl

theorem spec_ref (defs env : Str → Option Str) (src : Str) {t n : Str} {vt : VT} {r : Str} (h : IsRef t n vt r) :
    spec defs env src ('$' :: t) =
      match lookupRef defs env vt n with
      | none => .error (.missing src n)
      | some v => (spec defs env src r).map (v ++ ·) := by
  rw [substcor_spec_step, substcor_of_isRef h]

end ZCV.Subst
