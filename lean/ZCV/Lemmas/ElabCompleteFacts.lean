import ZCV.Spec.SchemaRules
import ZCV.Lemmas.Lits
/-!
C10: what the walk-based judgement `DocRulesN` (`ZCV/Spec/SchemaRules.lean`; `DocRules` is `n = 0`) means in order-free
terms.  The rules that speak about *all* declarations of a document at once follow from it: the names of all types of the
final signature (the document's own and those of the components it imports) are pairwise distinct, and the members of
every concrete type (those of its base first) and of the top-level container have pairwise distinct attribute names and
non-empty keys (`docRules_signature_wf`, `docRules_top_wf`).  These are sanity checks of the specification; the theorems
about the loader take from this file the one-element reading of `topItemsOK` / `topAfter` (`topStepOK`, `topStepAfter`)
and that the judgement is monotone in the nesting depth (`docRulesN_mono`).
-/
namespace ZCV.SchemaRules
open ZCV ZCV.Elab

/-! ### members -/

/-- the keys under which members can be looked up: the non-empty ones -/
def memberKeys (ms : List Member) : List (Option Str) := (ms.filter fun m => truthyKey m.key).map (·.key)

def MembersWF (ms : List Member) : Prop := (ms.map (·.attr)).Nodup ∧ (memberKeys ms).Nodup

theorem membersWF_nil : MembersWF [] := ⟨List.nodup_nil, List.nodup_nil⟩

theorem membersWF_snoc {ms : List Member} {m : Member} (h : MembersWF ms) (ha : attrFree ms m.attr = true)
    (hk : keyFree ms m.key = true) : MembersWF (ms ++ [m]) := by
  obtain ⟨h1, h2⟩ := h
  constructor
  · rw [List.map_append, List.nodup_append]
    refine ⟨h1, by simp, ?_⟩
    intro x hx y hy
    simp only [List.map_cons, List.map_nil, List.mem_singleton] at hy
    subst hy
    intro e
    subst e
    unfold attrFree at ha
    simp only [Bool.not_eq_true', List.any_eq_false, beq_iff_eq] at ha
    obtain ⟨m', hm', e⟩ := List.mem_map.1 hx
    exact ha m' hm' e
  · unfold memberKeys at h2 ⊢
    rw [List.filter_append, List.map_append, List.nodup_append]
    refine ⟨h2, ?_, ?_⟩
    · by_cases ht : truthyKey m.key = true <;> simp [ht]
    · intro x hx y hy
      by_cases ht : truthyKey m.key = true
      · simp only [List.filter_cons, ht, ↓reduceIte, List.filter_nil, List.map_cons, List.map_nil,
          List.mem_singleton] at hy
        subst hy
        intro e
        subst e
        unfold keyFree at hk
        simp only [ht, Bool.true_and, Bool.not_eq_true', List.any_eq_false, beq_iff_eq] at hk
        obtain ⟨m', hm', e⟩ := List.mem_map.1 hx
        exact hk m' (List.mem_filter.1 hm').1 e
      · simp [ht] at hy

theorem memberElemOK_adds_wf {env : Env} {strict : Bool} {parent pfx kt : Str} {names : List Str} {ms : List Member} {t : Str}
    {a : Attrs} {c : List Node} (h : MembersWF ms) (hok : memberElemOK env strict parent pfx kt names ms t a c = true) :
    MembersWF (ms ++ memberElemAdds env kt t a c) := by
  unfold memberElemOK at hok
  simp only [Bool.and_eq_true] at hok
  obtain ⟨_, hok⟩ := hok
  unfold memberElemAdds
  by_cases hk : isKeyTag t = true
  · rw [if_pos hk] at hok ⊢
    unfold keyOK at hok
    simp only [Bool.and_eq_true] at hok
    obtain ⟨⟨⟨⟨⟨⟨⟨⟨_, rkey⟩, rattr⟩, _⟩, _⟩, _⟩, _⟩, _⟩, _⟩ := hok
    exact membersWF_snoc h rattr rkey
  · rw [if_neg hk] at hok ⊢
    by_cases hs : isSectTag t = true
    · rw [if_pos hs] at hok ⊢
      unfold sectionOK at hok
      simp only [Bool.and_eq_true] at hok
      obtain ⟨⟨⟨⟨_, rkey⟩, rattr⟩, _⟩, _⟩ := hok
      exact membersWF_snoc h rattr rkey
    · rw [if_neg hs]
      rw [List.append_nil]
      exact h

theorem membersOK_wf {env : Env} {strict : Bool} {parent pfx kt : Str} {names : List Str} :
    ∀ (c : List Node) (ms : List Member), MembersWF ms → membersOK env strict parent pfx kt names ms c = true →
      MembersWF (ms ++ membersOf env kt c)
  | [], ms, h, _ => by rw [membersOf, List.append_nil]; exact h
  | .text s :: r, ms, h, hok => by
    rw [membersOK] at hok
    simp only [Bool.and_eq_true] at hok
    rw [membersOf]
    exact membersOK_wf r ms h hok.2
  | .elem t a c :: r, ms, h, hok => by
    rw [membersOK] at hok
    simp only [Bool.and_eq_true] at hok
    rw [membersOf, ← List.append_assoc]
    exact membersOK_wf r _ (memberElemOK_adds_wf h hok.1) hok.2

/-! ### type declarations -/

def CtxWF (Γ : Ctx) : Prop := ∀ n kt ms, (n, TySig.concrete kt ms) ∈ Γ → MembersWF ms

def SigWF (Γ : Ctx) : Prop := Γ.names.Nodup ∧ CtxWF Γ

theorem sigWF_nil : SigWF [] := ⟨List.nodup_nil, fun _ _ _ hm => by cases hm⟩

def BelowWF (b : Below) : Prop :=
  ∀ Γ comps tree, b.ok Γ comps tree = true → SigWF Γ → SigWF (b.after Γ comps tree).1

theorem lookup_mem {Γ : Ctx} {n : Str} {sig : TySig} (h : Γ.lookup n = some sig) : ∃ k, (k, sig) ∈ Γ := by
  unfold Ctx.lookup at h
  cases hf : Γ.find? (·.1 == n) with
  | none => rw [hf] at h; cases h
  | some p =>
    rw [hf] at h
    simp only [Option.map_some, Option.some.injEq] at h
    subst h
    exact ⟨p.1, List.mem_of_find?_eq_some hf⟩

theorem inheritedOf_wf {Γ : Ctx} {a : Attrs} (h : CtxWF Γ) : MembersWF (inheritedOf Γ a) := by
  unfold inheritedOf baseOf
  cases hx : attr a "extends" with
  | none => exact membersWF_nil
  | some b =>
    simp only
    cases hl : Γ.lookup (asciiLower b) with
    | none => exact membersWF_nil
    | some sig =>
      cases sig with
      | abstract => exact membersWF_nil
      | concrete kt ms =>
        obtain ⟨k, hk⟩ := lookup_mem hl
        exact h k kt ms hk

theorem sectiontypeOK_sig_wf {env : Env} {strict : Bool} {outer : Str} {Γ : Ctx} {a : Attrs} {c : List Node}
    (h : CtxWF Γ) (hok : sectiontypeOK env strict outer Γ a c = true) :
    ∀ kt ms, sectiontypeSig env outer Γ a c = .concrete kt ms → MembersWF ms := by
  intro kt ms hsig
  unfold sectiontypeSig at hsig
  injection hsig with _ hms
  subst hms
  unfold sectiontypeOK at hok
  simp only [Bool.and_eq_true] at hok
  exact membersOK_wf c _ (inheritedOf_wf h) hok.1.2

theorem sigWF_snoc {Γ : Ctx} {a : Attrs} {sig : TySig} (h : SigWF Γ) (hn : typeNameOK Γ a = true)
    (hs : ∀ kt ms, sig = .concrete kt ms → MembersWF ms) : SigWF (Γ ++ [(typeNameOf a, sig)]) := by
  obtain ⟨h1, h2⟩ := h
  constructor
  · unfold typeNameOK at hn
    simp only [Bool.and_eq_true, Bool.not_eq_true'] at hn
    show (List.map (·.1) (Γ ++ [(typeNameOf a, sig)])).Nodup
    rw [List.map_append, List.nodup_append]
    refine ⟨h1, by simp, ?_⟩
    intro x hx y hy
    simp only [List.map_cons, List.map_nil, List.mem_singleton] at hy
    subst hy
    intro e
    subst e
    have := List.contains_iff_mem.mpr hx
    rw [show Γ.names = List.map (·.1) Γ from rfl] at hn
    rw [this] at hn
    cases hn.2
  · intro n kt' ms' hm
    rcases List.mem_append.1 hm with hm | hm
    · exact h2 n kt' ms' hm
    · simp only [List.mem_singleton, Prod.mk.injEq] at hm
      exact hs kt' ms' hm.2.symm

theorem importAfter_wf {env : Env} {below : Below} {pfx : Str} {Γ : Ctx} {comps : List Str} {a : Attrs}
    {c : List Node} (hb : BelowWF below) (h : SigWF Γ) (hok : importOK env below pfx Γ comps a c = true) :
    SigWF (importAfter env below pfx Γ comps a).1 := by
  unfold importAfter
  by_cases hin : comps.contains (importSrc pfx a) = true
  · rw [if_pos hin]; exact h
  · rw [if_neg hin]
    have hin' : comps.contains (importSrc pfx a) = false := by simpa using hin
    unfold importOK at hok
    simp only [Bool.and_eq_true] at hok
    cases hx : env.comps (importPkg pfx a) (importFileOf a) with
    | notImportable => exact h
    | notPackage => exact h
    | noFile => exact h
    | doc tree =>
      have := hok.2
      rw [hx] at this
      simp only [hin', Bool.false_or] at this
      exact hb Γ _ tree this h

/-! ### one child of the document element

`topItemsOK` and `topAfter`, read one element at a time: `topStepOK` is the rule for the element, `topStepAfter` what
the walk continues with. -/

def topStepOK (env : Env) (below : Below) (strict : Bool) (parent pfx kt : Str) (Γ : Ctx) (comps : List Str)
    (ms : List Member) (t : Str) (a : Attrs) (c : List Node) : Bool :=
  if t == "abstracttype".toList then nestingOK parent t && abstracttypeOK strict Γ a c
  else if t == "sectiontype".toList then nestingOK parent t && sectiontypeOK env strict pfx Γ a c
  else if t == "import".toList then nestingOK parent t && importOK env below pfx Γ comps a c
  else memberElemOK env strict parent pfx kt Γ.names ms t a c

def topStepAfter (env : Env) (below : Below) (pfx kt : Str) (Γ : Ctx) (comps : List Str) (ms : List Member) (t : Str)
    (a : Attrs) (c : List Node) : Ctx × List Str × List Member :=
  if t == "abstracttype".toList then (Γ ++ [(typeNameOf a, .abstract)], comps, ms)
  else if t == "sectiontype".toList then (Γ ++ [(typeNameOf a, sectiontypeSig env pfx Γ a c)], comps, ms)
  else if t == "import".toList then
    ((importAfter env below pfx Γ comps a).1, (importAfter env below pfx Γ comps a).2, ms)
  else (Γ, comps, ms ++ memberElemAdds env kt t a c)

theorem topItemsOK_cons (env : Env) (below : Below) (strict : Bool) (parent pfx kt : Str) (Γ : Ctx) (comps : List Str)
    (ms : List Member) (t : Str) (a : Attrs) (c r : List Node) :
    topItemsOK env below strict parent pfx kt Γ comps ms (.elem t a c :: r) =
      (topStepOK env below strict parent pfx kt Γ comps ms t a c &&
        topItemsOK env below strict parent pfx kt (topStepAfter env below pfx kt Γ comps ms t a c).1
          (topStepAfter env below pfx kt Γ comps ms t a c).2.1 (topStepAfter env below pfx kt Γ comps ms t a c).2.2 r) := by
  rw [topItemsOK]
  unfold topStepOK topStepAfter
  cases t == "abstracttype".toList <;> cases t == "sectiontype".toList <;> cases t == "import".toList <;> rfl

theorem topAfter_cons (env : Env) (below : Below) (pfx kt : Str) (Γ : Ctx) (comps : List Str) (ms : List Member)
    (t : Str) (a : Attrs) (c r : List Node) :
    topAfter env below pfx Γ comps (.elem t a c :: r) =
      topAfter env below pfx (topStepAfter env below pfx kt Γ comps ms t a c).1
        (topStepAfter env below pfx kt Γ comps ms t a c).2.1 r := by
  rw [topAfter]
  unfold topStepAfter
  cases t == "abstracttype".toList <;> cases t == "sectiontype".toList <;> cases t == "import".toList <;> rfl

theorem topStep_facts {env : Env} {below : Below} {strict : Bool} {parent pfx kt : Str} (hb : BelowWF below) {Γ : Ctx}
    {comps : List Str} {ms : List Member} {t : Str} {a : Attrs} {c : List Node}
    (hok : topStepOK env below strict parent pfx kt Γ comps ms t a c = true) (h1 : SigWF Γ) (h3 : MembersWF ms) :
    SigWF (topStepAfter env below pfx kt Γ comps ms t a c).1 ∧ MembersWF (topStepAfter env below pfx kt Γ comps ms t a c).2.2 := by
  unfold topStepOK at hok
  unfold topStepAfter
  by_cases hab : (t == "abstracttype".toList) = true
  · rw [if_pos hab] at hok ⊢
    simp only [Bool.and_eq_true, abstracttypeOK] at hok
    exact ⟨sigWF_snoc h1 hok.2.1.1 (fun _ _ hc => by cases hc), h3⟩
  · rw [if_neg hab] at hok ⊢
    by_cases hst : (t == "sectiontype".toList) = true
    · rw [if_pos hst] at hok ⊢
      simp only [Bool.and_eq_true] at hok
      have hn : typeNameOK Γ a = true := by
        have := hok.2
        unfold sectiontypeOK at this
        simp only [Bool.and_eq_true] at this
        exact this.1.1.1.1.1.1.1.1.1
      exact ⟨sigWF_snoc h1 hn (sectiontypeOK_sig_wf h1.2 hok.2), h3⟩
    · rw [if_neg hst] at hok ⊢
      by_cases him : (t == "import".toList) = true
      · rw [if_pos him] at hok ⊢
        simp only [Bool.and_eq_true] at hok
        exact ⟨importAfter_wf hb h1 hok.2, h3⟩
      · rw [if_neg him] at hok ⊢
        exact ⟨h1, memberElemOK_adds_wf h3 hok⟩

theorem topStepAfter_members (env : Env) (below : Below) (pfx kt : Str) (Γ : Ctx) (comps : List Str) (ms : List Member)
    (t : Str) (a : Attrs) (c : List Node) :
    (topStepAfter env below pfx kt Γ comps ms t a c).2.2 = ms ++ memberElemAdds env kt t a c := by
  have hadds : ∀ tag : Str, isKeyTag tag = false → isSectTag tag = false → (t == tag) = true →
      ms = ms ++ memberElemAdds env kt t a c := by
    intro tag e1 e2 ht
    have : t = tag := by simpa using ht
    subst this
    simp only [memberElemAdds, e1, e2, Bool.false_eq_true, ↓reduceIte, List.append_nil]
  unfold topStepAfter
  by_cases hab : (t == "abstracttype".toList) = true
  · rw [if_pos hab]
    exact hadds _ (by unfold isKeyTag; char_lits; decide +kernel) (by unfold isSectTag; char_lits; decide +kernel) hab
  · rw [if_neg hab]
    by_cases hst : (t == "sectiontype".toList) = true
    · rw [if_pos hst]
      exact hadds _ (by unfold isKeyTag; char_lits; decide +kernel) (by unfold isSectTag; char_lits; decide +kernel) hst
    · rw [if_neg hst]
      by_cases him : (t == "import".toList) = true
      · rw [if_pos him]
        exact hadds _ (by unfold isKeyTag; char_lits; decide +kernel) (by unfold isSectTag; char_lits; decide +kernel) him
      · rw [if_neg him]

theorem topItemsOK_facts {env : Env} {below : Below} {strict : Bool} {parent pfx kt : Str} (hb : BelowWF below) :
    ∀ (c : List Node) (Γ : Ctx) (comps : List Str) (ms : List Member),
      topItemsOK env below strict parent pfx kt Γ comps ms c = true → SigWF Γ → MembersWF ms →
      SigWF (topAfter env below pfx Γ comps c).1 ∧ MembersWF (ms ++ membersOf env kt c)
  | [], Γ, comps, ms, _, h1, h3 => ⟨by rw [topAfter]; exact h1, by rw [membersOf, List.append_nil]; exact h3⟩
  | .text s :: r, Γ, comps, ms, hok, h1, h3 => by
    rw [topItemsOK] at hok
    simp only [Bool.and_eq_true] at hok
    rw [topAfter, membersOf]
    exact topItemsOK_facts hb r Γ comps ms hok.2 h1 h3
  | .elem t a c :: r, Γ, comps, ms, hok, h1, h3 => by
    rw [topItemsOK_cons] at hok
    simp only [Bool.and_eq_true] at hok
    obtain ⟨g1, g3⟩ := topStep_facts hb hok.1 h1 h3
    rw [topAfter_cons env below pfx kt Γ comps ms, membersOf, ← List.append_assoc,
      ← topStepAfter_members env below pfx kt Γ comps ms]
    exact topItemsOK_facts hb r _ _ _ hok.2 g1 g3

theorem belowWF_level (env : Env) : ∀ n, BelowWF (level env n)
  | 0 => by intro Γ comps tree hok _; cases hok
  | n + 1 => by
    intro Γ comps tree hok hwf
    cases tree with
    | text s => exact hwf
    | elem t a c =>
      have hok' : componentOK env (level env n) Γ comps (.elem t a c) = true := hok
      unfold componentOK at hok'
      simp only [Bool.and_eq_true] at hok'
      exact (topItemsOK_facts (belowWF_level env n) c Γ comps [] hok'.2 hwf membersWF_nil).1

/-- in a document that satisfies the rules, the names of all types of the final signature — declared by the document or
by a component it imports — are pairwise distinct, and every concrete type has pairwise distinct attribute names and
(non-empty) keys among its members, those inherited from its base included -/
theorem docRules_signature_wf {env : Env} {n : Nat} {t : Str} {a : Attrs} {c : List Node}
    (h : DocRulesN env n .schema (.elem t a c)) :
    SigWF (topAfter env (level env n) (prefixOf none a) [] [] c).1 := by
  have h' : (t == Gen.schemaTopLevel && schemaRootOK env (level env n) a c) = true := h
  unfold schemaRootOK at h'
  simp only [Bool.and_eq_true] at h'
  exact (topItemsOK_facts (belowWF_level env n) c [] [] [] h'.2.1.2 sigWF_nil membersWF_nil).1

/-- in a document that satisfies the rules, the members of the top-level container have pairwise distinct attribute
names and (non-empty) keys -/
theorem docRules_top_wf {env : Env} {n : Nat} {t : Str} {a : Attrs} {c : List Node}
    (h : DocRulesN env n .schema (.elem t a c)) :
    MembersWF (membersOf env (keytypeOf env (prefixOf none a) a none) c) := by
  have h' : (t == Gen.schemaTopLevel && schemaRootOK env (level env n) a c) = true := h
  unfold schemaRootOK at h'
  simp only [Bool.and_eq_true] at h'
  have := (topItemsOK_facts (belowWF_level env n) c [] [] [] h'.2.1.2 sigWF_nil membersWF_nil).2
  simpa using this

/-! ### the judgement is monotone in the nesting depth -/

/-- `b2` accepts every component `b1` accepts, with the same result -/
def BelowLe (b1 b2 : Below) : Prop :=
  ∀ Γ comps tree, b1.ok Γ comps tree = true → b2.ok Γ comps tree = true ∧ b2.after Γ comps tree = b1.after Γ comps tree

theorem import_mono {env : Env} {b1 b2 : Below} (hb : BelowLe b1 b2) {pfx : Str} {Γ : Ctx} {comps : List Str} {a : Attrs}
    {c : List Node} (h : importOK env b1 pfx Γ comps a c = true) :
    importOK env b2 pfx Γ comps a c = true ∧ importAfter env b2 pfx Γ comps a = importAfter env b1 pfx Γ comps a := by
  unfold importOK at h ⊢
  unfold importAfter
  rw [Bool.and_eq_true] at h ⊢
  cases hx : env.comps (importPkg pfx a) (importFileOf a) <;> rw [hx] at h <;> simp only at h ⊢
  · exact nomatch h.2
  · exact nomatch h.2
  · exact ⟨h, trivial⟩
  · cases hin : comps.contains (importSrc pfx a) with
    | true => exact ⟨⟨h.1, rfl⟩, rfl⟩
    | false =>
      rw [hin, Bool.false_or] at h
      obtain ⟨h1, h2⟩ := hb _ _ _ h.2
      simp only [Bool.false_or, Bool.false_eq_true, ↓reduceIte]
      exact ⟨⟨h.1, h1⟩, h2⟩

theorem topItemsOK_mono {env : Env} {b1 b2 : Below} (hb : BelowLe b1 b2) {strict : Bool} {parent pfx kt : Str} :
    ∀ (c : List Node) (Γ : Ctx) (comps : List Str) (ms : List Member),
      topItemsOK env b1 strict parent pfx kt Γ comps ms c = true →
      topItemsOK env b2 strict parent pfx kt Γ comps ms c = true ∧ topAfter env b2 pfx Γ comps c = topAfter env b1 pfx Γ comps c
  | [], _, _, _, _ => by rw [topItemsOK, topAfter, topAfter]; exact ⟨rfl, rfl⟩
  | .text s :: r, Γ, comps, ms, h => by
    rw [topItemsOK, Bool.and_eq_true] at h ⊢
    rw [topAfter, topAfter]
    exact ⟨⟨h.1, (topItemsOK_mono hb r Γ comps ms h.2).1⟩, (topItemsOK_mono hb r Γ comps ms h.2).2⟩
  | .elem t a c :: r, Γ, comps, ms, h => by
    rw [topItemsOK] at h ⊢
    rw [topAfter, topAfter]
    by_cases c1 : (t == "abstracttype".toList) = true
    · rw [if_pos c1] at h ⊢; rw [if_pos c1, if_pos c1, Bool.and_eq_true] at *
      exact ⟨⟨h.1, (topItemsOK_mono hb r _ comps ms h.2).1⟩, (topItemsOK_mono hb r _ comps ms h.2).2⟩
    rw [if_neg c1] at h ⊢; rw [if_neg c1, if_neg c1]
    by_cases c2 : (t == "sectiontype".toList) = true
    · rw [if_pos c2] at h ⊢; rw [if_pos c2, if_pos c2, Bool.and_eq_true] at *
      exact ⟨⟨h.1, (topItemsOK_mono hb r _ comps ms h.2).1⟩, (topItemsOK_mono hb r _ comps ms h.2).2⟩
    rw [if_neg c2] at h ⊢; rw [if_neg c2, if_neg c2]
    by_cases c3 : (t == "import".toList) = true
    · rw [if_pos c3] at h ⊢; rw [if_pos c3, if_pos c3]
      rw [Bool.and_eq_true, Bool.and_eq_true] at h ⊢
      obtain ⟨i1, i2⟩ := import_mono hb h.1.2
      rw [i2]
      exact ⟨⟨⟨h.1.1, i1⟩, (topItemsOK_mono hb r _ _ ms h.2).1⟩, (topItemsOK_mono hb r _ _ ms h.2).2⟩
    · rw [if_neg c3] at h ⊢; rw [if_neg c3, if_neg c3]
      rw [Bool.and_eq_true] at h ⊢
      exact ⟨⟨h.1, (topItemsOK_mono hb r Γ comps _ h.2).1⟩, (topItemsOK_mono hb r Γ comps _ h.2).2⟩

theorem level_mono (env : Env) : ∀ n m : Nat, n ≤ m → BelowLe (level env n) (level env m)
  | 0, _, _ => fun _ _ _ h => nomatch h
  | n + 1, 0, hle => by omega
  | n + 1, m + 1, hle => by
    intro Γ comps tree h
    cases tree with
    | text s => exact ⟨rfl, rfl⟩
    | elem t a c =>
      have h' : (t == Gen.componentTopLevel && prefixOK none a &&
        topItemsOK env (level env n) false "component".toList (prefixOf none a) [] Γ comps [] c) = true := h
      rw [Bool.and_eq_true] at h'
      obtain ⟨g1, g2⟩ := topItemsOK_mono (level_mono env n m (by omega)) c Γ comps [] h'.2
      refine ⟨?_, g2⟩
      show (t == Gen.componentTopLevel && prefixOK none a &&
        topItemsOK env (level env m) false "component".toList (prefixOf none a) [] Γ comps [] c) = true
      rw [Bool.and_eq_true]
      exact ⟨h'.1, g1⟩

theorem docRulesN_mono {env : Env} {n m : Nat} (hle : n ≤ m) {root : Node} (h : DocRulesN env n .schema root) :
    DocRulesN env m .schema root := by
  cases root with
  | text s => exact h
  | elem t a c =>
    have h' : (t == Gen.schemaTopLevel && schemaRootOK env (level env n) a c) = true := h
    show (t == Gen.schemaTopLevel && schemaRootOK env (level env m) a c) = true
    unfold schemaRootOK at h' ⊢
    simp only [Bool.and_eq_true] at h' ⊢
    exact ⟨h'.1, ⟨h'.2.1.1, (topItemsOK_mono (level_mono env n m hle) c [] [] [] h'.2.1.2).1⟩, h'.2.2⟩

end ZCV.SchemaRules
