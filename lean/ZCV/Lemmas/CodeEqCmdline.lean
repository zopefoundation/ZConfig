import ZCV.Gen.CodeCmdline
import ZCV.Model.Matcher
import ZCV.Lemmas.CodeEqDatatypes
/-!
# The generated code of `ZConfig/cmdline.py` equals the hand-written model

`Gen.Code.addOption` (the translation of `ExtendedConfigLoader.addOption`, rendered as the function returning the item
it appends to `self.clopts`), `Gen.Code.OptionBag_basic_key`, `Gen.Code.OptionBag_normalize_case` against `Cfg.addOption`
and the steps of `Cfg.bagSectionInfo` that use them.  `embedAddOption` re-tags: the model's item `(path, val)` gets the
default position the code supplies; the model's `ConfigurationSyntaxError` (kind, line, url; its `tag` stands for the
message) becomes the class with `(url, lineno, colno = -1)` and the attribute `specifier` the code sets.
-/
-- one simp set serves several branches of a case analysis; the linter would flag it in each branch that needs less
set_option linter.unusedSimpArgs false
namespace ZCV.CodeEq
open ZCV ZCV.Py ZCV.Gen.Code

/-- the position `addOption` supplies when none is given -/
def cmdlinePos : Str × Int × Int := ("<command-line option>".toList, -1, -1)

/-- the model's failure in the generated code's vocabulary (`spec` = the specifier the code attaches) -/
def embedFail (spec : Option Str) : Cfg.Fail → PyExc
  | .cfg e =>
    match e.kind with
    | .syntax => .ConfigurationSyntaxError e.url e.line (some (-1)) spec
    | _ => .Other "ConfigurationError".toList
  | .internal n => .Other n.toList
  | .dtExc n => .Other n

def embedAddOption (spec : Str) : Cfg.M Cfg.OptItem → Except PyExc (List Str × Str × (Str × Int × Int))
  | .ok it => .ok (it.path, it.val, cmdlinePos)
  | .error f => .error (embedFail (some spec) f)

theorem embedAddOption_ok_injective (spec : Str) (a b : Cfg.OptItem)
    (h : embedAddOption spec (.ok a) = embedAddOption spec (.ok b)) : a.path = b.path ∧ a.val = b.val := by
  simp only [embedAddOption, Except.ok.injEq, Prod.mk.injEq] at h
  exact ⟨h.1, h.2.1⟩

theorem splitOn_eq (s : Str) (c : Char) : Py.splitOn s c = Cfg.addOption.splitOn s c := by
  induction s with
  | nil => rfl
  | cons x t ih =>
    simp only [Py.splitOn, Cfg.addOption.splitOn, ih]
    split
    · rfl
    · cases Cfg.addOption.splitOn t c <;> rfl

/-- `addOption(spec)` (no position given) -/
theorem code_addOption_eq (spec : Str) : Gen.Code.addOption spec none = embedAddOption spec (Cfg.addOption spec) := by
  unfold Gen.Code.addOption Cfg.addOption
  by_cases h : spec.contains '=' = true
  · simp only [h, Bool.not_true, Bool.false_eq_true, ↓reduceIte, Py.split1, splitOn_eq]
    split <;> rfl
  · simp only [h, Bool.not_false, ↓reduceIte, Bool.false_eq_true]
    rfl

theorem code_addOption_default_pos (spec : Str) : Gen.Code.addOption spec (some cmdlinePos) = Gen.Code.addOption spec none := by
  unfold Gen.Code.addOption
  rfl

theorem code_normalize_case_eq (s : Str) : OptionBag_normalize_case s = .ok (lower s) := rfl

/-- `OptionBag.basic_key(s, pos)` with the registry's `basic-key` conversion: the key, or a syntax error at `pos`
    (the step `match DT.basicKey p0 with | .error _ => syntax error` of `Cfg.bagSectionInfo`) -/
theorem code_bag_basic_key_eq (s : Str) (pos : Str × Int × Int) :
    OptionBag_basic_key Gen.Code.basic_key s pos =
      match DT.basicKey s with
      | .ok k => .ok k
      | .error _ => .error (.ConfigurationSyntaxError (some pos.1) (some pos.2.1) (some pos.2.2) none) := by
  unfold OptionBag_basic_key
  rw [code_basicKey_eq]
  unfold DT.basicKey DT.regexConv
  by_cases hm : Rx.matchesWhole Gen.basicKeyRx s = true
  · simp only [hm, ↓reduceIte]; rfl
  · simp only [hm, Bool.false_eq_true, ↓reduceIte]; rfl

end ZCV.CodeEq
