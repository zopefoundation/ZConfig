import ZCV.Lemmas.HistorySim
import ZCV.Lemmas.HistoryStop
import ZCV.Lemmas.LoadFinish
/-!
C13, histories on the application's schema object (`runHistoryApp`): a later load that imports the leaking components itself is
not influenced by the leak.  Two loads of the same text are compared: one on the fresh schema `s`, one on the used schema object
`s.withImplementers regs`.  The private schemas of the two loads are related by `SLe n P`: same top, handler, components; the
first `n` entries of the type tables (the application's own types) pairwise of the same kind and name, the table of the used
side ⊇ the table of the fresh side, every extra name `c` of the used side justified by `P key c` ("the history registered it");
the entries after them (types the load imported) identical.  `%import`, `%define` and comment lines keep `SLe n P` and behave
identically on both sides (`header_simE`).  When the fresh side has itself registered every extra name, the relation collapses to
`SLe n ⊥` – the two schemas differ in the ORDER of implementer tables at most; schemas so related are indistinguishable for every
loader operation (`opsSimE_tabEq`), hence for the rest of the load (`parse_simE`).
-/
namespace ZCV.Cfg
open ZCV ZCV.Conf

/-! ### entries -/

/-- entry `q` (used side) against entry `p` (fresh side) -/
def EntLe (P : Str → Str → Prop) (p q : Str × TypeEntry) : Prop :=
  q.1 = p.1 ∧
    match p.2, q.2 with
    | .concrete t, .concrete t' => t' = t
    | .abstract_ n subs, .abstract_ n' subs' =>
      n' = n ∧ (∀ c, c ∈ subs → c ∈ subs') ∧ (∀ c, c ∈ subs' → c ∈ subs ∨ P p.1 c)
    | _, _ => False

theorem EntLe.refl (P : Str → Str → Prop) (p : Str × TypeEntry) : EntLe P p p := by
  obtain ⟨k, te⟩ := p
  cases te with
  | concrete t => exact ⟨rfl, rfl⟩
  | abstract_ n subs => exact ⟨rfl, rfl, fun _ h => h, fun _ h => .inl h⟩

theorem EntLe.mono {P P' : Str → Str → Prop} (hp : ∀ k c, P k c → P' k c) {p q : Str × TypeEntry} (h : EntLe P p q) :
    EntLe P' p q := by
  obtain ⟨k, te⟩ := p
  obtain ⟨k', te'⟩ := q
  obtain ⟨hk, h⟩ := h
  refine ⟨hk, ?_⟩
  cases te <;> cases te' <;> simp only at h ⊢
  · exact h
  · obtain ⟨h1, h2, h3⟩ := h
    exact ⟨h1, h2, fun c hc => (h3 c hc).imp id (hp _ _)⟩

theorem EntLe.regEntries_congr {P : Str → Str → Prop} (regs : List (Str × Str)) {p q : Str × TypeEntry} (h : EntLe P p q) :
    EntLe P (regEntries regs p) (regEntries regs q) := by
  obtain ⟨k, te⟩ := p
  obtain ⟨k', te'⟩ := q
  obtain ⟨hk, h⟩ := h
  simp only at hk
  subst hk
  cases te <;> cases te'
  · rw [regEntries_concrete, regEntries_concrete]; exact ⟨rfl, h⟩
  · exact h.elim
  · exact h.elim
  · rename_i n subs n' subs'
    obtain ⟨hn, h1, h2⟩ := h
    subst hn
    obtain ⟨s₂, e, m⟩ := regEntries_abstract_mem regs k' n' subs
    obtain ⟨s₂', e', m'⟩ := regEntries_abstract_mem regs k' n' subs'
    rw [e, e']
    refine ⟨rfl, rfl, fun c hc => (m' c).mpr (((m c).mp hc).imp_left (h1 c)), fun c hc => ?_⟩
    rcases (m' c).mp hc with hc | hc
    · exact (h2 c hc).imp_left fun h => (m c).mpr (.inl h)
    · exact .inl ((m c).mpr (.inr hc))

theorem EntLe.regEntries (regs : List (Str × Str)) (p : Str × TypeEntry) :
    EntLe (fun k c => (c, k) ∈ regs) p (regEntries regs p) := by
  obtain ⟨k, te⟩ := p
  cases te with
  | concrete t => rw [regEntries_concrete]; exact ⟨rfl, rfl⟩
  | abstract_ n subs =>
    obtain ⟨add, he, h1, _, _⟩ := regEntries_abstract regs k n subs
    rw [he]
    refine ⟨rfl, rfl, fun c hc => List.mem_append_left _ hc, ?_⟩
    intro c hc
    rcases List.mem_append.mp hc with hc | hc
    · exact .inl hc
    · exact .inr (h1 c hc).2

/-! ### lists of entries -/

inductive Rel2 {α β : Type} (R : α → β → Prop) : List α → List β → Prop
  | nil : Rel2 R [] []
  | cons {a : α} {b : β} {l : List α} {l' : List β} : R a b → Rel2 R l l' → Rel2 R (a :: l) (b :: l')

theorem rel2_map {α β α' β' : Type} {R : α → β → Prop} {R' : α' → β' → Prop} {f : α → α'} {g : β → β'}
    (hf : ∀ a b, R a b → R' (f a) (g b)) : ∀ {l : List α} {l' : List β}, Rel2 R l l' →
      Rel2 R' (l.map f) (l'.map g) := by
  intro l l' h
  induction h with
  | nil => exact .nil
  | cons hab _ ih => exact .cons (hf _ _ hab) ih

theorem rel2_refl {α : Type} {R : α → α → Prop} (hr : ∀ a, R a a) : ∀ (l : List α), Rel2 R l l := by
  intro l
  induction l with
  | nil => exact .nil
  | cons a t ih => exact .cons (hr a) ih

theorem rel2_self_map {α : Type} {R : α → α → Prop} {f : α → α} (hr : ∀ a, R a (f a)) :
    ∀ (l : List α), Rel2 R l (l.map f) := by
  intro l
  induction l with
  | nil => exact .nil
  | cons a t ih => exact .cons (hr a) ih

theorem rel2_append {α β : Type} {R : α → β → Prop} {l1 : List α} {l1' : List β} (h1 : Rel2 R l1 l1')
    {l2 : List α} {l2' : List β} (h2 : Rel2 R l2 l2') : Rel2 R (l1 ++ l2) (l1' ++ l2') := by
  induction h1 with
  | nil => exact h2
  | cons hab _ ih => exact .cons hab ih

theorem rel2_keys {P : Str → Str → Prop} {L L' : List (Str × TypeEntry)} (h : Rel2 (EntLe P) L L') :
    L'.map (·.1) = L.map (·.1) := by
  induction h with
  | nil => rfl
  | cons hab _ ih => simp only [List.map_cons, ih, hab.1]

def OptRel {α β : Type} (R : α → β → Prop) : Option α → Option β → Prop
  | none, none => True
  | some a, some b => R a b
  | _, _ => False

theorem rel2_find {P : Str → Str → Prop} {L L' : List (Str × TypeEntry)} (h : Rel2 (EntLe P) L L') (k : Str) :
    OptRel (EntLe P) (L.find? (·.1 == k)) (L'.find? (·.1 == k)) := by
  induction h with
  | nil => exact True.intro
  | @cons a b l l' hab _ ih =>
    simp only [List.find?_cons, hab.1]
    by_cases hk : (a.1 == k) = true
    · simp only [hk]; exact hab
    · have hk' : (a.1 == k) = false := by simpa using hk
      simp only [hk']; exact ih

theorem rel2_strengthen {α β : Type} {R R' : α → β → Prop} : ∀ {l : List α} {l' : List β}, Rel2 R l l' →
    (∀ a ∈ l, ∀ b, R a b → R' a b) → Rel2 R' l l' := by
  intro l l' h
  induction h with
  | nil => intro _; exact .nil
  | cons hab _ ih =>
    intro hr
    exact .cons (hr _ List.mem_cons_self _ hab) (ih (fun a ha b hab => hr a (List.mem_cons_of_mem _ ha) b hab))

theorem rel2_mono {α β : Type} {R R' : α → β → Prop} (hr : ∀ a b, R a b → R' a b) {l : List α} {l' : List β}
    (h : Rel2 R l l') : Rel2 R' l l' := rel2_strengthen h fun a _ b => hr a b

/-! ### schemas -/

/-- the private schemas of the two loads (fresh side `S`, used side `S'`) -/
structure SLe (n : Nat) (P : Str → Str → Prop) (S S' : Schema) : Prop where
  top : S'.top = S.top
  handler : S'.handler = S.handler
  components : S'.components = S.components
  types : ∃ A A' B, S.types = A ++ B ∧ S'.types = A' ++ B ∧ A.length = n ∧ Rel2 (EntLe P) A A'

theorem SLe.all {n : Nat} {P : Str → Str → Prop} {S S' : Schema} (h : SLe n P S S') :
    Rel2 (EntLe P) S.types S'.types := by
  obtain ⟨A, A', B, h1, h2, _, h4⟩ := h.types
  rw [h1, h2]
  exact rel2_append h4 (rel2_refl (EntLe.refl P) B)

theorem SLe.keys {n : Nat} {P : Str → Str → Prop} {S S' : Schema} (h : SLe n P S S') :
    S'.types.map (·.1) = S.types.map (·.1) := rel2_keys h.all

theorem SLe.withComponent {n : Nat} {P : Str → Str → Prop} {S S' : Schema} (h : SLe n P S S')
    (types : List (Str × TypeEntry)) (impls : List (Str × Str)) :
    SLe n P (S.withComponent types impls) (S'.withComponent types impls) := by
  obtain ⟨A, A', B, h1, h2, h3, h4⟩ := h.types
  refine ⟨h.top, h.handler, h.components, A.map (regEntries (compCalls types impls)), A'.map (regEntries (compCalls types impls)),
    B.map (regEntries (compCalls types impls)) ++ newEntries impls types, ?_, ?_, by simpa using h3,
    rel2_map (fun a b hab => hab.regEntries_congr _) h4⟩
  · simp only [Schema.withComponent, h1, List.map_append, List.append_assoc]
  · simp only [Schema.withComponent, h2, List.map_append, List.append_assoc]

theorem SLe.withComponents {n : Nat} {P : Str → Str → Prop} {S S' : Schema} (h : SLe n P S S') (cs : List Str) :
    SLe n P { S with components := S.components ++ cs } { S' with components := S'.components ++ cs } :=
  ⟨h.top, h.handler, by simp only [h.components], h.types⟩

theorem SLe.mono {n : Nat} {P P' : Str → Str → Prop} (hp : ∀ k c, P k c → P' k c) {S S' : Schema} (h : SLe n P S S') :
    SLe n P' S S' := by
  obtain ⟨A, A', B, h1, h2, h3, h4⟩ := h.types
  exact ⟨h.top, h.handler, h.components, A, A', B, h1, h2, h3, rel2_mono (fun _ _ hab => hab.mono hp) h4⟩

theorem SLe.start (s : Schema) (regs : List (Str × Str)) :
    SLe s.types.length (fun k c => (c, k) ∈ regs) s (s.withImplementers regs) := by
  refine ⟨withImplementers_top _ _, withImplementers_handler _ _, withImplementers_components _ _,
    s.types, s.types.map (regEntries regs), [], by simp, by simp [withImplementers_types], rfl, ?_⟩
  exact rel2_self_map (EntLe.regEntries regs) s.types

theorem importSchema_sle {n : Nat} {P : Str → Str → Prop} {S S' : Schema} (h : SLe n P S S') (pk : Pkg) :
    ExRel (SLe n P) (importSchema S pk) (importSchema S' pk) := by
  cases pk with
  | component url types impls =>
    simp only [importSchema, h.components, h.keys]
    split
    · exact ExRel.ok h
    · split
      · have := (h.withComponents [url]).withComponent types impls
        rw [h.components] at this
        exact ExRel.ok this
      · rfl
  | _ => rfl

/-! ### loader states -/

/-- what a loader asks of `gettype` — unknown, concrete (which type), or abstract — is the same in the two schemas -/
def GtEq (S S' : Schema) : Prop := ∀ ty,
  (S.gettype ty = none ∧ S'.gettype ty = none) ∨
  (∃ t, S.gettype ty = some (.concrete t) ∧ S'.gettype ty = some (.concrete t)) ∨
  (∃ a subs a' subs', S.gettype ty = some (.abstract_ a subs) ∧ S'.gettype ty = some (.abstract_ a' subs'))

/-- the schemas the override bags are sorted by (`LS.bagSchema`: none without overrides) on the two sides -/
def BagRel (o o' : Option Schema) : Prop := OptRel GtEq o o'

def LSRel (Q : Schema → Schema → Prop) (a b : LS) : Prop :=
  b.privateSchema = a.privateSchema ∧ b.handlers = a.handlers ∧ b.stack = a.stack ∧ b.pkgs = a.pkgs ∧ b.conv = a.conv ∧
    BagRel a.bagSchema b.bagSchema ∧ Q a.schema b.schema

theorem LSRel.schema {Q : Schema → Schema → Prop} {a b : LS} (h : LSRel Q a b) : Q a.schema b.schema := h.2.2.2.2.2.2
theorem LSRel.bag {Q : Schema → Schema → Prop} {a b : LS} (h : LSRel Q a b) : BagRel a.bagSchema b.bagSchema := h.2.2.2.2.2.1

theorem LSRel.eq {Q : Schema → Schema → Prop} {a b : LS} (h : LSRel Q a b) :
    b = { a with schema := b.schema, bagSchema := b.bagSchema } := by
  obtain ⟨h1, h2, h3, h4, h5, _⟩ := h
  cases a; cases b
  simp only at h1 h2 h3 h4 h5
  subst h1 h2 h3 h4 h5
  rfl

theorem lsImport_sle {n : Nat} {P : Str → Str → Prop} (a b : LS) (pkg : Str) (h : LSRel (SLe n P) a b) :
    ExRel (LSRel (SLe n P)) (lsImport a pkg) (lsImport b pkg) := by
  obtain ⟨h1, h2, h3, h4, h5, hB, hQ⟩ := h
  rw [lsImport_eq, lsImport_eq, show b.pkgs pkg = a.pkgs pkg by rw [h4]]
  exact (importSchema_sle hQ _).map fun sa sb hab => ⟨rfl, h2, h3, h4, h5, hB, hab⟩

/-! ### the head of the text: `%import`, `%define`, comments -/

/-- a line that neither opens nor closes a section, sets no key and includes nothing -/
def HeaderLine (l : Str) : Prop :=
  lineShape (strip l) = .skip ∨ (∃ a, lineShape (strip l) = .define a) ∨ (∃ a, lineShape (strip l) = .import_ a)

theorem header_simE {n : Nat} {P : Str → Str → Prop} (fuel : Nat) (env : Env) (active : List Str) (url : Option Str)
    (pre : List Str) (k : Nat) (st st' : PS LS) (hl : ∀ l ∈ pre, HeaderLine l) (h : PSR (LSRel (SLe n P)) st st') :
    ExRel (PSR (LSRel (SLe n P))) (runLines fuel env loaderCtx active url pre k st)
      (runLines fuel env loaderCtx active url pre k st') := by
  -- a header line calls no operation but `importSchemaComponent`, and includes nothing
  have no : ∀ {l : Str} {sh : LineShape} {p : Prop}, HeaderLine l → lineShape (strip l) = sh → sh ≠ .skip →
      (∀ a, sh ≠ .define a) → (∀ a, sh ≠ .import_ a) → p := by
    rintro l sh p (h | ⟨a, h⟩ | ⟨a, h⟩) hs h1 h2 h3
    · exact absurd (hs ▸ h) h1
    · exact absurd (hs ▸ h) (h2 a)
    · exact absurd (hs ▸ h) (h3 a)
  have hC : LineRel loaderCtx loaderCtx HeaderLine (fun _ => LSRel (SLe n P)) (fun _ => False) True True :=
    { canInc := rfl, canDef := rfl, start := fun hl hs _ => no hl hs nofun nofun nofun,
      stop := fun hl hs _ => hs.elim (no hl · nofun nofun nofun) (no hl · nofun nofun nofun),
      value := fun hl hs _ _ => no hl hs nofun nofun nofun, imp := fun _ _ h => (lsImport_sle _ _ _ h).rel,
      dead := .of_false _ _, deadX := fun _ h => h.elim }
  exact (run_lineRel hC env (fun _ _ _ _ hl hs => no hl hs nofun nofun nofun) fuel active url url pre k k st st' [] (fun _ => rfl) .rfl' hl
    (PSR_iff.2 h)).exRel.mono fun _ _ h => PSR_iff.1 h

/-! ### schemas that differ in the order of implementer tables at most -/

/-- no extra names -/
abbrev TabEq (n : Nat) : Schema → Schema → Prop := SLe n (fun _ _ => False)

theorem TabEq.cases {n : Nat} {S S' : Schema} (h : TabEq n S S') (x : Str) :
    (S.gettype x = none ∧ S'.gettype x = none) ∨
    (∃ t, S.gettype x = some (.concrete t) ∧ S'.gettype x = some (.concrete t)) ∨
    (∃ a subs subs', S.gettype x = some (.abstract_ a subs) ∧ S'.gettype x = some (.abstract_ a subs') ∧
      ∀ c, c ∈ subs' ↔ c ∈ subs) := by
  have := rel2_find h.all (lower x)
  unfold Schema.gettype
  cases h1 : S.types.find? (·.1 == lower x) <;> cases h2 : S'.types.find? (·.1 == lower x) <;> rw [h1, h2] at this
  · exact .inl ⟨rfl, rfl⟩
  · exact this.elim
  · exact this.elim
  · rename_i p q
    obtain ⟨k, te⟩ := p
    obtain ⟨k', te'⟩ := q
    obtain ⟨_, hm⟩ := this
    cases te <;> cases te'
    · exact .inr (.inl ⟨_, rfl, congrArg _ (congrArg _ hm)⟩)
    · exact hm.elim
    · exact hm.elim
    · obtain ⟨hn, m1, m2⟩ := hm
      subst hn
      exact .inr (.inr ⟨_, _, _, rfl, rfl, fun c => ⟨fun hc => (m2 c hc).elim id False.elim, m1 c⟩⟩)

theorem SLe.gtEq {n : Nat} {P : Str → Str → Prop} {S S' : Schema} (h : SLe n P S S') : GtEq S S' := by
  intro x
  have := rel2_find h.all (lower x)
  unfold Schema.gettype
  cases h1 : S.types.find? (·.1 == lower x) <;> cases h2 : S'.types.find? (·.1 == lower x) <;> rw [h1, h2] at this
  · exact .inl ⟨rfl, rfl⟩
  · exact this.elim
  · exact this.elim
  · rename_i p q
    obtain ⟨k, te⟩ := p
    obtain ⟨k', te'⟩ := q
    obtain ⟨_, hm⟩ := this
    cases te <;> cases te'
    · exact .inr (.inl ⟨_, rfl, congrArg _ (congrArg _ hm)⟩)
    · exact hm.elim
    · exact hm.elim
    · exact .inr (.inr ⟨_, _, _, _, rfl, rfl⟩)

theorem TabEq.isAbstract {n : Nat} {S S' : Schema} (h : TabEq n S S') (x : Str) : isAbstract S' x = isAbstract S x := by
  unfold Cfg.isAbstract
  rcases h.cases x with ⟨h1, h2⟩ | ⟨t, h1, h2⟩ | ⟨a, subs, subs', h1, h2, _⟩ <;> rw [h1, h2]

theorem TabEq.isSubtype {n : Nat} {S S' : Schema} (h : TabEq n S S') (a x : Str) : isSubtype S' a x = isSubtype S a x := by
  unfold Cfg.isSubtype
  rcases h.cases a with ⟨h1, h2⟩ | ⟨t, h1, h2⟩ | ⟨n, subs, subs', h1, h2, hm⟩ <;> rw [h1, h2]
  rw [Bool.eq_iff_iff, List.contains_iff_mem, List.contains_iff_mem]
  exact hm x

/-! ### loader operations cannot tell such schemas apart -/

/-- `getsectioninfo` reads the schema through `isAbstract` and `isSubtype` only (`getsectioninfo_congr`) -/
theorem getsectioninfo_tabEq {n : Nat} {S S' : Schema} (h : TabEq n S S') : getsectioninfo S' = getsectioninfo S := by
  funext t ty nm
  exact getsectioninfo_congr S S' t ty nm fun _ _ si _ => ⟨h.isAbstract si.ty, h.isSubtype si.ty ty⟩

theorem bagSectionInfo_gtEq {S S' : Schema} (h : GtEq S S') (conv : Conv) :
    bagSectionInfo conv S' = bagSectionInfo conv S := by
  funext b ty name
  unfold bagSectionInfo
  rcases h ty with ⟨h1, h2⟩ | ⟨t, h1, h2⟩ | ⟨a, subs, a', subs', h1, h2⟩ <;> rw [h1, h2]

theorem bagSectionInfo_tabEq {n : Nat} {S S' : Schema} (h : TabEq n S S') (conv : Conv) :
    bagSectionInfo conv S' = bagSectionInfo conv S := bagSectionInfo_gtEq h.gtEq conv

/-- what `constructChild` reads of the schema at a section child is `sectConvF` (LoadFinish.lean), and that reads `gettype` by
    class only -/
theorem sectConvF_gtEq {S S' : Schema} (h : GtEq S S') (conv : Conv) : sectConvF conv S' = sectConvF conv S := by
  funext v
  cases v with
  | sect ty nm attrs =>
    unfold sectConvF
    simp only
    rcases h ty with ⟨h1, h2⟩ | ⟨t, h1, h2⟩ | ⟨a, subs, a', subs', h1, h2⟩ <;> rw [h1, h2]
  | _ => rfl

theorem constructChild_tabEq {n : Nat} {S S' : Schema} (h : TabEq n S S') (conv : Conv) :
    constructChild conv S' = constructChild conv S := by
  funext ci slot
  cases ci with
  | key ki => cases slot <;> rfl
  | sect si =>
    cases slot with
    | sect v => rw [Conf.constructChild_sect, Conf.constructChild_sect, sectConvF_gtEq h.gtEq]
    | sects vs => rw [Conf.constructChild_sects, Conf.constructChild_sects, sectConvF_gtEq h.gtEq]
    | _ => rfl

theorem finishMatcher_tabEq {n : Nat} {S S' : Schema} (h : TabEq n S S') (conv : Conv) :
    finishMatcher conv S' = finishMatcher conv S := by
  funext m
  unfold finishMatcher
  rw [constructChild_tabEq h conv]

theorem addSection_tabEq {n : Nat} {S S' : Schema} (h : TabEq n S S') : addSection S' = addSection S := by
  funext m ty nm v
  unfold addSection
  rw [getsectioninfo_tabEq h]

def LS.onSchema (S' : Schema) (B' : Option Schema) (a : LS) : LS := { a with schema := S', bagSchema := B' }

theorem lsStart_onSchema {n : Nat} (a : LS) (S' : Schema) (B' : Option Schema) (h : TabEq n a.schema S')
    (hB : BagRel a.bagSchema B') (ty : Str) (nm : Option Str) :
    lsStart (a.onSchema S' B') ty nm = (lsStart a ty nm).map (LS.onSchema S' B') := by
  have hbs : bagSectionInfo a.conv (B'.getD S') = bagSectionInfo a.conv (a.bagSchema.getD a.schema) := by
    generalize a.bagSchema = B at hB
    cases B <;> cases B'
    · exact bagSectionInfo_gtEq h.gtEq a.conv
    · exact hB.elim
    · exact hB.elim
    · exact bagSectionInfo_gtEq hB a.conv
  cases hst : a.stack with
  | nil =>
    unfold lsStart
    rw [show (a.onSchema S' B').stack = [] from hst, hst]
    rfl
  | cons parent below =>
    have hsc : sectCheck (a.onSchema S' B').schema parent.ty ty nm = sectCheck a.schema parent.ty ty nm := by
      show sectCheck S' parent.ty ty nm = _
      unfold sectCheck
      rcases h.gtEq ty with ⟨h1, h2⟩ | ⟨t, h1, h2⟩ | ⟨x, subs, x', subs', h1, h2⟩ <;>
        rw [h1, h2, getsectioninfo_tabEq h]
    have hbg : ∀ ty' nm', bagStep (a.onSchema S' B').conv ((a.onSchema S' B').bagSchema.getD (a.onSchema S' B').schema)
        parent ty' nm' = bagStep a.conv (a.bagSchema.getD a.schema) parent ty' nm' := by
      intro ty' nm'
      show bagStep a.conv (B'.getD S') parent ty' nm' = _
      unfold bagStep
      rw [hbs]
    rw [lsStart_eq (a.onSchema S' B') parent below hst, lsStart_eq a parent below hst, hsc]
    cases sectCheck a.schema parent.ty ty nm with
    | error e => rfl
    | ok t =>
      simp only [hbg]
      cases bagStep a.conv (a.bagSchema.getD a.schema) parent (t.name.getD []) nm <;> rfl

theorem lsStop_onSchema {n : Nat} (a : LS) (S' : Schema) (B' : Option Schema) (h : TabEq n a.schema S') (ty : Str)
    (nm : Option Str) : lsStop (a.onSchema S' B') ty nm = (lsStop a ty nm).map (LS.onSchema S' B') := by
  unfold lsStop LS.onSchema
  simp only [finishMatcher_tabEq h, addSection_tabEq h]
  cases a.stack with
  | nil => rfl
  | cons child rest =>
    cases rest with
    | nil => rfl
    | cons parent below =>
      simp only
      cases finishMatcher a.conv a.schema child with
      | error e => rfl
      | ok vh =>
        obtain ⟨v, hs⟩ := vh
        simp only [bind, Except.bind, pure, Except.pure, Except.map]
        cases addSection a.schema parent ty nm v <;> rfl

theorem lsValue_onSchema (a : LS) (S' : Schema) (B' : Option Schema) (k v : Str) (p : Pos) :
    lsValue (a.onSchema S' B') k v p = (lsValue a k v p).map (LS.onSchema S' B') := by
  unfold lsValue LS.onSchema
  simp only
  cases a.stack with
  | nil => rfl
  | cons cur below =>
    simp only
    cases addValue a.conv cur k v p <;> rfl

theorem LSRel.onSchema {n : Nat} {r : LS} {S S' : Schema} {B B' : Option Schema} (hs : r.schema = S) (hb : r.bagSchema = B)
    (h : TabEq n S S') (hB : BagRel B B') : LSRel (TabEq n) r (r.onSchema S' B') :=
  ⟨rfl, rfl, rfl, rfl, rfl, by rw [hb]; exact hB, by rw [hs]; exact h⟩

theorem onSchema_simE {n : Nat} {a b : LS} (h : LSRel (TabEq n) a b) {f : LS → M LS}
    (hf : f (a.onSchema b.schema b.bagSchema) = (f a).map (LS.onSchema b.schema b.bagSchema))
    (hframe : ∀ r, f a = .ok r → r.schema = a.schema ∧ r.bagSchema = a.bagSchema) :
    ExRel (LSRel (TabEq n)) (f a) (f b) := by
  have hb : b = a.onSchema b.schema b.bagSchema := h.eq
  rw [hb]
  show ExRel _ (f a) (f (a.onSchema b.schema b.bagSchema))
  rw [hf]
  exact ExRel.map_right _ _ fun r hr =>
    LSRel.onSchema (hframe r hr).1 (hframe r hr).2 h.schema h.bag

theorem opsSimE_tabEq (n : Nat) : OpsSimE loaderCtx (LSRel (TabEq n)) where
  start := fun a b ty nm h =>
    onSchema_simE (f := fun s => lsStart s ty nm) h (lsStart_onSchema a _ _ h.schema h.bag ty nm)
      fun r hr => ⟨(congrArg LS.schema (lsStart_frame a r ty nm hr) :), (congrArg LS.bagSchema (lsStart_frame a r ty nm hr) :)⟩
  stop := fun a b ty nm h =>
    onSchema_simE (f := fun s => lsStop s ty nm) h (lsStop_onSchema a _ _ h.schema ty nm)
      fun r hr => ⟨(congrArg LS.schema (lsStop_frame a r ty nm hr) :), (congrArg LS.bagSchema (lsStop_frame a r ty nm hr) :)⟩
  value := fun a b k v p h =>
    onSchema_simE (f := fun s => lsValue s k v p) h (lsValue_onSchema a _ _ k v p)
      fun r hr => ⟨(congrArg LS.schema (lsValue_frame a r k v p hr) :), (congrArg LS.bagSchema (lsValue_frame a r k v p hr) :)⟩
  imp := fun a b pkg h => lsImport_sle a b pkg h

/-! ### the relation collapses when the fresh side has registered every extra name itself -/

theorem SLe.collapse {n : Nat} {regs : List (Str × Str)} {S S' : Schema}
    (h : SLe n (fun k c => (c, k) ∈ regs) S S')
    (hcov : ∀ ia ∈ regs, ∀ a subs, (ia.2, TypeEntry.abstract_ a subs) ∈ S.types.take n → ia.1 ∈ subs) : TabEq n S S' := by
  obtain ⟨A, A', B, h1, h2, h3, h4⟩ := h.types
  refine ⟨h.top, h.handler, h.components, A, A', B, h1, h2, h3, ?_⟩
  have hA : S.types.take n = A := by rw [h1, ← h3, List.take_left']; rfl
  refine rel2_strengthen h4 ?_
  intro p hp q hpq
  obtain ⟨k, te⟩ := p
  obtain ⟨k', te'⟩ := q
  obtain ⟨hk, hm⟩ := hpq
  refine ⟨hk, ?_⟩
  cases te with
  | concrete t => cases te' <;> exact hm
  | abstract_ a subs =>
    cases te' with
    | concrete t' => exact hm
    | abstract_ a' subs' =>
      simp only at hm ⊢
      obtain ⟨ha, m1, m2⟩ := hm
      refine ⟨ha, m1, ?_⟩
      intro c hc
      rcases m2 c hc with hcs | hcr
      · exact .inl hcs
      · exact .inl (hcov (c, k) hcr a subs (by rw [hA]; exact hp))

/-! ### whole loads -/

/-- same error, or same value and handler entries and schemas that differ in the order of implementer tables at most -/
def LoadEquiv (n : Nat) : M LoadResult → M LoadResult → Prop :=
  ExRel fun r r' => r'.value = r.value ∧ r'.handlers = r.handlers ∧ TabEq n r.schemaAfter r'.schemaAfter

theorem loadInit_sle (conv : Conv) (pkgs : Str → Pkg) (s : Schema) (regs : List (Str × Str)) (specs : List Str) :
    ExRel (PSR (LSRel (SLe s.types.length fun k c => (c, k) ∈ regs)))
      (loadInit conv pkgs s specs) (loadInit conv pkgs (s.withImplementers regs) specs) := by
  unfold loadInit loadBag
  rw [withImplementers_top]
  cases specs.mapM addOption with
  | error e => rfl
  | ok ov =>
    rw [ok_bind, ok_bind]
    cases (if ov.isEmpty = true then pure none else Except.map some (mkBag conv s.top ov) : M (Option Bag)) with
    | error e => rfl
    | ok bag =>
      refine ExRel.ok ⟨rfl, rfl, rfl, rfl, rfl, rfl, rfl, ?_, SLe.start s regs⟩
      cases bag with
      | none => exact True.intro
      | some b => exact (SLe.start s regs).gtEq

theorem loadFin_tabEq {n : Nat} (conv : Conv) (s s' : Schema) (htop : s'.top = s.top) (hh : s'.handler = s.handler)
    (ps ps' : PS LS) (h : PSR (LSRel (TabEq n)) ps ps') : LoadEquiv n (loadFin conv s ps.ctx) (loadFin conv s' ps'.ctx) := by
  obtain ⟨_, _, h1, h2, h3, h4, h5, _, hQ⟩ := h
  unfold loadFin LoadEquiv
  rw [h3, h2, htop, hh, finishMatcher_tabEq hQ]
  cases ps.ctx.stack with
  | nil => rfl
  | cons top rest =>
    cases rest with
    | cons x y => rfl
    | nil =>
      simp only
      cases finishMatcher conv ps.ctx.schema top with
      | error e => rfl
      | ok vh =>
        obtain ⟨v, hs⟩ := vh
        simp only [bind, Except.bind]
        cases conv.sect s.top.datatype v with
        | error e => rfl
        | ok v' => exact ⟨rfl, rfl, hQ⟩

theorem load_absorbs (conv : Conv) (env : Env) (pkgs : Str → Pkg) (s : Schema) (regs : List (Str × Str))
    (url : Option Str) (pre rest specs : List Str) (hpre : ∀ l ∈ pre, HeaderLine l)
    (hcov : ∀ ps0 st1, loadInit conv pkgs s specs = .ok ps0 →
      runLines 64 env loaderCtx (activeOf url) url pre 0 ps0 = .ok st1 →
      (s.withImplementers (linesStop 64 env (activeOf url) url pre 0 ps0).regs).withImplementers regs =
        s.withImplementers (linesStop 64 env (activeOf url) url pre 0 ps0).regs) :
    LoadEquiv s.types.length (load conv env pkgs s url (pre ++ rest) specs)
      (load conv env pkgs (s.withImplementers regs) url (pre ++ rest) specs) := by
  rw [load_eq_init, load_eq_init]
  refine (loadInit_sle conv pkgs s regs specs).bind' ?_
  intro ps0 ps0' hi0 _ h0
  rw [parseLines_append, parseLines_append]
  refine ExRel.bind (R := PSR (LSRel (TabEq s.types.length))) ?_ ?_
  · refine (header_simE 64 env (activeOf url) url pre 0 ps0 ps0' hpre h0).bind' ?_
    intro st1 st1' hr1 _ h1
    refine parse_simE (opsSimE_tabEq _) env 64 _ _ _ _ _ _ ⟨h1.1, h1.2.1, ?_⟩
    obtain ⟨e1, e2, e3, e4, e5, eB, hQ⟩ := h1.2.2
    refine ⟨e1, e2, e3, e4, e5, eB, hQ.collapse ?_⟩
    -- the first `n` entries of the fresh side's private schema are the application's entries after `pre`'s own calls
    obtain ⟨hs0, hp0⟩ := loadInit_ok conv pkgs s specs ps0 hi0
    have htr : Traced ps0.ctx.schema (linesStop 64 env (activeOf url) url pre 0 ps0) :=
      linesStop_inv (stopInv_traced pkgs) env 64 _ _ _ _ ps0 hp0
    have hsch := (linesStop_run_ok env 64 _ _ _ _ ps0 st1 hr1).1
    obtain ⟨⟨new, hn⟩, _, _⟩ := htr
    rw [hs0, hsch] at hn
    have htake : st1.ctx.schema.types.take s.types.length =
        (s.withImplementers (linesStop 64 env (activeOf url) url pre 0 ps0).regs).types := by
      rw [hn, withImplementers_types, List.take_left']
      simp
    have hc := (withImplementers_eq_self_iff _ _).mp (hcov ps0 st1 hi0 hr1)
    intro ia hia a subs hm
    rw [htake] at hm
    exact (regImpl_eq_self_iff _ ia).mp (hc ia hia) a subs hm
  · intro ps ps' hps
    exact loadFin_tabEq conv s _ (withImplementers_top _ _) (withImplementers_handler _ _) ps ps' hps

/-! ### when the head of the text makes the leaked calls again -/

theorem withImplementers_absorb (s : Schema) (R regs : List (Str × Str)) (h : ∀ ia ∈ regs, ia ∈ R) :
    (s.withImplementers R).withImplementers regs = s.withImplementers R := by
  rw [withImplementers_eq_self_iff]
  intro ia hia
  rw [regImpl_eq_self_iff]
  intro a subs hm
  rw [withImplementers_types] at hm
  obtain ⟨p, _, hpe⟩ := List.mem_map.mp hm
  obtain ⟨k, te⟩ := p
  cases te with
  | concrete t => rw [regEntries_concrete] at hpe; cases hpe
  | abstract_ a0 subs0 =>
    obtain ⟨add, he, _, h2, _⟩ := regEntries_abstract R k a0 subs0
    rw [he] at hpe
    simp only [Prod.mk.injEq, TypeEntry.abstract_.injEq] at hpe
    obtain ⟨hk, _, hsubs⟩ := hpe
    rw [← hsubs]
    apply h2
    rw [hk]
    exact h ia hia

end ZCV.Cfg
