import ZCV.Lemmas.Except
import ZCV.Lemmas.SlotAnswer
import ZCV.Lemmas.Lists
/-!
Small facts about single functions of the parser, matcher and loader models that several later files need:
surrounding whitespace, `keyValue`, `getsectioninfo` on abstract slots, `startSection` / `endSection` of the
loader context from the top of the matcher stack (`lsStart_eq`: `sectCheck`, then `bagStep`; `lsStop_eq`) with what a successful
call of the three callbacks has done, and the routing of a key (`route`).
-/
namespace ZCV.Cfg
open ZCV

/-! ### C15: surrounding whitespace -/

theorem lstrip_pad_left (ws l : Str) (h : ws.all pySpace = true) : lstrip (ws ++ l) = lstrip l :=
  List.dropWhile_append_of_pos (List.all_eq_true.mp h)

theorem rstrip_pad_right (l ws : Str) (h : ws.all pySpace = true) : rstrip (l ++ ws) = rstrip l := by
  unfold rstrip
  rw [List.reverse_append, List.dropWhile_append_of_pos (List.all_eq_true.mp (by simpa using h))]

theorem strip_pad (ws l ws' : Str) (h1 : ws.all pySpace = true) (h2 : ws'.all pySpace = true) :
    strip (ws ++ l ++ ws') = strip l :=
  stripP_pad pySpace ws l ws' h1 h2

/-! ### C08: positions -/

/-- the part of `keyValue` after the value has been computed -/
def kvCore {σ} (c : PCtx σ) (url : Option Str) (line : Nat) (key value : Str) (st : PS σ) : M (PS σ) :=
  match c.value st.ctx key value { line := line, url := url } with
  | .ok ctx1 => .ok { st with ctx := ctx1 }
  | .error (.cfg e) =>
    .error (.cfg { e with line := (match e.line with | some l => if l < 0 then some (line : Int) else some l | none => some (line : Int)),
                          url := (match e.url with | some u => if u == [] then url else some u | none => url) })
  | .error f => .error f

theorem keyValue_eq {σ} (env : Env) (c : PCtx σ) (url : Option Str) (line : Nat) (key raw : Str) (st : PS σ) :
    keyValue env c url line key raw st =
      ((if raw == [] then pure [] else replace env st.defs url line raw) >>= fun v => kvCore c url line key v st) := by
  unfold keyValue
  split <;> rfl

/-! ### C12: abstract slots -/

theorem go_abstract (s : Schema) (ty : Str) (name : Option Str) (si : SectInfo)
    (hconc : isAbstract s ty = false) (ha : isAbstract s si.ty = true) :
    ∀ (l : List (Option Str × Info)), getsectioninfo.go s ty name l = .ok si → isSubtype s si.ty ty = true := by
  intro l h
  rw [go_eq_answerAt] at h
  cases hf : l.find? (stopsAt s ty name) with
  | none => rw [hf] at h; cases h
  | some c =>
    rw [hf] at h
    have hst := List.find?_some hf
    obtain ⟨key, info⟩ := c
    unfold answerAt at h
    unfold stopsAt at hst
    cases he : effKey (key, info) <;> cases info <;> simp only [he] at h hst
    · cases h
    · rename_i si'
      by_cases h1 : (si'.ty == ty) = true
      · simp only [h1, if_true] at h
        split at h
        · -- the stopping slot's own type is concrete here, the answer's is abstract
          cases h
          rw [eq_of_beq h1, hconc] at ha
          cases ha
        · cases h
      · simp only [h1, Bool.false_eq_true, if_false, Except.ok.injEq] at h
        subst h
        exact (by simpa [h1] using hst : _ ∧ _).2
    · cases h
    · rename_i k si'
      by_cases h2 : isAbstract s si'.ty = true
      · simp only [h2, if_true] at h
        split at h
        · rename_i hsub; cases h; exact hsub
        · cases h
      · simp only [h2, Bool.false_eq_true, if_false] at h
        split at h
        · cases h
        · cases h; exact absurd ha h2

end ZCV.Cfg

namespace ZCV.Conf
open ZCV ZCV.Cfg

/-! ### `startSection`, `endSection` from the top of the matcher stack -/

/-- the checks of `lsStart` that depend on the parent's type only -/
def sectCheck (s : Schema) (pty : SType) (ty : Str) (nm : Option Str) : M SType :=
  match s.gettype ty with
  | none => .error (.cfg { kind := .schema, tag := "unknown type name" })
  | some (.abstract_ _ _) => .error (plainErr "concrete sections cannot match abstract section types")
  | some (.concrete t) =>
    match getsectioninfo s pty (t.name.getD []) nm with
    | .error e => .error e
    | .ok ci =>
      if !isAllowedName ci nm then .error (plainErr "not an allowed name")
      else if !(nm.isSome || allowUnnamed ci) then .error (plainErr "sections may not be unnamed")
      else .ok t

/-- what `lsStart` does with the parent's bag: (parent afterwards, bag of the child).  (`finishBagStep` of
    `MatcherSpec` is another function: one command-line value added by `finish_optionbag`.) -/
def bagStep (conv : Conv) (s : Schema) (m : Matcher) (ty : Str) (nm : Option Str) : M (Matcher × Option Bag) :=
  match m.bag with
  | none => .ok (m, none)
  | some b =>
    match bagSectionInfo conv s b ty nm with
    | .error e => .error e
    | .ok (b', cb) => .ok ({ m with bag := some b' }, cb)

theorem lsStart_eq (st : LS) (m : Matcher) (below : List Matcher) (hst : st.stack = m :: below) (ty : Str) (nm : Option Str) :
    lsStart st ty nm =
      match sectCheck st.schema m.ty ty nm with
      | .error e => .error e
      | .ok t =>
        match bagStep st.conv (st.bagSchema.getD st.schema) m (t.name.getD []) nm with
        | .error e => .error e
        | .ok (m1, cb) => .ok { st with stack := newMatcher t nm cb :: m1 :: below } := by
  unfold lsStart sectCheck bagStep
  rw [hst]
  dsimp only
  cases st.schema.gettype ty with
  | none => rfl
  | some te =>
    cases te with
    | abstract_ n subs => rfl
    | concrete t =>
      dsimp only [bind, Except.bind, pure, Except.pure, throw, throwThe, MonadExceptOf.throw]
      cases getsectioninfo st.schema m.ty (t.name.getD []) nm with
      | error e => rfl
      | ok ci =>
        dsimp only
        by_cases h1 : (!isAllowedName ci nm) = true
        · rw [if_pos h1, if_pos h1]
        · rw [if_neg h1, if_neg h1]
          by_cases h2 : (!(nm.isSome || allowUnnamed ci)) = true
          · rw [if_pos h2, if_pos h2]
          · rw [if_neg h2, if_neg h2]
            dsimp only
            cases m.bag with
            | none => rfl
            | some b =>
              dsimp only
              cases bagSectionInfo st.conv (st.bagSchema.getD st.schema) b (t.name.getD []) nm with
              | error e => rfl
              | ok bc => rfl

theorem sectCheck_ok_inv {s : Schema} {pty t : SType} {ty : Str} {nm : Option Str} (h : sectCheck s pty ty nm = .ok t) :
    s.gettype ty = some (.concrete t) ∧ ∃ ci, getsectioninfo s pty (t.name.getD []) nm = .ok ci ∧
      isAllowedName ci nm = true ∧ (nm.isSome || allowUnnamed ci) = true := by
  unfold sectCheck at h
  cases ht : s.gettype ty with
  | none => rw [ht] at h; cases h
  | some te =>
    rw [ht] at h
    cases te with
    | abstract_ n subs => cases h
    | concrete t0 =>
      dsimp only at h
      cases hci : getsectioninfo s pty (t0.name.getD []) nm with
      | error e => rw [hci] at h; cases h
      | ok ci =>
        rw [hci] at h
        dsimp only at h
        by_cases h1 : (!isAllowedName ci nm) = true
        · rw [if_pos h1] at h; cases h
        rw [if_neg h1] at h
        by_cases h2 : (!(nm.isSome || allowUnnamed ci)) = true
        · rw [if_pos h2] at h; cases h
        rw [if_neg h2] at h
        cases h
        exact ⟨rfl, ci, hci, by simpa only [Bool.not_eq_true', Bool.not_eq_false] using h1,
          by simpa only [Bool.not_eq_true', Bool.not_eq_false] using h2⟩

theorem bagStep_ok_inv {conv : Conv} {s : Schema} {m m1 : Matcher} {ty : Str} {nm : Option Str} {cb : Option Bag}
    (h : bagStep conv s m ty nm = .ok (m1, cb)) : ∃ pb, m1 = { m with bag := pb } := by
  unfold bagStep at h
  cases hb : m.bag with
  | none => rw [hb] at h; cases h; exact ⟨m.bag, rfl⟩
  | some b =>
    rw [hb] at h
    dsimp only at h
    cases hbs : bagSectionInfo conv s b ty nm with
    | error e => rw [hbs] at h; cases h
    | ok bc => rw [hbs] at h; cases h; exact ⟨_, rfl⟩

theorem lsStop_eq (st : LS) (child parent : Matcher) (below : List Matcher) (ty : Str) (nm : Option Str)
    (hst : st.stack = child :: parent :: below) :
    lsStop st ty nm =
      match finishMatcher st.conv st.schema child with
      | .error e => .error e
      | .ok (v, hs) =>
        (addSection st.schema parent ty nm v).map fun p' =>
          { st with stack := p' :: below, handlers := st.handlers ++ hs } := by
  unfold lsStop
  rw [hst]
  dsimp only
  cases finishMatcher st.conv st.schema child with
  | error e => rfl
  | ok vh => cases addSection st.schema parent ty nm vh.1 <;> rfl

theorem lsStop_short (st : LS) (ty : Str) (nm : Option Str) (h : ∀ c p b, st.stack ≠ c :: p :: b) :
    lsStop st ty nm = .error (.internal "IndexError") := by
  unfold lsStop
  split
  · rename_i c p b hst; exact absurd hst (h c p b)
  · rfl

end ZCV.Conf

namespace ZCV.Cfg
open ZCV ZCV.Conf

/-! ### what a successful call of the three callbacks has done; C13: it changes the matcher stack (and `endSection` the handlers) only -/

/-- a successful `startSection`: a fresh matcher for the concrete type sits on the parent, whose option bag has handed
    down (`cb`) what concerns the new section -/
theorem lsStart_inv {st st' : LS} {ty : Str} {nm : Option Str} (h : lsStart st ty nm = .ok st') :
    ∃ parent below t ci cb pb, st.stack = parent :: below ∧ st.schema.gettype ty = some (.concrete t) ∧
      getsectioninfo st.schema parent.ty (t.name.getD []) nm = .ok ci ∧ isAllowedName ci nm = true ∧
      (nm.isSome || allowUnnamed ci) = true ∧
      st' = { st with stack := newMatcher t nm cb :: { parent with bag := pb } :: below } := by
  cases hst : st.stack with
  | nil => unfold lsStart at h; rw [hst] at h; cases h
  | cons parent below =>
    rw [lsStart_eq st parent below hst] at h
    cases hc : sectCheck st.schema parent.ty ty nm with
    | error e => rw [hc] at h; cases h
    | ok t =>
      rw [hc] at h
      dsimp only at h
      obtain ⟨ht, ci, hci, h1, h2⟩ := sectCheck_ok_inv hc
      cases hb : bagStep st.conv (st.bagSchema.getD st.schema) parent (t.name.getD []) nm with
      | error e => rw [hb] at h; cases h
      | ok mc =>
        obtain ⟨m1, cb⟩ := mc
        rw [hb] at h
        obtain ⟨pb, rfl⟩ := bagStep_ok_inv hb
        cases h
        exact ⟨parent, below, t, ci, cb, pb, rfl, ht, hci, h1, h2, rfl⟩

/-- a successful `endSection`: the child is finished and its value added to the parent -/
theorem lsStop_inv {st st' : LS} {ty : Str} {nm : Option Str} (h : lsStop st ty nm = .ok st') :
    ∃ child parent below v hs parent', st.stack = child :: parent :: below ∧
      finishMatcher st.conv st.schema child = .ok (v, hs) ∧ addSection st.schema parent ty nm v = .ok parent' ∧
      st' = { st with stack := parent' :: below, handlers := st.handlers ++ hs } := by
  match hst : st.stack with
  | child :: parent :: below =>
    rw [lsStop_eq st child parent below ty nm hst] at h
    cases hf : finishMatcher st.conv st.schema child with
    | error e => rw [hf] at h; cases h
    | ok vh =>
      rw [hf] at h
      obtain ⟨p', hp, rfl⟩ := map_ok_inv h
      exact ⟨child, parent, below, vh.1, vh.2, p', rfl, hf, hp, rfl⟩
  | [] => rw [lsStop_short st ty nm (fun _ _ _ e => by rw [hst] at e; cases e)] at h; cases h
  | [_] => rw [lsStop_short st ty nm (fun _ _ _ e => by rw [hst] at e; cases e)] at h; cases h

theorem lsValue_inv {st st' : LS} {k v : Str} {p : Pos} (h : lsValue st k v p = .ok st') :
    ∃ cur below m, st.stack = cur :: below ∧ addValue st.conv cur k v p = .ok m ∧
      st' = { st with stack := m :: below } := by
  unfold lsValue at h
  split at h
  · rename_i cur below hst
    obtain ⟨m, hm, rfl⟩ := map_ok_inv h
    exact ⟨cur, below, m, hst, hm, rfl⟩
  · cases h

theorem lsStart_frame (st st' : LS) (ty : Str) (nm : Option Str) (h : lsStart st ty nm = .ok st') :
    st' = { st with stack := st'.stack } := by
  obtain ⟨_, _, _, _, _, _, _, _, _, _, _, rfl⟩ := lsStart_inv h
  rfl

theorem lsStop_frame (st st' : LS) (ty : Str) (nm : Option Str) (h : lsStop st ty nm = .ok st') :
    st' = { st with stack := st'.stack, handlers := st'.handlers } := by
  obtain ⟨_, _, _, _, _, _, _, _, _, rfl⟩ := lsStop_inv h
  rfl

theorem lsValue_frame (st st' : LS) (k v : Str) (p : Pos) (h : lsValue st k v p = .ok st') :
    st' = { st with stack := st'.stack } := by
  obtain ⟨_, _, _, _, _, rfl⟩ := lsValue_inv h
  rfl

/-! ### C01: which child a key line goes to -/

/-- declarative routing: the child with exactly this key if there is one, else the last wildcard (`+`) key -/
def route (children : List (Option Str × Info)) (rk : Str) : Option (Option Str × Info) :=
  match children.find? (fun c => c.1 == some rk) with
  | some c => some c
  | none => (children.filter (fun c => c.2.name == ['+'] && !c.2.isSection)).getLast?

/-- the loop remembers the last wildcard key seen (`arb`) and stops at an exact match -/
theorem search_gen (rk : Str) : ∀ (children : List (Option Str × Info)) (arb : Option (Option Str × Info)),
    addValueCore.search rk children arb =
      (children.find? (fun c => c.1 == some rk)).or
        (((children.filter (fun c => c.2.name == ['+'] && !c.2.isSection)).getLast?).or arb) := by
  intro children
  induction children with
  | nil => intro arb; rfl
  | cons c rest ih =>
    intro arb
    obtain ⟨k, ci⟩ := c
    rw [addValueCore.search, List.find?_cons, List.filter_cons]
    by_cases hk : (k == some rk) = true
    · rw [if_pos hk]
      dsimp only
      rw [hk]; rfl
    · rw [if_neg hk]
      dsimp only
      rw [Bool.eq_false_iff.2 hk]
      by_cases hw : (ci.name == ['+'] && !ci.isSection) = true
      · rw [if_pos hw, if_pos hw, ih, List.getLast?_cons]
        cases (List.filter (fun c => c.2.name == ['+'] && !c.2.isSection) rest).getLast? <;> rfl
      · rw [if_neg hw, if_neg hw, ih]

theorem search_eq_route (children : List (Option Str × Info)) (rk : Str) :
    addValueCore.search rk children none = route children rk := by
  rw [search_gen, route, Option.or_none]
  cases children.find? (fun c => c.1 == some rk) <;> rfl

theorem addValueCore_unknown_rejected (m : Matcher) (key rk v : Str) (pos : Pos) (h : route m.ty.children rk = none) :
    ∃ e, addValueCore m key rk v pos = .error (.cfg e) ∧ e.kind = .plain := by
  unfold addValueCore
  rw [search_eq_route, h]
  exact ⟨_, rfl, rfl⟩

end ZCV.Cfg
