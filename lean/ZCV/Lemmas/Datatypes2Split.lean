import ZCV.Lemmas.Datatypes2Int
/-! `str.split()` (`splitWS`, the `string-list` datatype) against the grammar `DTSpec.Words`. -/
namespace ZCV.DT
open ZCV ZCV.DTSpec

theorem dt2_splitAux_space (g x : Str) (h : AllSpace g) : splitWSAux [] (g ++ x) = splitWSAux [] x := by
  induction g with
  | nil => rfl
  | cons c t ih =>
    have hc : pySpace c = true := h c (by simp)
    rw [List.cons_append, splitWSAux, if_pos hc, if_pos (by rfl)]
    exact ih (fun d hd => h d (List.mem_cons_of_mem _ hd))

theorem dt2_splitAux_word (w rest cur : Str) (h : NoSpace w) :
    splitWSAux cur (w ++ rest) = splitWSAux (w.reverse ++ cur) rest := by
  induction w generalizing cur with
  | nil => rfl
  | cons c t ih =>
    have hc : pySpace c = false := h c (by simp)
    rw [List.cons_append, splitWSAux, hc, if_neg (by simp), ih _ (fun d hd => h d (List.mem_cons_of_mem _ hd))]
    simp

theorem dt2_splitAux_end (cur rest : Str) (hcur : cur ≠ [])
    (hr : rest = [] ∨ ∃ c t, rest = c :: t ∧ pySpace c = true) :
    splitWSAux cur rest = cur.reverse :: splitWSAux [] rest := by
  have hne : (cur == []) = false := by simpa using hcur
  rcases hr with rfl | ⟨c, t, rfl, hc⟩
  · simp [splitWSAux, hne]
  · rw [splitWSAux, if_pos hc, hne, splitWSAux, if_pos hc]
    simp

theorem dt2_splitWS_step (g w rest : Str) (hg : AllSpace g) (hw : w ≠ []) (hn : NoSpace w)
    (hr : rest = [] ∨ ∃ c t, rest = c :: t ∧ pySpace c = true) :
    splitWS (g ++ w ++ rest) = w :: splitWS rest := by
  unfold splitWS
  rw [List.append_assoc, dt2_splitAux_space _ _ hg, dt2_splitAux_word _ _ _ hn,
    dt2_splitAux_end _ _ (by simpa using hw) hr]
  simp

theorem dt2_splitWS_allSpace (g : Str) (hg : AllSpace g) : splitWS g = [] := by
  have := dt2_splitAux_space g [] hg
  rw [List.append_nil] at this
  unfold splitWS; rw [this]; rfl

theorem dt2_words_splitWS (s : Str) (ws : List Str) (h : Words s ws) : splitWS s = ws := by
  induction h with
  | nil g hg => exact dt2_splitWS_allSpace g hg
  | word g w rest ws hg hw hn hr _ ih => rw [dt2_splitWS_step g w rest hg hw hn hr, ih]

theorem dt2_words_exist : ∀ (n : Nat) (s : Str), s.length ≤ n → Words s (splitWS s) := by
  intro n
  induction n with
  | zero =>
    intro s hs
    have : s = [] := List.eq_nil_of_length_eq_zero (by omega)
    subst this
    exact Words.nil [] (fun c hc => by simp at hc)
  | succ n ih =>
    intro s hs
    obtain ⟨g, r, rfl, hg, hr⟩ := span_stop pySpace s
    rcases hr with rfl | ⟨a, t, rfl, ha⟩
    · rw [List.append_nil, dt2_splitWS_allSpace g hg]; exact Words.nil g hg
    · obtain ⟨w, rest, hwr, hw, hrest⟩ := span_stop (fun c => !pySpace c) (a :: t)
      have hn : NoSpace w := fun c hc => by simpa using hw c hc
      have hne : w ≠ [] := by
        rintro rfl
        rcases hrest with rfl | ⟨c, r', rfl, hc⟩
        · cases hwr
        · cases hwr; simp [ha] at hc
      have hr' : rest = [] ∨ ∃ c t', rest = c :: t' ∧ pySpace c = true :=
        hrest.imp id fun ⟨c, t', e, hc⟩ => ⟨c, t', e, by simpa using hc⟩
      have hlen : rest.length ≤ n := by
        have := congrArg List.length hwr
        have := List.length_pos_iff.mpr hne
        simp only [List.length_append, List.length_cons] at *
        omega
      rw [hwr, ← List.append_assoc, dt2_splitWS_step g w rest hg hne hn hr']
      exact Words.word g w rest (splitWS rest) hg hne hn hr' (ih rest hlen)

/-- `split()`: the result is the word decomposition of the text, and the only one -/
theorem dt2_splitWS_iff (s : Str) (ws : List Str) : Words s ws ↔ splitWS s = ws := by
  constructor
  · exact dt2_words_splitWS s ws
  · rintro rfl; exact dt2_words_exist s.length s (Nat.le_refl _)

theorem dt2_words_elems (s : Str) (ws : List Str) (h : Words s ws) : ∀ w ∈ ws, w ≠ [] ∧ NoSpace w := by
  induction h with
  | nil g hg => intro w hw; simp at hw
  | word g w rest ws hg hw hn hr _ ih =>
    intro x hx
    rcases List.mem_cons.mp hx with rfl | hx
    · exact ⟨hw, hn⟩
    · exact ih x hx

theorem dt2_filter_allSpace (g : Str) (h : AllSpace g) : g.filter (fun c => !pySpace c) = [] := by
  rw [List.filter_eq_nil_iff]
  intro c hc
  simp [h c hc]

theorem dt2_filter_noSpace (w : Str) (h : NoSpace w) : w.filter (fun c => !pySpace c) = w := by
  rw [List.filter_eq_self]
  intro c hc
  simp [h c hc]

theorem dt2_words_flatten (s : Str) (ws : List Str) (h : Words s ws) :
    ws.flatten = s.filter (fun c => !pySpace c) := by
  induction h with
  | nil g hg => rw [dt2_filter_allSpace g hg]; rfl
  | word g w rest ws hg hw hn hr _ ih =>
    rw [List.filter_append, List.filter_append, dt2_filter_allSpace g hg, dt2_filter_noSpace w hn, ← ih]
    simp

end ZCV.DT
