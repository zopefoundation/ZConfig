import ZCV.Spec.Edit
import ZCV.Lemmas.Position
import ZCV.Lemmas.MatcherSpec
import ZCV.Lemmas.OverrideEval
import ZCV.Lemmas.SlotsImport
import ZCV.Lemmas.Lits
/-!
C08 for the schema-driven loader (`loaderCtx`): which errors its callbacks raise and which position and text they carry.
`addValue` fails with a key that cannot be converted (the error carries the key text and the position handed in) or with a plain
error without position; the conversion errors of `finish()`/`constuct()` are about a value held by the matcher (text and position
of that value), a schema default, a command-line override or the section datatype (`ConvAbout`); the loader stores only the
`(text, position)` pairs `addValue` hands it (`records_loader`).  Hence what the error that ends the loader's parse at the culprit
line carries (`LoaderConv` for a conversion error, `loader_lineErr_position` for any other), and where the configuration errors
of a whole `load` come from: the command line, the parse, or the final `finish()` of the top-level section (`load_error`).  A
schema argument `s` that a statement does not mention is the one `slotFits` of `ZCV.Lemmas.MatcherSpec` is relative to, and is
arbitrary.
-/
namespace ZCV.Cfg
open ZCV ZCV.Conf

/-! ### the `(text, position)` pairs a matcher holds -/

def matcherVIs (m : Matcher) : List VI := m.values.flatMap fun p => slotVIs p.2

/-- the loader holds text `v` with position `p` in one of its open sections -/
def RecLS (s : LS) (v : Str) (p : Pos) : Prop := ∃ m ∈ s.stack, ({ value := v, pos := p } : VI) ∈ matcherVIs m

theorem mem_matcherVIs_setSlot (m : Matcher) (attr : Str) (s : Slot) (vi : VI)
    (h : vi ∈ matcherVIs (setSlot m attr s)) : vi ∈ matcherVIs m ∨ vi ∈ slotVIs s := by
  unfold matcherVIs setSlot at h
  simp only [List.mem_flatMap, List.mem_map] at h
  obtain ⟨p, ⟨q, hq, rfl⟩, hv⟩ := h
  split at hv
  · exact .inr hv
  · exact .inl (by unfold matcherVIs; exact List.mem_flatMap.mpr ⟨q, hq, hv⟩)

theorem getSlot_mem (m : Matcher) (attr : Str) (sl : Slot) (vi : VI) (h : getSlot m attr = some sl) (hv : vi ∈ slotVIs sl) :
    vi ∈ matcherVIs m := by
  unfold getSlot at h
  cases hf : m.values.find? (·.1 == attr) with
  | none => rw [hf] at h; cases h
  | some p =>
    rw [hf] at h
    cases h
    exact List.mem_flatMap.mpr ⟨p, List.mem_of_find?_eq_some hf, hv⟩

theorem matcherVIs_newMatcher (t : SType) (nm : Option Str) (b : Option Bag) : matcherVIs (newMatcher t nm b) = [] := by
  unfold matcherVIs newMatcher
  simp only [List.flatMap_map, List.flatMap_eq_nil_iff]
  intro c _
  unfold initSlot
  cases c.2 with
  | key k => dsimp only; split <;> split <;> rfl
  | sect s => dsimp only; split <;> rfl

/-- `addValue` (matcher level) adds at most the pair it is given, and keeps the matcher's type; its errors are plain -/
theorem addValueCore_holds (s : Schema) (m : Matcher) (key rk v : Str) (pos : Pos) :
    Ends (addValueCore m key rk v pos)
      (fun m' => m'.ty = m.ty ∧ ∀ w ∈ matcherVIs m', w ∈ matcherVIs m ∨ w = { value := v, pos := pos })
      (CfgIs PlainNoPos) :=
  addValueCore_ends m key rk v pos (fun tag => Plain.cfgIs ⟨tag, rfl⟩) (fun _ _ _ _ => .internal _ _)
    fun _ ki sl _ hsl => (slotStep_ends s ki _ rk _ sl).mono
      (fun _ hr => ⟨rfl, fun w hw => (mem_matcherVIs_setSlot _ _ _ _ hw).elim .inl
        fun h => (hr.2 w h).imp_left (getSlot_mem _ _ _ _ hsl)⟩)
      fun _ h => h.cfgIs

/-- `addValue` as the loader offers it: the state afterwards holds what it held, and at most the pair handed in; the key
    cannot be converted (the error carries the key text and the position handed in), or the error is plain and carries no
    position -/
theorem lsValue_ends (st : LS) (key value : Str) (pos : Pos) :
    Ends (lsValue st key value pos) (fun st' => ∀ v p, RecLS st' v p → RecLS st v p ∨ (v = value ∧ p = pos))
      (CfgIs fun e => (e.kind = .conversion ∧ e.value = some key ∧ e.line = some pos.line ∧ e.url = pos.url) ∨
        PlainNoPos e) := by
  unfold lsValue
  cases hst : st.stack with
  | nil => exact .error (.internal _ _)
  | cons cur below =>
    have lift : ∀ m' : Matcher, (∀ w ∈ matcherVIs m', w ∈ matcherVIs cur ∨ w = { value := value, pos := pos }) →
        ∀ v p, RecLS { st with stack := m' :: below } v p → RecLS st v p ∨ (v = value ∧ p = pos) := by
      intro m' hm' v p ⟨m, hm, hv⟩
      rcases List.mem_cons.mp hm with rfl | hm
      · rcases hm' _ hv with h | h
        · exact .inl ⟨cur, by rw [hst]; exact List.mem_cons_self, h⟩
        · cases h; exact .inr ⟨rfl, rfl⟩
      · exact .inl ⟨m, by rw [hst]; exact List.mem_cons_of_mem _ hm, hv⟩
    exact .map (addValue_ends st.conv cur key value pos (fun _ h => h.cfgIs.mono fun _ => .inl)
      (fun _ => lift cur fun _ hw => .inl hw)
      fun rk => (addValueCore_holds st.schema cur key rk value pos).mono (fun m' h => lift m' h.2)
        fun _ h => h.mono fun _ => .inr)

theorem lsValue_error (st : LS) (key value : Str) (pos : Pos) (e : Err) (h : lsValue st key value pos = .error (.cfg e)) :
    (e.kind = .conversion ∧ e.value = some key ∧ e.line = some pos.line ∧ e.url = pos.url) ∨ PlainNoPos e :=
  (lsValue_ends st key value pos).of_error h e rfl

/-! ### `startSection`, `endSection` store nothing; the errors of `importSchemaComponent` -/

/-- `startSection` stores nothing: the new matcher is empty, the parent keeps its slots -/
theorem lsStart_ok_rec (st st' : LS) (ty : Str) (nm : Option Str) (h : lsStart st ty nm = .ok st') (v : Str) (p : Pos)
    (hr : RecLS st' v p) : RecLS st v p := by
  obtain ⟨parent, below, t, _, cb, pb, hst, _, _, _, _, rfl⟩ := lsStart_inv h
  obtain ⟨m, hm, hv⟩ := hr
  rcases List.mem_cons.mp hm with rfl | hm
  · rw [matcherVIs_newMatcher] at hv; cases hv
  · rcases List.mem_cons.mp hm with rfl | hm
    · exact ⟨parent, by rw [hst]; exact List.mem_cons_self, hv⟩
    · exact ⟨m, by rw [hst]; exact List.mem_cons_of_mem _ hm, hv⟩

/-- `addSection` stores no text; its errors are plain -/
theorem addSection_holds (s : Schema) (m : Matcher) (ty : Str) (name : Option Str) (v : Val) :
    Ends (addSection s m ty name v) (fun m' => ∀ w ∈ matcherVIs m', w ∈ matcherVIs m) (CfgIs PlainNoPos) := by
  rw [addSection_split]
  refine ((addSectionName_ends m name).fails fun _ h => h.cfgIs).bind fun m1 ⟨used, h1⟩ => ?_
  subst h1
  unfold addSectionPlace
  refine ((getsectioninfo_ends s _ ty name).fails fun _ h => h.cfgIs).bind fun ci _ => ?_
  cases getSlot _ ci.attr with
  | none => exact .error (.internal _ _)
  | some sl =>
    exact .map ((sectStep_ends s ci v sl).mono
      (fun r hr w hw => (mem_matcherVIs_setSlot _ _ _ _ hw).elim id fun h => by rw [hr.2] at h; cases h) fun _ h => h.cfgIs)

/-- `endSection` stores nothing; a conversion error of it is a conversion error of `finish()`/`constuct()` on the section
    being closed -/
theorem lsStop_ends (st : LS) (ty : Str) (nm : Option Str) :
    Ends (lsStop st ty nm) (fun st' => ∀ v p, RecLS st' v p → RecLS st v p)
      (CfgIs fun e => e.kind = .conversion → ∃ child parent below, st.stack = child :: parent :: below ∧
        finishMatcher st.conv st.schema child = .error (.cfg e)) := by
  match hst : st.stack with
  | child :: parent :: below =>
    rw [lsStop_eq st child parent below ty nm hst]
    cases hf : finishMatcher st.conv st.schema child with
    | error f => exact .error fun e he _ => ⟨child, parent, below, rfl, he ▸ hf⟩
    | ok r =>
      obtain ⟨val, hs⟩ := r
      refine .map ((addSection_holds st.schema parent ty nm val).mono (fun p' hp' v p ⟨m, hm, hv⟩ => ?_)
        fun f h e he hk => ?_)
      · rcases List.mem_cons.mp hm with rfl | hm
        · exact ⟨parent, by rw [hst]; simp, hp' _ hv⟩
        · exact ⟨m, by rw [hst]; simp [hm], hv⟩
      · rw [(h e he).1] at hk
        cases hk
  | [] => rw [lsStop_short st ty nm fun _ _ _ e => by rw [hst] at e; cases e]; exact .error (.internal _ _)
  | [_] => rw [lsStop_short st ty nm fun _ _ _ e => by rw [hst] at e; cases e]; exact .error (.internal _ _)

theorem lsImport_error (st : LS) (pkg : Str) (e : Err) (h : lsImport st pkg = .error (.cfg e)) :
    e.kind = .schema ∨ e.kind = .schemaResource := by
  rw [lsImport_eq] at h
  have h := map_error_inv h
  cases hp : st.pkgs pkg with
  | component url types impls =>
    rw [hp] at h
    simp only [importSchema] at h
    split at h
    · cases h
    · split at h
      · cases h
      · cases h; exact .inl rfl
  | notImportable | notPackage | noComponent => rw [hp] at h; cases h; exact .inr rfl
  | illegalName => rw [hp] at h; cases h; exact .inl rfl

/-! ### the conversion errors of `finish()` / `constuct()` -/

/-- what a conversion error of `finish()`/`constuct()` is about -/
inductive ConvAbout (held : List VI) (dflts : List VI) (e : Err) : Prop
  /-- a value the matcher holds: the error carries its text and its position -/
  | held (w : VI) (hw : w ∈ held) (hv : e.value = some w.value) (hl : e.line = some w.pos.line) (hu : e.url = w.pos.url)
  /-- a default of the schema: the error carries its text and its position (in the schema) -/
  | dflt (w : VI) (hw : w ∈ dflts) (hv : e.value = some w.value) (hl : e.line = some w.pos.line) (hu : e.url = w.pos.url)
  /-- the section datatype refused the finished section: no text, no position -/
  | sect (hv : e.value = none) (hl : e.line = some (-1)) (hu : e.url = none)
  /-- a command-line override: its text, the pseudo position of the command line -/
  | cmd (hv : e.value.isSome = true) (hl : e.line = some (-1)) (hu : e.url = some "<command-line option>".toList)

/-- the defaults the schema gives the keys of a section type -/
def typeDflts (t : SType) : List VI :=
  t.children.flatMap fun c => match c.2 with | .key ki => dfltVIs ki.dflt | .sect _ => []

/-- the configuration errors of `finish_optionbag` -/
def CmdErr (e : Err) : Prop :=
  (e.kind = .conversion ∧ e.value.isSome = true ∧ e.line = some (-1) ∧ e.url = some "<command-line option>".toList) ∨
  PlainNoPos e

/-- `finish_optionbag`: the matcher afterwards holds what it held plus command-line values; its errors are those of the
    command line -/
theorem finishBag_spec (s : Schema) (conv : Conv) (m0 : Matcher) :
    Ends (finishBag conv m0) (fun m => m.ty = m0.ty ∧ ∀ w ∈ matcherVIs m, w ∈ matcherVIs m0 ∨ w.pos = cmdPos)
      (CfgIs CmdErr) := by
  rw [finishBag_eq]
  cases m0.bag with
  | none => exact .ok ⟨rfl, fun _ hw => .inl hw⟩
  | some b =>
    have step : ∀ k (m : Matcher) v, (m.ty = m0.ty ∧ ∀ w ∈ matcherVIs m, w ∈ matcherVIs m0 ∨ w.pos = cmdPos) →
        Ends (finishBagStep conv k m v) (fun m => m.ty = m0.ty ∧ ∀ w ∈ matcherVIs m, w ∈ matcherVIs m0 ∨ w.pos = cmdPos)
          (CfgIs CmdErr) := by
      intro k m v hm
      unfold finishBagStep
      cases conv.key m.ty.keytype k with
      | error ce => exact .error ((ConvFail.cfgIs ⟨ce, _, rfl⟩).mono fun _ h => .inl ⟨h.1, by rw [h.2.1]; rfl, h.2.2⟩)
      | ok rk =>
        exact (addValueCore_holds s m k rk v cmdPos).mono
          (fun m' h => ⟨h.1.trans hm.1, fun w hw => (h.2 w hw).elim (hm.2 w) fun h' => .inr (by rw [h'])⟩)
          fun _ h => h.mono fun _ => .inr
    refine (Ends.foldlM (I := fun m => m.ty = m0.ty ∧ ∀ w ∈ matcherVIs m, w ∈ matcherVIs m0 ∨ w.pos = cmdPos)
      ⟨rfl, fun _ hw => .inl hw⟩ fun m kv _ hm => .foldlM hm fun m' v _ hm' => step kv.1 m' v hm').bind fun m' hm' => ?_
    exact .ite (fun _ => .error ((Plain.cfgIs ⟨_, rfl⟩).mono fun _ => .inr)) fun _ => .ok hm'

theorem fin1_ends (s : Schema) (m : Matcher) (c : Option Str × Info) :
    Ends (fin1 m c)
      (fun p => p.1 = c.2 ∧ ∀ w ∈ slotVIs p.2, w ∈ matcherVIs m ∨ w ∈ c.2.dflts)
      (CfgIs PlainNoPos) := by
  unfold fin1
  cases hsl : getSlot m c.2.attr with
  | none => exact .error (.internal _ _)
  | some sl =>
    exact .map ((finishChild_ends s c.2 sl).mono
      (fun r hr => ⟨rfl, fun w hw => (hr.2 w hw).imp_left (getSlot_mem _ _ _ _ hsl)⟩) fun _ h => h.cfgIs)

theorem mem_typeDflts (t : SType) (c : Option Str × Info) (hc : c ∈ t.children) (w : VI) (hw : w ∈ c.2.dflts) :
    w ∈ typeDflts t := by
  refine List.mem_flatMap.mpr ⟨c, hc, ?_⟩
  revert hw
  cases c.2 <;> exact id

/-- `finish()`/`constuct()` only raises plain errors without position and conversion errors; a conversion error on matcher
    `m0` is about a value the matcher holds (and then carries the text and the position stored with that value), about a
    default of the schema, about the section datatype, or about a command-line override -/
theorem finishMatcher_ends (conv : Conv) (s : Schema) (m0 : Matcher) :
    Ends (finishMatcher conv s m0) (fun _ => True)
      (CfgIs fun e => (e.kind = .conversion ∧ ConvAbout (matcherVIs m0) (typeDflts m0.ty) e) ∨ PlainNoPos e) := by
  rw [finishMatcher_eq_bag]
  refine ((finishBag_spec s conv m0).fails fun f h => h.mono fun e he => ?_).bind fun m ⟨hty, hvis⟩ => ?_
  · exact he.imp_left fun h => ⟨h.1, .cmd h.2.1 h.2.2.1 h.2.2.2⟩
  unfold finishMatcher'
  refine ((Ends.mapM fun c _ => fin1_ends s m c).fails fun _ h => h.mono fun _ => .inr).bind fun slots hslots => ?_
  refine (Ends.mapM_fails fun p hp => ?_).bind fun _ _ => .ok trivial
  obtain ⟨c, hc, hp1, hp2⟩ := hslots p hp
  refine .map ((constructChild_ends conv s p.1 p.2).mono (fun _ _ => trivial) fun f hf e he => .inl ?_)
  subst he
  rcases hf with ⟨w, hw, h⟩ | h | ⟨⟨_, h⟩, _⟩
  · obtain ⟨hk, hv, hl, hu⟩ := h.cfgIs e rfl
    have hdf : w ∈ c.2.dflts → ConvAbout (matcherVIs m0) (typeDflts m0.ty) e :=
      fun hwd => .dflt w (mem_typeDflts _ c (hty ▸ hc) w hwd) hv hl hu
    refine ⟨hk, ?_⟩
    rcases hw with hw | hw
    · rcases hp2 w hw with h3 | h3
      · rcases hvis w h3 with h4 | h4
        · exact .held w h4 hv hl hu
        · exact .cmd (by rw [hv]; rfl) (by rw [hl, h4]; rfl) (by rw [hu, h4]; rfl)
      · exact hdf h3
    · exact hdf (hp1 ▸ hw)
  · obtain ⟨hk, hv, hl, hu⟩ := h.cfgIs e rfl
    exact ⟨hk, .sect hv hl hu⟩
  · cases h

theorem finishMatcher_conversion (conv : Conv) (s : Schema) (m0 : Matcher) (e : Err)
    (h : finishMatcher conv s m0 = .error (.cfg e)) (hk : e.kind = .conversion) :
    ConvAbout (matcherVIs m0) (typeDflts m0.ty) e := by
  rcases (finishMatcher_ends conv s m0).of_error h e rfl with h1 | h1
  · exact h1.2
  · rw [h1.1] at hk; cases hk

theorem finishMatcher_error (conv : Conv) (s : Schema) (m0 : Matcher) (e : Err)
    (h : finishMatcher conv s m0 = .error (.cfg e)) : e.kind = .conversion ∨ PlainNoPos e :=
  ((finishMatcher_ends conv s m0).of_error h e rfl).imp_left And.left

theorem records_loader : Records loaderCtx RecLS where
  start := fun s ty nm s' v p h hr => lsStart_ok_rec s s' ty nm h v p hr
  stop := fun s ty nm s' v p h hr => (lsStop_ends s ty nm).of_ok h v p hr
  imp := fun s pkg s' v p h hr => by
    have := (lsImport_frame s s' pkg h).1
    unfold RecLS at hr ⊢
    rw [this] at hr
    exact hr
  value := fun s k w q s' v p h hr => (lsValue_ends s k w q).of_ok h v p hr

/-! ### conversion errors of a whole parse driven by the loader -/

def fixLine (n : Nat) (l : Int) : Int := if l < 0 then (n : Int) else l
def fixUrl (u : Option Str) (x : Option Str) : Option Str :=
  match x with
  | some v => if v == [] then u else some v
  | none => u

theorem fixPos_line_eq (url : Option Str) (line : Nat) (e : Err) (l : Int) (h : e.line = some l) :
    (fixPos url line e).line = some (fixLine line l) := by
  unfold fixPos fixLine
  simp only [h]
  split <;> rfl

theorem fixPos_url_eq (url : Option Str) (line : Nat) (e : Err) : (fixPos url line e).url = fixUrl url e.url := rfl

theorem fixLine_nonneg (n : Nat) (l : Int) (h : 0 ≤ l) : fixLine n l = l := by
  unfold fixLine
  rw [if_neg (by omega)]

/-- what a conversion error that ends the loader's parse at line `n` of resource `u` (parser state `sF`) is about, and what it
    carries -/
inductive LoaderConv (u : Option Str) (n : Nat) (sF : PS LS) (e : Err) : Prop
  /-- the key of the culprit line cannot be converted: the key text, this line, this resource -/
  | key (key v : Str) (h : lsValue sF.ctx key v { line := n, url := u } = .error (.cfg e))
      (hv : e.value = some key) (hl : e.line = some (n : Int)) (hu : e.url = u)
  /-- a value held by an open section cannot be converted when the section closes on the culprit line: the text of the value
      and the position stored with it -/
  | held (w : VI) (hr : RecLS sF.ctx w.value w.pos)
      (hv : e.value = some w.value) (hl : e.line = some (fixLine n w.pos.line)) (hu : e.url = fixUrl u w.pos.url)
  /-- a default of the schema cannot be converted when the section closes: its text and its position in the schema -/
  | dflt (t : SType) (w : VI) (hw : w ∈ typeDflts t)
      (hv : e.value = some w.value) (hl : e.line = some (fixLine n w.pos.line)) (hu : e.url = fixUrl u w.pos.url)
  /-- the section datatype refuses the section closed on the culprit line: no text; this line, this resource -/
  | sect (hv : e.value = none) (hl : e.line = some (n : Int)) (hu : e.url = u)
  /-- a command-line override cannot be converted when the section closes: its text, this line, the pseudo URL of the
      command line -/
  | cmd (hv : e.value.isSome = true) (hl : e.line = some (n : Int)) (hu : e.url = some "<command-line option>".toList)

theorem loader_lineErr_conversion {u : Option Str} {n : Nat} {sF : PS LS} {e : Err}
    (h : LineErr loaderCtx u n sF e) (hk : e.kind = .conversion) : LoaderConv u n sF e := by
  cases h with
  | parser hl hu hk' hv => rw [hk] at hk'; rcases hk' with h | h | h <;> cases h
  | value key v e' h he =>
    subst he
    rw [fixPos_kind] at hk
    rcases lsValue_error _ _ _ _ _ h with ⟨_, h2, h3, h4⟩ | h1
    · rw [fixPos_same u n e' h3 h4]
      exact .key key v h h2 h3 h4
    · rw [h1.1] at hk; cases hk
  | stop ctx ty nm e' hctx h hk' he =>
    subst he
    obtain ⟨child, parent, below, hst, hfin⟩ := (lsStop_ends _ _ _).of_error h e' rfl hk'
    have hrec : ∀ v p, RecLS ctx v p → RecLS sF.ctx v p := by
      intro v p hr
      rcases hctx with rfl | hctx
      · exact hr
      · exact lsStart_ok_rec _ _ _ _ hctx v p hr
    have hx := finishMatcher_conversion _ _ _ _ hfin hk'
    cases hx with
    | held w hw hv hl hu =>
      refine .held w (hrec _ _ ⟨child, by rw [hst]; exact List.mem_cons_self, hw⟩) hv ?_ ?_
      · rw [fixPos_line_eq _ _ _ _ hl]
      · rw [fixPos_url_eq, hu]
    | dflt w hw hv hl hu =>
      refine .dflt child.ty w hw hv ?_ ?_
      · rw [fixPos_line_eq _ _ _ _ hl]
      · rw [fixPos_url_eq, hu]
    | sect hv hl hu =>
      obtain ⟨f1, f2⟩ := fixPos_of_noPos u n e' ⟨fun l h => by rw [hl] at h; cases h; omega, fun x h => by rw [hu] at h; cases h⟩
      exact .sect hv f1 f2
    | cmd hv hl hu =>
      refine .cmd hv ?_ ?_
      · rw [fixPos_line_eq _ _ _ _ hl]; rfl
      · rw [fixPos_url_eq, hu]; char_lits; rfl
  | imp pkg h =>
    have h' : lsImport sF.ctx pkg = .error (.cfg e) := h
    rcases lsImport_error _ _ _ h' with h1 | h1 <;> rw [hk] at h1 <;> cases h1
  | include_ h => rw [h.1] at hk; cases hk

theorem lsValue_error_pos (st : LS) (key value : Str) (pos : Pos) (e : Err) (h : lsValue st key value pos = .error (.cfg e)) :
    NoPos e ∨ (e.line = some pos.line ∧ e.url = pos.url) := by
  rcases lsValue_error _ _ _ _ _ h with ⟨_, _, h3, h4⟩ | ⟨_, h2, h3, _⟩
  · exact .inr ⟨h3, h4⟩
  · exact .inl ⟨fun l hl => (by rw [h2] at hl; cases hl), fun u hu => (by rw [h3] at hu; cases hu)⟩

/-- errors of the loader's parse that are not conversion errors name the culprit line and its resource, except for the schema
    errors of `%import` and the refusals of `%include` -/
theorem loader_lineErr_position {u : Option Str} {n : Nat} {sF : PS LS} {e : Err}
    (h : LineErr loaderCtx u n sF e) (hk : e.kind ≠ .conversion) :
    (e.line = some (n : Int) ∧ e.url = u) ∨
      ((e.kind = .schema ∨ e.kind = .schemaResource) ∧ ∃ pkg, lsImport sF.ctx pkg = .error (.cfg e)) ∨
      IncludeRefusal e := by
  rcases h.position_nonconv hk (fun key v e' h' => lsValue_error_pos _ _ _ _ _ h') with h1 | ⟨pkg, h2⟩ | h3
  · exact .inl h1
  · exact .inr (.inl ⟨lsImport_error _ _ _ h2, pkg, h2⟩)
  · exact .inr (.inr h3)

/-! ### the whole load (`ConfigLoader.loadResource` with command-line overrides) -/

/-- the error speaks about the command line: pseudo line `-1`, pseudo URL `<command-line option>` -/
def CmdLineErr (e : Err) : Prop := e.line = some (-1) ∧ e.url = some "<command-line option>".toList

theorem addOption_error (spec : Str) : Ends (addOption spec) (fun _ => True) (CfgIs CmdLineErr) :=
  .ite (fun _ => .error fun _ h => by cases h; exact ⟨rfl, rfl⟩)
    fun _ => .ite (fun _ => .error fun _ h => by cases h; exact ⟨rfl, rfl⟩) fun _ => .ok trivial

theorem mkBag_error (conv : Conv) (t : SType) (items : List OptItem) :
    Ends (mkBag conv t items) (fun _ => True) (CfgIs CmdLineErr) := by
  rw [mkBag_eq]
  refine .foldlM trivial fun b it _ _ => ?_
  unfold mkBagStep
  split
  · exact .error (.internal _ _)
  · split
    · exact .ok trivial
    · exact .error ((ConvFail.cfgIs ⟨_, _, rfl⟩).mono fun _ h => h.2.2)
  · exact .ok trivial

/-- the state in which `load` starts the parse -/
def loadState (conv : Conv) (pkgs : Str → Pkg) (schema : Schema) (bag : Option Bag) : PS LS :=
  { ctx := { schema := schema, privateSchema := false, handlers := [], stack := [newMatcher schema.top Option.none bag],
             pkgs := pkgs, conv := conv, bagSchema := bag.map fun _ => schema },
    stack := [], defs := [] }

/-- the list of resources being read when `load` starts the parse -/
def loadActive (url : Option Str) : List Str := match url with | some u => if u == [] then [] else [u] | none => []

theorem loadState_holds_nothing (conv : Conv) (pkgs : Str → Pkg) (schema : Schema) (bag : Option Bag) (v : Str) (p : Pos) :
    ¬ RecLS (loadState conv pkgs schema bag).ctx v p := by
  rintro ⟨m, hm, hv⟩
  simp only [loadState, List.mem_singleton] at hm
  subst hm
  rw [matcherVIs_newMatcher] at hv
  cases hv

/-- **where the configuration errors of a whole load come from**: the command line (before the parse), the parse, or the final
    `finish()` of the top-level section and the schema's own datatype (after the parse) -/
theorem load_error (conv : Conv) (env : Env) (pkgs : Str → Pkg) (schema : Schema) (url : Option Str)
    (lines : List Str) (specs : List Str) (e : Err) (h : load conv env pkgs schema url lines specs = .error (.cfg e)) :
    CmdLineErr e ∨
    ∃ bag,
      parseLines 64 env loaderCtx (loadActive url) url lines 0 (loadState conv pkgs schema bag) = .error (.cfg e) ∨
      ∃ ps top, parseLines 64 env loaderCtx (loadActive url) url lines 0 (loadState conv pkgs schema bag) = .ok ps ∧
        ps.ctx.stack = [top] ∧
        (finishMatcher conv ps.ctx.schema top = .error (.cfg e) ∨
         (e.kind = .conversion ∧ e.value = none ∧ e.line = some (-1) ∧ e.url = none)) := by
  revert e
  suffices h : Ends (load conv env pkgs schema url lines specs) (fun _ => True) (CfgIs _) from
    fun e he => h.of_error he e rfl
  rw [load_ov_eq]
  unfold bagOf
  refine ((Ends.mapM_fails fun sp _ => addOption_error sp).fails fun _ h => h.mono fun _ => .inl).bind fun overrides _ => ?_
  have hbag : Ends (if overrides.isEmpty then pure Option.none else (mkBag conv schema.top overrides).map some)
      (fun _ => True) (CfgIs CmdLineErr) := .ite (fun _ => .ok trivial) fun _ => .map (mkBag_error conv schema.top overrides)
  refine (hbag.fails fun _ h => h.mono fun _ => .inl).bind fun bag _ => ?_
  show Ends (parseLines 64 env loaderCtx (loadActive url) url lines 0 (loadState conv pkgs schema bag) >>= _) _ _
  refine (Ends.intro (P := fun ps => parseLines 64 env loaderCtx (loadActive url) url lines 0
    (loadState conv pkgs schema bag) = .ok ps) (fun _ h => h) fun f hf e he => .inr ⟨bag, .inl (he ▸ hf)⟩).bind fun ps hps => ?_
  show Ends (match ps.ctx.stack with | [top] => _ | _ => _) _ _
  split
  · rename_i top htop
    show Ends (finishMatcher conv ps.ctx.schema top >>= _) _ _
    refine (Ends.intro (P := fun _ => True) (fun _ _ => trivial)
      fun f hf e he => .inr ⟨bag, .inr ⟨ps, top, hps, htop, .inl (he ▸ hf)⟩⟩).bind fun r _ => ?_
    obtain ⟨v, hs⟩ := r
    dsimp only
    cases conv.sect schema.top.datatype v with
    | ok v' => exact .ok trivial
    | error ce =>
      exact .error fun e he => .inr ⟨bag, .inr ⟨ps, top, hps, htop, .inr ((ConvFail.cfgIs ⟨ce, _, rfl⟩) e he)⟩⟩
  · exact .error (.internal _ _)

end ZCV.Cfg
