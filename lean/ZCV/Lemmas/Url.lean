import ZCV.Model.Url
import ZCV.Spec.Url
import ZCV.Lemmas.Regex
import ZCV.Lemmas.Chars
import ZCV.Lemmas.Lits
import ZCV.Lemmas.Lists
/-! `isPath` (the generated `_pathsep_rx`, through what its `match` returns) equals `UrlSpec.isPath`; `urlnormalize` returns a URL in
`normalForm`, leaves normal forms alone, is idempotent. -/
namespace ZCV.Url
open ZCV ZCV.Rx

/-! ## `isPath` -/

def sepK2 : Cls := ⟨false, [.range 43 43, .range 45 46, .range 48 57, .range 65 90, .range 97 122]⟩
def sepK3 : Cls := ⟨false, [.range 58 58]⟩

/-- the generated term has the `[k1][k2]*:` shape with exactly these classes
    (this is the obligation an edit of `_pathsep_rx` breaks) -/
theorem pathsepRx_shape :
    Gen.pathsepRx = .seq (.cls letterK) (.seq (.star (.cls sepK2)) (.cls sepK3)) := rfl

theorem sepK2_test (c : Char) : sepK2.test c = UrlSpec.isSchemeChar c := by
  unfold sepK2 UrlSpec.isSchemeChar; cls_arith
theorem sepK3_test (c : Char) : sepK3.test c = (c == ':') := by
  unfold sepK3; cls_arith

theorem colon_not_scheme : UrlSpec.isSchemeChar ':' = false := by decide

/-- `:` is not a scheme character: the greedy run can never be shortened to make room for the colon -/
theorem sepK2_not_colon (c : Char) (h : sepK2.test c = true) : sepK3.test c = false := by
  rw [sepK3_test, beq_eq_false_iff_ne]
  rintro rfl
  rw [sepK2_test, colon_not_scheme] at h
  exact Bool.noConfusion h

/-- all matches of `[k1][k2]*:` — only the maximal run counts -/
theorem pathsep_all (w f : Nat) (c : Char) (t : Str) (hf : t.length ≤ f) :
    m w Gen.pathsepRx f (c :: t, []) =
      if isAsciiLetter c then
        (match t.dropWhile UrlSpec.isSchemeChar with
         | d :: r => if d == ':' then [(r, [])] else []
         | [] => [])
      else [] := by
  rw [pathsepRx_shape, m]
  by_cases hc : isAsciiLetter c
  · have h1 : m w (.cls letterK) f (c :: t, []) = [(t, [])] := by
      simp [m, letterK_test, hc]
    rw [h1]
    simp only [List.flatMap_cons, List.flatMap_nil, List.append_nil, hc, ↓reduceIte]
    rw [m]
    rw [star_flatMap w sepK2 [] f t hf (m w (.cls sepK3) f)
      (fun c' t' h1 _ => by simp [m, sepK2_not_colon c' h1])]
    rw [dropWhile_congr sepK2_test t]
    cases t.dropWhile UrlSpec.isSchemeChar with
    | nil => simp [m]
    | cons d r => simp only [m, sepK3_test]
  · simp [m, letterK_test, hc]

theorem pyMatch_pathsep (c : Char) (t : Str) :
    pyMatch Gen.pathsepRx (c :: t) =
      if isAsciiLetter c = true ∧ (t.dropWhile UrlSpec.isSchemeChar).head? = some ':'
      then some ((t.dropWhile UrlSpec.isSchemeChar).drop 1, []) else none := by
  rw [pyMatch, pathsep_all _ _ c t (by simp)]
  cases hc : isAsciiLetter c
  · rfl
  · cases t.dropWhile UrlSpec.isSchemeChar with
    | nil => rfl
    | cons d r =>
      by_cases hd : d = ':' <;> simp [hd]

theorem isPath_eq_spec (s : Str) : isPath s = UrlSpec.isPath s := by
  cases s with
  | nil => rfl
  | cons c t =>
    rw [isPath, pyMatch_pathsep, UrlSpec.isPath, UrlSpec.isUrl]
    by_cases hm : isAsciiLetter c = true ∧ (t.dropWhile UrlSpec.isSchemeChar).head? = some ':'
    · -- a match: its length is 2 + the length of the run, and there is a colon in the string
      obtain ⟨r, hd⟩ := List.head?_eq_some_iff.1 hm.2
      have hcol : (c :: t).contains ':' = true :=
        List.contains_iff_mem.2 (List.mem_cons_of_mem _ (mem_of_dropWhile (p := UrlSpec.isSchemeChar) (by rw [hd]; simp)))
      have hlen := len_take_drop UrlSpec.isSchemeChar t
      rw [hd, List.length_cons] at hlen
      rw [if_pos hcol, if_pos hm, hm.1, hm.2, hd]
      simp only [List.drop_succ_cons, List.drop_zero, List.length_cons, beq_self_eq_true, Bool.true_and]
      rw [Bool.eq_iff_iff]
      simp only [beq_iff_eq, Bool.not_eq_true', decide_eq_false_iff_not]
      omega
    · -- no match: a path on both sides
      rw [if_neg hm]
      have : (isAsciiLetter c && (t.dropWhile UrlSpec.isSchemeChar).head? == some ':') = false := by
        rw [Bool.and_eq_false_iff]
        by_cases hc : isAsciiLetter c = true
        · exact .inr (beq_eq_false_iff_ne.2 fun h => hm ⟨hc, h⟩)
        · exact .inl (Bool.not_eq_true _ ▸ hc)
      rw [this]
      split <;> rfl

/-! ## `urlnormalize` -/

theorem startsWith_split (s p : Str) (h : startsWith s p = true) : ∃ r, s = p ++ r := by
  unfold startsWith at h
  have e : s.take p.length = p := by simpa using h
  refine ⟨s.drop p.length, ?_⟩
  have := List.take_append_drop p.length s
  rw [e] at this
  exact this.symm

theorem lower_append (a b : Str) : lower (a ++ b) = lower a ++ lower b := by
  simp [lower]

theorem lower_drop (n : Nat) (a : Str) : lower (a.drop n) = (lower a).drop n := by
  simp [lower, List.map_drop]

theorem startsWith_append (a b : Str) : startsWith (a ++ b) a = true := by
  unfold startsWith
  rw [List.take_left' rfl]
  exact beq_self_eq_true _

theorem normalForm_eq (u : Str) : UrlSpec.normalForm u =
    !(startsWith (lower u) "file:/".toList && !startsWith (lower u) "file:///".toList) := by
  simp only [UrlSpec.normalForm, Bool.not_and, Bool.not_not]

theorem urlnormalize_normalForm' (u : Str) : UrlSpec.normalForm (urlnormalize u) = true := by
  unfold urlnormalize
  dsimp only
  split
  · next h =>
    obtain ⟨r, hr⟩ := startsWith_split _ _ (Bool.and_eq_true_iff.1 h).1
    unfold UrlSpec.normalForm
    rw [lower_append, lower_drop, hr]
    char_lits
    -- `lower "file://" ++ ("file:/" ++ r).drop 5` computes to `"file:///" ++ r`
    exact (congrArg (_ || ·) (startsWith_append ['f', 'i', 'l', 'e', ':', '/', '/', '/'] r)).trans (Bool.or_true _)
  · next h => rw [normalForm_eq, Bool.not_eq_true', ← Bool.not_eq_true]; exact h

/-- `urlnormalize_normalForm'` stated for ASCII-only strings; the hypothesis is not used -/
theorem urlnormalize_normalForm (u : Str) (ha : ∀ c ∈ u, c.toNat < 128) : UrlSpec.normalForm (urlnormalize u) = true := by
  have _ := ha
  exact urlnormalize_normalForm' u

theorem urlnormalize_fixed (u : Str) (h : UrlSpec.normalForm u = true) : urlnormalize u = u := by
  rw [normalForm_eq, Bool.not_eq_true'] at h
  unfold urlnormalize
  dsimp only
  rw [h]
  rfl

theorem urlnormalize_idempotent' (u : Str) : urlnormalize (urlnormalize u) = urlnormalize u :=
  urlnormalize_fixed _ (urlnormalize_normalForm' u)

/-- `urlnormalize_idempotent'` stated for ASCII-only strings; the hypothesis is not used -/
theorem urlnormalize_idempotent (u : Str) (ha : ∀ c ∈ u, c.toNat < 128) : urlnormalize (urlnormalize u) = urlnormalize u := by
  have _ := ha
  exact urlnormalize_idempotent' u

end ZCV.Url
