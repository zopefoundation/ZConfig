import ZCV.Lemmas.Datatypes
/-!
Facts about the generated Unicode tables (`\d` ranges, `isspace` code points, one-to-one `lower` table), each checked
once by evaluation over the tables and then used as an ordinary lemma about every character.
-/
namespace ZCV.DT
open ZCV

theorem dt2_pyDigit_iff (c : Char) :
    pyDigit c = true ↔ ∃ r ∈ Gen.digitRanges, r.1 ≤ c.toNat ∧ c.toNat ≤ r.2 := by
  unfold pyDigit pyDigitVal
  rw [Option.isSome_map, List.find?_isSome]
  simp only [Bool.and_eq_true, decide_eq_true_eq]

theorem dt2_pySpace_iff (c : Char) : pySpace c = true ↔ c.toNat ∈ Gen.spaceTbl := by
  unfold pySpace
  rw [List.contains_iff_mem]

/-! ### the table checks

The two tables of a pair are sorted, so that they have no code point in common is decided by one merge pass instead of a
sweep over all pairs of entries. -/

/-- two lists of intervals `[lo, hi)`, each with ascending lower ends, have no point in common: decided by one merge
    pass (`fuel` bounds its steps) -/
def dt2Apart : Nat → List (Nat × Nat) → List (Nat × Nat) → Bool
  | _, [], _ => true
  | _, _, [] => true
  | 0, _, _ => false
  | n + 1, x :: xs, y :: ys =>
    if x.2 ≤ y.1 then dt2Apart n xs (y :: ys)
    else if y.2 ≤ x.1 then dt2Apart n (x :: xs) ys
    else false

def dt2Asc : List (Nat × Nat) → Bool
  | x :: y :: t => decide (x.1 ≤ y.1) && dt2Asc (y :: t)
  | _ => true

theorem dt2_asc_cons (x : Nat × Nat) (l : List (Nat × Nat)) (h : dt2Asc (x :: l) = true) :
    dt2Asc l = true ∧ ∀ y ∈ l, x.1 ≤ y.1 := by
  induction l generalizing x with
  | nil => exact ⟨rfl, fun _ hy => by cases hy⟩
  | cons z t ih =>
    simp only [dt2Asc, Bool.and_eq_true, decide_eq_true_eq] at h
    refine ⟨h.2, fun y hy => ?_⟩
    rcases List.mem_cons.mp hy with rfl | hy
    · exact h.1
    · exact Nat.le_trans h.1 ((ih z h.2).2 y hy)

theorem dt2_apart_sound : ∀ (n : Nat) (xs ys : List (Nat × Nat)), dt2Asc xs = true → dt2Asc ys = true →
    dt2Apart n xs ys = true → ∀ x ∈ xs, ∀ y ∈ ys, x.2 ≤ y.1 ∨ y.2 ≤ x.1 := by
  intro n
  induction n with
  | zero =>
    intro xs ys _ _ h x hx y hy
    cases xs with
    | nil => cases hx
    | cons a as => cases ys with
      | nil => cases hy
      | cons b bs => cases h
  | succ n ih =>
    intro xs ys hxs hys h x hx y hy
    cases xs with
    | nil => cases hx
    | cons a as =>
      cases ys with
      | nil => cases hy
      | cons b bs =>
        obtain ⟨has, ha⟩ := dt2_asc_cons a as hxs
        obtain ⟨hbs, hb⟩ := dt2_asc_cons b bs hys
        simp only [dt2Apart] at h
        split at h
        · -- `a` lies left of `b`, hence of every later `y`
          next hab =>
          rcases List.mem_cons.mp hx with rfl | hx
          · rcases List.mem_cons.mp hy with rfl | hy
            · exact .inl hab
            · exact .inl (Nat.le_trans hab (hb y hy))
          · exact ih as (b :: bs) has hys h x hx y hy
        · split at h
          · next hba =>
            rcases List.mem_cons.mp hy with rfl | hy
            · rcases List.mem_cons.mp hx with rfl | hx
              · exact .inr hba
              · exact .inr (Nat.le_trans hba (ha x hx))
            · exact ih (a :: as) bs hxs hbs h x hx y hy
          · cases h

/-- no entry of the `lower` table maps onto a code point up to 102 (`f`): the one ASCII image is `k` (of the Kelvin sign) -/
theorem dt2_tbl_lower_gt_f : Gen.lowerTbl.all (fun e => decide ((102 : Int) < (e.1 : Int) + e.2.2.2)) = true := by
  decide +kernel
theorem dt2_tbl_digit_lower (r : Nat × Nat) (hr : r ∈ Gen.digitRanges) (e : Nat × Nat × Nat × Int) (he : e ∈ Gen.lowerTbl) :
    r.2 < e.1 ∨ e.1 + e.2.1 * e.2.2.1 ≤ r.1 :=
  dt2_apart_sound 300 (Gen.digitRanges.map fun r => (r.1, r.2 + 1))
    (Gen.lowerTbl.map fun e : Nat × Nat × Nat × Int => (e.1, e.1 + e.2.1 * e.2.2.1)) (by decide +kernel) (by decide +kernel) (by decide +kernel)
    _ (List.mem_map_of_mem hr) _ (List.mem_map_of_mem he)
/-- no `\d` range meets `A`–`Z` (65–90) -/
theorem dt2_tbl_digit_upper : Gen.digitRanges.all (fun r => decide (r.1 ≤ 90 → r.2 < 65)) = true := by
  decide +kernel
theorem dt2_tbl_digit_space (r : Nat × Nat) (hr : r ∈ Gen.digitRanges) (x : Nat) (hx : x ∈ Gen.spaceTbl) :
    r.2 < x ∨ x < r.1 :=
  dt2_apart_sound 100 (Gen.digitRanges.map fun r => (r.1, r.2 + 1)) (Gen.spaceTbl.map fun x => (x, x + 1))
    (by decide +kernel) (by decide +kernel) (by decide +kernel) _ (List.mem_map_of_mem hr) _ (List.mem_map_of_mem hx)

theorem dt2_digit_not_space (c : Char) (h : pyDigit c = true) : pySpace c = false := by
  cases hs : pySpace c with
  | false => rfl
  | true =>
    obtain ⟨r, hr, h1, h2⟩ := (dt2_pyDigit_iff c).mp h
    have hx := (dt2_pySpace_iff c).mp hs
    have := dt2_tbl_digit_space r hr _ hx
    omega

theorem dt2_toNat_ofNat (k : Nat) : (Char.ofNat k).toNat = k ∨ (Char.ofNat k).toNat = 0 := by
  unfold Char.ofNat
  split
  · left; simp [Char.ofNatAux, Char.toNat]
  · right; rfl

theorem dt2_lowerChar_ascii (c : Char) (h : c.toNat < 128) : lowerChar c = asciiLowerChar c := by
  simp [lowerChar, h]

/-- what a non-ASCII character lower-cases to lies above `f` (or is `Char.ofNat` of no scalar value) -/
theorem dt2_lower_nonascii (c : Char) (h : ¬ c.toNat < 128) :
    (lowerChar c).toNat = 0 ∨ 102 < (lowerChar c).toNat := by
  unfold lowerChar
  rw [if_neg h]
  rcases dt2_toNat_ofNat (uniLowerNat c.toNat) with h1 | h1
  · right
    rw [h1]
    unfold uniLowerNat
    split
    · rename_i e0 hf
      have hp := List.find?_some hf
      simp only [Bool.and_eq_true, decide_eq_true_eq] at hp
      have := List.all_eq_true.mp dt2_tbl_lower_gt_f e0 (List.mem_of_find?_eq_some hf)
      simp only [decide_eq_true_eq] at this
      rw [Int.ofNat_eq_natCast]
      omega
    · omega
  · exact .inl h1

theorem dt2_lowerChar_colon (c : Char) : lowerChar c = ':' ↔ c = ':' := by
  by_cases h : c.toNat < 128
  · rw [dt2_lowerChar_ascii c h]
    constructor
    · intro e
      have := congrArg Char.toNat e
      rw [asciiLowerChar_toNat] at this
      apply char_ext
      simp only [Char.reduceToNat] at this ⊢
      split at this <;> omega
    · rintro rfl; decide
  · constructor
    · intro e
      have := dt2_lower_nonascii c h
      rw [e] at this
      simp only [Char.reduceToNat] at this
      omega
    · rintro rfl; exact absurd (by decide) h

theorem dt2_lower_contains_colon (s : Str) : (lower s).contains ':' = s.contains ':' := by
  rw [Bool.eq_iff_iff, List.contains_iff_mem, List.contains_iff_mem]
  unfold lower
  simp only [List.mem_map]
  constructor
  · rintro ⟨c, hc, e⟩; rw [(dt2_lowerChar_colon c).mp e] at hc; exact hc
  · intro h; exact ⟨':', h, by decide⟩

theorem dt2_lowerChar_digit (c : Char) (h : pyDigit c = true) : lowerChar c = c := by
  obtain ⟨r, hr, h1, h2⟩ := (dt2_pyDigit_iff c).mp h
  by_cases hn : c.toNat < 128
  · rw [dt2_lowerChar_ascii c hn]
    apply char_ext
    rw [asciiLowerChar_toNat]
    have := List.all_eq_true.mp dt2_tbl_digit_upper r hr
    simp only [decide_eq_true_eq] at this
    split
    · omega
    · rfl
  · unfold lowerChar
    rw [if_neg hn]
    have hu : uniLowerNat c.toNat = c.toNat := by
      unfold uniLowerNat
      split
      · rename_i e0 hf
        exfalso
        have hmem := List.mem_of_find?_eq_some hf
        have hp := List.find?_some hf
        simp only [Bool.and_eq_true, decide_eq_true_eq] at hp
        have := dt2_tbl_digit_lower r hr e0 hmem
        omega
      · rfl
    rw [hu, Char.ofNat_toNat]

end ZCV.DT
