import ZCV.Lemmas.Datatypes2IpSpec
import ZCV.Lemmas.Inet6
/-!
What `inet_pton(AF_INET6, ·)` (the re-implementation `pton6`) accepts is over `[0-9A-Fa-f:.]` and contains a colon;
together with a fact about the `lower` table this makes the two side conditions of the `ipaddr-or-hostname` contract
redundant: the datatype accepts exactly dotted quads, host names and texts whose lower-casing is a valid IPv6 address.
Then: `inet_pton` does not look at the case of hexadecimal letters (`dt2_pton6_lower_iff`), so "whose lower-casing is"
can be dropped: the primed theorems `dt2_ipaddrOrHostname_exact'`, `…_exact_err'`.
-/
namespace ZCV.DT
open ZCV

theorem dt2_isV6Char_eq (c : Char) : DTSpec.isV6Char c = (isHexDigit c || c == ':' || c == '.') := by
  simp only [DTSpec.isV6Char, isHexDigit, Bool.or_assoc]

/-- what the loop accepts (`V6Tail`, `Inet6.lean`) is over the alphabet, and has a colon as soon as it has a `::`
    or more than two groups -/
theorem dt2_tail_shape (t : Str) (n : Nat) (c : Bool) (h : V6Tail t n c) :
    t.all DTSpec.isV6Char = true ∧ (c = true ∨ 3 ≤ n → ':' ∈ t) := by
  have hex (g : Str) (hg : DTSpec.HexGroup g) : g.all DTSpec.isV6Char = true :=
    List.all_eq_true.mpr fun x hx => by rw [dt2_isV6Char_eq, v6_hex_eq, hg.2.2 x hx]; rfl
  have dec (o : Str) (ho : DTSpec.DecOctet o) : o.all DTSpec.isV6Char = true :=
    List.all_eq_true.mpr fun x hx => by simp [DTSpec.isV6Char, ho.2.1 x hx]
  induction h with
  | nil => exact ⟨rfl, fun h => absurd h (by decide)⟩
  | gap t n _ ih => exact ⟨by rw [List.all_cons, ih.1]; rfl, fun _ => List.mem_cons_self⟩
  | grp g hg => exact ⟨hex g hg, fun h => absurd h (by decide)⟩
  | v4 q hq =>
    obtain ⟨a, b, c, d, rfl, ha, hb, hc, hd⟩ := hq
    refine ⟨?_, fun h => absurd h (by decide)⟩
    simp only [List.all_append, List.all_cons, dec a ha, dec b hb, dec c hc, dec d hd]
    rfl
  | cons g t n c hg _ _ ih =>
    exact ⟨by rw [List.all_append, List.all_cons, hex g hg, ih.1]; rfl, fun _ => by simp⟩

theorem dt2_pton6_shape (s : Str) (h : pton6 s = true) : s.all DTSpec.isV6Char = true ∧ ':' ∈ s := by
  obtain ⟨t, n, c, hT, ha, ⟨rfl, _⟩ | ⟨r, rfl, rfl⟩⟩ := v6_pton6_tail s h
  · refine ⟨(dt2_tail_shape _ n c hT).1, (dt2_tail_shape _ n c hT).2 ?_⟩
    cases c
    · exact .inr (by simp at ha; omega)
    · exact .inl rfl
  · exact ⟨by rw [List.all_cons, (dt2_tail_shape _ n c hT).1]; rfl, List.mem_cons_self⟩

/-! ### `lower` does not create alphabet characters -/

theorem dt2_isV6Char_bound (c : Char) (h : DTSpec.isV6Char c = true) : 46 ≤ c.toNat ∧ c.toNat ≤ 102 := by
  revert h
  simp only [DTSpec.isV6Char, isAsciiDigit, inRange, ceq, Char.reduceToNat]
  generalize c.toNat = n
  simp
  omega

theorem dt2_lower_nonascii_not_v6 (c : Char) (h : ¬ c.toNat < 128) : DTSpec.isV6Char (lowerChar c) = false := by
  cases hv : DTSpec.isV6Char (lowerChar c) with
  | false => rfl
  | true =>
    have hb := dt2_isV6Char_bound _ hv
    have := dt2_lower_nonascii c h
    omega

theorem dt2_v6_of_lower (s : Str) (h : (lower s).all DTSpec.isV6Char = true) : s.all DTSpec.isV6Char = true := by
  unfold lower at h
  rw [List.all_map, List.all_eq_true] at h
  rw [List.all_eq_true]
  intro c hc
  have hl := h c hc
  simp only [Function.comp] at hl
  by_cases hn : c.toNat < 128
  · rw [dt2_lowerChar_ascii c hn, dt2_isV6Char_lower] at hl; exact hl
  · rw [dt2_lower_nonascii_not_v6 c hn] at hl; cases hl

/-- the acceptance condition of the contract, without the redundant side conditions -/
theorem dt2_ipAcc_iff (s : Str) :
    dt2IpAcc s ↔ (DTSpec.isDottedQuad s = true ∨ DTSpec.isHostname s = true ∨ pton6 (lower s) = true) := by
  unfold dt2IpAcc
  constructor
  · rintro (h | h | ⟨_, _, h⟩)
    · exact Or.inl h
    · exact Or.inr (Or.inl h)
    · exact Or.inr (Or.inr h)
  · rintro (h | h | h)
    · exact Or.inl h
    · exact Or.inr (Or.inl h)
    · obtain ⟨h1, h2⟩ := dt2_pton6_shape _ h
      refine Or.inr (Or.inr ⟨dt2_v6_of_lower s h1, ?_, h⟩)
      rw [← dt2_lower_contains_colon]; exact List.contains_iff_mem.mpr h2

/-- `ipaddr-or-hostname` accepts exactly dotted-quad IPv4, valid IPv6 addresses and host names, lower-casing them -/
theorem dt2_ipaddrOrHostname_exact (s r : Str) :
    ipaddrOrHostname s = .ok r ↔
      r = lower s ∧ (DTSpec.isDottedQuad s = true ∨ DTSpec.isHostname s = true ∨ pton6 (lower s) = true) := by
  rw [dt2_ipaddrOrHostname_eq_spec, dt2_spec_ok_iff, dt2_ipAcc_iff]

theorem dt2_ipaddrOrHostname_exact_err (s : Str) :
    ipaddrOrHostname s = .error .valueError ↔
      ¬ (DTSpec.isDottedQuad s = true ∨ DTSpec.isHostname s = true ∨ pton6 (lower s) = true) := by
  rw [dt2_ipaddrOrHostname_eq_spec, dt2_spec_err_iff, dt2_ipAcc_iff]

/-! ### `inet_pton` does not look at the case of hexadecimal letters -/

theorem dt2_isHexDigit_lower (c : Char) : isHexDigit (asciiLowerChar c) = isHexDigit c := by
  simp only [isHexDigit, Bool.or_assoc, isAsciiDigit_lower, dt2_hexLetter_lower]

theorem dt2_digit_lower_toNat (c : Char) (h : isAsciiDigit c = true) : (asciiLowerChar c).toNat = c.toNat := by
  rw [asciiLowerChar_toNat]
  simp only [isAsciiDigit, inRange, Char.reduceToNat, Bool.and_eq_true, decide_eq_true_eq] at h
  split
  · omega
  · rfl

theorem dt2_pton4Go_lower : ∀ (s : Str) (saw : Bool) (octets cur : Nat),
    pton4Go (asciiLower s) saw octets cur = pton4Go s saw octets cur := by
  intro s
  induction s with
  | nil => intros; rfl
  | cons ch r ih =>
    intro saw octets cur
    show pton4Go (asciiLowerChar ch :: asciiLower r) saw octets cur = _
    rw [pton4Go, pton4Go, isAsciiDigit_lower, asciiLowerChar_beq _ '.' rfl]
    by_cases hd : isAsciiDigit ch = true
    · simp only [hd, ↓reduceIte, dt2_digit_lower_toNat ch hd, ih]
    · simp only [hd, Bool.false_eq_true, ↓reduceIte, ih]

theorem dt2_asciiLower_nil (r : Str) : (asciiLower r == []) = (r == []) := by
  cases r <;> rfl

theorem dt2_pton6Loop_lower : ∀ (r curtok : Str) (tp : Nat) (colon : Bool) (xd : Nat),
    pton6Loop (asciiLower r) (asciiLower curtok) tp colon xd = pton6Loop r curtok tp colon xd := by
  intro r
  induction r with
  | nil => intros; rfl
  | cons ch r ih =>
    intro curtok tp colon xd
    show pton6Loop (asciiLowerChar ch :: asciiLower r) (asciiLower curtok) tp colon xd = _
    rw [pton6Loop, pton6Loop, dt2_isHexDigit_lower, asciiLowerChar_beq _ ':' rfl, asciiLowerChar_beq _ '.' rfl,
      dt2_asciiLower_nil]
    simp only [ih]
    have : pton4 (asciiLower curtok) = pton4 curtok := dt2_pton4Go_lower curtok false 0 0
    rw [this]

theorem dt2_pton6_lower (s : Str) : pton6 (asciiLower s) = pton6 s := by
  have ne (c : Char) (h : c ≠ ':') : asciiLowerChar c ≠ ':' := fun e => by
    have := asciiLowerChar_beq c ':' rfl
    rw [e] at this
    exact h (by simpa using this.symm)
  cases s with
  | nil => rfl
  | cons c r =>
    show pton6 (asciiLowerChar c :: asciiLower r) = _
    by_cases hc : c = ':'
    · subst hc
      cases r with
      | nil => rfl
      | cons d r' =>
        show pton6 (':' :: asciiLowerChar d :: asciiLower r') = _
        by_cases hd : d = ':'
        · subst hd
          exact dt2_pton6Loop_lower (':' :: r') (':' :: r') 0 false 0
        · rw [v6_pton6_colon_other _ _ (ne d hd), v6_pton6_colon_other _ _ hd]
    · rw [v6_pton6_other _ _ (ne c hc), v6_pton6_other _ _ hc]
      exact dt2_pton6Loop_lower (c :: r) (c :: r) 0 false 0

theorem dt2_pton6_lower_iff (s : Str) : pton6 (lower s) = true ↔ pton6 s = true := by
  constructor
  · intro h
    have hall := dt2_v6_of_lower s (dt2_pton6_shape _ h).1
    have hasc : ∀ c ∈ s, c.toNat < 128 := fun c hc => dt2_isV6Char_ascii c (List.all_eq_true.mp hall c hc)
    rw [lower_ascii s hasc, dt2_pton6_lower] at h
    exact h
  · intro h
    have hall := (dt2_pton6_shape _ h).1
    have hasc : ∀ c ∈ s, c.toNat < 128 := fun c hc => dt2_isV6Char_ascii c (List.all_eq_true.mp hall c hc)
    rw [lower_ascii s hasc, dt2_pton6_lower]
    exact h

/-- the same with validity stated on the text itself -/
theorem dt2_ipaddrOrHostname_exact' (s r : Str) :
    ipaddrOrHostname s = .ok r ↔
      r = lower s ∧ (DTSpec.isDottedQuad s = true ∨ DTSpec.isHostname s = true ∨ pton6 s = true) := by
  rw [dt2_ipaddrOrHostname_exact, dt2_pton6_lower_iff]

theorem dt2_ipaddrOrHostname_exact_err' (s : Str) :
    ipaddrOrHostname s = .error .valueError ↔
      ¬ (DTSpec.isDottedQuad s = true ∨ DTSpec.isHostname s = true ∨ pton6 s = true) := by
  rw [dt2_ipaddrOrHostname_exact_err, dt2_pton6_lower_iff]

end ZCV.DT
