import ZCV.Lemmas.Datatypes2Int
/-! The fields of a dotted quad denote numbers 0..255 (and, over ASCII digits, every such number of 1..3 digits
    is admitted). -/
namespace ZCV.DT
open ZCV ZCV.DTSpec

theorem dt2_digitRanges_head : ∃ rest, Gen.digitRanges = (48, 57) :: rest := ⟨_, rfl⟩

theorem dt2_pyDigitVal_ascii (c : Char) (h : isAsciiDigit c = true) : pyDigitVal c = some (c.toNat - 48) := by
  obtain ⟨rest, hr⟩ := dt2_digitRanges_head
  simp only [isAsciiDigit, inRange, Char.reduceToNat, Bool.and_eq_true, decide_eq_true_eq] at h
  unfold pyDigitVal
  rw [hr, List.find?_cons]
  have : (decide (48 ≤ c.toNat) && decide (c.toNat ≤ 57)) = true := by simp [h.1, h.2]
  simp only [this, Option.map_some, Option.some.injEq]
  omega

theorem dt2_pyDigitVal_lt (c : Char) (v : Nat) (h : pyDigitVal c = some v) : v < 10 := by
  unfold pyDigitVal at h
  cases hf : Gen.digitRanges.find? (fun r => decide (r.1 ≤ c.toNat) && decide (c.toNat ≤ r.2)) with
  | none => rw [hf] at h; cases h
  | some r =>
    rw [hf] at h
    simp only [Option.map_some, Option.some.injEq] at h
    omega

theorem dt2_pyNat1 (a : Char) (x : Nat) (ha : pyDigitVal a = some x) : pyNat [a] = some x :=
  (dt2_pyNat_iff _ _).mpr ⟨[x], IntBody.one a x ha, by simp [decimal]⟩

theorem dt2_pyNat2 (a b : Char) (x y : Nat) (ha : pyDigitVal a = some x) (hb : pyDigitVal b = some y) :
    pyNat [a, b] = some (x * 10 + y) :=
  (dt2_pyNat_iff _ _).mpr ⟨[x, y], IntBody.cons a x _ _ ha (IntBody.one b y hb), by simp [decimal]⟩

theorem dt2_pyNat3 (a b c : Char) (x y z : Nat) (ha : pyDigitVal a = some x) (hb : pyDigitVal b = some y)
    (hc : pyDigitVal c = some z) : pyNat [a, b, c] = some (x * 100 + y * 10 + z) :=
  (dt2_pyNat_iff _ _).mpr ⟨[x, y, z], IntBody.cons a x _ _ ha (IntBody.cons b y _ _ hb (IntBody.one c z hc)),
    by simp [decimal]; omega⟩

theorem dt2_eq_char (a d : Char) (h : (a == d) = true) : a = d := by simpa using h

/-- a field of a dotted quad is a number 0..255 written with one to three digits -/
theorem dt2_octet_range (o : Str) (h : isOctet o = true) :
    1 ≤ o.length ∧ o.length ≤ 3 ∧ ∃ n, pyNat o = some n ∧ n ≤ 255 := by
  match o, h with
  | [a], h =>
    simp only [isOctet] at h
    obtain ⟨x, hx⟩ := (dt2_pyDigit_val a).mp h
    have := dt2_pyDigitVal_lt a x hx
    exact ⟨by simp, by simp, x, dt2_pyNat1 a x hx, by omega⟩
  | [a, b], h =>
    simp only [isOctet, Bool.and_eq_true] at h
    obtain ⟨x, hx⟩ := (dt2_pyDigit_val a).mp h.1
    obtain ⟨y, hy⟩ := (dt2_pyDigit_val b).mp h.2
    have := dt2_pyDigitVal_lt a x hx
    have := dt2_pyDigitVal_lt b y hy
    exact ⟨by simp, by simp, _, dt2_pyNat2 a b x y hx hy, by omega⟩
  | [a, b, c], h =>
    simp only [isOctet, Bool.or_eq_true, Bool.and_eq_true] at h
    refine ⟨by simp, by simp, ?_⟩
    rcases h with (⟨⟨h1, h2⟩, h3⟩ | ⟨⟨h1, h2⟩, h3⟩) | ⟨⟨h1, h2⟩, h3⟩
    · obtain ⟨y, hy⟩ := (dt2_pyDigit_val b).mp h2
      obtain ⟨z, hz⟩ := (dt2_pyDigit_val c).mp h3
      have := dt2_pyDigitVal_lt b y hy
      have := dt2_pyDigitVal_lt c z hz
      rcases h1 with h1 | h1
      · have := dt2_eq_char _ _ h1; subst this
        exact ⟨_, dt2_pyNat3 '0' b c 0 y z (by decide) hy hz, by omega⟩
      · have := dt2_eq_char _ _ h1; subst this
        exact ⟨_, dt2_pyNat3 '1' b c 1 y z (by decide) hy hz, by omega⟩
    · have := dt2_eq_char _ _ h1; subst this
      obtain ⟨z, hz⟩ := (dt2_pyDigit_val c).mp h3
      have := dt2_pyDigitVal_lt c z hz
      have hb : isAsciiDigit b = true := by
        simp only [isAsciiDigit, inRange, Char.reduceToNat, Bool.and_eq_true, decide_eq_true_eq] at h2 ⊢; omega
      have hy := dt2_pyDigitVal_ascii b hb
      simp only [inRange, Char.reduceToNat, Bool.and_eq_true, decide_eq_true_eq] at h2
      exact ⟨_, dt2_pyNat3 '2' b c 2 _ z (by decide) hy hz, by omega⟩
    · have := dt2_eq_char _ _ h1; subst this
      have := dt2_eq_char _ _ h2; subst this
      have hc : isAsciiDigit c = true := by
        simp only [isAsciiDigit, inRange, Char.reduceToNat, Bool.and_eq_true, decide_eq_true_eq] at h3 ⊢; omega
      have hz := dt2_pyDigitVal_ascii c hc
      simp only [inRange, Char.reduceToNat, Bool.and_eq_true, decide_eq_true_eq] at h3
      exact ⟨_, dt2_pyNat3 '2' '5' c 2 5 _ (by decide) (by decide) hz, by omega⟩
  | [], h => simp [isOctet] at h
  | _ :: _ :: _ :: _ :: _, h => simp [isOctet] at h

/-- over ASCII digits the converse holds: every number 0..255 written with one to three digits is a field -/
theorem dt2_octet_ascii (o : Str) (ha : o.all isAsciiDigit = true)
    (h : 1 ≤ o.length ∧ o.length ≤ 3 ∧ ∃ n, pyNat o = some n ∧ n ≤ 255) : isOctet o = true := by
  obtain ⟨h1, h2, n, hn, hle⟩ := h
  match o, ha, h1, h2, hn with
  | [a], ha, _, _, _ =>
    simp only [List.all_cons, List.all_nil, Bool.and_true] at ha
    simp [isOctet, asciiDigit_pyDigit a ha]
  | [a, b], ha, _, _, _ =>
    simp only [List.all_cons, List.all_nil, Bool.and_true, Bool.and_eq_true] at ha
    simp [isOctet, asciiDigit_pyDigit a ha.1, asciiDigit_pyDigit b ha.2]
  | [a, b, c], ha, _, _, hn =>
    simp only [List.all_cons, List.all_nil, Bool.and_true, Bool.and_eq_true] at ha
    obtain ⟨ha1, ha2, ha3⟩ := ha
    rw [dt2_pyNat3 a b c _ _ _ (dt2_pyDigitVal_ascii a ha1) (dt2_pyDigitVal_ascii b ha2)
      (dt2_pyDigitVal_ascii c ha3)] at hn
    injection hn with hn
    simp only [isOctet, asciiDigit_pyDigit b ha2, asciiDigit_pyDigit c ha3, inRange, ceq, Char.reduceToNat,
      Bool.and_true, Bool.or_eq_true, Bool.and_eq_true, beq_iff_eq, decide_eq_true_eq]
    simp only [isAsciiDigit, inRange, Char.reduceToNat, Bool.and_eq_true, decide_eq_true_eq] at ha1 ha2 ha3
    omega
  | [], _, h1, _, _ => simp at h1
  | _ :: _ :: _ :: _ :: _, _, _, h2, _ => simp at h2

end ZCV.DT
