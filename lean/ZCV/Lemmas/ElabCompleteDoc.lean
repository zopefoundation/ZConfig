import ZCV.Lemmas.ElabCompleteType
import ZCV.Lemmas.ElabCompleteFacts
/-!
C10: a whole `<sectiontype>` element, `<import>`, the children of the document element, component documents and their
nesting, and the two directions for whole documents: a schema document that satisfies `DocRulesN` (with the components it
imports) is accepted by the loader model (`rules_accepted_imports`), an accepted one satisfies `DocRulesN`
(`accepted_rules_imports`), and the same for one document and `DocRules` (`rules_accepted`, `accepted_rules`).  The hooks
that read the imported components enter as one two-way hypothesis (`HookAcc`), met by the loader's own hooks at equal depth
and fuel (`hookAcc_level`); that more fuel does no harm is a fact about the judgement alone (`docRulesN_mono`).
-/
namespace ZCV.SchemaRules
open ZCV ZCV.Elab
open ZCV.Cfg (VI SectInfo Default)

/-! ### a whole `<sectiontype>` element -/

theorem typeNames_snoc {Γ : Ctx} {pre : List (Str × EEntry)} (hpre : TypesRel Γ pre) (es : ES) (n : Str) (e : EEntry) :
    ({ es with types := pre ++ [(n, e)] } : ES).typeNames = Γ.names ++ [n] := by
  show (pre ++ [(n, e)]).map (·.1) = _
  rw [List.map_append, ← hpre.names]
  rfl

theorem sectiontypeElem {env : Env} {h : Hooks} {d : DocKind} {parent outer : Str} {ps : List Str} {st : PSt}
    {Γ : Ctx} {a : Attrs} {c : List Node} (hrel : TypesRel Γ st.es.types) (hp : st.prefixes = outer :: ps) :
    Accepts (visitElem env h d (some parent) st (.elem "sectiontype".toList a c))
      (nestingOK parent "sectiontype".toList = true ∧ sectiontypeOK env (!isComp d) outer Γ a c = true)
      (fun st' => ∃ pre e, st' = { st with es := { st.es with types := pre ++ [(typeNameOf a, e)] } } ∧
        TypesRel Γ pre ∧ EntryRel (sectiontypeSig env outer Γ a c) e) := by
  refine nested fun hn => ?_
  rw [visitElem_sectiontype (nestingOK_check hn)]
  have rest : ∀ st1, typeNameOK Γ a = true → (∃ (pre : List (Str × EEntry)) (t : EType),
        st1 = { st with es := { st.es with types := pre ++ [(typeNameOf a, .concrete t)] },
                        prefixes := prefixOf (some outer) a :: st.prefixes,
                        stack := .stype (typeNameOf a) :: st.stack } ∧
        TypesRel Γ pre ∧ t.keytype = typeKeytype env outer Γ a ∧ Pointwise MemberRel (inheritedOf Γ a) t.children ∧
        t.hasDesc = false ∧ t.hasEx = false) →
      Accepts (visitChildren env h d "sectiontype".toList st1 c >>= fun st2 => endSectiontype st2)
        (membersOK env (!isComp d) "sectiontype".toList (prefixOf (some outer) a) (typeKeytype env outer Γ a)
          (Γ.names ++ [typeNameOf a]) (inheritedOf Γ a) c = true ∧ onceOK (!isComp d) c = true)
        (fun st' => ∃ pre e, st' = { st with es := { st.es with types := pre ++ [(typeNameOf a, e)] } } ∧
          TypesRel Γ pre ∧ EntryRel (sectiontypeSig env outer Γ a c) e) := by
    rintro st1 hP ⟨pre, t, rfl, hpre, htk, htc, htd, hte⟩
    have body := typeBody (env := env) (h := h) (d := d) (pfx := prefixOf (some outer) a) (ps := st.prefixes)
      typeParent_sectiontype
      (OpenAt.stype { st.es with types := pre } (typeNameOf a) st.stack (typeName_fresh hpre hP) rfl rfl)
      c (inheritedOf Γ a) t
      { st with es := { st.es with types := pre ++ [(typeNameOf a, .concrete t)] },
                prefixes := prefixOf (some outer) a :: st.prefixes, stack := .stype (typeNameOf a) :: st.stack }
      rfl rfl rfl htk (typeNames_snoc hpre _ _ _) htc
    rw [htd, hte] at body
    refine (body.bind (P' := True) ?_).congr ?_
    · rintro st2 _ ⟨t', rfl, hk', hc'⟩
      exact .ok trivial ⟨pre, .concrete t', rfl, hpre, hk', hc'⟩
    · rw [onceOK_iff]
      exact ⟨fun hP => ⟨⟨hP.1, hP.2.1, hP.2.2⟩, trivial⟩, fun hP => ⟨hP.1.1, hP.1.2.1, hP.1.2.2⟩⟩
  refine ((startSectiontype_accepts hrel hp).bind fun st1 hP hQ => rest st1 hP.1 hQ).congr ?_
  unfold sectiontypeOK
  simp only [Bool.and_eq_true]
  exact ⟨fun ⟨⟨⟨⟨⟨⟨⟨⟨⟨r1, r2⟩, r3⟩, r4⟩, r5⟩, r6⟩, r7⟩, r8⟩, rb⟩, ro⟩ => ⟨⟨r1, r2, r3, r4, r5, r6, r7, r8⟩, rb, ro⟩,
    fun ⟨⟨r1, r2, r3, r4, r5, r6, r7, r8⟩, rb, ro⟩ => ⟨⟨⟨⟨⟨⟨⟨⟨⟨r1, r2⟩, r3⟩, r4⟩, r5⟩, r6⟩, r7⟩, r8⟩, rb⟩, ro⟩⟩


/-! ### `<import>` -/

/-- the hooks read a component exactly when the rules one level down hold of it -/
def HookAcc (below : Below) (h : Hooks) : Prop :=
  ∀ (Γ : Ctx) (comps : List Str) (tree : Node) (es : ES), TypesRel Γ es.types → es.components = comps →
    Accepts (h.loadComponent es tree) (below.ok Γ comps tree = true) fun es' =>
      TypesRel (below.after Γ comps tree).1 es'.types ∧ es'.components = (below.after Γ comps tree).2 ∧
        es'.top = es.top ∧ es'.handler = es.handler

theorem importFileOf_eq (a : Attrs) : importFileOf a = importFile a := rfl
theorem importSrc_eq (pfx : Str) (a : Attrs) : importSrc pfx a = importSource (importPkg pfx a) (importFile a) := rfl

theorem visitChildren_blank {env : Env} {h : Hooks} {d : DocKind} {parent : Str} (st : PSt) :
    ∀ c : List Node, (c.all fun n => match n with | .text s => blank s | .elem _ _ _ => false) = true →
      visitChildren env h d parent st c = .ok st
  | [], _ => visitChildren_nil _
  | .text s :: r, hc => by
    simp only [List.all_cons, Bool.and_eq_true] at hc
    have hb : (strip s).isEmpty = true := hc.1
    rw [visitChildren_text, if_pos hb]
    exact visitChildren_blank st r hc.2
  | .elem t a c :: r, hc => by simp at hc

/-- `start_import` past its attribute checks, when the prefix stack is known: what is left is the check of the package
name and `importTail` -/
theorem startImport_checked {env : Env} {h : Hooks} {st : PSt} {a : Attrs} {pfx : Str} {ps : List Str}
    (hp : st.prefixes = pfx :: ps)
    (c1 : ¬ ((attrStrip a "src").isEmpty && (attrStrip a "package").isEmpty) = true)
    (c2 : ¬ (!(attrStrip a "src").isEmpty && !(attrStrip a "package").isEmpty) = true)
    (c3 : ¬ (!(attrStrip a "src").isEmpty) = true) (c4 : ¬ (attrStrip a "file").contains '/' = true) :
    startImport env h st a =
      if (splitOnChar (importPkg pfx a) '.').contains [] then serr "illegal schema component name"
      else importTail env h st a (importPkg pfx a) := by
  refine (startImport_eq env h st a).trans ((if_neg c1).trans ((if_neg c2).trans ((if_neg c3).trans ((if_neg c4).trans ?_))))
  rw [getClassname_eq hp]
  exact pure_bind _ _

theorem startImport_wf {env : Env} {h : Hooks} {st : PSt} {a : Attrs} {pfx : Str} {ps : List Str}
    (hp : st.prefixes = pfx :: ps) (h1 : (attrStrip a "src").isEmpty = true) (h2 : (attrStrip a "package").isEmpty = false)
    (h3 : (attrStrip a "file").contains '/' = false) (h4 : (splitOnChar (importPkg pfx a) '.').contains [] = false) :
    startImport env h st a = importTail env h st a (importPkg pfx a) := by
  rw [startImport_checked hp (by rw [h2, Bool.and_false]; exact Bool.false_ne_true) (by rw [h1]; exact Bool.false_ne_true)
    (by rw [h1]; exact Bool.false_ne_true) (by rw [h3]; exact Bool.false_ne_true), h4]
  rfl

theorem nestingOK_import_false (t : Str) : nestingOK "import".toList t = false := by
  cases hn : nestingOK "import".toList t with
  | false => rfl
  | true => exact (childrenAll_of_pk (P := fun _ => False) (pkOfB_import false) (fun _ _ _ hc => nomatch hc) t hn).elim

theorem startImport_ok_wf {env : Env} {h : Hooks} {st st1 : PSt} {a : Attrs} {pfx : Str} {ps : List Str}
    (hp : st.prefixes = pfx :: ps) (hs : startImport env h st a = .ok st1) :
    ((attrStrip a "src").isEmpty = true ∧ (attrStrip a "package").isEmpty = false ∧
      (attrStrip a "file").contains '/' = false ∧ (splitOnChar (importPkg pfx a) '.').contains [] = false) ∧
    importTail env h st a (importPkg pfx a) = .ok st1 := by
  have hs' := (startImport_eq env h st a).symm.trans hs
  rcases ite_ok hs' with ⟨_, hs'⟩ | ⟨c1, hs'⟩
  · cases hs'
  rcases ite_ok hs' with ⟨_, hs'⟩ | ⟨c2, hs'⟩
  · cases hs'
  rcases ite_ok hs' with ⟨_, hs'⟩ | ⟨c3, hs'⟩
  · rcases ite_ok hs' with ⟨_, hs'⟩ | ⟨_, hs'⟩ <;> cases hs'
  rcases ite_ok hs' with ⟨_, hs'⟩ | ⟨c4, _⟩
  · cases hs'
  rw [startImport_checked hp c1 c2 c3 c4] at hs
  rcases ite_ok hs with ⟨_, hs⟩ | ⟨c5, hs⟩
  · cases hs
  have w1 : (attrStrip a "src").isEmpty = true := by
    cases hb : (attrStrip a "src").isEmpty with
    | true => rfl
    | false => rw [hb] at c3; exact absurd rfl c3
  rw [w1, Bool.true_and] at c1
  exact ⟨⟨w1, Bool.eq_false_iff.2 c1, Bool.eq_false_iff.2 c4, Bool.eq_false_iff.2 c5⟩, hs⟩

theorem startImport_accepts {env : Env} {h : Hooks} {st : PSt} {a : Attrs} {pfx : Str} {ps : List Str} {P' : Prop}
    {Q : PSt → Prop} (hp : st.prefixes = pfx :: ps) (hT : Accepts (importTail env h st a (importPkg pfx a)) P' Q) :
    Accepts (startImport env h st a)
      (((attrStrip a "src").isEmpty = true ∧ (attrStrip a "package").isEmpty = false ∧
        (attrStrip a "file").contains '/' = false ∧ (splitOnChar (importPkg pfx a) '.').contains [] = false) ∧ P') Q := by
  refine .intro (fun hP => ?_) fun v hv => ?_
  · rw [startImport_wf hp hP.1.1 hP.1.2.1 hP.1.2.2.1 hP.1.2.2.2]; exact hT.run hP.2
  · obtain ⟨w, hs⟩ := startImport_ok_wf hp hv
    exact ⟨w, (hT.of_ok hs).1⟩

theorem importTail_accepts {env : Env} {h : Hooks} {below : Below} {pfx : Str} {st : PSt} {Γ : Ctx} {comps : List Str}
    {a : Attrs} (hh : HookAcc below h) (hrel : TypesRel Γ st.es.types) (hcomps : st.es.components = comps) :
    Accepts (importTail env h st a (importPkg pfx a))
      ((match env.comps (importPkg pfx a) (importFileOf a) with
        | .notImportable => false
        | .notPackage => false
        | .noFile => comps.contains (importSrc pfx a)
        | .doc tree => comps.contains (importSrc pfx a) || below.ok Γ (comps ++ [importSrc pfx a]) tree) = true)
      (fun st' => ∃ es', st' = { st with es := es' } ∧ TypesRel (importAfter env below pfx Γ comps a).1 es'.types ∧
        es'.components = (importAfter env below pfx Γ comps a).2 ∧ es'.top = st.es.top ∧ es'.handler = st.es.handler) := by
  unfold importTail importAfter
  rw [← importSrc_eq pfx a, ← importFileOf_eq a, hcomps]
  cases hx : env.comps (importPkg pfx a) (importFileOf a) with
  | notImportable => exact .error (fun hf => Bool.false_ne_true hf)
  | notPackage => exact .error (fun hf => Bool.false_ne_true hf)
  | noFile =>
    cases hin : comps.contains (importSrc pfx a) with
    | true => exact .ok rfl ⟨st.es, rfl, hrel, hcomps, rfl, rfl⟩
    | false => exact .error (fun hf => Bool.false_ne_true hf)
  | doc tree =>
    cases hin : comps.contains (importSrc pfx a) with
    | true => exact .ok rfl ⟨st.es, rfl, hrel, hcomps, rfl, rfl⟩
    | false =>
      simp only [Bool.false_eq_true, ↓reduceIte, Bool.false_or]
      exact .map ((hh Γ (comps ++ [importSrc pfx a]) tree { st.es with components := comps ++ [importSrc pfx a] } hrel
        rfl).mono fun es' _ hq => ⟨es', rfl, hq⟩)

theorem blank_accepts {env : Env} {h : Hooks} {d : DocKind} (st : PSt) (c : List Node) :
    Accepts (visitChildren env h d "import".toList st c)
      ((c.all fun n => match n with | .text s => blank s | .elem _ _ _ => false) = true) (· = st) :=
  .intro (fun hb => ⟨st, visitChildren_blank st c hb, rfl⟩) fun st2 hs2 => by
    rw [List.all_eq_true]
    intro n hn'
    have := visitChildren_ok_all hs2 n hn'
    cases n with
    | text s => exact this
    | elem t a' c' =>
      have h1 := check_nestingOK this
      rw [nestingOK_import_false] at h1
      cases h1

theorem importElem {env : Env} {h : Hooks} {d : DocKind} {below : Below} {parent pfx : Str} {ps : List Str}
    {st : PSt} {Γ : Ctx} {comps : List Str} {a : Attrs} {c : List Node} (hh : HookAcc below h)
    (hrel : TypesRel Γ st.es.types) (hcomps : st.es.components = comps) (hp : st.prefixes = pfx :: ps) :
    Accepts (visitElem env h d (some parent) st (.elem "import".toList a c))
      (nestingOK parent "import".toList = true ∧ importOK env below pfx Γ comps a c = true)
      (fun st' => ∃ es', st' = { st with es := es' } ∧ TypesRel (importAfter env below pfx Γ comps a).1 es'.types ∧
        es'.components = (importAfter env below pfx Γ comps a).2 ∧ es'.top = st.es.top ∧ es'.handler = st.es.handler) := by
  refine nested fun hn => ?_
  rw [visitElem_tag (by char_lits; decide) (nestingOK_check hn), startHandled_import, endHandled_import env]
  refine ((startImport_accepts hp (importTail_accepts (pfx := pfx) hh hrel hcomps)).bind fun st1 _ hq =>
    (blank_accepts st1 c).bind_pure (g := id) fun st2 _ e => by rw [id, e]; exact hq).congr ?_
  unfold importOK importWF
  simp only [Bool.and_eq_true, Bool.not_eq_true']
  exact ⟨fun ⟨⟨⟨⟨⟨w1, w2⟩, w3⟩, w4⟩, hb⟩, hr⟩ => ⟨⟨⟨w1, w2, w3, w4⟩, hr⟩, hb⟩,
    fun ⟨⟨⟨w1, w2, w3, w4⟩, hr⟩, hb⟩ => ⟨⟨⟨⟨⟨w1, w2⟩, w3⟩, w4⟩, hb⟩, hr⟩⟩

/-! ### the children of `<schema>` / `<component>` -/

/-- below `parent` the table allows type declarations, `<import>` and `<description>` only -/
def compParent (parent : Str) : Bool :=
  Gen.allowedParents.all fun e => !e.2.contains parent || e.1 == "abstracttype".toList || e.1 == "sectiontype".toList ||
    e.1 == "import".toList || e.1 == "description".toList

theorem schemaTopLevel_eq : Gen.schemaTopLevel = "schema".toList := by char_lits; decide +kernel
theorem componentTopLevel_eq : Gen.componentTopLevel = "component".toList := by char_lits; decide +kernel
theorem isNoteTag_description : isNoteTag "description".toList = true := by char_lits; decide +kernel

theorem compParent_component : compParent "component".toList = true := by
  unfold compParent
  char_lits
  decide +kernel

theorem compParent_cases {parent t : Str} (hl : compParent parent = true) (hn : nestingOK parent t = true) :
    t = "abstracttype".toList ∨ t = "sectiontype".toList ∨ t = "import".toList ∨ t = "description".toList := by
  unfold nestingOK at hn
  rw [List.any_eq_true] at hn
  obtain ⟨e, he, hc⟩ := hn
  simp only [Bool.and_eq_true, beq_iff_eq] at hc
  have := List.all_eq_true.1 hl e he
  rw [hc.2, hc.1] at this
  simpa only [Bool.not_true, Bool.false_or, Bool.or_eq_true, beq_iff_eq, or_assoc] using this

/-- the loader state between two children of the document element -/
structure TopInv (d : DocKind) (pfx kt : Str) (Γ : Ctx) (comps : List Str) (ms : List Member) (st : PSt) : Prop where
  prefixes : st.prefixes = [pfx]
  types : TypesRel Γ st.es.types
  comps : st.es.components = comps
  schema : isComp d = false →
    st.stack = [.schema] ∧ st.es.top.keytype = kt ∧ Pointwise MemberRel ms st.es.top.children
  component : isComp d = true → st.stack = [] ∧ compParent "component".toList = true

/-- what the children of the document element leave unchanged -/
structure TopKeeps (d : DocKind) (st st' : PSt) : Prop where
  stack : st'.stack = st.stack
  handler : st'.es.handler = st.es.handler
  top : isComp d = true → st'.es.top = st.es.top

theorem TopKeeps.refl (d : DocKind) (st : PSt) : TopKeeps d st st := ⟨rfl, rfl, fun _ => rfl⟩

theorem TopKeeps.trans {d : DocKind} {st st1 st' : PSt} (g : TopKeeps d st1 st') (g1 : TopKeeps d st st1) :
    TopKeeps d st st' :=
  ⟨g.stack.trans g1.stack, g.handler.trans g1.handler, fun hc => (g.top hc).trans (g1.top hc)⟩

abbrev topParent (parent : Str) : Prop :=
  ChildrenAll (fun t => t = "abstracttype".toList ∨ t = "sectiontype".toList ∨ t = "import".toList ∨
    isKeyTag t = true ∨ isSectTag t = true ∨ isNoteTag t = true) parent

theorem topParent_schema : topParent "schema".toList :=
  childrenAll_of_pk (comp := false) (pk := .topS) (by rw [← schemaTopLevel_eq]; unfold pkOfB; rw [beq_self_eq_true]; rfl)
    fun _ ck hmem hc => declOrMember hmem (by cases ck <;> first | exact .inl rfl | exact .inr rfl | cases hc)

theorem topParent_component : topParent "component".toList :=
  childrenAll_of_pk (comp := true) (pk := .topC)
    (by rw [← componentTopLevel_eq]; unfold pkOfB; rw [if_neg (by decide +kernel), beq_self_eq_true]; rfl)
    fun _ ck hmem hc => declOrMember hmem (by cases ck <;> first | exact .inl rfl | exact .inr rfl | cases hc)

/-! #### one child of the document element -/

/-- the elements that extend the signature -/
def isDeclTag (t : Str) : Bool := t == "abstracttype".toList || t == "sectiontype".toList || t == "import".toList

theorem declTag_notNote {t : Str} (h : isDeclTag t = true) : t ≠ "description".toList ∧ t ≠ "example".toList := by
  simp only [isDeclTag, Bool.or_eq_true, beq_iff_eq] at h
  rcases h with (rfl | rfl) | rfl <;> (char_lits; decide +kernel)

theorem declTag_of_eq {t : Str} (h : t = "abstracttype".toList ∨ t = "sectiontype".toList ∨ t = "import".toList) :
    isDeclTag t = true := by
  simpa only [isDeclTag, Bool.or_eq_true, beq_iff_eq, or_assoc] using h

section Step
variable {env : Env} {h : Hooks} {d : DocKind} {below : Below} {parent pfx kt : Str} {Γ : Ctx} {comps : List Str}
  {ms : List Member} {st : PSt} {tg : Str} {a : Attrs} {c0 : List Node}

theorem topDecl (hh : HookAcc below h) (inv : TopInv d pfx kt Γ comps ms st) (hdecl : isDeclTag tg = true) :
    Accepts (visitElem env h d (some parent) st (.elem tg a c0))
      (topStepOK env below (!isComp d) parent pfx kt Γ comps ms tg a c0 = true)
      (fun st1 => TopInv d pfx kt (topStepAfter env below pfx kt Γ comps ms tg a c0).1
        (topStepAfter env below pfx kt Γ comps ms tg a c0).2.1 (topStepAfter env below pfx kt Γ comps ms tg a c0).2.2 st1 ∧
      TopKeeps d st st1 ∧ st1.es.top = st.es.top) := by
  unfold topStepOK topStepAfter
  simp only [isDeclTag, Bool.or_eq_true, beq_iff_eq] at hdecl
  rcases hdecl with (rfl | rfl) | rfl
  · rw [if_pos (beq_self_eq_true _), if_pos (beq_self_eq_true _)]
    refine ((abstracttypeElem (env := env) (h := h) (d := d) (st := st) inv.types).mono ?_).congr (by rw [Bool.and_eq_true])
    rintro _ _ ⟨e, rfl, h2⟩
    exact ⟨⟨inv.prefixes, inv.types.snoc h2, inv.comps, inv.schema, inv.component⟩, ⟨rfl, rfl, fun _ => rfl⟩, rfl⟩
  · have n1 : ("sectiontype".toList == "abstracttype".toList) = false := by char_lits; decide +kernel
    simp only [n1, Bool.false_eq_true, ↓reduceIte, beq_self_eq_true]
    refine ((sectiontypeElem (env := env) (h := h) (d := d) (st := st) inv.types inv.prefixes).mono ?_).congr
      (by rw [Bool.and_eq_true])
    rintro _ _ ⟨pre, e, rfl, h2, h3⟩
    exact ⟨⟨inv.prefixes, h2.snoc h3, inv.comps, inv.schema, inv.component⟩, ⟨rfl, rfl, fun _ => rfl⟩, rfl⟩
  · have n1 : ("import".toList == "abstracttype".toList) = false := by char_lits; decide +kernel
    have n2 : ("import".toList == "sectiontype".toList) = false := by char_lits; decide +kernel
    simp only [n1, n2, Bool.false_eq_true, ↓reduceIte, beq_self_eq_true]
    refine ((importElem (env := env) (d := d) (st := st) hh inv.types inv.comps inv.prefixes).mono ?_).congr
      (by rw [Bool.and_eq_true])
    rintro _ _ ⟨es', rfl, h2, h3, h4, h5⟩
    exact ⟨⟨inv.prefixes, h2, h3, fun hc => by rw [show ({ st with es := es' } : PSt).es.top = st.es.top from h4]; exact inv.schema hc,
      inv.component⟩, ⟨rfl, h5, fun _ => h4⟩, h4⟩

theorem markDesc_component {st : PSt} (hs : st.stack = []) : markDesc true st = .ok st := by
  unfold markDesc
  rw [hs]
  rfl

theorem componentOther_description (hpar : compParent parent = true) (hn : nestingOK parent tg = true)
    (hdecl : isDeclTag tg = false) : tg = "description".toList := by
  rcases compParent_cases hpar hn with h' | h' | h' | h'
  · rw [declTag_of_eq (Or.inl h')] at hdecl; cases hdecl
  · rw [declTag_of_eq (Or.inr (Or.inl h'))] at hdecl; cases hdecl
  · rw [declTag_of_eq (Or.inr (Or.inr h'))] at hdecl; cases hdecl
  · exact h'

theorem topStep_notDecl (hdecl : isDeclTag tg = false) :
    topStepOK env below (!isComp d) parent pfx kt Γ comps ms tg a c0 =
        memberElemOK env (!isComp d) parent pfx kt Γ.names ms tg a c0 ∧
      topStepAfter env below pfx kt Γ comps ms tg a c0 = (Γ, comps, ms ++ memberElemAdds env kt tg a c0) := by
  simp only [isDeclTag, Bool.or_eq_false_iff] at hdecl
  obtain ⟨⟨h1, h2⟩, h3⟩ := hdecl
  unfold topStepOK topStepAfter
  simp only [h1, h2, h3, Bool.false_eq_true, ↓reduceIte, and_self]

/-- **a child of the document element that declares no type and imports nothing**: below `<component>` that is a
`<description>`, which changes nothing; below `<schema>` it is a child of the top-level container -/
theorem topMember (hl : topParent parent) (hpar : isComp d = true → compParent parent = true)
    (inv : TopInv d pfx kt Γ comps ms st) (hdecl : isDeclTag tg = false) :
    Accepts (visitElem env h d (some parent) st (.elem tg a c0))
      (memberElemOK env (!isComp d) parent pfx kt Γ.names ms tg a c0 = true ∧
        (tg = "description".toList → (st.es.top.hasDesc && !isComp d) = false) ∧
        (tg = "example".toList → (st.es.top.hasEx && !isComp d) = false))
      (fun st1 => TopInv d pfx kt Γ comps (ms ++ memberElemAdds env kt tg a c0) st1 ∧ TopKeeps d st st1 ∧
        (isComp d = false → st1.es.top.hasDesc = (st.es.top.hasDesc || tg == "description".toList) ∧
          st1.es.top.hasEx = (st.es.top.hasEx || tg == "example".toList))) := by
  have hnest : memberElemOK env (!isComp d) parent pfx kt Γ.names ms tg a c0 = true → nestingOK parent tg = true := by
    intro hok
    unfold memberElemOK at hok
    exact (Bool.and_eq_true _ _ ▸ hok).1
  by_cases hcomp : isComp d = true
  · refine (nested (P := memberElemOK env (!isComp d) parent pfx kt Γ.names ms tg a c0 = true) fun hn => ?_).congr
      ⟨fun hP => ⟨hnest hP.1, hP.1⟩,
       fun hP => ⟨hP.2, fun _ => by rw [hcomp]; exact Bool.and_false _, fun _ => by rw [hcomp]; exact Bool.and_false _⟩⟩
    have htag := componentOther_description (hpar hcomp) hn hdecl
    subst htag
    rw [memberElemOK_note isNoteTag_description, memberElemAdds_note isNoteTag_description, List.append_nil]
    have hch : Accepts (charactersTag (isComp d) "description".toList a (strip (textOf c0)) st) True (· = st) := by
      rw [charactersTag_description, hcomp, markDesc_component (inv.component hcomp).1]
      exact .ok trivial rfl
    refine ((cdataElem (h := h) cdata_description hn hch).mono ?_).congr
      ⟨fun hP => ⟨hP.2, trivial⟩, fun hP => ⟨hn, hP.1⟩⟩
    intro st1 _ hst1
    rw [hst1]
    exact ⟨inv, TopKeeps.refl d st, fun hc => by rw [hc] at hcomp; cases hcomp⟩
  · have hcomp' : isComp d = false := Bool.eq_false_iff.2 hcomp
    obtain ⟨hstack, hkt, hmem⟩ := inv.schema hcomp'
    have hclass : nestingOK parent tg = true → isKeyTag tg = true ∨ isSectTag tg = true ∨ isNoteTag tg = true := by
      intro hn
      rcases hl _ hn with h' | h' | h' | h'
      · rw [declTag_of_eq (Or.inl h')] at hdecl; cases hdecl
      · rw [declTag_of_eq (Or.inr (Or.inl h'))] at hdecl; cases hdecl
      · rw [declTag_of_eq (Or.inr (Or.inr h'))] at hdecl; cases hdecl
      · exact h'
    refine ((containerChild (env := env) (h := h) (d := d) (parent := parent) (pfx := pfx) (ps := [])
      (names := Γ.names) (put := fun t => { st.es with top := t }) (t := st.es.top) (ms := ms) (tg := tg) (a := a) (c0 := c0)
      (stack := [.schema]) hclass (OpenAt.schema st.es rfl rfl) hstack inv.prefixes rfl hkt inv.types.names.symm hmem).mono
      ?_).congr ⟨fun hP => ⟨hP.1, hP.2.1, fun e => by have := hP.2.2 e; rw [hcomp', Bool.not_false, Bool.and_true] at this; exact this⟩,
        fun hP => ⟨hP.1, hP.2.1, fun e => by rw [hP.2.2 e]; rfl⟩⟩
    rintro st1 _ ⟨t', rfl, hk1, hm1, hd1, he1⟩
    exact ⟨⟨inv.prefixes, inv.types, inv.comps, fun _ => ⟨hstack, hk1, hm1⟩, fun hc => absurd hc hcomp⟩,
      ⟨rfl, rfl, fun hc => absurd hc hcomp⟩, fun _ => ⟨hd1, he1⟩⟩

/-- the two flags allow one more `tg`: "at most one `<description>` / `<example>`" at the head of what is left -/
abbrev Heads (d : DocKind) (st : PSt) (tg : Str) : Prop :=
  (tg = "description".toList → (st.es.top.hasDesc && !isComp d) = false) ∧
    (tg = "example".toList → (st.es.top.hasEx && !isComp d) = false)

theorem topItem (hh : HookAcc below h) (hl : topParent parent) (hpar : isComp d = true → compParent parent = true)
    (inv : TopInv d pfx kt Γ comps ms st) :
    Accepts (visitElem env h d (some parent) st (.elem tg a c0))
      (topStepOK env below (!isComp d) parent pfx kt Γ comps ms tg a c0 = true ∧ Heads d st tg)
      (fun st1 => TopInv d pfx kt (topStepAfter env below pfx kt Γ comps ms tg a c0).1
        (topStepAfter env below pfx kt Γ comps ms tg a c0).2.1 (topStepAfter env below pfx kt Γ comps ms tg a c0).2.2 st1 ∧
      TopKeeps d st st1 ∧
      (isComp d = false → st1.es.top.hasDesc = (st.es.top.hasDesc || tg == "description".toList) ∧
          st1.es.top.hasEx = (st.es.top.hasEx || tg == "example".toList))) := by
  cases hdecl : isDeclTag tg with
  | true =>
    obtain ⟨n1, n2⟩ := declTag_notNote hdecl
    refine ((topDecl hh inv hdecl).mono ?_).congr ⟨fun hP => hP.1, fun hP => ⟨hP, fun e => absurd e n1, fun e => absurd e n2⟩⟩
    rintro st1 _ ⟨i1, k1, ht⟩
    exact ⟨i1, k1, fun _ => by rw [ht, beq_eq_false_iff_ne.2 n1, beq_eq_false_iff_ne.2 n2, Bool.or_false, Bool.or_false]; exact ⟨rfl, rfl⟩⟩
  | false =>
    obtain ⟨e1, e2⟩ := topStep_notDecl (env := env) (below := below) (d := d) (parent := parent) (pfx := pfx) (kt := kt)
      (Γ := Γ) (comps := comps) (ms := ms) (a := a) (c0 := c0) hdecl
    rw [e1, e2]
    exact topMember hl hpar inv hdecl

end Step

theorem topItems {env : Env} {h : Hooks} {d : DocKind} {below : Below} {parent pfx kt : Str} (hh : HookAcc below h)
    (hl : topParent parent) (hpar : isComp d = true → compParent parent = true) :
    ∀ (c : List Node) (Γ : Ctx) (comps : List Str) (ms : List Member) (st : PSt), TopInv d pfx kt Γ comps ms st →
      Accepts (visitChildren env h d parent st c)
        (topItemsOK env below (!isComp d) parent pfx kt Γ comps ms c = true ∧
          OnceIf (isComp d) st.es.top.hasDesc "description".toList c ∧ OnceIf (isComp d) st.es.top.hasEx "example".toList c)
        (fun st' => ∃ ms', TopInv d pfx kt (topAfter env below pfx Γ comps c).1 (topAfter env below pfx Γ comps c).2 ms' st' ∧
          TopKeeps d st st')
  | [], Γ, comps, ms, st, inv => by
    rw [visitChildren_nil, topAfter]
    exact .ok ⟨rfl, OnceIf.nil _ _ _, OnceIf.nil _ _ _⟩ ⟨ms, inv, TopKeeps.refl d st⟩
  | .text s :: r, Γ, comps, ms, st, inv => by
    rw [visitChildren_text, topAfter, topItemsOK, OnceIf.text, OnceIf.text, Bool.and_eq_true]
    by_cases hb : (strip s).isEmpty = true
    · rw [if_pos hb]
      exact (topItems hh hl hpar r Γ comps ms st inv).congr ⟨fun hP => ⟨hP.1.2, hP.2⟩, fun hP => ⟨⟨hb, hP.1⟩, hP.2⟩⟩
    · rw [if_neg hb]
      exact .error fun hP => hb hP.1.1
  | .elem tg a c0 :: r, Γ, comps, ms, st, inv => by
    rw [visitChildren_elem, topItemsOK_cons, topAfter_cons env below pfx kt Γ comps ms, OnceIf.cons, OnceIf.cons, Bool.and_eq_true]
    have e : ∀ (flag flag' : Bool) (tag : Str), (isComp d = false → flag' = flag) →
        (OnceIf (isComp d) flag tag r ↔ OnceIf (isComp d) flag' tag r) :=
      fun _ _ _ hf => ⟨fun h hc => (hf hc).symm ▸ h hc, fun h hc => (hf hc) ▸ h hc⟩
    refine ((topItem hh hl hpar inv).bind fun st1 _ hq =>
      ((topItems hh hl hpar r _ _ _ st1 hq.1).congr
        (and_congr_right fun _ => and_congr (e _ _ _ fun hc => (hq.2.2 hc).1) (e _ _ _ fun hc => (hq.2.2 hc).2))).mono
        fun st' _ hx => let ⟨ms', i', k'⟩ := hx; ⟨ms', i', k'.trans hq.2.1⟩).congr
      ⟨fun hP => ⟨⟨hP.1.1, hP.2.1.1, hP.2.2.1⟩, hP.1.2, hP.2.1.2, hP.2.2.2⟩,
       fun hP => ⟨⟨hP.1.1, hP.2.1⟩, ⟨hP.1.2.1, hP.2.2.1⟩, hP.1.2.2, hP.2.2.2⟩⟩

/-! ### component documents, and their nesting -/

theorem componentRoot {env : Env} {h : Hooks} {below : Below} (hh : HookAcc below h) {Γ : Ctx} {comps : List Str}
    {tree : Node} {es : ES} (hrel : TypesRel Γ es.types) (hc : es.components = comps) :
    Accepts ((visitElem env h .component none { es := es } tree).map (·.es)) (componentOK env below Γ comps tree = true)
      (fun es' => TypesRel (componentAfter env below Γ comps tree).1 es'.types ∧
        es'.components = (componentAfter env below Γ comps tree).2 ∧ es'.top = es.top ∧ es'.handler = es.handler) := by
  cases tree with
  | text s =>
    rw [visitElem_text]
    exact .ok rfl ⟨hrel, hc, rfl, rfl⟩
  | elem t a c =>
    refine .map ?_
    unfold componentOK
    by_cases ht : t = DocKind.component.topLevel
    · have hpar : t = "component".toList := by rw [ht]; exact componentTopLevel_eq
      rw [visitElem_root_eq ht]
      subst hpar
      dsimp only
      refine ((Accepts.of_iff fun s => pushPrefix_ok_iff_top (st := { ({ es := es } : PSt) with stack := [] }) (a := a)
        rfl).bind_eq fun _ =>
          (topItems (env := env) (h := h) (d := .component) (kt := []) hh topParent_component
            (fun _ => compParent_component) c Γ comps [] { es := es, prefixes := [prefixOf none a], stack := [] }
            ⟨rfl, hrel, hc, fun hc => (by cases hc), fun _ => ⟨rfl, compParent_component⟩⟩).bind_pure (g := popPrefix)
            fun st2 _ hq => ?_).congr ?_
      · obtain ⟨ms', inv2, keeps⟩ := hq
        exact ⟨inv2.types, inv2.comps, keeps.top rfl, keeps.handler⟩
      · simp only [Bool.and_eq_true, beq_iff_eq]
        exact ⟨fun hP => ⟨hP.1.2, hP.2, fun hc => (by cases hc), fun hc => (by cases hc)⟩, fun hP => ⟨⟨ht, hP.1⟩, hP.2.1⟩⟩
    · rw [visitElem_root_other ht]
      refine .error fun hP => ht ?_
      simp only [Bool.and_eq_true, beq_iff_eq] at hP
      exact hP.1.1

theorem hookAcc_level (env : Env) : ∀ n : Nat, HookAcc (level env n) (hooks env n)
  | 0 => fun _ _ _ _ _ _ => .intro (fun hok => nomatch hok) fun _ hl => nomatch hl
  | n + 1 => fun _ _ _ _ hrel hc => componentRoot (h := hooks env n) (hookAcc_level env n) hrel hc

/-! ### the document element -/

theorem startSchema_accepts {env : Env} {h : Hooks} {a : Attrs} (hx : attr a "extends" = none) :
    Accepts (startSchema env h none { es := emptyES } a)
      (prefixOK none a = true ∧ handlerOK a = true ∧ dtAttrOK env (prefixOf none a) a "keytype" = true ∧
        dtAttrOK env (prefixOf none a) a "valuetype" = true ∧ dtAttrOK env (prefixOf none a) a "datatype" = true)
      (fun st1 => TopInv (.schema none) (prefixOf none a) (keytypeOf env (prefixOf none a) a none) [] [] [] st1 ∧
        st1.es.top.hasDesc = false ∧ st1.es.top.hasEx = false) := by
  unfold startSchema
  refine ((Accepts.of_iff fun s => pushPrefix_ok_iff_top (st := { es := emptyES }) (a := a) rfl).bind_eq fun _ =>
    (Accepts.of_iff fun r => getHandler_ok_iff (a := a) (r := r)).bind_eq fun _ =>
      (Accepts.of_iff fun r => getSectTypeinfo_ok_iff (env := env)
        (st := { ({ es := emptyES } : PSt) with prefixes := [prefixOf none a] }) (a := a) (r := r) none rfl).bind_eq
        (P' := True) fun _ => ?_).congr
    ⟨fun hP => ⟨hP.1, hP.2.1, hP.2.2, trivial⟩, fun hP => ⟨hP.1, hP.2.1, hP.2.2.1⟩⟩
  simp only [hx, bind, Except.bind, pure, Except.pure]
  exact .ok trivial ⟨⟨rfl, .nil, rfl, fun _ => ⟨rfl, rfl, .nil⟩, fun hc => (by cases hc)⟩, rfl, rfl⟩

/-- **on the level of the parser state**: a schema document without `extends` is read successfully exactly when it obeys
the rules, together with the components it imports, by a loader whose hooks do so one level down -/
theorem docRules_visit {env : Env} {h : Hooks} {below : Below} (hh : HookAcc below h) {t : Str} {a : Attrs}
    {c : List Node} (hx : attr a "extends" = none) :
    Accepts (visitElem env h (.schema none) none { es := emptyES } (.elem t a c))
      (t = Gen.schemaTopLevel ∧ schemaRootOK env below a c = true) fun _ => True := by
  by_cases ht : t = (DocKind.schema none).topLevel
  · have hpar : t = "schema".toList := by rw [ht]; exact schemaTopLevel_eq
    rw [visitElem_root_eq ht]
    subst hpar
    dsimp only
    refine ((startSchema_accepts (env := env) (h := h) hx).bind fun st1 _ hq =>
      ((topItems (env := env) (h := h) (d := .schema none) hh topParent_schema (fun hc => (by cases hc)) c [] [] [] st1
        hq.1).congr (P' := topItemsOK env below (!isComp (.schema none)) "schema".toList (prefixOf none a)
            (keytypeOf env (prefixOf none a) a none) [] [] [] c = true ∧
          OnceIf (isComp (.schema none)) false "description".toList c ∧ OnceIf (isComp (.schema none)) false "example".toList c)
        (by rw [hq.2.1, hq.2.2])).bind (P' := True) fun st2 _ hq2 => ?_).congr ?_
    · obtain ⟨ms', inv2, keeps⟩ := hq2
      have hstack : st2.stack = [.schema] := (inv2.schema rfl).1
      unfold endSchema
      simp only [hstack, popPrefix, inv2.prefixes, List.drop_one, List.tail_cons, Option.isSome_none, Bool.false_eq_true,
        ↓reduceIte]
      exact .ok trivial trivial
    · unfold schemaRootOK
      simp only [Bool.and_eq_true]
      exact ⟨fun ⟨_, ⟨⟨⟨⟨⟨r1, r2⟩, r3⟩, r4⟩, r5⟩, ritems⟩, ronce⟩ =>
          ⟨⟨r1, r2, r3, r4, r5⟩, ⟨ritems, ((onceOK_iff (isC := false)).1 ronce).1, fun _ => ((onceOK_iff (isC := false)).1 ronce).2⟩,
            trivial⟩,
        fun ⟨⟨r1, r2, r3, r4, r5⟩, ⟨ritems, ho1, ho2⟩, _⟩ =>
          ⟨ht, ⟨⟨⟨⟨⟨r1, r2⟩, r3⟩, r4⟩, r5⟩, ritems⟩, (onceOK_iff (isC := false)).2 ⟨ho1, ho2 rfl⟩⟩⟩
  · rw [visitElem_root_other ht]
    exact .error fun hP => ht hP.1
/-- **Every document that satisfies the rules is accepted** — with the components it imports, nested at most `n` deep,
given fuel for `n` levels -/
theorem rules_accepted_imports (env : Env) (n fuel : Nat) (root : Node) (hx : noExtends root = true)
    (hr : DocRulesN env n .schema root) (hfuel : n ≤ fuel) : ∃ S, elabSchema env fuel root = .ok S := by
  cases root with
  | text s => cases hx
  | elem t a c =>
    replace hr := docRulesN_mono hfuel hr
    unfold DocRulesN docRulesN at hr
    simp only [Bool.and_eq_true, beq_iff_eq] at hr
    have hx' : attr a "extends" = none := by
      unfold noExtends at hx
      simpa using hx
    obtain ⟨st', hv, _⟩ := (docRules_visit (h := hooks env fuel) (hookAcc_level env fuel) hx').run ⟨hr.1, hr.2⟩
    unfold elabSchema elabES
    rw [hv]
    exact ⟨_, rfl⟩

theorem standalone_noExtends {root : Node} (h : standalone root = true) : noExtends root = true := by
  cases root with
  | text s => cases h
  | elem t a c =>
    unfold standalone at h
    simp only [Bool.and_eq_true] at h
    exact h.1

/-- **Every document that satisfies the rules is accepted** (one document, any fuel) -/
theorem rules_accepted (env : Env) (fuel : Nat) (root : Node) (hst : standalone root = true)
    (hr : DocRules env .schema root) : ∃ S, elabSchema env fuel root = .ok S :=
  rules_accepted_imports env 0 fuel root (standalone_noExtends hst) hr (Nat.zero_le _)

/-- **An accepted document satisfies the rules**, and so do the components it imports: acceptance with fuel `n` implies
the judgement at nesting depth `n` -/
theorem accepted_rules_imports (env : Env) (fuel : Nat) (root : Node) (S : Cfg.Schema) (hx : noExtends root = true)
    (h : elabSchema env fuel root = .ok S) : DocRulesN env fuel .schema root := by
  cases root with
  | text s => cases hx
  | elem t a c =>
    have hx' : attr a "extends" = none := by
      unfold noExtends at hx
      simpa using hx
    unfold elabSchema elabES at h
    cases hv : visitElem env (hooks env fuel) (.schema none) none { es := emptyES } (.elem t a c) with
    | error e => rw [hv] at h; cases h
    | ok st' =>
      obtain ⟨⟨h1, h2⟩, _⟩ := (docRules_visit (hookAcc_level env fuel) hx').of_ok hv
      unfold DocRulesN docRulesN
      simp only [Bool.and_eq_true, beq_iff_eq]
      exact ⟨h1, h2⟩

/-! ### one document -/

/-- no `<import>` among the nodes: the second conjunct of `standalone`, by name -/
def noImport (c : List Node) : Bool :=
  c.all fun n => match n with
    | .elem t _ _ => t != "import".toList
    | .text _ => true

/-- without `<import>` children, the components play no role -/
theorem topItemsOK_noImport {env : Env} (b1 b2 : Below) {strict : Bool} {parent pfx kt : Str} :
    ∀ (c : List Node) (Γ : Ctx) (comps : List Str) (ms : List Member), noImport c = true →
      topItemsOK env b1 strict parent pfx kt Γ comps ms c = topItemsOK env b2 strict parent pfx kt Γ comps ms c
  | [], _, _, _, _ => by rw [topItemsOK, topItemsOK]
  | .text s :: r, Γ, comps, ms, hni => by
    simp only [noImport, List.all_cons, Bool.true_and] at hni
    rw [topItemsOK, topItemsOK, topItemsOK_noImport b1 b2 r Γ comps ms hni]
  | .elem t a c :: r, Γ, comps, ms, hni => by
    simp only [noImport, List.all_cons, Bool.and_eq_true, bne_iff_ne, ne_eq] at hni
    have him : (t == "import".toList) = false := by simpa using hni.1
    rw [topItemsOK, topItemsOK]
    simp only [him, Bool.false_eq_true, ↓reduceIte]
    rw [topItemsOK_noImport b1 b2 r _ comps ms hni.2, topItemsOK_noImport b1 b2 r Γ comps _ hni.2,
      topItemsOK_noImport b1 b2 r (Γ ++ [(typeNameOf a, sectiontypeSig env pfx Γ a c)]) comps ms hni.2]

/-- **An accepted document satisfies the rules** (one document, any fuel) -/
theorem accepted_rules (env : Env) (fuel : Nat) (root : Node) (S : Cfg.Schema) (hst : standalone root = true)
    (h : elabSchema env fuel root = .ok S) : DocRules env .schema root := by
  have hn := accepted_rules_imports env fuel root S (standalone_noExtends hst) h
  cases root with
  | text s => cases hst
  | elem t a c =>
    unfold standalone at hst
    simp only [Bool.and_eq_true] at hst
    have hn' : (t == Gen.schemaTopLevel && schemaRootOK env (level env fuel) a c) = true := hn
    show (t == Gen.schemaTopLevel && schemaRootOK env (level env 0) a c) = true
    unfold schemaRootOK at hn' ⊢
    dsimp only at hn' ⊢
    rw [topItemsOK_noImport (level env 0) (level env fuel) c [] [] [] hst.2]
    exact hn'

end ZCV.SchemaRules

