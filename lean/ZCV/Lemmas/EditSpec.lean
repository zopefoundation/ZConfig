import ZCV.Spec.Edit
/-!
The edit specification (`ZCV/Spec/Edit.lean`) taken apart: what a successful or failed `editItem` / `editItems` / `editBody`
says about its parts, and what every edit keeps (`KeptByEdit`).  Inductions that follow the recursion of the edit item by
item (`simItemsS`, `editTops_keeps`) rewrite with its equations.
-/
namespace ZCV.Conf
open ZCV ZCV.Cfg

theorem splitOvs_cons_ok {norm : Str → Except ConvErr Str} {o : OptItem} {r : List OptItem} {ks : List KeyOv}
    {ss : List OptItem} (h : splitOvs norm (o :: r) = .ok (ks, ss)) :
    (∃ k n ks', o.path = [k] ∧ norm k = .ok n ∧ splitOvs norm r = .ok (ks', ss) ∧
      ks = { key := k, norm := n, val := o.val } :: ks') ∨
    (∃ ss', 2 ≤ o.path.length ∧ splitOvs norm r = .ok (ks, ss') ∧ ss = o :: ss') := by
  rw [splitOvs] at h
  split at h
  · cases h
  · rename_i k hp
    split at h
    · cases h
    · rename_i n hn
      split at h
      · cases h
      · rename_i ks' ss' hs
        cases h
        exact .inl ⟨k, n, ks', hp, hn, hs, rfl⟩
  · rename_i k1 k2 more hp
    split at h
    · cases h
    · rename_i ks' ss' hs
      cases h
      exact .inr ⟨ss', by rw [hp]; simp, hs, rfl⟩

section
variable {conv : Conv} {s : Schema} {asGiven : Bool} {norm : Str → Except ConvErr Str} {keys : List Str}

theorem editItems_nil (pend : List OptItem) : editItems conv s asGiven norm keys [] pend = .ok ([], pend) := by
  rw [editItems]

theorem editItems_cons_ok {i : Item} {r : List Item} {pend pend' : List OptItem} {is : List Item}
    (h : editItems conv s asGiven norm keys (i :: r) pend = .ok (is, pend')) :
    ∃ is1 pend1 rs, editItem conv s asGiven norm keys i pend = .ok (is1, pend1) ∧
      editItems conv s asGiven norm keys r pend1 = .ok (rs, pend') ∧ is = is1 ++ rs := by
  rw [editItems] at h
  split at h
  · cases h
  · rename_i is1 pend1 h1
    split at h
    · cases h
    · rename_i rs pend2 h2
      cases h
      exact ⟨is1, pend1, rs, h1, h2, rfl⟩

theorem editItems_cons_error {i : Item} {r : List Item} {pend : List OptItem} {e : Reject}
    (h : editItems conv s asGiven norm keys (i :: r) pend = .error e) :
    editItem conv s asGiven norm keys i pend = .error e ∨
      ∃ is1 pend1, editItem conv s asGiven norm keys i pend = .ok (is1, pend1) ∧
        editItems conv s asGiven norm keys r pend1 = .error e := by
  rw [editItems] at h
  split at h
  · cases h; exact .inl ‹_›
  · rename_i is1 pend1 h1
    split at h
    · cases h; exact .inr ⟨is1, pend1, h1, ‹_›⟩
    · cases h

theorem editItem_kv (k v : Str) (p : Pos) (pend : List OptItem) :
    editItem conv s asGiven norm keys (.kv k v p) pend =
      .ok (if overridden norm keys k then [] else [.kv k v p], pend) := by
  rw [editItem]

theorem editItem_sect (conv : Conv) (s : Schema) (asGiven : Bool) (norm : Str → Except ConvErr Str) (keys : List Str)
    (ty : Str) (nm : Option Str) (sub : List Item) (pend : List OptItem) :
    editItem conv s asGiven norm keys (.sect ty nm sub) pend =
      if (pend.filter (addresses · ty nm)).isEmpty then .ok ([.sect ty nm sub], pend)
      else
        match s.gettype ty with
        | some (.concrete t) =>
          match editBody conv s asGiven t.keytype sub ((pend.filter (addresses · ty nm)).map dropHead) with
          | .error e => .error e
          | .ok sub' => .ok ([.sect ty nm sub'], pend.filter (fun o => !addresses o ty nm))
        | _ => .error (.unknownType ty) := by
  rw [editItem]
  unfold editBody
  split
  · rfl
  · cases s.gettype ty with
    | none => rfl
    | some te =>
      cases te with
      | abstract_ n subs => rfl
      | concrete t =>
        dsimp only
        cases splitOvs (conv.key t.keytype) ((pend.filter (addresses · ty nm)).map dropHead) <;> rfl

theorem editItem_sect_ok {ty : Str} {nm : Option Str} {sub : List Item} {pend pend' : List OptItem} {is : List Item}
    (h : editItem conv s asGiven norm keys (.sect ty nm sub) pend = .ok (is, pend')) :
    ((pend.filter (addresses · ty nm)).isEmpty = true ∧ is = [.sect ty nm sub] ∧ pend' = pend) ∨
    (¬ (pend.filter (addresses · ty nm)).isEmpty = true ∧ ∃ t sub', s.gettype ty = some (.concrete t) ∧
      editBody conv s asGiven t.keytype sub ((pend.filter (addresses · ty nm)).map dropHead) = .ok sub' ∧
      is = [.sect ty nm sub'] ∧ pend' = pend.filter (fun o => !addresses o ty nm)) := by
  rw [editItem_sect] at h
  by_cases he : (pend.filter (addresses · ty nm)).isEmpty = true
  · rw [if_pos he] at h
    cases h
    exact .inl ⟨he, rfl, rfl⟩
  · rw [if_neg he] at h
    split at h
    · rename_i t hg
      split at h
      · cases h
      · rename_i sub' hed
        cases h
        exact .inr ⟨he, t, sub', hg, hed, rfl, rfl⟩
    · cases h

theorem editItem_pend_sub {i : Item} {pend pend' : List OptItem} {is : List Item}
    (h : editItem conv s asGiven norm keys i pend = .ok (is, pend')) : ∀ o ∈ pend', o ∈ pend := by
  cases i with
  | kv k v p => rw [editItem_kv] at h; cases h; exact fun _ ho => ho
  | sect ty nm sub =>
    rcases editItem_sect_ok h with ⟨_, _, rfl⟩ | ⟨_, _, _, _, _, _, rfl⟩
    · exact fun _ ho => ho
    · exact fun _ ho => (List.mem_filter.mp ho).1

end

theorem closeBody_ok (asGiven : Bool) (G : List (Str × List (Str × Str))) (r : Except Reject (List Item × List OptItem))
    (items' : List Item) (h : closeBody asGiven G r = .ok items') :
    ∃ is, r = .ok (is, []) ∧ items' = is ++ newLines asGiven G := by
  unfold closeBody at h
  split at h
  · cases h
  · cases h; exact ⟨_, rfl, rfl⟩
  · cases h

theorem editBody_ok (conv : Conv) (s : Schema) (asGiven : Bool) (kt : Str) (items : List Item) (ovs : List OptItem)
    (items' : List Item) (h : editBody conv s asGiven kt items ovs = .ok items') :
    ∃ ks ss is, splitOvs (conv.key kt) ovs = .ok (ks, ss) ∧
      editItems conv s asGiven (conv.key kt) ((groupsOf ks).map (·.1)) items ss = .ok (is, []) ∧
      items' = is ++ newLines asGiven (groupsOf ks) := by
  unfold editBody at h
  split at h
  · cases h
  · rename_i ks ss hs
    obtain ⟨is, h1, h2⟩ := closeBody_ok _ _ _ _ h
    exact ⟨ks, ss, is, hs, h1, h2⟩

theorem editBody_error (conv : Conv) (s : Schema) (asGiven : Bool) (kt : Str) (items : List Item) (ovs : List OptItem)
    (e : Reject) (h : editBody conv s asGiven kt items ovs = .error e) :
    splitOvs (conv.key kt) ovs = .error e ∨ ∃ ks ss, splitOvs (conv.key kt) ovs = .ok (ks, ss) ∧
      (editItems conv s asGiven (conv.key kt) ((groupsOf ks).map (·.1)) items ss = .error e ∨
       ∃ is o left, editItems conv s asGiven (conv.key kt) ((groupsOf ks).map (·.1)) items ss = .ok (is, o :: left)) := by
  unfold editBody at h
  split at h
  · cases h; exact .inl ‹_›
  · rename_i ks ss hs
    refine .inr ⟨ks, ss, hs, ?_⟩
    unfold closeBody at h
    split at h
    · cases h; exact .inl ‹_›
    · cases h
    · exact .inr ⟨_, _, _, ‹_›⟩

/-! ### what the edit keeps

The edit drops key lines, supplies key lines and rewrites bodies: a property of item lists closed as below survives it
(`tyCanon s`, `lowItems`). -/

structure KeptByEdit (P : List Item → Bool) : Prop where
  nil : P [] = true
  cons : ∀ i l, P (i :: l) = (P [i] && P l)
  kv : ∀ k v p, P [.kv k v p] = true
  sect : ∀ ty nm sub sub', P [.sect ty nm sub] = true → P sub = true ∧ (P sub' = true → P [.sect ty nm sub'] = true)

namespace KeptByEdit
variable {P : List Item → Bool} (hP : KeptByEdit P)
include hP

theorem append : ∀ (a b : List Item), P (a ++ b) = (P a && P b)
  | [], b => by rw [List.nil_append, hP.nil, Bool.true_and]
  | i :: a, b => by rw [List.cons_append, hP.cons, append a b, hP.cons i a, Bool.and_assoc]

theorem kvs : ∀ (l : List Item), (∀ i ∈ l, ∃ k v p, i = .kv k v p) → P l = true
  | [], _ => hP.nil
  | i :: r, h => by
    obtain ⟨k, v, p, rfl⟩ := h i List.mem_cons_self
    rw [hP.cons, hP.kv, kvs r (fun j hj => h j (List.mem_cons_of_mem _ hj))]
    rfl

end KeptByEdit

theorem newLines_kv (asGiven : Bool) (G : List (Str × List (Str × Str))) :
    ∀ i ∈ newLines asGiven G, ∃ k v p, i = .kv k v p := by
  intro i hi
  unfold newLines at hi
  rw [List.mem_flatMap] at hi
  obtain ⟨g, _, hg⟩ := hi
  rw [List.mem_map] at hg
  obtain ⟨kv, _, rfl⟩ := hg
  exact ⟨_, _, _, rfl⟩

section
variable {P : List Item → Bool} (hP : KeptByEdit P) (conv : Conv) (s : Schema) (asGiven : Bool)
include hP

mutual
theorem editItem_pres : ∀ (i : Item), P [i] = true → ∀ norm keys pend is pend',
    editItem conv s asGiven norm keys i pend = .ok (is, pend') → P is = true
  | .kv k v p, _, norm, keys, pend, is, pend', h => by
    rw [editItem_kv] at h
    cases h
    split
    · exact hP.nil
    · exact hP.kv k v p
  | .sect ty nm sub, hi, norm, keys, pend, is, pend', h => by
    rcases editItem_sect_ok h with ⟨_, rfl, _⟩ | ⟨_, t, sub', _, hed, rfl, _⟩
    · exact hi
    · obtain ⟨ks, ss, is0, _, h2, rfl⟩ := editBody_ok conv s asGiven t.keytype sub _ sub' hed
      apply (hP.sect ty nm sub _ hi).2
      rw [hP.append, editItems_pres sub (hP.sect ty nm sub sub hi).1 _ _ _ _ _ h2, hP.kvs _ (newLines_kv asGiven _)]
      rfl
theorem editItems_pres : ∀ (l : List Item), P l = true → ∀ norm keys pend is pend',
    editItems conv s asGiven norm keys l pend = .ok (is, pend') → P is = true
  | [], _, norm, keys, pend, is, pend', h => by
    rw [editItems_nil] at h
    cases h
    exact hP.nil
  | i :: r, hl, norm, keys, pend, is, pend', h => by
    rw [hP.cons, Bool.and_eq_true] at hl
    obtain ⟨is1, pend1, rs, h1, h2, rfl⟩ := editItems_cons_ok h
    rw [hP.append, editItem_pres i hl.1 _ _ _ _ _ h1, editItems_pres r hl.2 _ _ _ _ _ h2]
    rfl
end

theorem editBody_pres (kt : Str) (items : List Item) (ovs : List OptItem) (items' : List Item) (hl : P items = true)
    (h : editBody conv s asGiven kt items ovs = .ok items') : P items' = true := by
  obtain ⟨ks, ss, is, _, h2, rfl⟩ := editBody_ok conv s asGiven kt items ovs items' h
  rw [hP.append, editItems_pres hP conv s asGiven items hl _ _ _ _ _ h2, hP.kvs _ (newLines_kv asGiven _)]
  rfl

end

end ZCV.Conf
