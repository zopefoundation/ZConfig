import ZCV.Lemmas.ImportOvLoad
import ZCV.Lemmas.Handlers
import ZCV.Spec.HandlersImport
import ZCV.Lemmas.ImportLoadText
import ZCV.Lemmas.OverrideCor
/-!
The whole load with `%import` lines and overrides, for top-level items and for text, in one equation: configuration, handler
list and the schema the load ends with are those the schema DEFINES (`specI`: `denoteI`, `docHandlersI`, `extendBy`) for the
items EDITED against the schema the load starts with (`editBodyI`).  Without a bag a load yields `specI` (`tops_spec`: the
entries along the top level, the document's own, and C12 for the configuration); with the bag of the overrides, `tops_elim`
leads back to that for the edited items (`runTopsOv_eq`; `load_ov_spec` for text, `load_ov_eq_denoteI` and `load_ov_result`
its two readings).
-/
namespace ZCV.Conf
open ZCV ZCV.Cfg

/-! ### the handler entries of a run under a bag -/

def HSimItemsS (conv : Conv) (S s : Schema) (asGiven : Bool) (l : List Item) : Prop :=
  ∀ (m : Matcher) (kp : List (Str × List Str)) (pend : List OptItem) (is : List Item) (pend' : List OptItem) (m' : Matcher),
    m.bag = none → PendOK pend →
    editItems conv S asGiven (conv.key m.ty.keytype) (kp.map (·.1)) l pend = .ok (is, pend') →
    evalItemsBS conv S s (withBag m (some { keypairs := kp, sectitems := pend })) l = .ok m' →
    hItemsBS conv S s (withBag m (some { keypairs := kp, sectitems := pend })) l = handlersOfItems conv s is

theorem hsimItemsS (conv : Conv) (S s : Schema) (asGiven : Bool) (hsp : SpellOK conv S asGiven) (hSs : SubSchema S s)
    (hs : schemaOK s = true) : ∀ (l : List Item), lowItems l = true → HSimItemsS conv S s asGiven l := by
  intro l hl m kp pend is pend' m' hb hpend hed hev
  have hcan := tyCanon_of_low s hs l hl
  have h := simItemsS conv S s asGiven hsp hSs l hcan m kp pend hb hpend
  rw [hed, evalsH_ok conv S s _ l m' hev] at h
  obtain ⟨a, ha, hr⟩ := map_ok_inv h.symm
  obtain ⟨m1, hm1, rfl⟩ := map_ok_inv ha
  rw [← show _ = hItemsBS conv S s (withBag m _) l from congrArg Prod.snd hr]
  show hItemsBS conv S s m is = _
  rw [evalItemsBS_eval conv S s is m hb] at hm1
  exact hItemsBS_nobag conv S s hs is (editItems_pres (tyCanon_kept s) conv S asGiven l hcan _ _ _ _ _ hed) m m1 hb hm1

/-! ### the end of a load, without a bag -/

theorem own_eq_ownI (conv : Conv) (pkgs : Str → Pkg) (S sF : Schema) (tops : List TopItem)
    (hok : importsOK pkgs S tops = true) (hl : lowTops tops = true) (he : extendBy pkgs S tops = some sF)
    (hk : knownAt pkgs S tops = true) :
    ownHandlers conv sF S.top (itemsOf tops) = ownHandlersI conv S pkgs tops := by
  unfold ownHandlersI ownHandlers
  rw [schemaAt_length, he]
  simp only
  rw [topVals_known conv pkgs sF tops S hok hl he hk]
  apply filterMap_congr'
  intro c _
  cases c.2.handler <;>
    cases childVal conv sF S.top (keyLines conv S.top (itemsOf tops)) (subsOf (itemsOf tops) (itemVals conv sF (itemsOf tops))) c <;>
    rfl

/-- the document's own entries after a bag-free evaluation of the top level -/
theorem end_bagless (conv : Conv) (pkgs : Str → Pkg) (S : Schema) (tops : List TopItem)
    (hok : importsOK pkgs S tops = true) (hl : lowTops tops = true) (x : Schema × RH)
    (hev : evalTopsH conv pkgs S S (newMatcher S.top none none) tops = some x) (hext : extendBy pkgs S tops = some x.1)
    (v0 : Val) (hs : List (Str × Val)) (hfin : finishMatcher conv x.1 x.2.1 = .ok (v0, hs)) :
    hs = ownHandlersI conv S pkgs tops := by
  have hsF := importsOK_final pkgs tops S x.1 hok hext
  have htop : x.1.top = S.top := (Grow_of_extendBy pkgs tops S x.1 hext).top
  have hfinal := evalTopsH_final conv pkgs S x.1 tops S (newMatcher S.top none none) hok hl hext rfl rfl
  rw [hev] at hfinal
  cases hk : knownAt pkgs S tops with
  | false => rw [hk] at hfinal; simp at hfinal
  | true =>
    rw [hk] at hfinal
    simp only [if_true] at hfinal
    cases hei : evalItems conv x.1 (newMatcher S.top none none) (itemsOf tops) with
    | error e => rw [hei] at hfinal; simp at hfinal
    | ok m4 =>
      rw [hei] at hfinal
      simp only [toOption_ok, Option.map_some, Option.some.injEq, Prod.mk.injEq, true_and] at hfinal
      subst hfinal
      have hTop : STypeOK S.top := by
        rw [← htop]
        exact stypeOK_prop x.1 _ (schemaOK_top x.1 hsF)
      rw [container_handlers conv x.1 hsF S.top none hTop (itemsOf tops)
        (tyCanon_of_low x.1 hsF _ (itemsOf_low tops hl)) x.2.1 hei v0 hs hfin]
      exact own_eq_ownI conv pkgs S x.1 tops hok hl hext hk

theorem docHandlersI_eq (conv : Conv) (S : Schema) (pkgs : Str → Pkg) (tops : List TopItem) (v : Val)
    (hden : denoteI conv S pkgs tops = some v) :
    docHandlersI conv S pkgs tops =
      topHandlers conv pkgs S tops ++ ownHandlersI conv S pkgs tops ++
        (match S.handler with | some h => [(h, v)] | none => []) := by
  unfold docHandlersI
  rw [hden]
  cases S.handler <;> rfl

theorem topHandlers_items_append (conv : Conv) (pkgs : Str → Pkg) (s : Schema) : ∀ (l : List Item) (r : List TopItem),
    topHandlers conv pkgs s (l.map .item ++ r) = handlersOfItems conv s l ++ topHandlers conv pkgs s r
  | [], r => by rw [List.map_nil, List.nil_append, handlersOfItems, List.nil_append]
  | i :: l, r => by
    rw [List.map_cons, List.cons_append, topHandlers, handlersOfItems, topHandlers_items_append conv pkgs s l r,
      List.append_assoc]

theorem evalTopsH_handlers (conv : Conv) (pkgs : Str → Pkg) (S : Schema) :
    ∀ (tops : List TopItem) (s : Schema) (m : Matcher) (x : Schema × RH), importsOK pkgs s tops = true →
      lowTops tops = true → m.bag = none → evalTopsH conv pkgs S s m tops = some x → x.2.2 = topHandlers conv pkgs s tops
  | [], s, m, x, _, _, _, h => by
    rw [evalTopsH] at h
    cases h
    rw [topHandlers]
  | .imp p :: r, s, m, x, hok, hl, hb, h => by
    rw [lowTops] at hl
    rw [evalTopsH] at h
    rw [topHandlers]
    cases he : extend s (pkgs p) with
    | none => rw [he] at h; cases h
    | some s' =>
      rw [he] at h
      exact evalTopsH_handlers conv pkgs S r s' m x (importsOK_imp pkgs p r s s' hok he) hl hb h
  | .item i :: r, s, m, x, hok, hl, hb, h => by
    have hs := importsOK_head pkgs _ s hok
    rw [importsOK] at hok
    rw [lowTops, Bool.and_eq_true] at hl
    rw [evalTopsH] at h
    rw [topHandlers]
    cases he : evalH conv S s m i with
    | error e => rw [he] at h; cases h
    | ok a =>
      rw [he] at h
      obtain ⟨y, hy, rfl⟩ := Option.map_eq_some_iff.mp h
      obtain ⟨m', hm', rfl⟩ := map_ok_inv he
      have hb' : m'.bag = none := (evalItemBS_pres conv S s m m' i hm').2 hb
      rw [evalItemBS_eval conv S s i m hb, ← evalItemB_nobag conv s i m hb] at hm'
      show hItemBS conv S s m i ++ y.2.2 = _
      rw [hItemBS_nobag conv S s hs i (tyCanon_of_low s hs _ (lowItem_single _ hl.1)) m m' hb hm',
        evalTopsH_handlers conv pkgs S r s m' y hok hl.2 hb' hy]

/-- the result the schema defines for the top-level items of a text -/
def specI (conv : Conv) (S : Schema) (pkgs : Str → Pkg) (tops : List TopItem) : Option LoadResult :=
  (denoteI conv S pkgs tops).bind fun v => (extendBy pkgs S tops).map fun sA =>
    { value := v, handlers := docHandlersI conv S pkgs tops, schemaAfter := sA }

/-- the configuration of a bag-free load is `denoteI` (C12) -/
theorem tops_value (conv : Conv) (pkgs : Str → Pkg) (S : Schema) (tops : List TopItem)
    (hok : importsOK pkgs S tops = true) (hl : lowTops tops = true) :
    ((evalTopsH conv pkgs S S (newMatcher S.top none none) tops).bind (finT conv S)).map (·.value) = denoteI conv S pkgs tops := by
  have h := run_finT conv pkgs S tops (loadSt0 conv pkgs S) (newMatcher S.top none none) rfl rfl rfl (.inl rfl) rfl
  rw [show (loadSt0 conv pkgs S).schema = S from rfl] at h
  rw [← h, loadFin_fst, ← loadTops_eq_denoteI conv pkgs S tops hok hl]
  rfl

/-- **A load without a bag, whole result** (C01 + C02 + C12 + C16): the configuration is `denoteI`, the handler list
    `docHandlersI`, the schema the load ends with `extendBy`; and there is none iff the items do not conform. -/
theorem tops_spec (conv : Conv) (pkgs : Str → Pkg) (S : Schema) (tops : List TopItem)
    (hok : importsOK pkgs S tops = true) (hl : lowTops tops = true) :
    (evalTopsH conv pkgs S S (newMatcher S.top none none) tops).bind (finT conv S) = specI conv S pkgs tops := by
  have hv := tops_value conv pkgs S tops hok hl
  unfold specI
  cases hr : (evalTopsH conv pkgs S S (newMatcher S.top none none) tops).bind (finT conv S) with
  | none =>
    rw [hr] at hv
    rw [← hv]
    rfl
  | some r =>
    rw [hr] at hv
    obtain ⟨x, he, hf⟩ := Option.bind_eq_some_iff.mp hr
    have hext := evalTopsH_schema conv pkgs S tops S _ x he
    unfold finT closeH at hf
    cases hfm : finishMatcher conv x.1 x.2.1 with
    | error e => rw [hfm] at hf; cases hf
    | ok vh =>
      rw [hfm] at hf
      dsimp only [Except.map, toOption_ok, Option.bind_some] at hf
      cases hc : conv.sect S.top.datatype vh.1 with
      | error e => rw [hc] at hf; cases hf
      | ok v =>
        rw [hc] at hf
        cases hf
        have hden : denoteI conv S pkgs tops = some v := hv.symm
        rw [hden, hext, docHandlersI_eq conv S pkgs tops v hden,
          ← evalTopsH_handlers conv pkgs S tops S _ x hok hl rfl he,
          ← end_bagless conv pkgs S tops hok hl x he hext vh.1 vh.2 hfm]
        rfl

/-! ### with the bag of the overrides -/

/-- **A load with `%import` lines and overrides, on top-level items, in one equation**: configuration, handler list and
    final schema are those the schema defines for the items edited against `S`; there is no result iff the edit is
    impossible or the edited items do not conform. -/
theorem runTopsOv_eq (conv : Conv) (pkgs : Str → Pkg) (S : Schema) (asGiven : Bool) (hsp : SpellOK conv S asGiven)
    (tops : List TopItem) (ovs : List OptItem) (hok : importsOK pkgs S tops = true) (hl : lowTops tops = true)
    (hovs : OvsOK ovs) :
    (bagOf conv S ovs >>= fun bag => runTops (stOv conv pkgs S bag) tops >>= loadFin conv S).toOption =
      (editBodyI conv S asGiven tops ovs).toOption.bind (specI conv S pkgs) := by
  cases ovs with
  | nil =>
    rw [editBodyI_nil]
    show (runTops (stOv conv pkgs S none) tops >>= loadFin conv S).toOption = specI conv S pkgs tops
    rw [run_finT conv pkgs S tops _ (newMatcher S.top none none) rfl rfl rfl (.inl rfl) rfl]
    exact tops_spec conv pkgs S tops hok hl
  | cons o ovs' =>
    have hkeep := editBodyI_keeps conv S asGiven pkgs tops (o :: ovs')
    have hspec : (editBodyI conv S asGiven tops (o :: ovs')).toOption.bind (specI conv S pkgs) =
        (editBodyI conv S asGiven tops (o :: ovs')).toOption.bind fun tops' =>
          (evalTopsH conv pkgs S S (newMatcher S.top none none) tops').bind (finT conv S) := by
      cases hed : editBodyI conv S asGiven tops (o :: ovs') with
      | error r => rfl
      | ok tops' =>
        obtain ⟨_, k2, k3⟩ := hkeep tops' hed S
        exact (tops_spec conv pkgs S tops' (by rw [k2]; exact hok) (k3 hl)).symm
    rw [hspec, ← tops_elim conv pkgs S asGiven hsp tops o ovs' hok hl hovs]
    show ((mkBag conv S.top (o :: ovs')).map some >>= _).toOption = _
    cases mkBag conv S.top (o :: ovs') with
    | error e => rfl
    | ok bag => exact run_finT conv pkgs S tops _ (newMatcher S.top none (some bag)) rfl rfl rfl (.inr rfl) rfl

theorem specI_fst (conv : Conv) (S : Schema) (pkgs : Str → Pkg) (tops : List TopItem) :
    (specI conv S pkgs tops).map (·.value) = denoteI conv S pkgs tops := by
  unfold specI
  cases hd : denoteI conv S pkgs tops with
  | none => rfl
  | some v =>
    unfold denoteI at hd
    rw [schemaAt_length] at hd
    cases hx : extendBy pkgs S tops with
    | none => rw [hx] at hd; cases hd
    | some sF => rfl

/-- **C01 + C02 + C12 + C14 + C16 in one equation, for TEXT with `%import` lines loaded with overrides.** -/
theorem load_ov_spec (conv : Conv) (env : Env) (pkgs : Str → Pkg) (S : Schema) (url : Option Str) (lines : List Str)
    (specs : List Str) (asGiven : Bool) (hsp : SpellOK conv S asGiven)
    (htop : importsAtTop env url lines)
    (hok : ∀ tops, treeOfI env url lines = .ok tops → importsOK pkgs S tops = true)
    (hovs : ∀ ovs, specs.mapM addOption = .ok ovs → OvsOK ovs) :
    (load conv env pkgs S url lines specs).toOption =
      (specs.mapM addOption).toOption.bind fun ovs =>
        (treeOfI env url lines).toOption.bind fun tops =>
          (editBodyI conv S asGiven tops ovs).toOption.bind (specI conv S pkgs) := by
  rw [load_eq_runTopsOv conv env pkgs S url lines specs htop]
  cases hspec : specs.mapM addOption with
  | error e => rfl
  | ok ovs =>
    simp only [toOption_ok, Option.bind_some]
    cases ht : treeOfI env url lines with
    | error e => cases (bagOf conv S ovs).toOption <;> rfl
    | ok tops =>
      simp only [toOption_ok, Option.bind_some]
      rw [← runTopsOv_eq conv pkgs S asGiven hsp tops ovs (hok tops ht) (treeOfI_low env url lines tops ht) (hovs ovs hspec)]
      cases bagOf conv S ovs <;> rfl

theorem load_ov_eq_denoteI (conv : Conv) (env : Env) (pkgs : Str → Pkg) (S : Schema) (url : Option Str) (lines : List Str)
    (specs : List Str) (asGiven : Bool) (hsp : SpellOK conv S asGiven)
    (htop : importsAtTop env url lines)
    (hok : ∀ tops, treeOfI env url lines = .ok tops → importsOK pkgs S tops = true)
    (hovs : ∀ ovs, specs.mapM addOption = .ok ovs → OvsOK ovs) :
    (load conv env pkgs S url lines specs).toOption.map (·.value) =
      (specs.mapM addOption).toOption.bind fun ovs =>
        (treeOfI env url lines).toOption.bind fun tops =>
          (editBodyI conv S asGiven tops ovs).toOption.bind (denoteI conv S pkgs) := by
  have h := congrArg (Option.map (·.value)) (load_ov_spec conv env pkgs S url lines specs asGiven hsp htop hok hovs)
  refine h.trans ?_
  cases specs.mapM addOption with
  | error e => rfl
  | ok ovs =>
    cases treeOfI env url lines with
    | error e => rfl
    | ok tops =>
      simp only [toOption_ok, Option.bind_some]
      cases editBodyI conv S asGiven tops ovs with
      | error r => rfl
      | ok tops' => exact specI_fst conv S pkgs tops'

theorem specI_some (conv : Conv) (S : Schema) (pkgs : Str → Pkg) (tops : List TopItem) (r : LoadResult)
    (h : specI conv S pkgs tops = some r) :
    denoteI conv S pkgs tops = some r.value ∧ r.handlers = docHandlersI conv S pkgs tops ∧
      extendBy pkgs S tops = some r.schemaAfter := by
  unfold specI at h
  cases hd : denoteI conv S pkgs tops with
  | none => rw [hd] at h; cases h
  | some v' =>
    cases hx : extendBy pkgs S tops with
    | none => rw [hd, hx] at h; cases h
    | some s' =>
      rw [hd, hx] at h
      cases h
      exact ⟨rfl, rfl, rfl⟩

theorem load_ov_result (conv : Conv) (env : Env) (pkgs : Str → Pkg) (S : Schema) (url : Option Str) (lines : List Str)
    (specs : List Str) (asGiven : Bool) (hsp : SpellOK conv S asGiven)
    (htop : importsAtTop env url lines)
    (hok : ∀ tops, treeOfI env url lines = .ok tops → importsOK pkgs S tops = true)
    (hovs : ∀ ovs, specs.mapM addOption = .ok ovs → OvsOK ovs)
    (r : LoadResult) (h : load conv env pkgs S url lines specs = .ok r) :
    ∃ ovs tops tops', specs.mapM addOption = .ok ovs ∧ treeOfI env url lines = .ok tops ∧
      editBodyI conv S asGiven tops ovs = .ok tops' ∧ denoteI conv S pkgs tops' = some r.value ∧
      r.handlers = docHandlersI conv S pkgs tops' ∧ extendBy pkgs S tops' = some r.schemaAfter := by
  have e := load_ov_spec conv env pkgs S url lines specs asGiven hsp htop hok hovs
  rw [h] at e
  cases hspec : specs.mapM addOption with
  | error x => rw [hspec] at e; cases e
  | ok ovs =>
    rw [hspec] at e
    cases ht : treeOfI env url lines with
    | error x => rw [ht] at e; cases e
    | ok tops =>
      rw [ht] at e
      cases hed : editBodyI conv S asGiven tops ovs with
      | error x => simp only [toOption_ok, Option.bind_some, hed] at e; cases e
      | ok tops' =>
        simp only [toOption_ok, Option.bind_some, hed] at e
        exact ⟨ovs, tops, tops', rfl, rfl, hed, specI_some conv S pkgs tops' _ e.symm⟩

theorem ovsOK_nil (ovs : List OptItem) (h : ([] : List Str).mapM addOption = .ok ovs) : OvsOK ovs := by
  cases h
  exact ovsOK_of_all rfl

theorem load_result_nil (conv : Conv) (env : Env) (pkgs : Str → Pkg) (S : Schema) (url : Option Str) (lines : List Str)
    (htop : importsAtTop env url lines)
    (hok : ∀ tops, treeOfI env url lines = .ok tops → importsOK pkgs S tops = true)
    (r : LoadResult) (h : load conv env pkgs S url lines [] = .ok r) :
    ∃ tops, treeOfI env url lines = .ok tops ∧ denoteI conv S pkgs tops = some r.value ∧
      r.handlers = docHandlersI conv S pkgs tops ∧ extendBy pkgs S tops = some r.schemaAfter := by
  obtain ⟨ovs, tops, tops', h1, h2, h3, h4⟩ := load_ov_result conv env pkgs S url lines [] false (fun h => by cases h)
    htop hok ovsOK_nil r h
  cases h1
  cases (editBodyI_nil conv S false tops).symm.trans h3
  exact ⟨tops, h2, h4⟩

end ZCV.Conf
