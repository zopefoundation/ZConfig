import ZCV.Lemmas.LayoutLoad
import ZCV.Lemmas.LayoutPerm
/-!
C15 at the level of the TEXT and the loader: swapping two neighbouring key lines of a text whose keys go to different
attributes of the section that is open at that point changes neither the configuration the loader returns nor whether
it rejects the text.  (The tree builder is simulated on the two texts: the two stacks differ by one swap, first in the
open section, later — once that section is closed — inside the corresponding sub-tree.)
-/
namespace ZCV.Conf
open ZCV ZCV.Cfg

theorem SwJ_append_right (conv : Conv) (s : Schema) {t : SType} {X X' : List Item} (C : List Item)
    (h : SwJ conv s t X X') : SwJ conv s t (X ++ C) (X' ++ C) := by
  cases h with
  | here A B x y hi => rw [List.append_assoc, List.append_assoc]; exact .here A (B ++ C) x y hi
  | inside A B ty nm its its' hty hsub =>
    rw [List.append_assoc, List.append_assoc]; exact .inside A (B ++ C) ty nm its its' hty hsub
  | junk A B ty nm its its' hty => rw [List.append_assoc, List.append_assoc]; exact .junk A (B ++ C) ty nm its its' hty

/-! ### the relation between the two tree-builder stacks -/

abbrev Level := Str × Option Str × List Item

/-- the items of an open section in file order, positions forgotten -/
def lvX (lv : Level) : List Item := eraseItems lv.2.2.reverse

/-- the type against which the items of an open section are read: the schema itself for the document level -/
def tyOf (s : Schema) (bottom : Bool) (ty : Str) : Option SType :=
  if bottom then some s.top
  else match s.gettype ty with
    | some (.concrete t) => some t
    | _ => none

/-- two versions of one open section that differ by a swap -/
def LvRel (conv : Conv) (s : Schema) (bottom : Bool) (lv lv' : Level) : Prop :=
  lv.1 = lv'.1 ∧ lv.2.1 = lv'.2.1 ∧
    match tyOf s bottom lv.1 with
    | some t => SwJ conv s t (lvX lv) (lvX lv')
    | none => True

/-- exactly one open section differs (by a swap); all others agree up to positions -/
inductive StackRel (conv : Conv) (s : Schema) : List Level → List Level → Prop
  | diff (lv lv' : Level) (rest rest' : List Level) : LvRel conv s rest.isEmpty lv lv' →
      rest.map eraseLevel = rest'.map eraseLevel → StackRel conv s (lv :: rest) (lv' :: rest')
  | same (lv lv' : Level) (rest rest' : List Level) : eraseLevel lv = eraseLevel lv' →
      StackRel conv s rest rest' → StackRel conv s (lv :: rest) (lv' :: rest')

def TBsw (conv : Conv) (s : Schema) (a b : TB) : Prop := StackRel conv s a.stack b.stack

theorem map_eq_isEmpty {α β} (f : α → β) {l l' : List α} (h : l.map f = l'.map f) : l.isEmpty = l'.isEmpty := by
  cases l <;> cases l' <;> simp_all

theorem stackRel_isEmpty (conv : Conv) (s : Schema) {a b : List Level} (h : StackRel conv s a b) :
    a.tail.isEmpty = b.tail.isEmpty := by
  cases h with
  | diff lv lv' rest rest' _ hr => exact map_eq_isEmpty _ hr
  | same lv lv' rest rest' _ hr =>
    cases hr <;> rfl

/-- an open section with one more item: `tbValue` pushes the key line onto the innermost level, `tbStop` pushes the
    closed section onto its parent (both by unfolding, whatever the level is) -/
def push (i : Item) (lv : Level) : Level := (lv.1, lv.2.1, i :: lv.2.2)

theorem lvX_push (i : Item) (lv : Level) : lvX (push i lv) = lvX lv ++ [eraseItem i] := by
  simp only [lvX, push, List.reverse_cons, eraseItems_append, eraseItems_cons]
  rw [eraseItems]

theorem eraseLevel_lvX {lv lv' : Level} (h : eraseLevel lv = eraseLevel lv') : lvX lv = lvX lv' := by
  simp only [lvX, eraseItems_reverse, (Prod.mk.inj (Prod.mk.inj h).2).2]

theorem eraseLevel_push {lv lv' : Level} {i i' : Item} (h : eraseLevel lv = eraseLevel lv')
    (hi : eraseItem i = eraseItem i') : eraseLevel (push i lv) = eraseLevel (push i' lv') := by
  have h2 := Prod.mk.inj (Prod.mk.inj h).2
  show (lv.1, lv.2.1, eraseItem i :: eraseItems lv.2.2) = (lv'.1, lv'.2.1, eraseItem i' :: eraseItems lv'.2.2)
  rw [(Prod.mk.inj h).1, h2.1, h2.2, hi]

/-- a closed section, as an item of its parent, up to positions -/
theorem eraseItem_level {lv lv' : Level} (h : eraseLevel lv = eraseLevel lv') :
    eraseItem (.sect lv.1 lv.2.1 lv.2.2.reverse) = eraseItem (.sect lv'.1 lv'.2.1 lv'.2.2.reverse) := by
  have h2 := Prod.mk.inj (Prod.mk.inj h).2
  show Item.sect lv.1 lv.2.1 (lvX lv) = Item.sect lv'.1 lv'.2.1 (lvX lv')
  rw [(Prod.mk.inj h).1, h2.1, eraseLevel_lvX h]

/-- extending both versions of the differing section by the same item (up to positions) -/
theorem lvRel_push (conv : Conv) (s : Schema) {bottom : Bool} {lv lv' : Level} {i i' : Item}
    (h : LvRel conv s bottom lv lv') (hi : eraseItem i = eraseItem i') :
    LvRel conv s bottom (push i lv) (push i' lv') := by
  refine ⟨h.1, h.2.1, ?_⟩
  have h3 := h.2.2
  show match tyOf s bottom lv.1 with | some t => SwJ conv s t (lvX (push i lv)) (lvX (push i' lv')) | none => True
  cases ht : tyOf s bottom lv.1 with
  | none => trivial
  | some t =>
    rw [ht] at h3
    rw [lvX_push, lvX_push, hi]
    exact SwJ_append_right conv s _ h3

/-- the differing section is closed: its parent now differs, inside that sub-section -/
theorem lvRel_close (conv : Conv) (s : Schema) (bottom : Bool) {lv lv' pl pl' : Level}
    (h : LvRel conv s false lv lv') (hp : eraseLevel pl = eraseLevel pl') :
    LvRel conv s bottom (push (.sect lv.1 lv.2.1 lv.2.2.reverse) pl) (push (.sect lv'.1 lv'.2.1 lv'.2.2.reverse) pl') := by
  have hp2 := Prod.mk.inj (Prod.mk.inj hp).2
  refine ⟨(Prod.mk.inj hp).1, hp2.1, ?_⟩
  show match tyOf s bottom pl.1 with
    | some t => SwJ conv s t (lvX (push _ pl)) (lvX (push _ pl'))
    | none => True
  cases tyOf s bottom pl.1 with
  | none => trivial
  | some tp =>
    rw [lvX_push, lvX_push, ← eraseLevel_lvX hp]
    show SwJ conv s tp (lvX pl ++ [.sect lv.1 lv.2.1 (lvX lv)]) (lvX pl ++ [.sect lv'.1 lv'.2.1 (lvX lv')])
    rw [← h.1, ← h.2.1]
    have h3 := h.2.2
    simp only [tyOf, Bool.false_eq_true, ↓reduceIte] at h3
    cases hg : s.gettype lv.1 with
    | none => exact SwJ.junk _ [] _ _ _ _ (by intro t' ht; rw [hg] at ht; cases ht)
    | some te =>
      cases te with
      | abstract_ n subs => exact SwJ.junk _ [] _ _ _ _ (by intro t' ht; rw [hg] at ht; cases ht)
      | concrete t' =>
        rw [hg] at h3
        exact SwJ.inside _ [] _ _ _ _ hg h3

theorem treeCtx_swSim (conv : Conv) (s : Schema) : PosSim treeCtx (TBsw conv s) where
  start := fun a b ty nm h => show TBsw conv s _ _ from StackRel.same _ _ _ _ rfl h
  imp := fun _ _ _ _ => trivial
  value := by
    intro ⟨sa⟩ ⟨sb⟩ k v p p' h
    cases (show StackRel conv s sa sb from h) with
    | diff lv lv' rest rest' hlv hr => exact StackRel.diff _ _ _ _ (lvRel_push conv s hlv rfl) hr
    | same lv lv' rest rest' hlv hr => exact StackRel.same _ _ _ _ (eraseLevel_push hlv rfl) hr
  stop := by
    intro ⟨sa⟩ ⟨sb⟩ ty0 nm0 h
    cases (show StackRel conv s sa sb from h) with
    | diff lv lv' rest rest' hlv hr =>
      -- the differing section is the innermost one
      match rest, rest', hr with
      | [], [], _ => exact trivial
      | pl :: r, pl' :: r', hr =>
        have hr := List.cons.inj hr
        exact StackRel.diff _ _ _ _ (lvRel_close conv s _ hlv hr.1) hr.2
    | same lv lv' rest rest' hlv hr =>
      cases hr with
      | diff pl pl' r r' hpl hr => exact StackRel.diff _ _ _ _ (lvRel_push conv s hpl (eraseItem_level hlv)) hr
      | same pl pl' r r' hpl hr => exact StackRel.same _ _ _ _ (eraseLevel_push hpl (eraseItem_level hlv)) hr

/-! ### the two swapped lines -/

/-- in the section that is open at this point of the text, the two keys go to different attributes -/
def KeysIndepAt (conv : Conv) (s : Schema) (st : TB) (k1 k2 : Str) : Prop :=
  ∀ ty nm its rest, st.stack = (ty, nm, its) :: rest →
    ∀ t, tyOf s rest.isEmpty ty = some t → target conv t k1 ≠ target conv t k2

theorem bind_err {α β} {x : M α} {f : α → M β} (h : ∃ e, x = .error e) : ∃ e, (x >>= f) = .error e := by
  obtain ⟨e, rfl⟩ := h
  exact ⟨e, rfl⟩

/-- a key line outside every section (the tree builder has no level left) is refused -/
theorem kv_step_nil (fuel : Nat) (env : Env) (active : List Str) (url : Option Str) (n : Nat) {l k raw : Str}
    {st : PS TB} (hl : lineShape l = .kv k raw) (hst : st.ctx.stack = []) :
    ∃ e, stepLine fuel env treeCtx active url n l st = .error e := by
  rw [stepLine_of_kv hl]
  cases replace env st.defs url n raw with
  | error e => exact ⟨e, rfl⟩
  | ok v =>
    show ∃ e, kvCore treeCtx url n k v st = .error e
    rw [kvCore_eq, show treeCtx.value = tbValue from rfl]
    unfold tbValue
    rw [hst]
    exact ⟨_, rfl⟩

theorem kv_step_two (fuel : Nat) (env : Env) (active : List Str) (url : Option Str) (n n' : Nat)
    {l k raw l' k' raw' : Str} {st : PS TB} {lv : Level} {rest : List Level}
    (hl : lineShape l = .kv k raw) (hl' : lineShape l' = .kv k' raw') (hst : st.ctx.stack = lv :: rest) :
    (stepLine fuel env treeCtx active url n l st >>= fun s1 => stepLine fuel env treeCtx active url n' l' s1) =
      (replace env st.defs url n raw >>= fun v => replace env st.defs url n' raw' >>= fun v' =>
        .ok { st with ctx := ⟨push (.kv k' v' ⟨n', url⟩) (push (.kv k v ⟨n, url⟩) lv) :: rest⟩ }) := by
  have one : ∀ (m : Nat) (x y : Str) (st : PS TB) (lv : Level), st.ctx.stack = lv :: rest →
      kvCore treeCtx url m x y st = .ok { st with ctx := ⟨push (.kv x y ⟨m, url⟩) lv :: rest⟩ } := by
    intro m x y st lv h
    rw [kvCore_eq, show treeCtx.value = tbValue from rfl]
    unfold tbValue
    rw [h]
    rfl
  rw [stepLine_of_kv hl, bind_assoc]
  congr 1
  funext v
  rw [one n k v st lv hst, ok_bind, stepLine_of_kv hl']
  rfl

theorem parseLines_two {σ} (fuel : Nat) (env : Env) (c : PCtx σ) (active : List Str) (url : Option Str)
    (l1 l2 : Str) (B : List Str) (n : Nat) (st : PS σ) :
    parseLines fuel env c active url (l1 :: l2 :: B) n st =
      ((stepLine fuel env c active url (n + 1) (strip l1) st >>= fun s1 =>
          stepLine fuel env c active url (n + 1 + 1) (strip l2) s1) >>= fun s2 =>
        parseLines fuel env c active url B (n + 1 + 1) s2) := by
  rw [parseLines, bind_assoc]
  congr 1
  funext s1
  rw [parseLines]

theorem relM_comm {α β γ} {S : γ → γ → Prop} {x x' : M α} {y y' : M β} {f g : α → β → M γ}
    (hx : relM Eq x x') (hy : relM Eq y y') (h : ∀ a b, relM S (f a b) (g a b)) :
    relM S (x >>= fun a => y' >>= fun b => f a b) (y >>= fun b => x' >>= fun a => g a b) := by
  cases x <;> cases x' <;> cases y <;> cases y' <;>
    first | exact hx.elim | exact hy.elim | exact trivial | (cases hx; cases hy; exact h _ _)

theorem two_lines_rel (conv : Conv) (s : Schema) (env : Env) (fuel : Nat) (active : List Str) (url : Option Str)
    (m : Nat) (l1 l2 k1 raw1 k2 raw2 : Str) (sA : PS TB)
    (h1 : lineShape (strip l1) = .kv k1 raw1) (h2 : lineShape (strip l2) = .kv k2 raw2)
    (hi : KeysIndepAt conv s sA.ctx k1 k2) :
    relM (RS (TBsw conv s))
      (stepLine fuel env treeCtx active url (m + 1) (strip l1) sA >>= fun s1 =>
        stepLine fuel env treeCtx active url (m + 1 + 1) (strip l2) s1)
      (stepLine fuel env treeCtx active url (m + 1) (strip l2) sA >>= fun s1 =>
        stepLine fuel env treeCtx active url (m + 1 + 1) (strip l1) s1) := by
  cases hst : sA.ctx.stack with
  | nil =>
    obtain ⟨e, he⟩ := bind_err (kv_step_nil fuel env active url (m + 1) h1 hst)
    obtain ⟨e', he'⟩ := bind_err (kv_step_nil fuel env active url (m + 1) h2 hst)
    rw [he, he']
    exact trivial
  | cons lv rest =>
    rw [kv_step_two fuel env active url _ _ h1 h2 hst, kv_step_two fuel env active url _ _ h2 h1 hst]
    refine relM_comm (relM_replace env sA.defs url _ _ raw1) (relM_replace env sA.defs url _ _ raw2) fun v1 v2 => ?_
    -- both accepted: the open section differs by the swap
    refine ⟨StackRel.diff _ _ _ _ ⟨rfl, rfl, ?_⟩ rfl, rfl, rfl⟩
    show match tyOf s rest.isEmpty lv.1 with | some t => SwJ conv s t (lvX _) (lvX _) | none => True
    cases ht : tyOf s rest.isEmpty lv.1 with
    | none => trivial
    | some t =>
      simp only [lvX_push, List.append_assoc]
      exact SwJ.here _ [] _ _ (hi lv.1 lv.2.1 lv.2.2 rest hst t ht)

theorem treeOf_swap_lines (conv : Conv) (s : Schema) (env : Env) (url : Option Str) (A B : List Str)
    (l1 l2 k1 raw1 k2 raw2 : Str)
    (h1 : lineShape (strip l1) = .kv k1 raw1) (h2 : lineShape (strip l2) = .kv k2 raw2)
    (hi : ∀ sA, runLines 64 env treeCtx (activeOf url) url A 0
        { ctx := { stack := [([], none, [])] }, stack := [], defs := [] } = .ok sA → KeysIndepAt conv s sA.ctx k1 k2) :
    relM (fun x y => SwJ conv s s.top (eraseItems x) (eraseItems y))
      (treeOf env url (A ++ l1 :: l2 :: B)) (treeOf env url (A ++ l2 :: l1 :: B)) := by
  rw [treeOf_eq, treeOf_eq, parseLines_append, parseLines_append]
  cases hA : runLines 64 env treeCtx (activeOf url) url A 0
      { ctx := { stack := [([], none, [])] }, stack := [], defs := [] } with
  | error e => exact trivial
  | ok sA =>
    rw [ok_bind, ok_bind, parseLines_two, parseLines_two]
    refine relM_bind (relM_bind (two_lines_rel conv s env 64 (activeOf url) url (0 + A.length) l1 l2 k1 raw1 k2 raw2 sA
        h1 h2 (hi sA hA))
      fun s1 s2 h12 => layout_parse_rel treeCtx (TBsw conv s) (treeCtx_swSim conv s) env 64 (activeOf url) url B _ _ s1 s2 h12)
      ?_
    intro s1 s2 h12
    obtain ⟨⟨k1⟩, _, _⟩ := s1
    obtain ⟨⟨k2⟩, _, _⟩ := s2
    cases (show StackRel conv s k1 k2 from h12.1) with
    | diff lv lv' r r' hlv hr =>
      match r, r', hr with
      | [], [], _ => exact hlv.2.2
      | _ :: _, _ :: _, _ => exact trivial
    | same lv lv' r r' _ hr => cases hr <;> exact trivial

theorem load_swap_lines (conv : Conv) (env : Env) (pkgs : Str → Pkg) (s : Schema) (url : Option Str)
    (A B : List Str) (l1 l2 k1 raw1 k2 raw2 : Str)
    (hs : schemaOK s = true)
    (hni : ∀ x ∈ A ++ B, NoImportLine x) (hres : ∀ u ls, env.res u = some ls → ∀ x ∈ ls, NoImportLine x)
    (h1 : lineShape (strip l1) = .kv k1 raw1) (h2 : lineShape (strip l2) = .kv k2 raw2)
    (hi : ∀ sA, runLines 64 env treeCtx (activeOf url) url A 0
        { ctx := { stack := [([], none, [])] }, stack := [], defs := [] } = .ok sA → KeysIndepAt conv s sA.ctx k1 k2) :
    (load conv env pkgs s url (A ++ l1 :: l2 :: B) []).toOption.map (·.value) =
      (load conv env pkgs s url (A ++ l2 :: l1 :: B) []).toOption.map (·.value) := by
  have hn : ∀ x ∈ [l1, l2], NoImportLine x := by
    intro x hx a ha
    simp only [List.mem_cons, List.mem_nil_iff, or_false] at hx
    rcases hx with rfl | rfl
    · rw [h1] at ha; cases ha
    · rw [h2] at ha; cases ha
  exact load_congr_tree conv env pkgs s url _ _ hs (noImport_splice [l1, l2] hni hn)
    (noImport_splice [l2, l1] hni fun x hx => hn x (by simpa [or_comm] using hx)) hres
    (relM_mono (treeOf_swap_lines conv s env url A B l1 l2 k1 raw1 k2 raw2 h1 h2 hi) fun _ _ h => denote_SwJ conv s h)

end ZCV.Conf
