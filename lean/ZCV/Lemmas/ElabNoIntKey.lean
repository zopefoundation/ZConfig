import ZCV.Lemmas.ElabNoIntBase
import ZCV.Lemmas.ElabInvDoc
/-!
No internal errors: what is done to a key object (`get_key_info`, `adddefault`, `computedefault`) and to the container on
top of the stack (`_add_child`, the start of `<section>` / `<multisection>`).  The asserts of `add_valueinfo` hold because
every key object in the schema state has the shape its name calls for: the light invariant `KeysOK`.
-/
namespace ZCV.Elab
open ZCV ZCV.Cfg

variable {P : String → Prop}

theorem keyInfoName_ni (any name : Option Str) : NIx P (keyInfoName any name) := by
  unfold keyInfoName
  split
  · exact NIx.serr _
  · split
    · exact NIx.ok _
    · exact NIx.ite (fun _ => NIx.ok _) fun _ => NIx.serr _

theorem getKeyInfo_ni {env : Env} {st : PSt} (he : EnvNI env) (hp : st.prefixes ≠ [])
    (hc : ContainerOK st.es st.stack) (attrs : Attrs) : NIx P (getKeyInfo env st attrs) := by
  rw [getKeyInfo_nf]
  refine NIx.bind (getNameInfo_ni he.keyErr hc _ _) fun _ _ => NIx.bind (keyInfoName_ni _ _) fun _ _ => ?_
  exact NIx.bind (getDatatype_ni he.dotted hp _ _ _ _) fun _ _ => NIx.bind (getHandler_ni _) fun _ _ => NIx.pure _

theorem finishKey_ni (k : EKey) : NIx P (finishKey k) := by
  unfold finishKey
  exact NIx.ite (fun _ => NIx.serr _) fun _ => NIx.ok _

theorem addDefault_ni {k : EKey} (hk : KeyShape k) (hopt : k.minOccurs = 0) (value : Str) (key : Option Str) :
    NIx P (addDefault k value key) :=
  NIq.ni ((addDefault_ends hk hopt value key).fails fun e he _ hs => by subst hs; exact he.elim)

/-- normalising the defaults of a `+` key: only the key type can fail, and it fails with ValueError -/
theorem normDefault_ni {env : Env} (hke : ∀ kt s e, env.conv.key kt s = .error e → e = .valueError) (kt : Str)
    {multi : Bool} {raw : Default} (hraw : plusShape multi raw) : NIx P (normDefault env kt multi raw) :=
  NIq.ni (normDefault_ends (fun e he _ hs => by subst hs; exact he.elim)
    (fun _ => NIq.of_ni (convDefaultKey_ni hke _ _) fun _ _ => trivial) hraw)

/-- `computedefault` on a `+` key: only the key type can fail, and it fails with ValueError (→ DataConversionError) -/
theorem computeDefault_ni {env : Env} (hke : ∀ kt s e, env.conv.key kt s = .error e → e = .valueError) (kt : Str)
    {k : EKey} (hs : KeyShape k) (hp : k.name = ['+']) : NIx P (computeDefault env kt k) := by
  rw [computeDefault_eq env kt k hp]
  exact NIx.map (normDefault_ni hke kt (hs.rawShape hp))

/-! ### the container on top of the stack -/

theorem addChild_ni {st : PSt} (hc : ContainerOK st.es st.stack) (key : Option Str) (info : EInfo) :
    NIx P (addChild st key info) := by
  obtain ⟨ch, hch⟩ := topOf_ok hc
  rw [addChild_eq, topChildren_eq, hch]
  exact NIx.ite (fun _ => NIx.schema _) fun _ => NIx.ite (fun _ => NIx.schema _) fun _ => NIx.ok _

/-! ### the light invariant `KeysOK`: every key object stored in the schema state satisfies `KeyShape` -/

def ChKeys (ch : List (Option Str × EInfo)) : Prop := ∀ c ∈ ch, ∀ k, c.2 = EInfo.key k → KeyShape k

structure KeysOK (es : ES) : Prop where
  top : ChKeys es.top.children
  types : ∀ p ∈ es.types, ∀ t, p.2 = EEntry.concrete t → ChKeys t.children

theorem ChKeys.nil : ChKeys [] := by intro c hc; cases hc

theorem ChKeys.append {a b : List (Option Str × EInfo)} (ha : ChKeys a) (hb : ChKeys b) : ChKeys (a ++ b) := by
  intro c hc
  rcases List.mem_append.mp hc with hc | hc
  · exact ha c hc
  · exact hb c hc

theorem ChKeys.single_key {key : Option Str} {k : EKey} (hk : KeyShape k) : ChKeys [(key, EInfo.key k)] := by
  intro c hc k' hk'
  simp only [List.mem_singleton] at hc
  subst hc
  cases hk'
  exact hk

theorem ChKeys.single_sect {key : Option Str} {si : SectInfo} : ChKeys [(key, EInfo.sect si)] := by
  intro c hc k' hk'
  simp only [List.mem_singleton] at hc
  subst hc
  cases hk'

theorem KeysOK.emptyES : KeysOK emptyES := ⟨ChKeys.nil, by intro p hp; cases hp⟩

theorem KeysOK.topOf {es : ES} (h : KeysOK es) {stack : List Frame} {ch : List (Option Str × EInfo)}
    (ht : topOf es stack = .ok ch) : ChKeys ch := by
  rcases topOf_ok_cases ht with ⟨_, _, rfl⟩ | ⟨n, _, t, _, hf, rfl⟩
  · exact h.top
  · exact h.types _ (List.mem_of_find?_eq_some hf) _ rfl

theorem KeysOK.map {es : ES} (h : KeysOK es) (g : Str × EEntry → Str × EEntry)
    (hg : ∀ p t, (g p).2 = EEntry.concrete t → ∃ t0, p.2 = EEntry.concrete t0 ∧ (ChKeys t0.children → ChKeys t.children)) :
    KeysOK { es with types := es.types.map g } := by
  refine ⟨h.top, ?_⟩
  intro q hq t ht
  simp only [List.mem_map] at hq
  obtain ⟨p, hp, rfl⟩ := hq
  obtain ⟨t0, hp0, himp⟩ := hg p t ht
  exact himp (h.types p hp t0 hp0)

theorem KeysOK.absOnly {es : ES} (h : KeysOK es) {g} (hg : AbsOnly g) : KeysOK { es with types := es.types.map g } :=
  h.map g fun
    | (k, .concrete t0), t, ht => by rw [hg.conc] at ht; exact ⟨t0, rfl, by cases ht; exact id⟩
    | (k, .abstract_ a b c), t, ht => by obtain ⟨b', c', e⟩ := hg.abs k a b c; rw [e] at ht; cases ht

theorem KeysOK.updType {es : ES} (h : KeysOK es) (n : Str) (f : EType → EType)
    (hf : ∀ t, ChKeys t.children → ChKeys (f t).children) : KeysOK (es.updType n f) := by
  unfold ES.updType
  refine h.map _ ?_
  intro ⟨k, e⟩ t ht
  dsimp only at ht
  split at ht
  · cases e with
    | concrete t0 =>
      simp only [EEntry.concrete.injEq] at ht
      subst ht
      exact ⟨t0, rfl, hf t0⟩
    | abstract_ a b c => cases ht
  · exact ⟨t, ht, id⟩

theorem KeysOK.setTopOf {es : ES} (h : KeysOK es) (stack : List Frame) {ch : List (Option Str × EInfo)} (hc : ChKeys ch) :
    KeysOK (setTopOf es stack ch) := by
  unfold Elab.setTopOf
  split
  · exact ⟨hc, h.types⟩
  · exact h.updType _ _ (fun _ _ => hc)
  · exact h

theorem KeysOK.top_congr {es : ES} (h : KeysOK es) (t : EType) (hc : t.children = es.top.children) :
    KeysOK { es with top := t } :=
  ⟨by show ChKeys t.children; rw [hc]; exact h.top, h.types⟩

theorem KeysOK.addType {es es' : ES} {n : Str} {e : EEntry} (h : KeysOK es) (ha : addType es n e = .ok es')
    (he : ∀ t, e = EEntry.concrete t → ChKeys t.children) : KeysOK es' := by
  obtain ⟨_, rfl⟩ := addType_ok ha
  refine ⟨h.top, fun p hp t ht => ?_⟩
  rcases List.mem_append.mp hp with hp | hp
  · exact h.types p hp t ht
  · simp only [List.mem_singleton] at hp
    subst hp
    exact he t ht

/-! ### `<key>` / `<multikey>` -/

/-- `computeDefault_ni` with the hypothesis on the name as a Bool test, as the `if` of the handlers gives it -/
theorem computeDefault_ni' {env : Env} (hke : ∀ kt s e, env.conv.key kt s = .error e → e = .valueError) (kt : Str)
    {k : EKey} (hs : KeyShape k) (hp : (k.name == ['+']) = true) : NIx P (computeDefault env kt k) :=
  computeDefault_ni hke kt hs (by simpa using hp)

open ZCV.SchemaRules (endObj) in
/-- `</key>` / `</multikey>` on a well-shaped key object: only the key type can fail, with ValueError -/
theorem endObj_ni {env : Env} (he : EnvNI env) {multi : Bool} {kt : Str} {k : EKey} (hk : KeyShape k) :
    NIx P (endObj multi env (.ok kt) k) := by
  rw [SchemaRules.endObj_eq]
  refine NIx.ite (fun hp => NIx.bind (NIx.ok kt) fun _ h => ?_) fun _ => NIx.ite (fun _ => finishKey_ni _) fun _ => NIx.ok _
  cases h
  exact NIx.bind (computeDefault_ni he.keyErr kt hk hp) fun _ _ => finishKey_ni _

/-! ### `<section>` / `<multisection>` -/

theorem pushSect_eff {st st' : PSt} {key : Option Str} {si : SectInfo}
    (h : pushChild st key (EInfo.sect si) (.sect false false) = .ok st') :
    ∃ ch, topOf st.es st.stack = .ok ch ∧
      st' = { st with es := setTopOf st.es st.stack (ch ++ [(key, EInfo.sect si)]), stack := .sect false false :: st.stack } := by
  obtain ⟨st1, hadd, h⟩ := bind_ok_inv h
  cases h
  obtain ⟨ch, hch, rfl⟩ := addChild_eff hadd
  exact ⟨ch, hch, rfl⟩

theorem startSection_eff {env : Env} {st st' : PSt} {attrs : Attrs} (h : startSection env st attrs = .ok st') :
    ∃ key si ch, topOf st.es st.stack = .ok ch ∧
      st' = { st with es := setTopOf st.es st.stack (ch ++ [(key, EInfo.sect si)]), stack := .sect false false :: st.stack } := by
  obtain ⟨_, _, _, _, _, _, _, _, _, _, h⟩ := startSection_ok h
  obtain ⟨ch, hch, he⟩ := pushSect_eff h
  exact ⟨_, _, ch, hch, he⟩

theorem startMultisection_eff {env : Env} {st st' : PSt} {attrs : Attrs} (h : startMultisection env st attrs = .ok st') :
    ∃ key si ch, topOf st.es st.stack = .ok ch ∧
      st' = { st with es := setTopOf st.es st.stack (ch ++ [(key, EInfo.sect si)]), stack := .sect false false :: st.stack } := by
  obtain ⟨_, _, _, _, _, _, _, _, _, _, h⟩ := startMultisection_ok h
  obtain ⟨ch, hch, he⟩ := pushSect_eff h
  exact ⟨_, _, ch, hch, he⟩

theorem sectStart_post {st st' : PSt} {key : Option Str} {si : SectInfo} {ch : List (Option Str × EInfo)}
    (hch : topOf st.es st.stack = .ok ch) (hks : KeysOK st.es)
    (he : st' = { st with es := setTopOf st.es st.stack (ch ++ [(key, EInfo.sect si)]), stack := .sect false false :: st.stack }) :
    st'.stack = .sect false false :: st.stack ∧ st'.prefixes = st.prefixes ∧ kinds st'.es = kinds st.es ∧ KeysOK st'.es := by
  subst he
  exact ⟨rfl, rfl, kinds_setTopOf _ _ _, hks.setTopOf _ ((hks.topOf hch).append ChKeys.single_sect)⟩

theorem getSectiontype_ni (st : PSt) (attrs : Attrs) : NIx P (getSectiontype st attrs) := by
  refine ⟨fun s h => ?_⟩
  exact (getSectiontype_error h).elim

/-- `start_section`: the `assert` of `addsection` cannot fail when key types never produce a wildcard name -/
theorem startSection_ni {env : Env} {st : PSt} (he : EnvNI env) (hc : ContainerOK st.es st.stack) (attrs : Attrs) :
    NIx P (startSection env st attrs) := by
  unfold startSection
  refine NIx.bind (getSectiontype_ni _ _) (fun ty _ => ?_)
  refine NIx.bind (getHandler_ni _) (fun handler _ => ?_)
  refine NIx.bind (getRequired_ni _) (fun req _ => ?_)
  refine NIx.bind (getNameInfo_ni he.keyErr hc _ _) (fun r hr => ?_)
  obtain ⟨anyName, name, attrName⟩ := r
  dsimp only
  obtain ⟨n, _, _, _, _, _, hn⟩ := getNameInfo_ok hr
  have hname : ¬ ((name == some ['*'] || name == some ['+']) = true) := by
    rcases hn with ⟨_, _, rfl, _⟩ | ⟨hw, _, kt, nm, _, hconv, rfl⟩
    · simp
    · have := he.keyWild _ _ _ (convKeyName_ok hconv) (Bool.eq_false_iff.2 fun h => hw ((anyNames_iff n).1 h))
      simp [this.1, this.2]
  rw [if_neg hname]
  exact NIx.bind (addChild_ni hc _ _) fun _ _ => NIx.pure _

theorem startMultisection_ni {env : Env} {st : PSt} (he : EnvNI env) (hc : ContainerOK st.es st.stack) (attrs : Attrs) :
    NIx P (startMultisection env st attrs) := by
  unfold startMultisection
  refine NIx.bind (getSectiontype_ni _ _) (fun ty _ => ?_)
  refine NIx.bind (getRequired_ni _) (fun req _ => ?_)
  refine NIx.bind (getNameInfo_ni he.keyErr hc _ _) (fun r hr => ?_)
  obtain ⟨anyName, name, attrName⟩ := r
  dsimp only
  split
  · refine NIx.guard (fun _ h => nomatch h) fun _ => ?_
    refine NIx.bind (getHandler_ni _) fun handler _ => ?_
    exact NIx.bind (addChild_ni hc _ _) fun _ _ => NIx.pure _
  · exact NIx.serr _

end ZCV.Elab
