import ZCV.Lemmas.ImportLoadText
/-!
Consistency with the import-free development: for a text without `%import` lines (here and in what it can include),
the top-level items `treeOfI` builds are the items of `treeOf` (`ZCV/Spec/Tree.lean`), and no `%import` is met inside a
section.  The comparison of the two builders (`freeSim`, `parse_freeSim`) holds on every text up to the first `%import` line
`treeCtx` refuses; it also carries "the headers are lower-cased" from `treeOfI` over to `treeOf` (`treeOf_low`).
-/
namespace ZCV.Conf
open ZCV ZCV.Cfg

/-- the two structure-recording contexts side by side: same open sections, the outermost entry of `treeCtx`'s
    stack is the top level of `treeCtxI` -/
def RF (F : List (Str × Option Str)) (tb : TB) (tbi : TBI) : Prop :=
  tbi.nested = false ∧ tbi.stack.map hdr = F ∧
    ∃ ty0 nm0 items0, tb.stack = tbi.stack ++ [(ty0, nm0, items0)] ∧ tbi.tops = items0.map .item

/-- `P` is what is known once `treeCtx` has refused an `%import` line that `treeCtxI` takes: `False` when the lines `L` have no
    `%import`; `True` when nothing is to be compared from there on -/
theorem freeSim {L : Str → Prop} {P : Prop} (hP : ∀ l arg, L l → lineShape (strip l) = .import_ arg → P) :
    LineRel treeCtx treeCtxI L RF (fun _ => P) False True where
  canInc := rfl
  canDef := rfl
  dead := ⟨fun _ _ h _ => h, fun h _ => h, fun h _ => h, fun _ _ h _ => h⟩
  deadX _ _ h := h
  imp := by
    intro l arg pkg F a b hl hs _
    show RelM _ _ _ (.error _ : M TB) (tbiImport b pkg)
    unfold tbiImport
    split <;> exact hP l arg hl hs
  start := by
    rintro l ty nm e F a b _ _ ⟨hn, hsh, ty0, nm0, items0, hst, htops⟩
    refine ⟨hn, ?_, ty0, nm0, items0, ?_, htops⟩
    · simp [hdr, ← hsh]
    · simp [hst]
  stop := by
    rintro l ty nm F a b _ _ ⟨hn, hsh, ty0, nm0, items0, hst, htops⟩
    show RelM _ _ _ (tbStop a ty nm) (tbiStop b ty nm)
    unfold tbStop tbiStop
    cases hb : b.stack with
    | nil => rw [hb] at hsh; simp at hsh
    | cons x rest =>
      obtain ⟨ty1, nm1, items1⟩ := x
      rw [hb] at hst hsh
      cases rest with
      | nil =>
        rw [hst]
        refine ⟨hn, ?_, ty0, nm0, _, rfl, ?_⟩
        · simp only [List.map_cons, List.map_nil, List.cons.injEq] at hsh
          exact hsh.2
        · simp [htops]
      | cons y rest =>
        obtain ⟨pty, pnm, pitems⟩ := y
        rw [hst]
        refine ⟨hn, ?_, ty0, nm0, items0, rfl, htops⟩
        simp only [List.map_cons, List.cons.injEq] at hsh
        simpa [hdr] using hsh.2
  value := by
    rintro l k raw v p p₂ F a b _ _ hp ⟨hn, hsh, ty0, nm0, items0, hst, htops⟩
    cases hp trivial
    show RelM _ _ _ (tbValue a k v p) (tbiValue b k v p)
    unfold tbValue tbiValue
    cases hb : b.stack with
    | nil =>
      rw [hb] at hst hsh
      rw [hst]
      refine ⟨hn, hsh, ty0, nm0, _, rfl, ?_⟩
      simp [htops]
    | cons x rest =>
      obtain ⟨ty1, nm1, items1⟩ := x
      rw [hb] at hst hsh
      rw [hst]
      exact ⟨hn, by simpa [hdr] using hsh, ty0, nm0, items0, rfl, htops⟩

theorem RF_fin {tb : TB} {tbi : TBI} (h : RF [] tb tbi) :
    tbi.nested = false ∧ ∃ items, tbFin tb = .ok items ∧ tbi.tops.reverse = items.map .item := by
  obtain ⟨hn, hsh, ty0, nm0, items0, hst, htops⟩ := h
  rw [List.map_eq_nil_iff.1 hsh] at hst
  exact ⟨hn, items0.reverse, by rw [tbFin, hst]; rfl, by rw [htops, List.map_reverse]⟩

/-- the two builders on a whole text: both refuse, or `treeCtxI` stays at the top level and its top-level items are the items
    `treeOf` reads off — or `P` -/
theorem parse_freeSim {L : Str → Prop} {P : Prop} (hP : ∀ l arg, L l → lineShape (strip l) = .import_ arg → P)
    (env : Env) (url : Option Str) (lines : List Str) (hl : ∀ l ∈ lines, L l)
    (hres : ∀ u ls, env.res u = some ls → ∀ l ∈ ls, L l) :
    RelM (fun psT psI => psI.ctx.nested = false ∧ ∃ items, tbFin psT.ctx = .ok items ∧ psI.ctx.tops.reverse = items.map .item)
      (fun _ => P) False
      (parseLines 64 env treeCtx (activeOf url) url lines 0 { ctx := { stack := [([], none, [])] }, stack := [], defs := [] })
      (parseI env url lines) := by
  have hsim := parse_lineRel (freeSim hP) env (fun _ _ _ _ _ _ => hres _ _)
    64 (activeOf url) url url lines 0 0
    { ctx := { stack := [([], none, [])] }, stack := [], defs := [] }
    { ctx := { tops := [], stack := [], nested := false }, stack := [], defs := [] } [] (fun _ => rfl) .rfl' hl
    ⟨rfl, rfl, rfl, rfl, [], none, [], rfl, rfl⟩
  rw [parseI_eq]
  generalize parseLines 64 env treeCtx _ _ _ _ _ = x at hsim ⊢
  generalize parseLines 64 env treeCtxI _ _ _ _ _ = y at hsim ⊢
  cases x <;> cases y <;> first | exact hsim | skip
  obtain ⟨⟨_, _, hR⟩, hnil⟩ := hsim
  rw [hnil] at hR
  exact RF_fin hR

theorem treeOfI_import_free (env : Env) (url : Option Str) (lines : List Str)
    (hni : ∀ l ∈ lines, NoImportLine l) (hres : ∀ u ls, env.res u = some ls → ∀ l ∈ ls, NoImportLine l) :
    (treeOfI env url lines).toOption = (treeOf env url lines).toOption.map (List.map .item) ∧
      importsAtTop env url lines := by
  have hsim := parse_freeSim (P := False) (fun l arg hl hs => hl arg hs) env url lines hni hres
  unfold importsAtTop treeOfI
  rw [treeOf_eq, toOption_map, toOption_bind]
  generalize parseLines 64 env treeCtx _ _ _ _ _ = x at hsim ⊢
  cases x <;> cases hI : parseI env url lines <;> rw [hI] at hsim
  · exact ⟨rfl, nofun⟩
  · exact hsim.elim
  · exact hsim.elim
  · obtain ⟨hn, items, hfin, htops⟩ := hsim
    exact ⟨by simp only [toOption_ok, Option.map_some, Option.bind_some, hfin, htops], fun ps h => by cases h; exact hn⟩

theorem treeOfI_free_iff (env : Env) (url : Option Str) (lines : List Str)
    (hni : ∀ l ∈ lines, NoImportLine l) (hres : ∀ u ls, env.res u = some ls → ∀ l ∈ ls, NoImportLine l)
    (tops : List TopItem) :
    treeOfI env url lines = .ok tops ↔ ∃ items, treeOf env url lines = .ok items ∧ tops = items.map .item := by
  rw [← toOption_eq_some, (treeOfI_import_free env url lines hni hres).1]
  cases treeOf env url lines with
  | error e => exact ⟨fun h => (by cases h), fun ⟨_, h, _⟩ => (by cases h)⟩
  | ok items => exact ⟨fun h => ⟨items, rfl, (Option.some.inj h).symm⟩, fun ⟨_, h, e⟩ => by cases h; rw [e]; rfl⟩

theorem treeOf_low (env : Env) (url : Option Str) (lines : List Str) (items : List Item)
    (h : treeOf env url lines = .ok items) : lowItems items = true := by
  have hsim := parse_freeSim (L := fun _ => True) (P := True) (fun _ _ _ _ => trivial) env url lines (fun _ _ => trivial)
    (fun _ _ _ _ _ => trivial)
  rw [treeOf_eq] at h
  obtain ⟨psT, hT, h⟩ := bind_ok_inv h
  rw [hT] at hsim
  cases hI : parseI env url lines with
  | error e' => rw [hI] at hsim; exact hsim.elim
  | ok psI =>
    rw [hI] at hsim
    obtain ⟨_, items', hfin, htops⟩ := hsim
    cases h.symm.trans hfin
    rw [← lowTops_items, ← htops]
    exact treeOfI_low env url lines _ (by unfold treeOfI; rw [hI]; rfl)

end ZCV.Conf
