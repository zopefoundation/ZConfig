import ZCV.Lemmas.LoadTree
import ZCV.Lemmas.OverrideSim
import ZCV.Lemmas.Ends
import ZCV.Spec.Handlers
/-!
C16 for loads without overrides.  Loader side: the shared handler list after a load is `docHandlers`, the post-order of the
statement.  `finishMatcher` on a matcher satisfying the invariant appends the container's `ownHandlers` (`finish_handlers`), so
the entries appended while a tree is run without a bag are its post-order entries (`hItemsBS_nobag`), the frame lemma comes
with the handler list computed (`runItems_H`), and `loadTreeH_eq` gives the result of `loadTreeH` (`loadTree` returning the
handler list as `load` does) in one equation.  Spec side, without the loader: the values of the entries are the attribute
values of the section value `denote` builds, and their number is the number of handler-bearing schema items instantiated.
-/
namespace ZCV.Conf
open ZCV ZCV.Cfg

/-- `ConfigLoader.loadResource` on a tree (no overrides, no `%import`): the configuration AND the handler list, exactly
    as `Cfg.load` assembles it (`ps.ctx.handlers ++ hs ++ hs'`) -/
def loadTreeH (conv : Conv) (schema : Schema) (items : List Item) : M (Val × List (Str × Val)) :=
  let st0 : LS := { schema := schema, privateSchema := false, handlers := [], stack := [newMatcher schema.top none none],
                    pkgs := fun _ => .notImportable, conv := conv }
  match runItems st0 items with
  | .error e => .error e
  | .ok st =>
    match st.stack with
    | [top] =>
      match finishMatcher conv st.schema top with
      | .error e => .error e
      | .ok (v, hs) =>
        match conv.sect schema.top.datatype v with
        | .ok r => .ok (r, st.handlers ++ hs ++ (match schema.handler with | some h => [(h, r)] | none => []))
        | .error e => .error (convFail e none { line := -1, url := none } "schema datatype")
    | _ => .error (.internal "IndexError")

theorem loadTreeH_value (conv : Conv) (s : Schema) (items : List Item) :
    (loadTreeH conv s items).map (·.1) = loadTree conv s items := by
  unfold loadTreeH loadTree
  simp only
  cases runItems _ items with
  | error e => rfl
  | ok st =>
    simp only
    rcases st.stack with _ | ⟨top, _ | ⟨x, rest⟩⟩
    · rfl
    · simp only
      cases finishMatcher conv st.schema top with
      | error e => rfl
      | ok vh =>
        obtain ⟨v, hs⟩ := vh
        simp only
        cases conv.sect s.top.datatype v <;> rfl
    · rfl

theorem omap_filterMap {α β γ} (F : α → Option β) (k : β → Option γ) :
    ∀ (l : List α) (r : List β), omap F l = some r → r.filterMap k = l.filterMap (fun a => (F a).bind k) := by
  intro l
  induction l with
  | nil =>
    intro r h
    rw [omap] at h
    cases h
    rfl
  | cons a l ih =>
    intro r h
    rw [omap] at h
    cases hfa : F a with
    | none => rw [hfa] at h; cases h
    | some b =>
      rw [hfa] at h
      simp only at h
      cases hl : omap F l with
      | none => rw [hl] at h; cases h
      | some bs =>
        rw [hl] at h
        simp only [Option.some.injEq] at h
        subst h
        rw [List.filterMap_cons, List.filterMap_cons, hfa, Option.bind_some, ih bs hl]

theorem filterMap_congr' {α β} (f g : α → Option β) : ∀ (l : List α), (∀ a ∈ l, f a = g a) →
    l.filterMap f = l.filterMap g := by
  intro l
  induction l with
  | nil => intro _; rfl
  | cons a l ih =>
    intro h
    rw [List.filterMap_cons, List.filterMap_cons, h a List.mem_cons_self,
      ih (fun b hb => h b (List.mem_cons_of_mem _ hb))]

/-- own entries from key lines and sub-section values -/
def ownH (conv : Conv) (s : Schema) (t : SType) (kl : List (Option Str × VI)) (subs : List Sub) : List (Str × Val) :=
  t.children.filterMap fun c =>
    match c.2.handler, childVal conv s t kl subs c with
    | some h, some v => some (h, v)
    | _, _ => none

theorem ownHandlers_eq (conv : Conv) (s : Schema) (t : SType) (items : List Item) :
    ownHandlers conv s t items = ownH conv s t (keyLines conv t items) (subsI conv s items) := rfl

theorem finish_vals (conv : Conv) (s : Schema) (t : SType) (nm : Option Str) (kl : List (Option Str × VI))
    (secs : List SecR) (hT : STypeOK t) (hg : Good s t kl (secs.map (toSub conv s))) (v : Val) (hs : List (Str × Val))
    (h : finishMatcher conv s (mk s t nm kl secs) = .ok (v, hs)) :
    ∃ vals : List (Info × Val),
      omap (fun c => (childVal conv s t kl (secs.map (toSub conv s)) c).map fun v => (c.2, v)) t.children = some vals ∧
      v = .sect (t.name.getD []) nm (vals.map fun p => (p.1.attr, p.2)) ∧
      hs = vals.filterMap fun p => p.1.handler.map fun h => (h, p.2) := by
  have := finish_full conv s t nm kl secs hT hg
  rw [h] at this
  cases ho : omap (fun c => (childVal conv s t kl (secs.map (toSub conv s)) c).map fun v => (c.2, v)) t.children with
  | none => rw [ho] at this; cases this
  | some vals => rw [ho] at this; cases this; exact ⟨vals, rfl, rfl, rfl⟩

theorem finish_handlers (conv : Conv) (s : Schema) (t : SType) (nm : Option Str) (kl : List (Option Str × VI))
    (secs : List SecR) (hT : STypeOK t) (hg : Good s t kl (secs.map (toSub conv s))) (v : Val) (hs : List (Str × Val))
    (h : finishMatcher conv s (mk s t nm kl secs) = .ok (v, hs)) :
    hs = ownH conv s t kl (secs.map (toSub conv s)) := by
  obtain ⟨vals, h1, _, h3⟩ := finish_vals conv s t nm kl secs hT hg v hs h
  rw [h3, omap_filterMap _ _ _ _ h1]
  unfold ownH
  apply filterMap_congr'
  intro c _
  cases childVal conv s t kl (secs.map (toSub conv s)) c with
  | none => cases c.2.handler <;> rfl
  | some v =>
    simp only [Option.map_some, Option.bind_some]
    cases c.2.handler <;> rfl

theorem container_handlers (conv : Conv) (s : Schema) (hs : schemaOK s = true) (t : SType) (nm : Option Str)
    (hT : STypeOK t) (items : List Item) (hcan : tyCanon s items = true) (child : Matcher)
    (hev : evalItems conv s (newMatcher t nm none) items = .ok child) (v : Val) (hh : List (Str × Val))
    (hfin : finishMatcher conv s child = .ok (v, hh)) :
    hh = ownHandlers conv s t items := by
  obtain ⟨secs', h1, h2, h3⟩ := (evalItems_inv conv s hs t nm hT items hcan (pItems_all conv s hs items) [] []
    (by simpa using good_nil s t)).of_ok (newMatcher_eq_mk s t nm ▸ hev)
  simp only [List.nil_append] at h1 h3
  rw [h1] at hfin
  rw [finish_handlers conv s t nm _ secs' hT h3 v hh hfin, h2, ownHandlers_eq]

/-! ### the entries appended while a tree is run -/

mutual
/-- without a bag, running an accepted item appends its post-order entries: those of its sub-sections as they are
    closed, then (`container_handlers`) its own -/
theorem hItemBS_nobag (conv : Conv) (S s : Schema) (hs : schemaOK s = true) (i : Item) (hcan : tyCanon s [i] = true)
    (m m' : Matcher) (hb : m.bag = none) (he : evalItemB conv s m i = .ok m') :
    hItemBS conv S s m i = handlersOfItem conv s i := by
  match i, hcan, he with
  | .kv k v p, _, _ => rw [hItemBS, handlersOfItem]
  | .sect ty nm items, hcan, he =>
    rw [← evalItemBS_self, evalItemBS_sect] at he
    obtain ⟨t, hsc, he⟩ := bind_ok_inv he
    rw [bagStep_nobag conv s m hb, ok_bind] at he
    obtain ⟨⟨v, hh⟩, hr, _⟩ := bind_ok_inv he
    obtain ⟨c, hc, hf⟩ := bind_ok_inv hr
    rw [evalItemsBS_eval conv s s items _ rfl] at hc
    have hg := (sectCheck_ok_inv hsc).1
    obtain ⟨_, hcsub⟩ := tyCanon_single_sect s ty nm items hcan
    rw [hItemBS_sect, hsc]
    dsimp only
    rw [bagStep_nobag conv S m hb]
    dsimp only
    rw [evalItemsBS_eval conv S s items _ rfl, hc, hItemsBS_nobag conv S s hs items hcsub _ c rfl hc, handlersOfItem, hg]
    unfold finHs
    dsimp only
    rw [hf, container_handlers conv s hs t nm (stypeOK_prop s t (schemaOK_type s hs ty t hg).1) items hcsub c hc v hh hf]
theorem hItemsBS_nobag (conv : Conv) (S s : Schema) (hs : schemaOK s = true) (l : List Item) (hcan : tyCanon s l = true)
    (m m' : Matcher) (hb : m.bag = none) (he : evalItems conv s m l = .ok m') :
    hItemsBS conv S s m l = handlersOfItems conv s l := by
  match l, hcan, he with
  | [], _, _ => rw [hItemsBS_nil, handlersOfItems]
  | i :: r, hcan, he =>
    rw [tyCanon_cons, Bool.and_eq_true] at hcan
    rw [evalItems_cons] at he
    obtain ⟨m1, h1, h2⟩ := bind_ok_inv he
    have h1B := (evalItemB_nobag conv s i m hb).trans h1
    rw [hItemsBS_cons, evalItemBS_eval conv S s i m hb, h1, handlersOfItems,
      hItemBS_nobag conv S s hs i hcan.1 m m1 hb h1B]
    dsimp only
    rw [hItemsBS_nobag conv S s hs r hcan.2 m1 m' ((evalItemB_pres conv s m m1 i h1B).2 hb) h2]
end

/-! ### the frame lemma with the handler list computed -/

theorem runItems_H (conv : Conv) (s : Schema) (hs : schemaOK s = true) (l : List Item) (st : LS) (m m' : Matcher)
    (below : List Matcher) (hcan : tyCanon s l = true) (hst : st.stack = m :: below) (hsch : st.schema = s)
    (hconv : st.conv = conv) (hb : m.bag = none) (hev : evalItems conv s m l = .ok m') :
    runItems st l = .ok (withTop st m' below (st.handlers ++ handlersOfItems conv s l)) := by
  have h := runItems_evalBS conv s s l st m below hst hsch hconv (.inl hb)
  rw [evalItemsBS_eval conv _ s l m hb, hev] at h
  rw [← hItemsBS_nobag conv _ s hs l hcan m m' hb hev]
  exact h

theorem toOption_map_fst {ε α β} (x : Except ε (α × β)) : (x.map (·.1)).toOption = x.toOption.map (·.1) := by
  cases x <;> rfl

theorem loadTreeH_handlers (conv : Conv) (s : Schema) (items : List Item)
    (hs : schemaOK s = true) (ht : tyCanon s items = true) (v : Val) (hh : List (Str × Val))
    (h : loadTreeH conv s items = .ok (v, hh)) : denote conv s items = some v ∧ hh = docHandlers conv s items := by
  have hden : denote conv s items = some v := by
    rw [← loadTree_eq_denote conv s items hs ht, ← loadTreeH_value, toOption_map_fst, h]
    rfl
  refine ⟨hden, ?_⟩
  have hTop : STypeOK s.top := stypeOK_prop s _ (schemaOK_top s hs)
  unfold loadTreeH at h
  simp only at h
  have hrun := runItems_eval conv s items
    { schema := s, privateSchema := false, handlers := [], stack := [newMatcher s.top none none],
      pkgs := fun _ => .notImportable, conv := conv } (newMatcher s.top none none) [] rfl rfl rfl rfl
  cases hev : evalItems conv s (newMatcher s.top none none) items with
  | error e =>
    rw [hev] at hrun
    obtain ⟨e', he'⟩ := hrun
    rw [he'] at h
    cases h
  | ok m' =>
    have hr := runItems_H conv s hs items
      { schema := s, privateSchema := false, handlers := [], stack := [newMatcher s.top none none],
        pkgs := fun _ => .notImportable, conv := conv } (newMatcher s.top none none) m' [] ht rfl rfl rfl rfl hev
    rw [hr] at h
    simp only [withTop, List.nil_append] at h
    cases hfin : finishMatcher conv s m' with
    | error e => rw [hfin] at h; cases h
    | ok vh =>
      obtain ⟨v0, hs0⟩ := vh
      rw [hfin] at h
      simp only at h
      have hown := container_handlers conv s hs s.top none hTop items ht m' hev v0 hs0 hfin
      cases hc : conv.sect s.top.datatype v0 with
      | error e => rw [hc] at h; cases h
      | ok r =>
        rw [hc] at h
        simp only [Except.ok.injEq, Prod.mk.injEq] at h
        obtain ⟨h1, h2⟩ := h
        subst h1
        rw [← h2, hown]
        unfold docHandlers handlersOf
        rw [hden]
        cases s.handler <;> rfl

/-- **the loader's result with its handler list, in one equation**: a tree is accepted iff it conforms, and then the
    configuration is `denote` and the handler list is `docHandlers` -/
theorem loadTreeH_eq (conv : Conv) (s : Schema) (items : List Item)
    (hs : schemaOK s = true) (ht : tyCanon s items = true) :
    (loadTreeH conv s items).toOption = (denote conv s items).map fun v => (v, docHandlers conv s items) := by
  cases h : loadTreeH conv s items with
  | error e =>
    have := loadTree_eq_denote conv s items hs ht
    rw [← loadTreeH_value, toOption_map_fst, h] at this
    rw [← this]
    rfl
  | ok vh =>
    obtain ⟨v, hh⟩ := vh
    obtain ⟨h1, h2⟩ := loadTreeH_handlers conv s items hs ht v hh h
    rw [h1, h2]
    rfl

/-! ### the spec side: `ownHandlers` / `handlersOf` / `docHandlers` without the loader -/

theorem omap_cons_some {α β} (F : α → Option β) (a : α) (l : List α) (r : List β) (h : omap F (a :: l) = some r) :
    ∃ b bs, F a = some b ∧ omap F l = some bs ∧ r = b :: bs := by
  rw [omap] at h
  cases hfa : F a with
  | none => rw [hfa] at h; cases h
  | some b =>
    rw [hfa] at h
    simp only at h
    cases hl : omap F l with
    | none => rw [hl] at h; cases h
    | some bs =>
      rw [hl] at h
      simp only [Option.some.injEq] at h
      exact ⟨b, bs, rfl, rfl, h.symm⟩

section generic
variable {α : Type} (f : α → Option Val) (g : α → Str) (hd : α → Option Str)

def entriesOf (l : List α) : List (Str × Val) :=
  l.filterMap fun c =>
    match hd c, f c with
    | some h, some v => some (h, v)
    | _, _ => none

theorem omap_attrs_keys : ∀ (l : List α) (r : List (Str × Val)),
    omap (fun c => (f c).map fun v => (g c, v)) l = some r → r.map (·.1) = l.map g := by
  intro l
  induction l with
  | nil => intro r h; rw [omap] at h; cases h; rfl
  | cons a l ih =>
    intro r h
    obtain ⟨b, bs, h1, h2, h3⟩ := omap_cons_some _ a l r h
    subst h3
    cases hfa : f a with
    | none => rw [hfa] at h1; cases h1
    | some v =>
      rw [hfa] at h1
      simp only [Option.map_some, Option.some.injEq] at h1
      subst h1
      rw [List.map_cons, List.map_cons, ih bs h2]

theorem omap_entries_zip : ∀ (l : List α) (r : List (Str × Val)),
    omap (fun c => (f c).map fun v => (g c, v)) l = some r →
    entriesOf f hd l = (l.zip r).filterMap fun ca => (hd ca.1).map fun h => (h, ca.2.2) := by
  intro l
  induction l with
  | nil => intro r h; rw [omap] at h; cases h; rfl
  | cons a l ih =>
    intro r h
    obtain ⟨b, bs, h1, h2, h3⟩ := omap_cons_some _ a l r h
    subst h3
    cases hfa : f a with
    | none => rw [hfa] at h1; cases h1
    | some v =>
      rw [hfa] at h1
      simp only [Option.map_some, Option.some.injEq] at h1
      subst h1
      unfold entriesOf at ih ⊢
      rw [List.zip_cons_cons, List.filterMap_cons, List.filterMap_cons, ih bs h2, hfa]
      cases hd a <;> rfl

theorem omap_entries_length : ∀ (l : List α) (r : List (Str × Val)),
    omap (fun c => (f c).map fun v => (g c, v)) l = some r →
    (entriesOf f hd l).length = (l.filter fun c => (hd c).isSome).length := by
  intro l
  induction l with
  | nil => intro r _; rfl
  | cons a l ih =>
    intro r h
    obtain ⟨b, bs, h1, h2, h3⟩ := omap_cons_some _ a l r h
    cases hfa : f a with
    | none => rw [hfa] at h1; cases h1
    | some v =>
      unfold entriesOf at ih ⊢
      rw [List.filterMap_cons, List.filter_cons, hfa]
      cases hd a with
      | none => exact ih bs h2
      | some x =>
        simp only [Option.isSome_some, if_true, List.length_cons]
        rw [ih bs h2]

theorem omap_lookup : ∀ (l : List α) (r : List (Str × Val)),
    omap (fun c => (f c).map fun v => (g c, v)) l = some r → (l.map g).Nodup →
    ∀ c ∈ l, r.lookup (g c) = f c := by
  intro l
  induction l with
  | nil => intro r _ _ c hc; cases hc
  | cons a l ih =>
    intro r h hn c hc
    obtain ⟨b, bs, h1, h2, h3⟩ := omap_cons_some _ a l r h
    subst h3
    simp only [List.map_cons, List.nodup_cons] at hn
    cases hfa : f a with
    | none => rw [hfa] at h1; cases h1
    | some v =>
      rw [hfa] at h1
      simp only [Option.map_some, Option.some.injEq] at h1
      subst h1
      rcases List.mem_cons.mp hc with rfl | hc'
      · rw [List.lookup_cons, beq_self_eq_true, hfa]
      · have hne : (g c == g a) = false := by
          rw [beq_eq_false_iff_ne]
          intro he
          apply hn.1
          rw [← he]
          exact List.mem_map_of_mem hc'
        rw [List.lookup_cons, hne]
        exact ih bs h2 hn.2 c hc'

end generic

theorem containerVal_some_inv (conv : Conv) (s : Schema) (t : SType) (nm : Option Str) (items : List Item)
    (sv : List (Option Val)) (v : Val) (h : containerVal conv s t nm items sv = some v) :
    ∃ attrs, v = Val.sect (t.name.getD []) nm attrs ∧
      omap (fun c => (childVal conv s t (keyLines conv t items) (subsOf items sv) c).map fun v => (c.2.attr, v))
        t.children = some attrs ∧
      (subsOf items sv).all (fun sb => sb.val.isSome) = true := by
  rw [containerVal_eq, containerCore] at h
  by_cases h1 : chk1 t (keyLines conv t items) = true
  · by_cases h2 : nodupB (subNames (subsOf items sv)) = true
    · by_cases h3 : chk3 s t (subsOf items sv) = true
      · simp only [h1, h2, h3, Bool.not_true, Bool.false_eq_true, if_false] at h
        rw [Option.map_eq_some_iff] at h
        obtain ⟨attrs, ha, hv⟩ := h
        unfold attrsVal at ha
        rw [mapM_eq_omap] at ha
        exact ⟨attrs, hv.symm, ha, ((chk3_iff _ _ _).mp h3).2⟩
      · simp [h1, h2, h3] at h
    · simp [h1, h2] at h
  · simp [h1] at h

theorem ownHandlers_entries (conv : Conv) (s : Schema) (t : SType) (items : List Item) :
    ownHandlers conv s t items =
      entriesOf (childVal conv s t (keyLines conv t items) (subsOf items (itemVals conv s items))) (fun c => c.2.handler)
        t.children := rfl

/-- by attribute NAME (a well-formed type has distinct attribute names): the entry of a handler-bearing
    child holds the value found under the child's attribute in the section value -/
theorem ownHandlers_lookup (conv : Conv) (s : Schema) (t : SType) (hT : STypeOK t) (nm : Option Str)
    (items : List Item) (v : Val) (h : containerVal conv s t nm items (itemVals conv s items) = some v) :
    ∃ attrs, v = Val.sect (t.name.getD []) nm attrs ∧
      ownHandlers conv s t items =
        t.children.filterMap fun c => c.2.handler.bind fun h => (attrs.lookup c.2.attr).map fun x => (h, x) := by
  obtain ⟨attrs, hv, ha, _⟩ := containerVal_some_inv conv s t nm items _ v h
  refine ⟨attrs, hv, ?_⟩
  rw [ownHandlers_entries]
  unfold entriesOf
  apply filterMap_congr'
  intro c hc
  rw [omap_lookup _ _ _ _ ha hT.attrs c hc]
  simp only
  cases c.2.handler with
  | none => rfl
  | some x => cases childVal conv s t (keyLines conv t items) (subsOf items (itemVals conv s items)) c <;> rfl

theorem ownHandlers_length (conv : Conv) (s : Schema) (t : SType) (nm : Option Str) (items : List Item) (v : Val)
    (h : containerVal conv s t nm items (itemVals conv s items) = some v) :
    (ownHandlers conv s t items).length = nOwn t := by
  obtain ⟨attrs, _, ha, _⟩ := containerVal_some_inv conv s t nm items _ v h
  rw [ownHandlers_entries]
  exact omap_entries_length _ _ _ _ _ ha

mutual
theorem handlersOfItem_length (conv : Conv) (s : Schema) :
    ∀ (i : Item), (itemVal conv s i).isSome = true → (handlersOfItem conv s i).length = nHandledItem s i
  | .kv _ _ _, _ => by rw [handlersOfItem, nHandledItem]; rfl
  | .sect ty nm items, h => by
    rw [handlersOfItem, nHandledItem]
    rw [itemVal] at h
    cases hg : s.gettype ty with
    | none => rfl
    | some te =>
      cases te with
      | abstract_ n subs => rfl
      | concrete t =>
        rw [hg] at h
        simp only at h ⊢
        cases hc : containerVal conv s t nm items (itemVals conv s items) with
        | none => rw [hc] at h; cases h
        | some v =>
          obtain ⟨_, _, _, hall⟩ := containerVal_some_inv conv s t nm items _ v hc
          rw [List.length_append, handlersOfItems_length conv s items hall, ownHandlers_length conv s t nm items v hc]
theorem handlersOfItems_length (conv : Conv) (s : Schema) :
    ∀ (l : List Item), (subsI conv s l).all (fun sb => sb.val.isSome) = true →
      (handlersOfItems conv s l).length = nHandledItems s l
  | [], _ => by rw [handlersOfItems, nHandledItems]; rfl
  | .kv k v p :: r, h => by
    rw [subsI_kv] at h
    rw [handlersOfItems, nHandledItems, handlersOfItem, nHandledItem, List.nil_append, Nat.zero_add]
    exact handlersOfItems_length conv s r h
  | .sect ty nm items :: r, h => by
    rw [subsI_sect, List.all_cons, Bool.and_eq_true] at h
    rw [handlersOfItems, nHandledItems, List.length_append, handlersOfItem_length conv s (.sect ty nm items) h.1,
      handlersOfItems_length conv s r h.2]
end

theorem docHandlers_length (conv : Conv) (s : Schema) (items : List Item) (v : Val)
    (h : denote conv s items = some v) : (docHandlers conv s items).length = nHandled s items := by
  unfold docHandlers handlersOf nHandled
  rw [h]
  unfold denote at h
  cases hc : containerVal conv s s.top none items (itemVals conv s items) with
  | none => rw [hc] at h; cases h
  | some v0 =>
    obtain ⟨_, _, _, hall⟩ := containerVal_some_inv conv s s.top none items _ v0 hc
    rw [List.length_append, List.length_append, handlersOfItems_length conv s items hall,
      ownHandlers_length conv s s.top none items v0 hc]
    cases s.handler <;> rfl

end ZCV.Conf
