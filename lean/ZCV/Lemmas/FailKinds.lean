import ZCV.Model.Matcher
import ZCV.Lemmas.Ends
/-!
The kinds of failure (`Fail`) that the statements about the configuration loader speak of: `NotInternal` (C07), `Plain`,
`ConvFail`, `PlainOr ok` (plain, or internal and then the invariant `ok` of the arguments fails) and `CfgIs R` (C08: if it is a
configuration error, it satisfies `R`).  `Ends.ni` translates to the pair of implications in which `CtxOK` (`ZCV.Lemmas.NoInternalParse`) states what it asks of a
parser context.
-/
namespace ZCV.Cfg
open ZCV

/-- not a Python exception from outside the configuration-error family -/
def NotInternal (f : Fail) : Prop := ∀ e, f ≠ .internal e

def Internal (f : Fail) : Prop := ∃ e, f = .internal e

/-- `ConfigurationError(msg)`: no position, no text -/
def Plain (f : Fail) : Prop := ∃ tag, f = plainErr tag

/-- raised through `convFail` about text `v` at position `p` -/
def ConvFail (v : Option Str) (p : Pos) (f : Fail) : Prop := ∃ ce tag, f = convFail ce v p tag

def PlainNoPos (e : Err) : Prop := e.kind = .plain ∧ e.line = none ∧ e.url = none ∧ e.value = none

/-- plain, or internal, and that only when `ok` fails: the form of the failures of an operation that relies on an invariant
    `ok` of its arguments -/
def PlainOr (ok : Prop) (f : Fail) : Prop := Plain f ∨ (Internal f ∧ ¬ ok)

theorem PlainOr.plain {ok : Prop} (tag : String) : PlainOr ok (plainErr tag) := .inl ⟨tag, rfl⟩

theorem PlainOr.internal {ok : Prop} {e : String} (h : ¬ ok) : PlainOr ok (.internal e) := .inr ⟨⟨e, rfl⟩, h⟩

theorem PlainOr.cfg {ok : Prop} {e : Err} (h : PlainOr ok (.cfg e)) : PlainNoPos e := by
  rcases h with ⟨tag, h⟩ | ⟨⟨_, h⟩, _⟩
  · cases h; exact ⟨rfl, rfl, rfl, rfl⟩
  · cases h

theorem NotInternal.cfg (e : Err) : NotInternal (.cfg e) := fun _ h => nomatch h

theorem Plain.notInternal {f : Fail} (h : Plain f) : NotInternal f := by
  obtain ⟨tag, rfl⟩ := h
  exact .cfg _

theorem PlainOr.notInternal {ok : Prop} {f : Fail} (h : PlainOr ok f) (hok : ok) : NotInternal f := by
  rcases h with h | ⟨_, h⟩
  · exact h.notInternal
  · exact absurd hok h

theorem ConvFail.notInternal {v : Option Str} {p : Pos} {f : Fail} (h : ConvFail v p f) : NotInternal f := by
  obtain ⟨ce, tag, rfl⟩ := h
  cases ce <;> exact fun _ h => nomatch h

def CfgIs (R : Err → Prop) (f : Fail) : Prop := ∀ e, f = .cfg e → R e

theorem CfgIs.internal (R : Err → Prop) (x : String) : CfgIs R (.internal x) := fun _ => nofun

theorem CfgIs.mono {R R' : Err → Prop} {f : Fail} (h : CfgIs R f) (hR : ∀ e, R e → R' e) : CfgIs R' f :=
  fun e he => hR e (h e he)

theorem PlainOr.cfgIs {ok : Prop} {f : Fail} (h : PlainOr ok f) : CfgIs PlainNoPos f := fun _ he => (he ▸ h).cfg

theorem Plain.cfgIs {f : Fail} (h : Plain f) : CfgIs PlainNoPos f := PlainOr.cfgIs (ok := True) (.inl h)

theorem ConvFail.cfgIs {v : Option Str} {p : Pos} {f : Fail} (h : ConvFail v p f) :
    CfgIs (fun e => e.kind = .conversion ∧ e.value = v ∧ e.line = some p.line ∧ e.url = p.url) f := by
  obtain ⟨ce, tag, rfl⟩ := h
  intro e he
  cases ce <;> cases he
  exact ⟨rfl, rfl, rfl, rfl⟩

/-- the form in which the parser theorem asks for it -/
theorem _root_.ZCV.Ends.ni {α : Type} {x : M α} {P : α → Prop} (h : Ends x P NotInternal) :
    (∀ e, x ≠ .error (.internal e)) ∧ (∀ a, x = .ok a → P a) :=
  ⟨fun e hx => h.of_error hx e rfl, fun _ hx => h.of_ok hx⟩

end ZCV.Cfg
